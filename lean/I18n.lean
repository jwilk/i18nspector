import I18n.Generated.BinaryReads
import I18n.Generated.CFmtConv
import I18n.Generated.CFmtRe
import I18n.Generated.CFormatTables
import I18n.Generated.Charset
import I18n.Generated.CharsetCns
import I18n.Generated.CharsetCnsInv0
import I18n.Generated.CharsetCnsInv2
import I18n.Generated.CharsetCnsP1
import I18n.Generated.CharsetCnsP15
import I18n.Generated.CharsetCnsP2
import I18n.Generated.CharsetCnsP3
import I18n.Generated.CharsetCnsP4
import I18n.Generated.CharsetCnsP5
import I18n.Generated.CharsetCnsP6
import I18n.Generated.CharsetCnsP7
import I18n.Generated.CheckDates
import I18n.Generated.CheckLoad
import I18n.Generated.ChkLang
import I18n.Generated.ChkPlurals
import I18n.Generated.DateTables
import I18n.Generated.Domains
import I18n.Generated.EncodingsFn
import I18n.Generated.ExcMap
import I18n.Generated.FmtArgs
import I18n.Generated.FmtCheckTables
import I18n.Generated.FmtMsg
import I18n.Generated.GettextDate
import I18n.Generated.GettextHdr
import I18n.Generated.GettextPf
import I18n.Generated.HdrChk
import I18n.Generated.HeaderFields
import I18n.Generated.IconvDl
import I18n.Generated.Intexpr
import I18n.Generated.Ling
import I18n.Generated.LingFn
import I18n.Generated.Locale
import I18n.Generated.MoParser
import I18n.Generated.MsgChk
import I18n.Generated.PluralForms
import I18n.Generated.PluralGrammar
import I18n.Generated.PluralLR
import I18n.Generated.Polib4us
import I18n.Generated.PolibFsm
import I18n.Generated.PyBraceField
import I18n.Generated.PyBraceTables
import I18n.Generated.PyFmtConv
import I18n.Generated.PyFormatTables
import I18n.Generated.SafestrSites
import I18n.Generated.StateSites
import I18n.Generated.StringFormats
import I18n.Generated.TagRegistry
import I18n.Generated.TagSites
import I18n.Generated.TagState
import I18n.Generated.TagsFmt
import I18n.Generated.UnicodeClasses
import I18n.Lemmas.BraceReKit
import I18n.Lemmas.CFmtArgs
import I18n.Lemmas.CFmtConv
import I18n.Lemmas.CFmtFinditer
import I18n.Lemmas.CFmtGenerated
import I18n.Lemmas.CFmtGlobal
import I18n.Lemmas.CFmtParse
import I18n.Lemmas.CFmtRe
import I18n.Lemmas.CFmtScan
import I18n.Lemmas.CFmtTables
import I18n.Lemmas.CFmtValid
import I18n.Lemmas.CharsetCharmaps
import I18n.Lemmas.CharsetCheck
import I18n.Lemmas.CharsetCheckTags
import I18n.Lemmas.CharsetCns
import I18n.Lemmas.CharsetCnsCheck
import I18n.Lemmas.CharsetCnsPages
import I18n.Lemmas.CharsetCnsPlanes
import I18n.Lemmas.CharsetCodec
import I18n.Lemmas.CharsetCodecRev
import I18n.Lemmas.CharsetEncodeOk
import I18n.Lemmas.CharsetEucTw
import I18n.Lemmas.CharsetEucTwReal
import I18n.Lemmas.CharsetIconv
import I18n.Lemmas.CharsetIconvCodecs
import I18n.Lemmas.CharsetIconvRef
import I18n.Lemmas.CharsetRegistry
import I18n.Lemmas.CharsetTables
import I18n.Lemmas.CheckDatesGenerated
import I18n.Lemmas.CheckPlurals
import I18n.Lemmas.CheckPluralsRegistry
import I18n.Lemmas.CheckPluralsReport
import I18n.Lemmas.CheckPluralsSpec
import I18n.Lemmas.CheckPluralsTags
import I18n.Lemmas.ChkLangGenerated
import I18n.Lemmas.ChkPluralsGenerated
import I18n.Lemmas.CliState
import I18n.Lemmas.Codomain
import I18n.Lemmas.DateBoiler
import I18n.Lemmas.DateCal
import I18n.Lemmas.DateFix
import I18n.Lemmas.DateRe
import I18n.Lemmas.DateScan
import I18n.Lemmas.DateSort
import I18n.Lemmas.DateTable
import I18n.Lemmas.DateTags
import I18n.Lemmas.DateTzRef
import I18n.Lemmas.DomainsGenerated
import I18n.Lemmas.EncodingsFnGenerated
import I18n.Lemmas.EvalSpec
import I18n.Lemmas.ExceptDec
import I18n.Lemmas.FmtArgsGenerated
import I18n.Lemmas.FmtCheckBrace
import I18n.Lemmas.FmtCheckBraceRender
import I18n.Lemmas.FmtCheckC
import I18n.Lemmas.FmtCheckCSig
import I18n.Lemmas.FmtCheckKinds
import I18n.Lemmas.FmtCheckMessage
import I18n.Lemmas.FmtCheckNamed
import I18n.Lemmas.FmtCheckNumbered
import I18n.Lemmas.FmtCheckPreimage
import I18n.Lemmas.FmtCheckProbes
import I18n.Lemmas.FmtCheckPy
import I18n.Lemmas.FmtMsgGenerated
import I18n.Lemmas.GettextDateGenerated
import I18n.Lemmas.GettextHdrGenerated
import I18n.Lemmas.GettextPfGenerated
import I18n.Lemmas.HashOrder
import I18n.Lemmas.HdrAddr
import I18n.Lemmas.HdrAll
import I18n.Lemmas.HdrCType
import I18n.Lemmas.HdrChkGenerated
import I18n.Lemmas.HdrClean
import I18n.Lemmas.HdrDomains
import I18n.Lemmas.HdrEntry
import I18n.Lemmas.HdrExempt
import I18n.Lemmas.HdrFields
import I18n.Lemmas.HdrHeadersGenerated
import I18n.Lemmas.HdrLines
import I18n.Lemmas.HdrMeta
import I18n.Lemmas.HdrMime
import I18n.Lemmas.HdrMimeGenerated
import I18n.Lemmas.HdrNames
import I18n.Lemmas.HdrOnce
import I18n.Lemmas.HdrParse
import I18n.Lemmas.HdrPyKit
import I18n.Lemmas.HdrScan
import I18n.Lemmas.IconvDlGenerated
import I18n.Lemmas.KeyRuns
import I18n.Lemmas.Kit.Assoc
import I18n.Lemmas.Kit.Basic
import I18n.Lemmas.Kit.List
import I18n.Lemmas.Kit.Sorted
import I18n.Lemmas.LRActions
import I18n.Lemmas.LRAutomaton
import I18n.Lemmas.LRComplete
import I18n.Lemmas.LRNoCrash
import I18n.Lemmas.LRSound
import I18n.Lemmas.LRTables
import I18n.Lemmas.LexRegex
import I18n.Lemmas.LexSpec
import I18n.Lemmas.LingFnGenerated
import I18n.Lemmas.LingGenerated
import I18n.Lemmas.LocaleFixCodes
import I18n.Lemmas.LocaleLoad
import I18n.Lemmas.LocaleNames
import I18n.Lemmas.LocaleParse
import I18n.Lemmas.LocalePath
import I18n.Lemmas.LocaleRe
import I18n.Lemmas.LocaleTagIff
import I18n.Lemmas.LocaleTags
import I18n.Lemmas.MetaBinary
import I18n.Lemmas.MetaBlame
import I18n.Lemmas.MetaDeb
import I18n.Lemmas.MetaPo
import I18n.Lemmas.MetaReal
import I18n.Lemmas.MetaRealBinary
import I18n.Lemmas.MetaRealCharset
import I18n.Lemmas.MetaRealHeader
import I18n.Lemmas.MetaSim
import I18n.Lemmas.MetaWhole
import I18n.Lemmas.MoBytes
import I18n.Lemmas.MoDefects
import I18n.Lemmas.MoEntry
import I18n.Lemmas.MoGenerated
import I18n.Lemmas.MoLayout
import I18n.Lemmas.MoParse
import I18n.Lemmas.MsgBasic
import I18n.Lemmas.MsgChkGenerated
import I18n.Lemmas.MsgFlagRules
import I18n.Lemmas.MsgFlagsLoop
import I18n.Lemmas.MsgFormatFlags
import I18n.Lemmas.MsgLive
import I18n.Lemmas.MsgLoop
import I18n.Lemmas.MsgNoCrash
import I18n.Lemmas.MsgRangeCount
import I18n.Lemmas.MsgRegex
import I18n.Lemmas.MsgTags
import I18n.Lemmas.ParseAmb
import I18n.Lemmas.ParseCFG
import I18n.Lemmas.ParseComplete
import I18n.Lemmas.ParseSound
import I18n.Lemmas.ParseString
import I18n.Lemmas.Period
import I18n.Lemmas.PerlBrace
import I18n.Lemmas.PerlBraceChars
import I18n.Lemmas.PerlBraceRe
import I18n.Lemmas.PipelineBrace
import I18n.Lemmas.PipelineReal
import I18n.Lemmas.PluralFormsRe
import I18n.Lemmas.PluralFormsText
import I18n.Lemmas.PluralNoCrash
import I18n.Lemmas.PluralRegistry
import I18n.Lemmas.PoCatalog
import I18n.Lemmas.PoComments
import I18n.Lemmas.PoDetect
import I18n.Lemmas.PoFile
import I18n.Lemmas.PoFlags
import I18n.Lemmas.PoFsm
import I18n.Lemmas.PoKit
import I18n.Lemmas.PoLines
import I18n.Lemmas.PoNoCrash
import I18n.Lemmas.PoPre
import I18n.Lemmas.PoRun
import I18n.Lemmas.PoUnescape
import I18n.Lemmas.Polib4usGenerated
import I18n.Lemmas.PyArith
import I18n.Lemmas.PyBraceArgsExist
import I18n.Lemmas.PyBraceFieldGenerated
import I18n.Lemmas.PyBraceFieldRe
import I18n.Lemmas.PyBraceFormat
import I18n.Lemmas.PyBraceMarkup
import I18n.Lemmas.PyBraceOwn
import I18n.Lemmas.PyBraceQuirk
import I18n.Lemmas.PyBraceScan
import I18n.Lemmas.PyBraceSpec
import I18n.Lemmas.PyBraceSpecRe
import I18n.Lemmas.PyBraceTables
import I18n.Lemmas.PyBraceTrace
import I18n.Lemmas.PyBraceTyping
import I18n.Lemmas.PyFmtConv
import I18n.Lemmas.PyFmtConvGenerated
import I18n.Lemmas.PyFmtEffect
import I18n.Lemmas.PyFmtFold
import I18n.Lemmas.PyFmtGroups
import I18n.Lemmas.PyFmtLoop
import I18n.Lemmas.PyFmtReasons
import I18n.Lemmas.PyFmtScan
import I18n.Lemmas.PyFmtTables
import I18n.Lemmas.PyFmtWarn
import I18n.Lemmas.PyKitLemmas
import I18n.Lemmas.ReKit
import I18n.Lemmas.Tags
import I18n.Lemmas.TagsFmtGenerated
import I18n.Lemmas.TagsLine
import I18n.Model.CFmt
import I18n.Model.CFmtKit
import I18n.Model.CFmtRe
import I18n.Model.Charset
import I18n.Model.CharsetCns
import I18n.Model.CharsetPy
import I18n.Model.Check
import I18n.Model.CheckPlurals
import I18n.Model.CheckPluralsPy
import I18n.Model.ChkPluralsGen
import I18n.Model.Cli
import I18n.Model.CliState
import I18n.Model.CliWitness
import I18n.Model.Date
import I18n.Model.DatePy
import I18n.Model.Deb
import I18n.Model.Domains
import I18n.Model.EncodingsPy
import I18n.Model.ExcFlow
import I18n.Model.Expr
import I18n.Model.FmtCheck
import I18n.Model.FmtCheckGen
import I18n.Model.FmtCheckPy
import I18n.Model.FmtMsgGen
import I18n.Model.FmtSig
import I18n.Model.HashOrder
import I18n.Model.Hdr
import I18n.Model.HdrPy
import I18n.Model.LingLangPy
import I18n.Model.LingPy
import I18n.Model.Locale
import I18n.Model.Meta
import I18n.Model.MetaReal
import I18n.Model.Mo
import I18n.Model.MoKit
import I18n.Model.Msg
import I18n.Model.MsgFlags
import I18n.Model.MsgPy
import I18n.Model.PerlBrace
import I18n.Model.Pipeline
import I18n.Model.Plural
import I18n.Model.PluralLR
import I18n.Model.PluralLex
import I18n.Model.PluralParse
import I18n.Model.Po
import I18n.Model.PoPy
import I18n.Model.PyBrace
import I18n.Model.PyBraceG
import I18n.Model.PyBracePy
import I18n.Model.PyFmt
import I18n.Model.PyFmtG
import I18n.Model.PyFmtPy
import I18n.Model.TagCall
import I18n.Model.Tags
import I18n.Model.TagsLive
import I18n.Model.TagsPy
import I18n.Model.XmlEncode
import I18n.Props.C01
import I18n.Props.C01Tie
import I18n.Props.C02
import I18n.Props.C02Tie
import I18n.Props.C03
import I18n.Props.C04
import I18n.Props.C05
import I18n.Props.C06
import I18n.Props.C07
import I18n.Props.C07ChkTie
import I18n.Props.C07Tie
import I18n.Props.C08
import I18n.Props.C08Tie
import I18n.Props.C09
import I18n.Props.C10
import I18n.Props.C10Tie
import I18n.Props.C11
import I18n.Props.C11Tie
import I18n.Props.C12
import I18n.Props.C12Tie
import I18n.Props.C13
import I18n.Props.C13Tie
import I18n.Props.C14
import I18n.Props.C14MsgTie
import I18n.Props.C14Tie
import I18n.Props.C15
import I18n.Props.C15Tie
import I18n.Props.C16
import I18n.Props.C16Tie
import I18n.Props.C17
import I18n.Props.C18
import I18n.Props.C18Tie
import I18n.Props.C19
import I18n.Props.C19Tie
import I18n.Props.C20
import I18n.Props.C20Tie
import I18n.Py
import I18n.PyKit
import I18n.PyLoops
import I18n.Spec.BraceRe
import I18n.Spec.CEval
import I18n.Spec.CGrammar
import I18n.Spec.CPyPercent
import I18n.Spec.Charset
import I18n.Spec.CharsetIconv
import I18n.Spec.Date
import I18n.Spec.DateRe
import I18n.Spec.FmtCompare
import I18n.Spec.HeaderRules
import I18n.Spec.Locale
import I18n.Spec.LocaleRe
import I18n.Spec.LocaleTags
import I18n.Spec.MessageRules
import I18n.Spec.Metamorphic
import I18n.Spec.Mo
import I18n.Spec.PerlBraceRef
import I18n.Spec.PluralAmb
import I18n.Spec.PluralCFG
import I18n.Spec.PluralForms
import I18n.Spec.PluralFormsRe
import I18n.Spec.PluralTokens
import I18n.Spec.PluralY
import I18n.Spec.PoSpelling
import I18n.Spec.Printf
import I18n.Spec.Provenance
import I18n.Spec.PyBraceArgs
import I18n.Spec.PyFmtArgs
import I18n.Spec.StateKinds
import I18n.Spec.StrFormat
import I18n.Spec.StringFormatsRef
import I18n.Spec.Tags
import I18n.Spec.TimezonesRef
