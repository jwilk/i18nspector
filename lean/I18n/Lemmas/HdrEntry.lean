import I18n.Lemmas.HdrParse
import I18n.Lemmas.HdrScan
import I18n.Lemmas.PyKitLemmas
/-
C15 lemmas: `check_headers` as a whole.  The header-entry discovery loop (with its `continue` and `break`) finds the first
non-obsolete entry with empty msgid and no context and reports `duplicate-header-entry` iff there is a second one;
`get_character_name` knows every character `find_unusual_characters` can report (checked on the regenerated table), so the
method returns; the metadata it leaves is the dictionary of the field lines of `H`, and its tags are those of the entry,
stray-line and field-name rules.
-/
namespace I18n.Hdr
open I18n.Spec.HeaderRules I18n.Date I18n.Generated

def hdrsFrom (idx : Nat) (es : List Entry) : List (Entry × Nat) :=
  (es.zipIdx idx).filter fun p => decide (IsHeaderEntry p.1)

theorem entrySkipped_iff (e : Entry) : (!isHeaderEntry e || e.obsolete) = true ↔ ¬ IsHeaderEntry e := by
  unfold isHeaderEntry IsHeaderEntry
  cases e.msgctxt <;> cases e.obsolete <;> simp

theorem hdrsFrom_cons (idx : Nat) (e : Entry) (es : List Entry) :
    hdrsFrom idx (e :: es) = if IsHeaderEntry e then (e, idx) :: hdrsFrom (idx + 1) es else hdrsFrom (idx + 1) es := by
  unfold hdrsFrom
  simp only [List.zipIdx_cons, List.filter_cons]
  by_cases h : IsHeaderEntry e <;> simp [h]

/-- what the loop appends for a second header entry -/
def dupTag : TagCall := tag "duplicate-header-entry" []

theorem dupTag_eq : dupTag = t0 "duplicate-header-entry" := rfl

theorem entryLoop_seen (x : Ext) (tmpl : Bool) (idx : Nat) (es : List Entry) (st : LoopState) (hs : st.seen = true) :
    entryLoop x tmpl idx es st = if hdrsFrom idx es = [] then st else { st with tags := st.tags ++ [dupTag] } := by
  induction es generalizing idx with
  | nil => simp [entryLoop, hdrsFrom]
  | cons e es ih =>
    unfold entryLoop
    rw [hdrsFrom_cons]
    by_cases h : IsHeaderEntry e
    · have : ¬ (!isHeaderEntry e || e.obsolete) = true := fun c => (entrySkipped_iff e).1 c h
      simp [this, h, hs, dupTag]
    · have : (!isHeaderEntry e || e.obsolete) = true := (entrySkipped_iff e).2 h
      simp only [this, if_true, h, if_false]
      exact ih (idx + 1)

theorem entryLoop_fresh (x : Ext) (tmpl : Bool) (idx : Nat) (es : List Entry) (st : LoopState) (hs : st.seen = false) :
    entryLoop x tmpl idx es st =
      match hdrsFrom idx es with
      | [] => st
      | (e, i) :: rest =>
        match entryTags x tmpl i e with
        | none => { st with crashed := true }
        | some ts =>
          { st with tags := st.tags ++ ts ++ (if rest = [] then [] else [dupTag]),
                    lines := st.lines ++ parseHeader e.headerText, seen := true } := by
  induction es generalizing idx with
  | nil => simp [entryLoop, hdrsFrom]
  | cons e es ih =>
    unfold entryLoop
    rw [hdrsFrom_cons]
    by_cases h : IsHeaderEntry e
    · have : ¬ (!isHeaderEntry e || e.obsolete) = true := fun c => (entrySkipped_iff e).1 c h
      simp only [this, if_false, h, if_true, hs, Bool.false_eq_true]
      cases ht : entryTags x tmpl idx e with
      | none => rfl
      | some ts =>
        simp only []
        rw [entryLoop_seen _ _ _ _ _ rfl]
        by_cases hr : hdrsFrom (idx + 1) es = []
        · simp [hr]
        · simp [hr]
    · have : (!isHeaderEntry e || e.obsolete) = true := (entrySkipped_iff e).2 h
      simp only [this, if_true, h, if_false]
      exact ih (idx + 1)

theorem entryLoop_ascii (x : Ext) (tmpl : Bool) (es : List Entry) (i : Nat) (st : LoopState) (h : LinesAscii st.lines) :
    LinesAscii (entryLoop x tmpl i es st).lines := by
  -- the cases of `entryLoop`: no entry left; not a header entry, or obsolete: skipped; a second header entry: the loop stops; the
  -- header's text crashes the check; the header is consumed, its lines appended
  fun_induction entryLoop x tmpl i es st with
  | case1 => exact h
  | case2 _ _ _ _ _ ih => exact ih h
  | case3 => exact h
  | case4 => exact h
  | case5 _ e _ _ _ _ _ _ ih =>
    exact ih fun k v hm => (List.mem_append.1 hm).elim (h k v) (parseHeader_ascii _ k v)

theorem headerText_eq (e : Entry) : e.headerText = entryText e := by
  unfold Entry.headerText entryText; cases e.msgstr0 <;> rfl

theorem hdrsFrom_zero (es : List Entry) : hdrsFrom 0 es = headerEntries es := rfl

/-- `charName` over the code point and with the name as a `String`: a closed Boolean over the regenerated table, so that
    `unusual_names_total` is evaluated by the kernel without `Char`s and without `String.toList` -/
def nameOfNat (n : Nat) : Option String :=
  match HeaderFields.unusualNames.find? (·.1 = n) with
  | some (_, some s) => some s
  | _ => none

theorem charName_eq (c : Char) : charName c = (nameOfNat c.toNat).map String.toList := by
  unfold charName nameOfNat
  cases h : HeaderFields.unusualNames.find? (fun x => decide (x.1 = c.toNat)) with
  | none => rfl
  | some p => obtain ⟨a, b⟩ := p; cases b <;> rfl

/-- every code point the regex can report -/
def candidates : List Nat :=
  (HeaderFields.unusualAlways.flatMap fun r => List.range' r.1 (r.2 - r.1 + 1))
    ++ [HeaderFields.unusualUnlessBracket, HeaderFields.unusualAfterWord]

/-- `encinfo.get_character_name` (as probed on this run) has a name for each of them -/
theorem unusual_names_total : candidates.all (fun n => (nameOfNat n).isSome) = true := by decide +kernel

theorem mem_candidates_of_inRanges (c : Char) (h : inRanges HeaderFields.unusualAlways c = true) : c.toNat ∈ candidates := by
  unfold inRanges at h
  rw [List.any_eq_true] at h
  obtain ⟨r, hr, hc⟩ := h
  simp only [Bool.and_eq_true, decide_eq_true_eq] at hc
  unfold candidates
  apply List.mem_append_left
  rw [List.mem_flatMap]
  refine ⟨r, hr, ?_⟩
  rw [List.mem_range'_1]
  omega

theorem unusual_candidates (db : UDB) (s : Str) (c : Char) (hc : Unusual db s c) : c.toNat ∈ candidates := by
  obtain ⟨pre, post, _, h | h | h⟩ := hc
  · exact mem_candidates_of_inRanges _ h
  · unfold candidates; rw [h.1]; simp
  · unfold candidates; rw [h.1]; simp

theorem mapM_isSome {α β : Type} (f : α → Option β) (l : List α) (h : ∀ a ∈ l, (f a).isSome = true) :
    (l.mapM f).isSome = true := by
  induction l with
  | nil => simp
  | cons a r ih =>
    have ha := h a (by simp)
    have hr := ih (fun b hb => h b (by simp [hb]))
    cases hfa : f a with
    | none => rw [hfa] at ha; cases ha
    | some b =>
      cases hfr : r.mapM f with
      | none => rw [hfr] at hr; cases hr
      | some bs => simp [List.mapM_cons, hfa, hfr]

theorem unusualText_isSome (db : UDB) (s : Str) : (unusualText (sortedChars (unusualChars db s))).isSome = true := by
  unfold unusualText
  rw [Option.isSome_map]
  apply mapM_isSome
  intro c hc
  rw [Option.isSome_map]
  have hc' : c.toNat ∈ candidates := by
    rw [mem_sortedChars, mem_unusualChars] at hc
    exact unusual_candidates db s c hc
  have := List.all_eq_true.1 unusual_names_total _ hc'
  rw [charName_eq, Option.isSome_map]
  exact this

/-- the disjuncts of `EntryRule` about the header entry `e` at position `i` -/
def EntryOneRule (x : Ext) (tmpl : Bool) (e : Entry) (i : Nat) (t : TagCall) : Prop :=
  (i ≠ 0 ∧ t = t0 "distant-header-entry")
  ∨ (e.occurrences ≠ [] ∧
      t = ⟨"empty-msgid-message-with-source-code-references", e.occurrences.map fun o => .str (o.1 ++ ':' :: o.2)⟩)
  ∨ (e.msgidPlural ≠ none ∧ t = t0 "empty-msgid-message-with-plural-forms")
  ∨ ("fuzzy".toList ∈ e.flags ∧ tmpl = false ∧ t = t0 "fuzzy-header-entry")
  ∨ (∃ fl ∈ e.flags, fl ≠ "fuzzy".toList ∧
      t = ⟨"unexpected-flag-for-header-entry",
           if x.closeFuzzy fl then [.str fl, .str "=>".toList, .str "fuzzy".toList] else [.str fl]⟩)
  ∨ (∃ fl, 1 < count fl e.flags ∧ t = ⟨"duplicate-flag-for-header-entry", [.str fl]⟩)
  ∨ (∃ text, sortedChars (unusualChars x.db (entryText e)) ≠ [] ∧
      unusualText (sortedChars (unusualChars x.db (entryText e))) = some text ∧
      t = ⟨"unusual-character-in-header-entry", [.safe text]⟩)

theorem entryRule_iff (x : Ext) (f : File) (t : TagCall) :
    EntryRule x f t ↔ (2 ≤ (headerEntries f.entries).length ∧ t = t0 "duplicate-header-entry")
      ∨ ∃ e i, headerEntry f.entries = some (e, i) ∧ EntryOneRule x f.kind.isTemplate e i t := Iff.rfl

/-- one flag of the sorted `Counter` -/
theorem mem_flagTags (x : Ext) (tmpl : Bool) (fl : Str) (t : TagCall) :
    t ∈ (if fl = "fuzzy".toList then (if tmpl = true then [] else [tag "fuzzy-header-entry" []])
          else if x.closeFuzzy fl = true then [tag "unexpected-flag-for-header-entry" [sx fl, arrow, lit "fuzzy"]]
          else [tag "unexpected-flag-for-header-entry" [sx fl]]) ↔
      (fl = "fuzzy".toList ∧ tmpl = false ∧ t = t0 "fuzzy-header-entry") ∨
      (fl ≠ "fuzzy".toList ∧ t = ⟨"unexpected-flag-for-header-entry",
             if x.closeFuzzy fl then [.str fl, .str "=>".toList, .str "fuzzy".toList] else [.str fl]⟩) := by
  by_cases hf : fl = "fuzzy".toList
  · cases tmpl <;> simp only [hf, if_true, List.mem_singleton, List.not_mem_nil, true_and, ne_eq, not_true_eq_false, false_and, or_false,
      Bool.false_eq_true, if_false, Bool.true_eq_false] <;> exact Iff.rfl
  · by_cases hc : x.closeFuzzy fl = true <;>
      simp only [hf, hc, if_true, if_false, List.mem_singleton, false_and, false_or, ne_eq, not_false_eq_true, true_and, Bool.false_eq_true] <;> exact Iff.rfl

theorem entryTags_spec (x : Ext) (tmpl : Bool) (i : Nat) (e : Entry) :
    ∃ ts, entryTags x tmpl i e = some ts ∧ ∀ t, t ∈ ts ↔ EntryOneRule x tmpl e i t := by
  have hflag : HeaderFields.headerFlag.toList = "fuzzy".toList := rfl
  have hcount : ∀ fl : Str, 1 < count fl e.flags → fl ∈ e.flags := by
    intro fl hc
    obtain ⟨a, ha⟩ := List.exists_mem_of_length_pos (Nat.lt_trans Nat.zero_lt_one hc)
    have := List.mem_filter.1 ha
    exact of_decide_eq_true this.2 ▸ this.1
  obtain ⟨text, htext⟩ := Option.isSome_iff_exists.1 (unusualText_isSome x.db e.headerText)
  rw [headerText_eq] at htext
  unfold entryTags
  -- both exits return `some`: of `o` or of `o ++ [unusual-character…]`, i.e. of `o ++ if … then [] else […]`
  simp only [headerText_eq, htext, ← apply_ite some, PyKit.ite_tail_append]
  refine ⟨_, rfl, fun t => ?_⟩
  unfold EntryOneRule
  simp only [List.mem_append, List.mem_flatMap, mem_sortedSet, hflag, mem_flagTags, List.mem_ite_nil_left, List.mem_ite_nil_right,
    List.mem_singleton, List.isEmpty_iff, Option.isSome_iff_ne_none, htext, Option.some.injEq]
  -- per flag the model emits "fuzzy or unexpected" and "repeated" together, and the position after the flags;
  -- the rule names the position first and lists the three kinds of flag report apart
  constructor
  · rintro ((((h | h) | ⟨fl, hfl, (⟨rfl, h⟩ | h) | h⟩) | h) | ⟨hu, h⟩)
    · exact .inr (.inl h)
    · exact .inr (.inr (.inl h))
    · exact .inr (.inr (.inr (.inl ⟨hfl, h⟩)))
    · exact .inr (.inr (.inr (.inr (.inl ⟨fl, hfl, h⟩))))
    · exact .inr (.inr (.inr (.inr (.inr (.inl ⟨fl, h⟩)))))
    · exact .inl h
    · exact .inr (.inr (.inr (.inr (.inr (.inr ⟨text, hu, rfl, h⟩)))))
  · rintro (h | h | h | ⟨hf, h⟩ | ⟨fl, hfl, h⟩ | ⟨fl, hc, h⟩ | ⟨_, hu, rfl, h⟩)
    · exact .inl (.inr h)
    · exact .inl (.inl (.inl (.inl h)))
    · exact .inl (.inl (.inl (.inr h)))
    · exact .inl (.inl (.inr ⟨_, hf, .inl (.inl ⟨rfl, h⟩)⟩))
    · exact .inl (.inl (.inr ⟨fl, hfl, .inl (.inr h)⟩))
    · exact .inl (.inl (.inr ⟨fl, hcount fl hc, .inr ⟨hc, h⟩⟩))
    · exact .inr ⟨hu, h⟩

theorem mem_entryTags (x : Ext) (tmpl : Bool) (i : Nat) (e : Entry) (ts : List TagCall)
    (h : entryTags x tmpl i e = some ts) (t : TagCall) : t ∈ ts ↔ EntryOneRule x tmpl e i t := by
  obtain ⟨ts', e', hts⟩ := entryTags_spec x tmpl i e
  obtain rfl := Option.some.inj (h.symm.trans e')
  exact hts t

theorem checkHeaders_total (x : Ext) (f : File) :
    ∃ ts, checkHeaders x f.kind.isTemplate f.entries = some ⟨ts, buildMeta (headerLinesOf f.entries) []⟩ ∧
      ∀ t, t ∈ ts ↔ (EntryRule x f t ∨ StrayRule (headerLinesOf f.entries) t ∨ NameRule x (fieldLines (headerLinesOf f.entries)) t) := by
  unfold checkHeaders
  rw [entryLoop_fresh x f.kind.isTemplate 0 f.entries ⟨[], [], false, false⟩ rfl, hdrsFrom_zero]
  simp only [entryRule_iff, headerLinesOf, headerEntry]
  cases headerEntries f.entries with
  | nil =>
    refine ⟨_, rfl, fun t => ?_⟩
    simp only [List.nil_append, List.mem_append, mem_strayTags_rule, mem_nameTags, List.length_nil, List.head?_nil, reduceCtorEq,
      false_and, exists_false, or_false, false_or, show ¬ 2 ≤ 0 by decide]
  | cons p rest =>
    obtain ⟨e, i⟩ := p
    obtain ⟨ts, het, hts⟩ := entryTags_spec x f.kind.isTemplate i e
    simp only [het, headerText_eq]
    refine ⟨_, rfl, fun t => ?_⟩
    have h2 : 2 ≤ ((e, i) :: rest).length ↔ rest ≠ [] := by cases rest <;> simp
    -- the rule names the duplicate before the tags of the entry; the loop emits it after them
    simp only [List.nil_append, List.mem_append, mem_strayTags_rule, mem_nameTags, hts, h2, List.head?_cons, Option.some.injEq,
      Prod.mk.injEq, List.mem_ite_nil_left, List.mem_singleton, and_assoc, exists_and_left, exists_eq_left', dupTag_eq,
      or_assoc]
    exact or_left_comm

theorem checkHeaders_spec (x : Ext) (f : File) (h : HeadersOut)
    (hc : checkHeaders x f.kind.isTemplate f.entries = some h) :
    h.metadata = buildMeta (headerLinesOf f.entries) [] ∧
    ∀ t, t ∈ h.tags ↔ (EntryRule x f t ∨ StrayRule (headerLinesOf f.entries) t ∨ NameRule x (fieldLines (headerLinesOf f.entries)) t) := by
  obtain ⟨ts, e, hts⟩ := checkHeaders_total x f
  obtain rfl := Option.some.inj (hc.symm.trans e)
  exact ⟨rfl, hts⟩

theorem checkHeaders_isSome (x : Ext) (tmpl : Bool) (es : List Entry) : (checkHeaders x tmpl es).isSome = true := by
  -- the rules take a `File`; `check_headers` reads neither the comments nor `isBinary`
  obtain ⟨ts, e, _⟩ := checkHeaders_total x ⟨⟨tmpl, false⟩, [], es⟩
  exact Option.isSome_iff_exists.2 ⟨_, e⟩

end I18n.Hdr
