import I18n.Model.Po
import I18n.Lemmas.Kit.List
/-! `polib.detect_encoding` on a file whose first line matching polib's pattern is the header's `Content-Type:` line. -/
namespace I18n.Lemmas.PoDetect
open I18n I18n.Po

/-- `text/plain;` -/
def mimeLit : Bytes := [116, 101, 120, 116, 47, 112, 108, 97, 105, 110, 59]

/-- `"Content-Type: text/plain; charset=` -/
def headerPrefix : Bytes := 34 :: (contentTypeLit ++ (32 :: (mimeLit ++ charsetLit)))

theorem bytesStartsWith_append (pat s : Bytes) : bytesStartsWith pat (pat ++ s) = true := by
  simp [bytesStartsWith]

theorem afterFirst_here (pat s : Bytes) (hne : pat ≠ []) : afterFirst pat (pat ++ s) = some s := by
  obtain ⟨a, as, rfl⟩ := List.exists_cons_of_ne_nil hne
  have := bytesStartsWith_append (a :: as) s
  simp only [List.cons_append] at this ⊢
  simp [afterFirst, this]

theorem findCharsetArg_here (name rest : Bytes) (hne : name ≠ []) (hn : ∀ b ∈ name, isCharsetByte b = true)
    (hr : ∀ b r, rest = b :: r → isCharsetByte b = false) : findCharsetArg (charsetLit ++ (name ++ rest)) = some name := by
  obtain ⟨a, as, rfl⟩ := List.exists_cons_of_ne_nil hne
  have ha : isCharsetByte a = true := hn a (by simp)
  have hsw := bytesStartsWith_append charsetLit ((a :: as) ++ rest)
  have hdrop : (charsetLit ++ ((a :: as) ++ rest)).drop charsetLit.length = (a :: as) ++ rest := List.drop_left
  -- `findCharsetArg` matches on `b :: bs`: show the first byte of ` charset=`
  have hc : charsetLit ++ ((a :: as) ++ rest) = 32 :: ([99, 104, 97, 114, 115, 101, 116, 61] ++ ((a :: as) ++ rest)) := rfl
  rw [hc] at hsw hdrop ⊢
  simp only [findCharsetArg, hsw, hdrop, Bool.true_and]
  have htw : List.takeWhile isCharsetByte (as ++ rest) = as := by
    simpa [List.takeWhile, ha] using (Kit.span_append hn (Kit.forall_head?_iff.2 hr)).1
  simp [ha, htw]

/-- no blank of `p` is followed by `c`, and `p` does not end in a blank: ` charset=` cannot start inside `p` -/
def SpaceNotC : Bytes → Prop
  | [] => True
  | [b] => b ≠ 32
  | a :: b :: r => (a = 32 → b ≠ 99) ∧ SpaceNotC (b :: r)

theorem findCharsetArg_skip (p s : Bytes) (hp : SpaceNotC p) :
    findCharsetArg (p ++ s) = findCharsetArg s := by
  induction p with
  | nil => rfl
  | cons a as ih =>
    cases as with
    | nil =>
      have ha : a ≠ 32 := hp
      have hns : bytesStartsWith charsetLit (a :: ([] ++ s)) = false := by simp [bytesStartsWith, charsetLit, ha]
      simp only [List.cons_append, findCharsetArg, hns, Bool.false_and]
      rfl
    | cons b r =>
      obtain ⟨h1, h2⟩ := hp
      have hns : bytesStartsWith charsetLit (a :: (b :: r ++ s)) = false := by
        by_cases ha : a = 32
        · have hb := h1 ha; simp [bytesStartsWith, charsetLit, hb]
        · simp [bytesStartsWith, charsetLit, ha]
      show findCharsetArg (a :: (b :: r ++ s)) = findCharsetArg s
      rw [findCharsetArg]
      simp only [hns, Bool.false_and, Bool.false_eq_true, if_false]
      exact ih h2

theorem afterFirst_skip (pat a s : Bytes) (c : UInt8) (hpat : ∃ r, pat = c :: r) (ha : c ∉ a) :
    afterFirst pat (a ++ s) = afterFirst pat s := by
  obtain ⟨r, rfl⟩ := hpat
  induction a with
  | nil => rfl
  | cons x xs ih =>
    have hx : x ≠ c := by intro e; apply ha; simp [e]
    have hns : bytesStartsWith (c :: r) (x :: (xs ++ s)) = false := by simp [bytesStartsWith, hx]
    simp only [List.cons_append, afterFirst, hns]
    exact ih (by intro h; apply ha; simp [h])

/-- the general header line: anything without a `C` before `Content-Type:`, one arbitrary byte, parameters in which ` charset=`
    cannot start (`SpaceNotC`), then ` charset=NAME` -/
theorem detectLine_general (a params name rest : Bytes) (x : UInt8) (ha : (67 : UInt8) ∉ a) (hp : SpaceNotC params)
    (hne : name ≠ []) (hn : ∀ b ∈ name, isCharsetByte b = true) (hr : ∀ b r, rest = b :: r → isCharsetByte b = false) :
    detectLine (a ++ (contentTypeLit ++ (x :: (params ++ (charsetLit ++ (name ++ rest)))))) = some name := by
  have h1 : afterFirst contentTypeLit (a ++ (contentTypeLit ++ (x :: (params ++ (charsetLit ++ (name ++ rest)))))) =
      some (x :: (params ++ (charsetLit ++ (name ++ rest)))) := by
    rw [afterFirst_skip contentTypeLit a _ 67 ⟨_, rfl⟩ ha]
    exact afterFirst_here contentTypeLit _ (by simp [contentTypeLit])
  simp only [detectLine, h1]
  rw [findCharsetArg_skip params _ hp]
  exact findCharsetArg_here name rest hne hn hr

theorem detectIn_skip (env : Env) (pre : List Bytes) (h : ∀ l ∈ pre, detectLine l = none) (rest : List Bytes) :
    detectIn env (pre ++ rest) = detectIn env rest := by
  induction pre with
  | nil => rfl
  | cons l ls ih =>
    simp only [List.cons_append, detectIn, h l (by simp)]
    exact ih (fun x hx => h x (by simp [hx]))

theorem detect_header_general (env : Env) (file : Bytes) (pre post : List Bytes) (a params name rest : Bytes) (x : UInt8)
    (hlines : byteLines file = pre ++ (a ++ (contentTypeLit ++ (x :: (params ++ (charsetLit ++ (name ++ rest)))))) :: post)
    (hpre : ∀ l ∈ pre, detectLine l = none) (ha : (67 : UInt8) ∉ a) (hp : SpaceNotC params)
    (hne : name ≠ []) (hn : ∀ b ∈ name, isCharsetByte b = true) (hr : ∀ b r, rest = b :: r → isCharsetByte b = false)
    (hex : env.codecExists name = true) : detectEncoding env file = name := by
  unfold detectEncoding
  rw [hlines, detectIn_skip env pre hpre]
  simp [detectIn, detectLine_general a params name rest x ha hp hne hn hr, hex]

theorem detect_header (env : Env) (file : Bytes) (pre post : List Bytes) (name rest : Bytes)
    (hlines : byteLines file = pre ++ (headerPrefix ++ (name ++ rest)) :: post)
    (hpre : ∀ l ∈ pre, detectLine l = none) (hne : name ≠ []) (hn : ∀ b ∈ name, isCharsetByte b = true)
    (hr : ∀ b r, rest = b :: r → isCharsetByte b = false) (hex : env.codecExists name = true) :
    detectEncoding env file = name := by
  refine detect_header_general env file pre post [34] mimeLit name rest 32 ?_ hpre (by decide) ?_ hne hn hr hex
  · rw [hlines]
    simp [headerPrefix]
  · simp [mimeLit, SpaceNotC]

end I18n.Lemmas.PoDetect
