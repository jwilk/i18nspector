import I18n.Model.Meta
import I18n.Props.C10
/-!
C17 on top of C10: the PO loader as `Checker.check` sees it, what "a file that spells the catalog" means (the side
conditions of C10's `load_spells_detected_partial`, bundled), and the loader-level consequence: two spelled files of one
catalog load to the same view (`poLoad_spelled`; `check_same_view` of `Lemmas/MetaSim.lean` then gives the same run).
-/
namespace I18n.Meta
open I18n.Check I18n.Po I18n.Spec.PoSpelling

theorem poView_content (f : PoFile) : poView f = (f.header, f.entries.map Lemmas.PoCatalog.content) := rfl

/-- **`file` spells `cat`** in the charset `name` (codec `E`): the hypotheses of C10's `load_spells_detected_partial`, all about
    the file's bytes and lines — the charset is declared on the first physical line that matches polib's pattern, the file
    decodes, its physical lines are `body ++ tail` with `body` (atypical comments normalised) the spelling and `tail` lines
    `Codecs.open` holds back (blank lines, `# …`, `#~| …`, bare `#.` `#:` `#,`). -/
structure SpelledFile (env : Po.Env) (E : Codec) (name : Po.Bytes) (cat : CatalogSp) (file : Po.Bytes) : Prop where
  codec : CodecOk env name E
  valid : cat.Valid E
  declared : ∃ pre post rest, byteLines file = pre ++ (Lemmas.PoDetect.headerPrefix ++ (name ++ rest)) :: post ∧
    (∀ l ∈ pre, detectLine l = none) ∧ name ≠ [] ∧ (∀ b ∈ name, isCharsetByte b = true) ∧
    (∀ b r, rest = b :: r → isCharsetByte b = false) ∧ env.codecExists name = true
  lines : ∃ contents body tail, decodeFile env name file = .ok contents ∧ physLines contents = body ++ tail ∧
    body.map normalise = cat.lines ∧ ∀ x ∈ tail, Lemmas.PoPre.Held env x

/-- the interpreter facts C10's theorems are stated for -/
structure PyEnv (env : Po.Env) : Prop where
  space : env.isSpace = pyIsSpace
  digit : env.isDigit = pyIsDigit
  decimal : env.decimal = pyDecimal

theorem poLoad_spelled (env : Po.Env) (hpy : PyEnv env) (E : Codec) (name : Po.Bytes) (cat : CatalogSp) (file : Po.Bytes)
    (h : SpelledFile env E name cat file) :
    ∃ f, poLoad env file false = .ok f ∧ poView f = (cat.headerText, cat.entries.map EntrySp.entry) := by
  obtain ⟨pre, post, rest, h1, h2, h3, h4, h5, h6⟩ := h.declared
  obtain ⟨contents, body, tail, g1, g2, g3, g4⟩ := h.lines
  obtain ⟨f, hf, hh, he⟩ := Props.C10.load_spells_detected_partial E env hpy.space hpy.digit hpy.decimal cat file name h.codec h.valid
    pre post rest h1 h2 h3 h4 h5 h6 contents g1 body tail g2 g3 g4
  refine ⟨f, ?_, ?_⟩
  · simp [poLoad, hf]
  · simp [poView_content, hh, he]

end I18n.Meta
