import I18n.Lemmas.PyFmtScan
import I18n.Lemmas.PyFmtConv
/-!
# Both loops are folds over the specifications the scanner reads

`FormatString.__init__` (`loop`) and `PyUnicode_Format` (`run`) walk the same string and meet the same conversion
specifications, `directives s`.  Here that is said once for each loop: the parser's loop is `Conversion.__init__` applied to
them in turn (`Adds`: what they record, and `Adds.origin`: which specification an entry comes from, named or unnamed),
CPython's is `unicode_format_arg` applied to them in turn (`steps`), and where
the parser's scanner refuses a specification (`scanEnds = false`) both raise.  Everything about a whole string is then
a statement about the list.
-/
namespace I18n.PyFmt
open I18n.Spec.CPyPercent
open I18n.Generated.PyFormatTables (flagChars allCvt typeTable)

/-- the conversion specifications the scanner reads, in order (with `directives`, `Directive.named`, `Directive.unnamed`
    below it occurs in statements of `Props.C12`: `reason_true`, `plainPercent_spec`) -/
def directivesAux : Nat → List Char → List Directive
  | 0, _ => []
  | _ + 1, [] => []
  | fuel + 1, c :: cs =>
    if c != '%' then directivesAux fuel cs
    else
      match scanDirective cs with
      | none => []
      | some (d, rest) => d :: directivesAux fuel rest

def directives (s : List Char) : List Directive := directivesAux (s.length + 1) s

/-- the specification takes its value from the mapping -/
def Directive.named (d : Directive) : Prop := d.key.isSome = true ∧ d.conv ≠ '%'
/-- the specification fetches a positional argument: a `*`, or a value without a key -/
def Directive.unnamed (d : Directive) : Prop := d.width = .star ∨ d.prec = some .star ∨ (d.key = none ∧ d.conv ≠ '%')

theorem Directive.named_iff {d : Directive} : d.named ↔ d.key.isSome = true ∧ d.conv ≠ '%' := Iff.rfl

theorem Directive.unnamed_iff {d : Directive} :
    d.unnamed ↔ d.width = .star ∨ d.prec = some .star ∨ (d.key = none ∧ d.conv ≠ '%') := Iff.rfl

theorem Directive.named_of_key {d : Directive} {k : List Char} (hk : d.key = some k) (hc : d.conv ≠ '%') : d.named :=
  ⟨hk ▸ rfl, hc⟩

theorem Directive.unnamed_of_star_width {d : Directive} (h : d.width = .star) : d.unnamed := Or.inl h

theorem Directive.unnamed_of_star_prec {d : Directive} (h : d.prec = some .star) : d.unnamed := Or.inr (Or.inl h)

theorem Directive.unnamed_of_value {d : Directive} (hk : d.key = none) (hc : d.conv ≠ '%') : d.unnamed :=
  Or.inr (Or.inr ⟨hk, hc⟩)

/-- the scanner reaches the end of the string: it refuses no specification.  This is the recursion of `directivesAux`
    (and of `loop`, `run`, `plainPercent`) once more, for the one thing that list does not show: whether it ends
    because the string does or because the scanner gives up -/
def scanEnds : Nat → List Char → Bool
  | 0, _ => false
  | _ + 1, [] => true
  | fuel + 1, c :: cs =>
    if c != '%' then scanEnds fuel cs
    else
      match scanDirective cs with
      | none => false
      | some (_, rest) => scanEnds fuel rest

theorem directivesAux_wf (fuel : Nat) (s : List Char) : ∀ d ∈ directivesAux fuel s,
    (∀ x ∈ d.flags, flagChars.contains x = true) ∧ allCvt.contains d.conv = true := by
  fun_induction directivesAux fuel s
  case case5 hs ih => exact List.forall_mem_cons.2 ⟨scanDirective_wf hs, ih⟩
  case case3 ih => exact ih
  all_goals exact fun _ hd => nomatch hd

theorem plainPercent_iff (fuel : Nat) (s : List Char) :
    plainPercent fuel s = true ↔ ∀ d ∈ directivesAux fuel s, d.plain = true := by
  fun_induction directivesAux fuel s
  case case3 hc ih => simpa only [plainPercent, hc, if_true] using ih
  case case5 hc _ _ hs ih =>
    simp only [plainPercent, hc, hs, Bool.false_eq_true, if_false, Bool.and_eq_true, List.forall_mem_cons, ih]
  -- out of fuel, end of the string, a specification refused: the list is empty and `plainPercent` answers `true`
  all_goals simp [plainPercent, *]

/-! ## the parser's loop -/

/-- what `ds` append to `_seq_arguments` (`S`) and `_map_arguments` (`M`) if `Conversion.__init__` accepts each: types from
    the table, numbers in range.  It says nothing of the flags nor of whether named and unnamed arguments mix (that is
    `conversion_excl`, kept beside it in `loop_ok_adds`), and the `parent` indices of the entries are not tracked. -/
inductive Adds : List Directive → List Entry → List (List Char × Entry) → Prop
  | nil : Adds [] [] []
  | cons {d : Directive} {ds : List Directive} {tp : String} {parent : Nat} {S : List Entry} {M : List (List Char × Entry)} :
      typeTable.lookup d.conv = some tp → d.inRange → Adds ds S M →
      Adds (d :: ds) (seqAdd d tp parent ++ S) (mapAdd d tp parent ++ M)

theorem mapAdd_named {d : Directive} {tp : String} {parent : Nat} (hl : typeTable.lookup d.conv = some tp)
    (h : mapAdd d tp parent ≠ []) : d.named := by
  obtain ⟨⟨k, e⟩, hm⟩ := List.exists_mem_of_ne_nil _ h
  obtain ⟨hk, hn, _⟩ := mem_mapAdd hm
  exact Directive.named_of_key hk ((type_ne_none_iff hl).1 hn)

theorem seqAdd_unnamed {d : Directive} {tp : String} {parent : Nat} (hl : typeTable.lookup d.conv = some tp)
    (h : seqAdd d tp parent ≠ []) : d.unnamed := by
  obtain ⟨e, he⟩ := List.exists_mem_of_ne_nil _ h
  rcases mem_seqAdd he with ⟨hw, _⟩ | ⟨hp, _⟩ | ⟨hk, hn, _⟩
  · exact Directive.unnamed_of_star_width hw
  · exact Directive.unnamed_of_star_prec hp
  · exact Directive.unnamed_of_value hk ((type_ne_none_iff hl).1 hn)

theorem Adds.origin {ds : List Directive} {S : List Entry} {M : List (List Char × Entry)} (t : Adds ds S M) :
    (∀ k e, (k, e) ∈ M → ∃ d ∈ ds, d.named ∧ d.key = some k ∧ typeTable.lookup d.conv = some e.type) ∧
    (S ≠ [] → ∃ d ∈ ds, d.unnamed) := by
  induction t with
  | nil => exact ⟨nofun, fun h => absurd rfl h⟩
  | @cons d ds tp parent S M hl hin t ih =>
    refine ⟨fun k e h => ?_, fun h => ?_⟩
    · rcases List.mem_append.1 h with r | r
      · obtain ⟨hk, _, rfl⟩ := mem_mapAdd r
        exact ⟨d, List.mem_cons_self, mapAdd_named hl (List.ne_nil_of_mem r), hk, hl⟩
      · obtain ⟨x, hx, r⟩ := ih.1 k e r
        exact ⟨x, List.mem_cons_of_mem _ hx, r⟩
    · by_cases h0 : seqAdd d tp parent = []
      · rw [h0, List.nil_append] at h
        obtain ⟨x, hx, r⟩ := ih.2 h
        exact ⟨x, List.mem_cons_of_mem _ hx, r⟩
      · exact ⟨d, List.mem_cons_self, seqAdd_unnamed hl h0⟩

/-- `add_argument` keeps named and unnamed arguments apart -/
theorem conversion_excl {w : Bool} {st st' : St} {d : Directive} {tp : String} (h : conversion w st d = .ok (st', tp))
    (hi : st.seq = [] ∨ st.map = []) : st'.seq = [] ∨ st'.map = [] := by
  obtain ⟨_, ⟨a, b⟩, _, h1, h2⟩ := conversion_ok h
  by_cases hm : mapAdd d tp st.items.length = []
  · by_cases hs : seqAdd d tp st.items.length = []
    · rw [a, b, hm, hs, List.append_nil, List.append_nil]; exact hi
    · right; rw [b, hm, List.append_nil]; exact h1 hs
  · obtain ⟨x, y⟩ := h2 hm
    left; rw [a, x, y]; rfl

/-- **The parser's loop is `Conversion.__init__` folded over the specifications read.** -/
theorem loop_ok_adds {w : Bool} {fuel : Nat} {s text : List Char} {st st' : St} (h : loop w fuel s text st = .ok st') :
    scanEnds fuel s = true ∧ (st.seq = [] ∨ st.map = [] → st'.seq = [] ∨ st'.map = []) ∧
    ∃ S M, Adds (directivesAux fuel s) S M ∧ st'.seq = st.seq ++ S ∧ st'.map = st.map ++ M := by
  fun_induction loop w fuel s text st
  -- out of fuel
  case case1 => cases h
  -- the string has ended
  case case2 =>
    cases h
    rw [flush_seq, flush_map]
    exact ⟨rfl, id, [], [], .nil, (List.append_nil _).symm, (List.append_nil _).symm⟩
  -- an ordinary character
  case case3 hc ih => simpa only [scanEnds, directivesAux, hc, if_true] using ih h
  -- the scanner refuses the specification
  case case4 => cases h
  -- `Conversion.__init__` raises
  case case5 => cases h
  -- `Conversion.__init__` accepts `d`: what it appends comes first, what the rest of the string appends after it
  case case6 text st hc d rest hs st0 st1 tp hcv ih =>
    obtain ⟨hends, hexcl, S, M, t, hseq, hmap⟩ := ih h
    obtain ⟨hl, ⟨hseq1, hmap1⟩, hin, _⟩ := conversion_ok hcv
    simp only [st0, flush_seq, flush_map] at hseq1 hmap1
    have hexcl1 : st.seq = [] ∨ st.map = [] → st1.seq = [] ∨ st1.map = [] := fun h0 =>
      conversion_excl hcv (by rwa [flush_seq, flush_map])
    simp only [scanEnds, directivesAux, hc, hs, Bool.false_eq_true, if_false]
    refine ⟨hends, fun h0 => hexcl (hexcl1 h0), _, _, .cons (parent := st0.items.length) hl hin t, ?_, ?_⟩
    · rw [hseq, hseq1, List.append_assoc]
    · rw [hmap, hmap1, List.append_assoc]

/-- … and where it raises, either the scanner refuses a specification (`Error`) or `Conversion.__init__` raises for
    one, in a state whose argument lists the specifications before it filled; the termination device is not reached -/
theorem loop_error_adds {w : Bool} {fuel : Nat} {s text : List Char} {st : St} {e : PErr} (h : loop w fuel s text st = .error e)
    (hlen : s.length < fuel) : (e = .Error ∧ scanEnds fuel s = false) ∨
      ∃ pre d post S M st1, directivesAux fuel s = pre ++ d :: post ∧ Adds pre S M ∧ st1.seq = st.seq ++ S ∧
        st1.map = st.map ++ M ∧ conversion w st1 d = .error e := by
  fun_induction loop w fuel s text st
  -- out of fuel: `hlen` excludes it
  case case1 => cases hlen
  -- the string has ended
  case case2 => cases h
  -- an ordinary character
  case case3 hc ih => simpa only [scanEnds, directivesAux, hc, if_true] using ih h (Nat.lt_of_succ_lt_succ hlen)
  -- the scanner refuses the specification
  case case4 fuel c cs _ _ hc hs =>
    cases h
    have hends : scanEnds (fuel + 1) (c :: cs) = false := by
      simp only [scanEnds, hc, hs, Bool.false_eq_true, if_false]
    exact Or.inl ⟨rfl, hends⟩
  -- `Conversion.__init__` raises for `d`: no specification before it, nothing appended yet
  case case5 fuel c cs text st hc d rest hs st0 e' hcv =>
    cases h
    have hds : directivesAux (fuel + 1) (c :: cs) = [] ++ d :: directivesAux fuel rest := by
      simp only [directivesAux, hc, hs, Bool.false_eq_true, if_false, List.nil_append]
    refine Or.inr ⟨[], d, _, [], [], st0, hds, .nil, ?_, ?_, hcv⟩
    · rw [flush_seq, List.append_nil]
    · rw [flush_map, List.append_nil]
  -- `Conversion.__init__` accepts `d`: it goes in front of whatever the rest of the string gives
  case case6 hc d rest hs st0 st1 tp hcv ih =>
    obtain ⟨hl, ⟨hseq1, hmap1⟩, hin, _⟩ := conversion_ok hcv
    simp only [st0, flush_seq, flush_map] at hseq1 hmap1
    -- every round consumes at least one character
    have hr := scanDirective_length hs
    simp only [scanEnds, directivesAux, hc, hs, Bool.false_eq_true, if_false]
    rcases ih h (by simp only [List.length_cons] at hlen; omega) with
      r | ⟨pre, d', post, S, M, st2, hds, t, hseq, hmap, hraise⟩
    · exact Or.inl r
    · refine Or.inr ⟨d :: pre, d', post, _, _, st2, ?_, .cons (parent := st0.items.length) hl hin t, ?_, ?_, hraise⟩
      · rw [hds]; rfl
      · rw [hseq, hseq1, List.append_assoc]
      · rw [hmap, hmap1, List.append_assoc]

/-! ## CPython's loop -/

/-- `unicode_format_arg` for a specification read as `d`; the two characters `%%` never reach it -/
def step (d : Directive) (c : Ctx) : Except Err Ctx := if d = percentDirective then .ok c else effect d c

def steps : List Directive → Ctx → Except Err Ctx
  | [], c => .ok c
  | d :: ds, c =>
    match step d c with
    | .error e => .error e
    | .ok c' => steps ds c'

/-- `PyUnicode_Format` on the specifications read: one after the other, then the test for unused arguments -/
def formatDs (ds : List Directive) (c : Ctx) : Except Err Unit :=
  match steps ds c with
  | .error e => .error e
  | .ok c' => if c'.unconverted && c'.dict.isNone then .error .notAllConverted else .ok ()

theorem step_percent (c : Ctx) : step percentDirective c = .ok c := if_pos rfl

theorem step_of_ne {d : Directive} (hd : d ≠ percentDirective) (c : Ctx) : step d c = effect d c := if_neg hd

theorem steps_cons_ok {d : Directive} {ds : List Directive} {c c' : Ctx} :
    steps (d :: ds) c = .ok c' ↔ ∃ c1, step d c = .ok c1 ∧ steps ds c1 = .ok c' := by
  rw [steps]
  cases step d c with
  | error e => exact ⟨nofun, fun ⟨_, h, _⟩ => nomatch h⟩
  | ok c1 => exact ⟨fun h => ⟨c1, rfl, h⟩, fun ⟨_, h1, h2⟩ => Except.ok.inj h1 ▸ h2⟩

theorem formatDs_nil (c : Ctx) :
    formatDs [] c = if c.unconverted && c.dict.isNone then .error .notAllConverted else .ok () := rfl

theorem formatDs_cons_ok {d : Directive} {c c1 : Ctx} (h : step d c = .ok c1) (ds : List Directive) :
    formatDs (d :: ds) c = formatDs ds c1 := by
  rw [formatDs, steps, h, formatDs]

theorem formatDs_cons_error {d : Directive} {c : Ctx} {e : Err} (h : step d c = .error e) (ds : List Directive) :
    formatDs (d :: ds) c = .error e := by
  rw [formatDs, steps, h]

theorem formatDs_ok {ds : List Directive} {c : Ctx} :
    formatDs ds c = .ok () ↔ ∃ c', steps ds c = .ok c' ∧ (c'.unconverted && c'.dict.isNone) = false := by
  rw [formatDs]
  cases steps ds c with
  | error e => exact ⟨nofun, fun ⟨_, h, _⟩ => nomatch h⟩
  | ok c' =>
    dsimp only
    by_cases hu : (c'.unconverted && c'.dict.isNone) = true
    · rw [if_pos hu]
      exact ⟨nofun, fun ⟨_, h, hu'⟩ => by cases h; cases hu.symm.trans hu'⟩
    · rw [if_neg hu]
      exact ⟨fun _ => ⟨c', rfl, Bool.eq_false_iff.2 hu⟩, fun _ => rfl⟩

/-- **CPython's loop is `unicode_format_arg` folded over the same specifications**, and where the parser's scanner
    refuses one CPython raises -/
theorem run_eq (fuel : Nat) (s : List Char) (c : Ctx) :
    (scanEnds fuel s = true → run fuel s c = formatDs (directivesAux fuel s) c) ∧
    (scanEnds fuel s = false → ∃ e, run fuel s c = .error e) := by
  fun_induction run fuel s c
  -- out of fuel
  case case1 => exact ⟨nofun, fun _ => ⟨_, rfl⟩⟩
  -- the string has ended, with and without arguments left over
  case case2 h => exact ⟨fun _ => by rw [directivesAux, formatDs_nil, if_pos h], nofun⟩
  case case3 h => exact ⟨fun _ => by rw [directivesAux, formatDs_nil, if_neg h], nofun⟩
  -- an ordinary character
  case case4 ch _ _ hc ih =>
    have hb : (ch != '%') = true := by simpa using hc
    simpa only [scanEnds, directivesAux, hb, if_true] using ih
  -- the two characters `%%`: the scanner reads them as `percentDirective`
  case case5 ch _ hc rest ih =>
    obtain rfl : ch = '%' := by simpa using hc
    simpa only [scanEnds, directivesAux, bne_self_eq_false, Bool.false_eq_true, if_false, scan_percent,
      formatDs_cons_ok (step_percent _)] using ih
  -- `unicode_format_arg` raises
  case case6 ch cs c hc e hf hne =>
    obtain rfl : ch = '%' := by simpa using hc
    simp only [scanEnds, directivesAux, bne_self_eq_false, Bool.false_eq_true, if_false, hf]
    cases hs : scanDirective cs with
    | none => exact ⟨nofun, fun _ => ⟨_, rfl⟩⟩
    | some p =>
      -- not `%%`, so not `percentDirective`
      have hd : p.1 ≠ percentDirective := fun hd => hne p.2 (scan_percent_iff.1 (by rw [hs, ← hd]))
      rw [formatArg_of_scan hs, ← step_of_ne hd] at hf
      cases he : step p.1 c with
      | error e' => rw [he] at hf; cases hf; exact ⟨fun _ => (formatDs_cons_error he _).symm, fun _ => ⟨_, rfl⟩⟩
      | ok c' => rw [he] at hf; cases hf
  -- `unicode_format_arg` succeeds
  case case7 ch cs c hc rest c1 hf hne ih =>
    obtain rfl : ch = '%' := by simpa using hc
    simp only [scanEnds, directivesAux, bne_self_eq_false, Bool.false_eq_true, if_false, hf]
    cases hs : scanDirective cs with
    | none =>
      obtain ⟨e, he⟩ := formatArg_of_scan_none hs c
      rw [he] at hf
      cases hf
    | some p =>
      have hd : p.1 ≠ percentDirective := fun hd => hne p.2 (scan_percent_iff.1 (by rw [hs, ← hd]))
      rw [formatArg_of_scan hs, ← step_of_ne hd] at hf
      cases he : step p.1 c with
      | error e' => rw [he] at hf; cases hf
      | ok c' =>
        rw [he] at hf
        cases hf
        rw [formatDs_cons_ok he]
        exact ih

theorem run_ok {fuel : Nat} {s : List Char} {c : Ctx} (h : run fuel s c = .ok ()) :
    scanEnds fuel s = true ∧
    ∃ c', steps (directivesAux fuel s) c = .ok c' ∧ (c'.unconverted && c'.dict.isNone) = false := by
  cases he : scanEnds fuel s with
  | false =>
    obtain ⟨e, h'⟩ := (run_eq fuel s c).2 he
    rw [h'] at h
    cases h
  | true =>
    rw [(run_eq fuel s c).1 he] at h
    exact ⟨rfl, formatDs_ok.1 h⟩

/-! ## `FormatString(s)` -/

theorem parse_loop {s : List Char} {r : Result} (h : parse s = .ok r) :
    ∃ st, loop true (s.length + 1) s [] St.init = .ok st ∧ r.seq = st.seq ∧ r.map = groups st.map ∧
      (groups st.map).all (fun g => sameType g.2) = true := by
  unfold parse parseW at h
  cases hl : loop true (s.length + 1) s [] St.init with
  | error e => rw [hl] at h; cases h
  | ok st =>
    rw [hl] at h
    simp only [] at h
    split at h
    · rename_i hall; cases h; exact ⟨st, rfl, rfl, rfl, hall⟩
    · cases h

theorem parse_error_loop {s : List Char} {e : PErr} (h : parse s = .error e) :
    loop true (s.length + 1) s [] St.init = .error e ∨
    (e = .ArgumentTypeMismatch ∧ ∃ st, loop true (s.length + 1) s [] St.init = .ok st ∧
      (groups st.map).all (fun g => sameType g.2) = false) := by
  unfold parse parseW at h
  cases hl : loop true (s.length + 1) s [] St.init with
  | error e' => rw [hl] at h; cases h; exact Or.inl rfl
  | ok st =>
    rw [hl] at h
    simp only [] at h
    split at h
    · cases h
    · rename_i hall; cases h; exact Or.inr ⟨rfl, st, rfl, Bool.eq_false_iff.2 hall⟩

theorem parse_adds {s : List Char} {r : Result} (h : parse s = .ok r) :
    ∃ S M, Adds (directives s) S M ∧ (S = [] ∨ M = []) ∧ r.seq = S ∧ r.map = groups M ∧
      (groups M).all (fun g => sameType g.2) = true := by
  obtain ⟨st, hl, hseq, hmap, hall⟩ := parse_loop h
  obtain ⟨_, hexcl, S, M, t, hS, hM⟩ := loop_ok_adds hl
  simp only [St.init, List.nil_append] at hS hM
  subst hS hM
  exact ⟨st.seq, st.map, t, hexcl (Or.inl rfl), hseq, hmap, hall⟩

theorem format_eq_formatDs_of_parse {s : List Char} {r : Result} (h : parse s = .ok r) (a : Args) :
    format s a = formatDs (directives s) (Ctx.init a) := by
  obtain ⟨st, hl, _⟩ := parse_loop h
  exact (run_eq _ _ _).1 (loop_ok_adds hl).1

theorem parse_error_adds {s : List Char} {e : PErr} (h : parse s = .error e) :
    (e = .Error ∧ scanEnds (s.length + 1) s = false) ∨
    (e = .ArgumentTypeMismatch ∧ ∃ S M, Adds (directives s) S M ∧ (groups M).all (fun g => sameType g.2) = false) ∨
    ∃ pre d post S M st1, directives s = pre ++ d :: post ∧ Adds pre S M ∧ st1.seq = S ∧ st1.map = M ∧
      conversion true st1 d = .error e := by
  rcases parse_error_loop h with hl | ⟨r, st, hl, hall⟩
  · rcases loop_error_adds hl (Nat.lt_succ_self _) with r | ⟨pre, d, post, S, M, st1, r⟩
    · exact Or.inl r
    · exact Or.inr (Or.inr ⟨pre, d, post, S, M, st1, by simpa [St.init, directives] using r⟩)
  · obtain ⟨_, _, S, M, t, _, hM⟩ := loop_ok_adds hl
    simp only [St.init, List.nil_append] at hM
    exact Or.inr (Or.inl ⟨r, S, M, t, hM ▸ hall⟩)

theorem parse_error_conversion {s : List Char} {e : PErr} (h : parse s = .error e) (h1 : e ≠ .Error)
    (h2 : e ≠ .ArgumentTypeMismatch) :
    ∃ pre d post st1, directives s = pre ++ d :: post ∧ Adds pre st1.seq st1.map ∧ conversion true st1 d = .error e := by
  rcases parse_error_adds h with ⟨he, _⟩ | ⟨he, _⟩ | ⟨pre, d, post, S, M, st1, hds, t, rfl, rfl, hcv⟩
  · exact absurd he h1
  · exact absurd he h2
  · exact ⟨pre, d, post, st1, hds, t, hcv⟩

theorem parse_error_own {s : List Char} {e : PErr} (h : parse s = .error e) : e.own = true := by
  rcases parse_error_adds h with ⟨rfl, _⟩ | ⟨rfl, _⟩ | ⟨pre, d, post, S, M, st1, hd, _, _, _, hcv⟩
  · rfl
  · rfl
  · -- what the scanner reads has flag characters for flags and a conversion character of `_info.all_cvt`
    obtain ⟨hwf1, hwf2⟩ := directivesAux_wf _ s d (hd ▸ List.mem_append_cons_self)
    rcases conversion_error hcv hwf1 hwf2 with r | r | r | ⟨r, _, _⟩ <;> subst r <;> rfl

end I18n.PyFmt
