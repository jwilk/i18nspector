import I18n.Lemmas.MsgBasic
import I18n.Spec.MessageRules
/-
The loop of `_check_message_flags` against the per-flag rules: after the distinct flags `done` (in sorted order) the state is
the per-flag diagnostics of `done`, the two dictionaries folded over `done`, and the scalar fields determined by `done`.
-/
namespace I18n.Msg
open I18n.Tags (Str lit Extra)
open I18n.Spec.MessageRules

def wrapState (done : List Str) : Option Bool :=
  if lit "no-wrap" ∈ done then some false else if lit "wrap" ∈ done then some true else none

theorem wrapState_snoc (done : List Str) (f : Str) :
    wrapState (done ++ [f]) =
      if f = lit "no-wrap" then some false
      else if f = lit "wrap" ∧ lit "no-wrap" ∉ done then some true
      else wrapState done := by
  simp only [wrapState, List.mem_append, List.mem_singleton, eq_comm (b := f)]
  by_cases hn : f = lit "no-wrap"
  · simp [hn]
  · by_cases hd : lit "no-wrap" ∈ done
    · simp [hn, hd]
    · by_cases hw : f = lit "wrap" <;> simp [hn, hd, hw]

structure Inv (env : FlagEnv) (e : Entry) (flags done : List Str) (st : FSt) : Prop where
  out : st.out = done.flatMap (perFlag env e flags)
  ff : st.formatFlags = formatDict env done
  rf : st.rangeFlags = rangeDict env flags done
  fuzzy : st.fuzzy = decide (lit "fuzzy" ∈ done)
  wrap : st.wrap = wrapState done
  rmin : st.rangeMin = ((lastRange env done).map (·.1)).getD 0
  rmax : st.rangeMax = (lastRange env done).map (·.2)

theorem fuzzy_ne_wrap : lit "fuzzy" ≠ lit "wrap" := by decide +kernel
theorem fuzzy_ne_nowrap : lit "fuzzy" ≠ lit "no-wrap" := by decide +kernel
theorem wrap_ne_nowrap : lit "wrap" ≠ lit "no-wrap" := by decide +kernel

theorem formatDict_snoc (env : FlagEnv) (done : List Str) (f : Str) :
    formatDict env (done ++ [f]) = formatStep env (formatDict env done) f := by
  simp [formatDict, List.foldl_append]

theorem rangeDict_snoc (env : FlagEnv) (flags done : List Str) (f : Str) :
    rangeDict env flags (done ++ [f]) = rangeStep env flags (rangeDict env flags done) f := by
  simp [rangeDict, List.foldl_append]

theorem lastRange_snoc (env : FlagEnv) (done : List Str) (f : Str) :
    lastRange env (done ++ [f]) = lastStep env (lastRange env done) f := by
  simp [lastRange, List.foldl_append]

def addOut (st : FSt) (x : List Emit) : FSt := { st with out := st.out ++ x }

@[simp] theorem addOut_out (st : FSt) (x : List Emit) : (addOut st x).out = st.out ++ x := rfl
@[simp] theorem addOut_wrap (st : FSt) (x : List Emit) : (addOut st x).wrap = st.wrap := rfl

theorem flagBranch_eq (env : FlagEnv) (e : Entry) (st : FSt) (f : Str) (n : Nat) :
    flagBranch env e st f n =
      match flagKind env f with
      | .fuzzy => (true, n, { st with fuzzy := true })
      | .wrap =>
        if st.wrap = some false then
          (true, n, addOut st [tagR env.db e tplColon .conflictingMessageFlags [.str (lit "wrap"), .str (lit "no-wrap")]])
        else (true, n, { st with wrap := some true })
      | .noWrap =>
        if st.wrap = some true then
          (true, n, addOut st [tagR env.db e tplColon .conflictingMessageFlags [.str (lit "wrap"), .str (lit "no-wrap")]])
        else (true, n, { st with wrap := some false })
      | .range r =>
        let st' := addOut st (rule e.msgidPlural.isNone (.tag .rangeFlagWithoutPluralString []))
        match r with
        | some (i, j) => (true, 0, { st' with rangeMin := i, rangeMax := some j, rangeFlags := rangeAdd (i, j) f n st'.rangeFlags })
        | none => (true, n, addOut st' [tagR env.db e tplColon .invalidRangeFlag [.str f]])
      | .format tp fmt => (true, n, { st with formatFlags := assocSet (tp, fmt) f st.formatFlags })
      | .markdownText => (true, n, st)
      | .unknown => (false, n, st) := by
  unfold flagBranch flagKind
  -- the tests of the two `if` chains, one after the other; where `f` is a literal the earlier tests are facts about literals
  by_cases hfuzzy : f = lit "fuzzy"
  · simp [hfuzzy]
  by_cases hwrap : f = lit "wrap"
  · subst hwrap; simp [hfuzzy, wrap_ne_nowrap, addOut]
  by_cases hnowrap : f = lit "no-wrap"
  · subst hnowrap; simp [hfuzzy, hwrap, addOut]
  by_cases hrange : startsWith env.rangePrefix f = true
  · rcases parseRange env f with _ | ⟨i, j⟩ <;> cases e.msgidPlural <;> simp [hfuzzy, hwrap, hnowrap, hrange, addOut, rule]
  by_cases hformat : endsWith formatSuffix f = true
  · cases classifyFormat env f env.prefixes <;> simp [hfuzzy, hwrap, hnowrap, hrange, hformat]
  by_cases hmd : f = lit "markdown-text"
  · subst hmd; simp [hfuzzy, hwrap, hnowrap, hrange, hformat]
  · simp [hfuzzy, hwrap, hnowrap, hrange, hformat, hmd]

/-- what a kind says about the flag text: `flagKind` read backwards -/
theorem flagKind_inv (env : FlagEnv) (f : Str) :
    match flagKind env f with
    | .fuzzy => f = lit "fuzzy"
    | .wrap => f = lit "wrap"
    | .noWrap => f = lit "no-wrap"
    | .range r => startsWith env.rangePrefix f = true ∧ r = parseRange env f
    | .format tp fmt => endsWith formatSuffix f = true ∧ classifyFormat env f env.prefixes = some (tp, fmt)
    | .markdownText => f = lit "markdown-text"
    | .unknown => True := by
  fun_cases flagKind env f <;> simp [*]

theorem flagKind_fuzzy_iff (env : FlagEnv) (f : Str) : flagKind env f = .fuzzy ↔ f = lit "fuzzy" :=
  ⟨fun h => by have := flagKind_inv env f; rwa [h] at this, fun h => by simp [flagKind, h]⟩

theorem flagKind_wrap_iff (env : FlagEnv) (f : Str) : flagKind env f = .wrap ↔ f = lit "wrap" :=
  ⟨fun h => by have := flagKind_inv env f; rwa [h] at this, fun h => by subst h; simp [flagKind, fuzzy_ne_wrap.symm]⟩

theorem flagKind_noWrap_iff (env : FlagEnv) (f : Str) : flagKind env f = .noWrap ↔ f = lit "no-wrap" :=
  ⟨fun h => by have := flagKind_inv env f; rwa [h] at this,
    fun h => by subst h; simp [flagKind, fuzzy_ne_nowrap.symm, wrap_ne_nowrap.symm]⟩

theorem flagStep_eq (env : FlagEnv) (e : Entry) (st : FSt) (f : Str) (n : Nat) :
    flagStep env e st f n =
      addOut (flagBranch env e st f n).2.2
        (rule (!(flagBranch env e st f n).1) (tagR env.db e tplColon .unknownMessageFlag [.str f])
          ++ rule (decide ((flagBranch env e st f n).2.1 > 1 ∧ f ≠ [])) (tagR env.db e tplColon .duplicateMessageFlag [.str f])) := by
  simp only [flagStep, rule, addOut]
  cases hb : (flagBranch env e st f n).1 <;> by_cases hd : (flagBranch env e st f n).2.1 > 1 ∧ f ≠ [] <;> simp [hd]

/-- the fields of the state that one step changes by the kind of the flag alone -/
theorem flagStep_fields (env : FlagEnv) (e : Entry) (st : FSt) (f : Str) (n : Nat) :
    (flagStep env e st f n).formatFlags = formatStep env st.formatFlags f ∧
    (flagStep env e st f n).rangeFlags = (match rangeOf env f with
      | some r => rangeAdd r f n st.rangeFlags
      | none => st.rangeFlags) ∧
    (flagStep env e st f n).fuzzy = (st.fuzzy || decide (flagKind env f = .fuzzy)) ∧
    (flagStep env e st f n).rangeMin = (match rangeOf env f with
      | some r => r.1
      | none => st.rangeMin) ∧
    (flagStep env e st f n).rangeMax = (match rangeOf env f with
      | some r => some r.2
      | none => st.rangeMax) := by
  rw [flagStep_eq, flagBranch_eq, formatStep, rangeOf]
  cases flagKind env f with
  | fuzzy => exact ⟨rfl, rfl, by simp [addOut], rfl, rfl⟩
  | wrap | noWrap => dsimp only [addOut]; split <;> exact ⟨rfl, rfl, by simp, rfl, rfl⟩
  | range r => rcases r with _ | ⟨i, j⟩ <;> exact ⟨rfl, rfl, by simp [addOut], rfl, rfl⟩
  | _ => exact ⟨rfl, rfl, by simp [addOut], rfl, rfl⟩

/-- `hw`, `hn`: `no-wrap` sorts before `wrap`, so when `wrap` comes up `no-wrap` — if the entry has it — is among `done`, and when
    `no-wrap` comes up `wrap` is not; this is what makes the `wrap` field of the state enough to report the conflict at `wrap`. -/
theorem flagStep_inv {env : FlagEnv} {e : Entry} {flags done : List Str} {st : FSt} (h : Inv env e flags done st) (f : Str)
    (hw : f = lit "wrap" → (lit "no-wrap" ∈ flags ↔ lit "no-wrap" ∈ done))
    (hn : f = lit "no-wrap" → lit "wrap" ∉ done) :
    Inv env e flags (done ++ [f]) (flagStep env e st f (flags.count f)) := by
  obtain ⟨hout, hff, hrf, hfz, hwr, hmin, hmax⟩ := h
  obtain ⟨fff, frf, ffz, fmin, fmax⟩ := flagStep_fields env e st f (flags.count f)
  suffices hs : (flagStep env e st f (flags.count f)).out = st.out ++ perFlag env e flags f ∧
      (flagStep env e st f (flags.count f)).wrap = wrapState (done ++ [f]) from
    { out := by rw [hs.1, hout, List.flatMap_append, List.flatMap_singleton]
      ff := by rw [fff, hff, formatDict_snoc]
      rf := by rw [frf, hrf, rangeDict_snoc]; rfl
      fuzzy := by simp [ffz, hfz, flagKind_fuzzy_iff, eq_comm (a := f)]
      wrap := hs.2
      rmin := by rw [fmin, hmin, lastRange_snoc, lastStep]; cases rangeOf env f <;> rfl
      rmax := by rw [fmax, hmax, lastRange_snoc, lastStep]; cases rangeOf env f <;> rfl }
  rw [flagStep_eq, flagBranch_eq, addOut_out, addOut_wrap, wrapState_snoc]
  have nw : flagKind env f ≠ .wrap → f ≠ lit "wrap" := fun h e => h ((flagKind_wrap_iff env f).mpr e)
  have nn : flagKind env f ≠ .noWrap → f ≠ lit "no-wrap" := fun h e => h ((flagKind_noWrap_iff env f).mpr e)
  cases hk : flagKind env f with
  | wrap =>
    obtain rfl := (flagKind_wrap_iff env f).mp hk
    by_cases hc : lit "no-wrap" ∈ done
    · have hws : st.wrap = some false := by rw [hwr, wrapState, if_pos hc]
      constructor
      · simp [perFlag, hk, hws, rule, (hw rfl).mpr hc]
      · simp [hws, wrap_ne_nowrap, hc, ← hwr]
    · -- the entry has no `no-wrap`: `wrap` is recorded
      have hws : st.wrap ≠ some false := by rw [hwr, wrapState, if_neg hc]; split <;> simp
      constructor
      · simp [perFlag, hk, hws, rule, mt (hw rfl).mp hc]
      · simp [hws, wrap_ne_nowrap, hc]
  | noWrap =>
    obtain rfl := (flagKind_noWrap_iff env f).mp hk
    have hws : st.wrap ≠ some true := by rw [hwr, wrapState, if_neg (hn rfl)]; split <;> simp
    constructor
    · simp [perFlag, hk, hws, rule]
    · simp [hws]
  | range r =>
    have hnw := nw (by simp [hk])
    have hnn := nn (by simp [hk])
    constructor
    · rcases r with _ | ⟨i, j⟩ <;> simp [perFlag, hk, rule]
    · rcases r with _ | ⟨i, j⟩ <;> simp [hwr, hnw, hnn]
  | fuzzy | format tp fmt | markdownText | unknown =>
    have hnw := nw (by simp [hk])
    have hnn := nn (by simp [hk])
    constructor
    · simp [perFlag, hk, rule]
    · simp [hwr, hnw, hnn]

theorem not_wrap_lt_nowrap : strLt (lit "wrap") (lit "no-wrap") = false := by decide +kernel

theorem flagLoop_inv (env : FlagEnv) (e : Entry) (flags : List Str) :
    ∀ (rest done : List Str) (st : FSt),
      (done ++ rest).Pairwise (fun a b => strLt a b = true) → (∀ f, f ∈ flags ↔ f ∈ done ++ rest) →
      Inv env e flags done st →
      Inv env e flags (done ++ rest) (flagLoop env e st (rest.map fun f => (f, flags.count f)))
  | [], done, st, _, _, h => by simpa [flagLoop] using h
  | f :: rest, done, st, hp, hm, h => by
    have hstep := flagStep_inv h f
      (by
        rintro rfl
        constructor
        · intro hin
          rcases List.mem_append.mp ((hm _).mp hin) with hd | hr
          · exact hd
          · rcases List.mem_cons.mp hr with heq | hr
            · exact absurd heq.symm wrap_ne_nowrap
            · have := (List.pairwise_append.mp hp).2.1
              have := (List.pairwise_cons.mp this).1 _ hr
              rw [not_wrap_lt_nowrap] at this; cases this
        · intro hd; exact (hm _).mpr (List.mem_append_left _ hd))
      (by
        rintro rfl hd
        have := (List.pairwise_append.mp hp).2.2 _ hd _ (List.mem_cons_self)
        rw [not_wrap_lt_nowrap] at this; cases this)
    have := flagLoop_inv env e flags rest (done ++ [f]) (flagStep env e st f (flags.count f))
      (by simpa using hp) (by simpa using hm) hstep
    simpa [flagLoop] using this

theorem flagLoop_sorted (env : FlagEnv) (e : Entry) :
    Inv env e e.flags (toSorted strLt e.flags) (flagLoop env e {} (sortedFlagItems e.flags)) := by
  have h0 : Inv env e e.flags [] ({} : FSt) := by
    constructor <;> simp [formatDict, rangeDict, lastRange, wrapState]
  simpa [sortedFlagItems] using flagLoop_inv env e e.flags (toSorted strLt e.flags) [] {}
    (by simpa using pairwise_toSorted strLt_total e.flags) (by simp) h0

theorem checkMessageFlags_eq (env : FlagEnv) (e : Entry) :
    checkMessageFlags env e = (info env e, flagTags env e) := by
  obtain ⟨hout, hff, hrf, hfz, -, hmin, hmax⟩ := flagLoop_sorted env e
  simp only [checkMessageFlags, hout, hff, hrf, hfz, hmin, hmax, flagTags, info, positiveFormats, fuzzy]
  -- the two sides differ in the `fuzzy` field only: membership in the sorted flags, `contains` on the flags
  simp only [mem_toSorted, List.contains_eq_mem]

end I18n.Msg
