import I18n.Lemmas.CharsetCnsCheck
/-! C20: the kernel's pass over every character of every page of the inverse table of CNS 11643 (`checkPages`) -/
namespace I18n.Charset.Cns
open I18n.Generated.CharsetCns

theorem pages_all : checkPages invPages = true := by decide +kernel

end I18n.Charset.Cns
