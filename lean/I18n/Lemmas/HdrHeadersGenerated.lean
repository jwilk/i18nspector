import I18n.Lemmas.GettextHdrGenerated
import I18n.Lemmas.HdrMimeGenerated
import I18n.Lemmas.HdrEntry
import I18n.Lemmas.DateSort
/-!
# `Checker.check_headers` regenerated = `Hdr.checkHeaders`

The header-entry discovery loop (`continue` / `break`), the per-entry part (references, plural, `parse_header` into the
`defaultdict(list)` and the stray lines, the `Counter` of flags, distant entry, unusual characters with `get_character_name` as the crash
site), the stray-line loop with its `seen_conflict_marker` state, and the loop over `sorted(metadata.items())` with the two hint sources.
The equality is up to `erase` (the model has one crash outcome, `none`) and under the hypothesis that `str.lower` is the ASCII one on ASCII strings.
-/
-- some simp lemmas below fire only on another spelling of the same source (a comparison turned round, a literal set in another order)
set_option linter.unusedSimpArgs false
namespace I18n.Hdr.Gen
open I18n I18n.Hdr I18n.Generated

/-- the loop over what `parse_header` yields: fields into the dictionary, the rest into `strays` -/
theorem forEach_lines (body : Line → Meta × List Str → Except Py.Exc (Meta × List Str))
    (hb : ∀ l m s, body l (m, s) = .ok (match l with
      | .field k v => (Meta.add k v m, s)
      | .stray t => (m, s ++ [t]))) (ls : List Line) (m : Meta) (s : List Str) :
    PyKit.forEach ls body (m, s) = .ok (buildMeta ls m, s ++ strayLines ls) := by
  rw [PyKit.forEach_pure _ body ls (fun l _ p => hb l p.1 p.2)]
  induction ls generalizing m s with
  | nil => simp [buildMeta, strayLines]
  | cons l ls ih => cases l <;> simp [ih, buildMeta, strayLines, List.append_assoc]

/-- the stray-line loop with its `seen_conflict_marker` state -/
theorem forEach_strays (body : Str → List TagCall × Bool → Except Py.Exc (List TagCall × Bool))
    (hb : ∀ l out seen, body l (out, seen) = .ok (
      if isConflictMarker l then (if seen then out else out ++ [tag "conflict-marker-in-header-entry" [sx l]], true)
      else (out ++ [tag "stray-header-line" [sx l]], seen))) (ls : List Str) (out : List TagCall) (seen : Bool) :
    ∃ seen', PyKit.forEach ls body (out, seen) = .ok (out ++ strayTags seen ls, seen') := by
  induction ls generalizing out seen with
  | nil => exact ⟨seen, by simp [PyKit.forEach, strayTags]⟩
  | cons l ls ih =>
    simp only [PyKit.forEach, hb, strayTags]
    by_cases hm : isConflictMarker l = true
    · simp only [hm, if_true]
      cases seen
      · obtain ⟨s', h⟩ := ih (out ++ [tag "conflict-marker-in-header-entry" [sx l]]) true
        exact ⟨s', by simp [h, List.append_assoc]⟩
      · obtain ⟨s', h⟩ := ih out true
        exact ⟨s', by simp [h]⟩
    · simp only [hm, if_false, Bool.false_eq_true]
      obtain ⟨s', h⟩ := ih (out ++ [tag "stray-header-line" [sx l]]) seen
      exact ⟨s', by simp [h, List.append_assoc]⟩

/-! ### unusual characters: `str.join(', ', (f'U+{ord(ch):04X} {get_character_name(ch)}' for ch in sorted(...)))` -/

theorem mapM_names (f : Char → Except Py.Exc Str)
    (hf : ∀ ch, f ch = match HdrPy.charName ch with
        | .error e => .error e
        | .ok n => .ok ("U+".toList ++ hex04 ch.toNat ++ " ".toList ++ n)) (cs : List Char) :
    PyKit.mapM f cs =
      match cs.mapM (fun c => (charName c).map fun n => 'U' :: '+' :: (hex04 c.toNat ++ ' ' :: n)) with
      | some ys => .ok ys
      | none => .error .ValueError := by
  induction cs with
  | nil => rfl
  | cons c cs ih =>
    rw [PyKit.mapM, ih, List.mapM_cons, hf]
    simp only [HdrPy.charName]
    cases hc : charName c with
    | none => rfl
    | some n =>
      cases cs.mapM (fun c => (charName c).map fun n => 'U' :: '+' :: (hex04 c.toNat ++ ' ' :: n)) with
      | none => rfl
      | some ys =>
        have e1 : "U+".toList = ['U', '+'] := rfl
        have e2 : " ".toList = [' '] := rfl
        simp [e1, e2, List.append_assoc]

/-! ### the header-entry discovery loop -/

/-- the loop-carried tuple `(out__, metadata, strays, seen_header_entry)`: the translator orders the components by their first assignment in
    the loop body, and `forEachBrk_entries` and `check_headers_eq` name them in this order -/
abbrev HSt := List TagCall × Meta × List Str × Bool

theorem forEachBrk_entries (x : Ext) (tmpl : Bool) (body : Nat × Entry → HSt → Except Py.Exc (PyKit.Step HSt))
    (hb : ∀ i e m o seen s, body (i, e) (o, m, s, seen) =
      if (!isHeaderEntry e || e.obsolete) = true then .ok (.next (o, m, s, seen))
      else if seen = true then .ok (.brk (o ++ [tag "duplicate-header-entry" []], m, s, seen))
      else match entryTags x tmpl i e with
        | none => .error .ValueError
        | some ts => .ok (.next (o ++ ts, buildMeta (parseHeader e.headerText) m, s ++ strayLines (parseHeader e.headerText), true)))
    (es : List Entry) (out0 : List TagCall) :
    erase (PyKit.forEachBrk (HdrPy.enumerateFrom 0 es) body (out0, ([] : Meta), [], false)) =
      if (entryLoop x tmpl 0 es ⟨[], [], false, false⟩).crashed = true then .error ()
      else .ok (out0 ++ (entryLoop x tmpl 0 es ⟨[], [], false, false⟩).tags, buildMeta (entryLoop x tmpl 0 es ⟨[], [], false, false⟩).lines [],
                strayLines (entryLoop x tmpl 0 es ⟨[], [], false, false⟩).lines, (entryLoop x tmpl 0 es ⟨[], [], false, false⟩).seen) := by
  -- from any index and any state of the model's loop that has not crashed
  have key : ∀ (es : List Entry) (i : Nat) (st : LoopState), st.crashed = false →
      erase (PyKit.forEachBrk (HdrPy.enumerateFrom i es) body (out0 ++ st.tags, buildMeta st.lines [], strayLines st.lines, st.seen)) =
        if (entryLoop x tmpl i es st).crashed = true then .error ()
        else .ok (out0 ++ (entryLoop x tmpl i es st).tags, buildMeta (entryLoop x tmpl i es st).lines [],
                  strayLines (entryLoop x tmpl i es st).lines, (entryLoop x tmpl i es st).seen) := by
    intro es
    induction es with
    | nil => intro i st hst; simp [HdrPy.enumerateFrom, PyKit.forEachBrk_nil, entryLoop, hst]
    | cons e es ih =>
      intro i st hst
      simp only [HdrPy.enumerateFrom, PyKit.forEachBrk_cons, entryLoop, hb]
      by_cases h1 : (!isHeaderEntry e || e.obsolete) = true
      · simp only [h1, if_true]
        exact ih (i + 1) st hst
      · simp only [h1, if_false, Bool.false_eq_true]
        by_cases h2 : st.seen = true
        · simp only [h2, if_true, erase_ok, hst, Bool.false_eq_true, if_false, List.append_assoc]
        · simp only [h2, if_false, Bool.false_eq_true]
          cases ht : entryTags x tmpl i e with
          | none => simp
          | some ts =>
            simp only []
            have := ih (i + 1) { st with tags := st.tags ++ ts, lines := st.lines ++ parseHeader e.headerText, seen := true } hst
            simp only [buildMeta_append, strayLines_append, List.append_assoc] at this ⊢
            exact this
  simpa [buildMeta, strayLines] using key es 0 ⟨[], [], false, false⟩ rfl

/-! ### field names are ASCII: `str.lower` on them is the ASCII one -/

theorem find?_congr {α : Type} (p q : α → Bool) (l : List α) (h : ∀ a ∈ l, p a = q a) : l.find? p = l.find? q := by
  induction l with
  | nil => rfl
  | cons a l ih =>
    have ha := h a (by simp)
    have hl : ∀ b ∈ l, p b = q b := fun b hb => h b (by simp [hb])
    simp only [List.find?, ha, ih hl]

theorem headerFields_ascii : headerFields.all (fun f => f.all (fun c => c.toNat < 128)) = true := by
  unfold headerFields HeaderFields.headerFields
  simp only [List.map]
  repeat rw [String.toList_ofList]
  decide +kernel

theorem lcHint_eq (x : Ext) (hl : ∀ s : Str, (∀ c ∈ s, c.toNat < 128) → x.db.lower s = asciiLower s) (key : Str)
    (hk : ∀ c ∈ key, c.toNat < 128) :
    HdrPy.dictGet? (headerFields.map fun s => (x.db.lower s, s)) (x.db.lower key) = lcHint key := by
  rw [dictGet?_map_find, hl key hk]
  unfold lcHint
  apply find?_congr
  intro f hf
  have hfa : ∀ c ∈ f, c.toNat < 128 := by
    have := List.all_eq_true.1 headerFields_ascii f hf
    intro c hc
    simpa using List.all_eq_true.1 this c hc
  rw [hl f hfa]

theorem check_headers_eq (x : Ext) (entries : List Entry) (tmpl : Bool) (out : List TagCall)
    (hl : ∀ s : Str, (∀ c ∈ s, c.toNat < 128) → x.db.lower s = asciiLower s) :
    erase (HdrChk.check_headers x entries tmpl out) =
      match checkHeaders x tmpl entries with
      | none => .error ()
      | some h => .ok (out ++ h.tags, (), h.metadata) := by
  unfold_generated_hdrchk
  simp only [HdrPy.enumerate]
  generalize hfe : PyKit.forEachBrk _ _ _ = r
  have hloop : erase r =
      if (entryLoop x tmpl 0 entries ⟨[], [], false, false⟩).crashed = true then .error ()
      else .ok (out ++ (entryLoop x tmpl 0 entries ⟨[], [], false, false⟩).tags, buildMeta (entryLoop x tmpl 0 entries ⟨[], [], false, false⟩).lines [],
                strayLines (entryLoop x tmpl 0 entries ⟨[], [], false, false⟩).lines, (entryLoop x tmpl 0 entries ⟨[], [], false, false⟩).seen) := by
    rw [← hfe]
    clear hfe
    refine forEachBrk_entries x tmpl _ ?hb entries out
    intro i e m o seen s
    simp only []
    by_cases h1 : (!isHeaderEntry e || e.obsolete) = true
    · simp only [h1, if_true]
    · simp only [h1, if_false, Bool.false_eq_true]
      by_cases h2 : seen = true
      · simp only [h2, if_true]; rfl
      · simp only [h2, if_false, Bool.false_eq_true, ite_ok, ite_append_tail, PyKit.ite_bnot, PyKit.ite_tail_append, decide_eq_true_eq]
        rw [show GettextHdr.parse_header (e.msgstr0.getD e.msgstr) = .ok (parseHeader e.headerText) from parse_header_eq _]
        simp only []
        rw [forEach_lines _ ?hbl]
        case hbl => intro l m s; cases l <;> simp only [dictSet_add]
        simp only []
        rw [mapM_names _ ?hf]
        case hf => intro ch; rfl
        -- the flags loop calls nothing that can fail: once its body is `.ok` of `out ++ …` it is a `flatMap` over
        -- `sorted(Counter(entry.flags).items())`, a `map` over the sorted distinct flags: the model's `flatMap` over them
        simp only [PyKit.forEach_ok, PyKit.append_ite, ite_append_tail, List.append_assoc, PyKit.foldl_append_flatMap, HdrPy.counterItems,
          List.flatMap_map, cast_gt_one, join_colon]
        rw [show e.msgstr0.getD e.msgstr = e.headerText from rfl]
        simp only [entryTags, sortedChars_isEmpty, unusualText, List.append_assoc]
        by_cases hu : (unusualChars x.db e.headerText).isEmpty = true
        · rw [if_pos hu, if_pos hu]
          rfl
        · rw [if_neg hu, if_neg hu]
          cases List.mapM (m := Option) _ (sortedChars (unusualChars x.db e.headerText)) <;> rfl
  clear hfe
  have hvalid : LinesAscii (entryLoop x tmpl 0 entries ⟨[], [], false, false⟩).lines :=
    entryLoop_ascii x tmpl entries 0 _ (fun _ _ h => by cases h)
  revert hloop hvalid
  unfold checkHeaders
  generalize entryLoop x tmpl 0 entries ⟨[], [], false, false⟩ = st
  intro hloop hvalid
  by_cases hcr : st.crashed = true
  · simp only [hcr, if_true] at hloop ⊢
    cases r with
    | error e => rfl
    | ok v => cases hloop
  · simp only [hcr, if_false, Bool.false_eq_true] at hloop ⊢
    cases r with
    | error e => cases hloop
    | ok v =>
      simp only [erase_ok] at hloop
      injection hloop with hloop
      subst hloop
      simp only []
      generalize hfs : PyKit.forEach (strayLines st.lines) _ _ = r2
      obtain ⟨seen', hs⟩ : ∃ seen', r2 = .ok ((out ++ st.tags) ++ strayTags false (strayLines st.lines), seen') := by
        rw [← hfs]
        refine forEach_strays _ ?hbs _ _ _
        intro l o seen
        -- in each of the four cases the two sides are the same up to the spelling of the tag
        by_cases hm : isConflictMarker l = true <;> cases seen <;> simp [hm] <;> rfl
      subst hs
      clear hfs
      simp only []
      generalize hM : buildMeta st.lines [] = M
      have hkeys : ∀ k ∈ M.map (·.1), ∀ c ∈ k, c.toNat < 128 := by
        intro k hk
        rw [← hM, buildMeta_keys] at hk
        rcases hk with hk | hk
        · cases hk
        · obtain ⟨⟨k', v⟩, hm, rfl⟩ := List.mem_map.1 hk
          have : Line.field k' v ∈ st.lines := by
            unfold Spec.HeaderRules.fieldLines at hm
            obtain ⟨l, hl, hl2⟩ := List.mem_filterMap.1 hm
            cases l with
            | field a b => simp only [Option.some.injEq, Prod.mk.injEq] at hl2; obtain ⟨rfl, rfl⟩ := hl2; exact hl
            | stray t => cases hl2
          exact hvalid _ _ this
      rw [PyKit.forEach_emit (fun p => fieldNameTags x M p.1) _ _ ?hbn]
      case hbn =>
        intro p hp o
        obtain ⟨k, hk, rfl⟩ := List.mem_map.1 hp
        have hk' : k ∈ M.map (·.1) := (Date.mem_sortedSet _ _).1 hk
        simp only [lcHint_eq x hl k (hkeys k hk'), fieldNameTags, ddGet_meta, keys_contains, HdrPy.startswith]
        simp only [cast_gt_one]
        -- the two exemptions (`X-…`, registered field) are decided before the text is compared, so that the source may test them one after
        -- the other (`if …: pass / elif …: pass / else:`) or in one negated conjunction (`if not … and not …:`)
        cases c1 : (startsWith "X-".toList k || startsWith "x-".toList k)
        case true =>
          simp only [Bool.not_true, Bool.false_and, Bool.false_eq_true, if_true, if_false, ite_ok, ite_append_tail, List.append_assoc]
          rfl
        cases c2 : headerFields.contains k
        case true =>
          simp only [Bool.not_true, Bool.not_false, Bool.and_false, Bool.false_eq_true, if_true, if_false, ite_ok, ite_append_tail, List.append_assoc]
          rfl
        simp only [Bool.not_false, Bool.and_self, Bool.false_eq_true, if_true, if_false]
        rcases lcHint k with _ | h
        · rcases x.closeField k with _ | h
          · simp only [Option.toList, List.isEmpty_nil, Bool.not_true, Bool.false_eq_true, if_false, ite_ok, ite_append_tail, PyKit.ite_tail_append, PyKit.append_ite, List.append_assoc]
            rfl
          · by_cases hh : M.has h = true <;>
              simp only [hh, Option.toList, List.isEmpty_cons, Bool.not_false, Bool.false_eq_true, if_true, if_false, ite_ok, ite_append_tail, PyKit.ite_tail_append, PyKit.append_ite, List.append_assoc] <;> rfl
        · by_cases hh : M.has h = true <;>
            simp only [hh, Bool.false_eq_true, if_true, if_false, ite_ok, ite_append_tail, PyKit.ite_tail_append, PyKit.append_ite, List.append_assoc] <;> rfl
      simp only [erase_ok, HdrPy.sortedItems, List.flatMap_map, List.append_assoc, sortedSet]

end I18n.Hdr.Gen
