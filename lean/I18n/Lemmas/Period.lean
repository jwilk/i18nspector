import I18n.Generated.Intexpr
import I18n.Model.Plural
import I18n.Lemmas.PyArith
/-! Soundness of the periodicity analysis (`PeriodEvaluator`, `gcd`, `lcm`) w.r.t. `Evaluator`,
    stated about the definitions generated from lib/intexpr.py: `period_main`, with `PSound` as the invariant (an answer
    `(O, P)` means that the outcome of evaluation — the value, or "failed": `Except.toOption` — at `n ≥ O` is that at `n + P`, as
    long as `n + P` is below `max`).  A common multiple of the operands' periods, from the largest of their offsets on,
    serves a node. -/
namespace I18n.Plural
open I18n I18n.Py I18n.Generated.Intexpr I18n.Spec

theorem gcd_step (x y : Int) : Int.gcd y (x % y) = Int.gcd x y := by
  have h : x = x % y + y * (x / y) := (Int.emod_add_mul_ediv x y).symm
  conv => rhs; rw [h]
  rw [Int.gcd_comm (x % y + y * (x / y)) y, Int.gcd_add_mul_left_right]

theorem gcd_zero {x : Int} (hx : 0 ≤ x) : (Int.gcd x 0 : Int) = x := by
  rw [Int.gcd_zero_right, Int.natAbs_of_nonneg hx]

theorem gcd_loop (fuel : Nat) : ∀ (x y : Int), 0 ≤ x → 0 ≤ y → y.toNat ≤ fuel →
    Py.whileLoop gcd.loop_cond gcd.loop_body fuel (x, y) = .ok ((Int.gcd x y : Int), 0) := by
  induction fuel with
  | zero =>
    intro x y hx hy hf
    have hy0 : y = 0 := by omega
    subst hy0
    rw [gcd_zero hx]
    simp [Py.whileLoop, gcd.loop_cond]
  | succ k ih =>
    intro x y hx hy hf
    simp only [Py.whileLoop, gcd.loop_cond, gcd.loop_body]
    by_cases hy0 : y = 0
    · subst hy0
      rw [gcd_zero hx]
      simp
    · have hyp : 0 < y := by omega
      simp only [ne_eq, hy0, not_false_eq_true, decide_true, ↓reduceIte, mod_ok hyp]
      have h1 := Int.emod_nonneg x hy0
      have h2 := Int.emod_lt_of_pos x hyp
      rw [ih y (x % y) hy h1 (by omega), gcd_step]

theorem gcd_ok {x y : Int} (hx : 0 ≤ x) (hy : 0 ≤ y) : gcd x y = .ok (Int.gcd x y : Int) := by
  unfold gcd
  rw [gcd_loop (Int.toNat y + 1) x y hx hy (by omega)]

theorem lcm_body_eq {r y : Int} (hr : 0 < r) (hy : 0 < y) : lcm.loop_body r y = .ok (Int.lcm r y : Int) := by
  have hg : (0 : Int) < (Int.gcd r y : Int) :=
    Int.natCast_pos.2 (Int.gcd_pos_of_ne_zero_left y (Int.ne_of_gt hr))
  unfold lcm.loop_body
  rw [gcd_ok (Int.le_of_lt hr) (Int.le_of_lt hy)]
  simp only [floordiv_ok hg]
  -- `r / g * y = r * y / g = g * lcm / g`
  rw [← Int.mul_ediv_assoc' y (Int.gcd_dvd_left r y)]
  have h : (Int.gcd r y : Int) * (Int.lcm r y : Int) = r * y := by
    rw [← Int.natCast_mul, Int.gcd_mul_lcm, Int.natCast_mul, Int.natAbs_of_nonneg (Int.le_of_lt hr),
      Int.natAbs_of_nonneg (Int.le_of_lt hy)]
  rw [← h, Int.mul_ediv_cancel_left _ (Int.ne_of_gt hg)]

theorem lcm_spec (ys : List Int) : ∀ (x : Int), 0 < x → (∀ y ∈ ys, 0 < y) →
    ∃ r, lcm x ys = .ok r ∧ 0 < r ∧ x ∣ r ∧ ∀ y ∈ ys, y ∣ r := by
  unfold lcm
  induction ys with
  | nil => exact fun x hx _ => ⟨x, rfl, hx, Int.dvd_refl x, nofun⟩
  | cons y ys ih =>
    intro x hx hys
    have hy := hys y List.mem_cons_self
    simp only [Py.forLoop, lcm_body_eq hx hy]
    obtain ⟨r, hl, hr, hdr, hall⟩ := ih _ (Int.natCast_pos.2 (Int.lcm_pos (Int.ne_of_gt hx) (Int.ne_of_gt hy)))
      fun z hz => hys z (List.mem_cons_of_mem _ hz)
    refine ⟨r, hl, hr, Int.dvd_trans (Int.dvd_lcm_left x y) hdr, fun z hz => ?_⟩
    rcases List.mem_cons.mp hz with rfl | h
    · exact Int.dvd_trans (Int.dvd_lcm_right x z) hdr
    · exact hall z h

/-- `f` repeats with period `P` from the offset `O` on, below `M` -/
def Periodic (M : Int) (f : Int → Option Int) (O P : Int) : Prop :=
  0 ≤ O ∧ 0 < P ∧ ∀ n : Int, O ≤ n → n + P < M → f n = f (n + P)

theorem Periodic.offset_nonneg {M : Int} {f : Int → Option Int} {O P : Int} (h : Periodic M f O P) : 0 ≤ O := h.1

theorem Periodic.period_pos {M : Int} {f : Int → Option Int} {O P : Int} (h : Periodic M f O P) : 0 < P := h.2.1

theorem Periodic.step {M : Int} {f : Int → Option Int} {O P : Int} (h : Periodic M f O P) {n : Int} (hn : O ≤ n)
    (hlt : n + P < M) : f n = f (n + P) :=
  h.2.2 n hn hlt

theorem Periodic.mul_nat {M : Int} {f : Int → Option Int} {O P : Int} (h : Periodic M f O P) :
    ∀ (k : Nat) (n : Int), O ≤ n → n + P * k < M → f n = f (n + P * k) := by
  intro k
  induction k with
  | zero => intro n _ _; simp
  | succ k ih =>
    intro n hn hlt
    have hP := h.period_pos
    have hk : (0 : Int) ≤ P * (k : Int) := Int.mul_nonneg (Int.le_of_lt hP) (Int.natCast_nonneg k)
    have hexp : P * ((k + 1 : Nat) : Int) = P * (k : Int) + P := by
      rw [Int.natCast_succ, Int.mul_add, Int.mul_one]
    rw [hexp] at hlt ⊢
    rw [ih n hn (by omega), h.step (n := n + P * k) (by omega) (by omega)]
    congr 1
    omega

theorem Periodic.reduce {M : Int} {f : Int → Option Int} {O P : Int} (h : Periodic M f O P) {n : Int}
    (hn : O ≤ n) (hlt : n < M) : f n = f (O + (n - O) % P) := by
  have hP := h.period_pos
  have hr : 0 ≤ (n - O) % P := Int.emod_nonneg (n - O) (Int.ne_of_gt hP)
  have hq : 0 ≤ (n - O) / P := Int.ediv_nonneg (Int.sub_nonneg.2 hn) (Int.le_of_lt hP)
  have hsplit : O + (n - O) % P + P * ((n - O) / P) = n := by
    rw [Int.add_assoc, Int.emod_add_mul_ediv]
    omega
  have hstep := h.mul_nat ((n - O) / P).toNat (O + (n - O) % P) (Int.le_add_of_nonneg_right hr)
  rw [Int.toNat_of_nonneg hq, hsplit] at hstep
  exact (hstep hlt).symm

theorem Periodic.weaken {M : Int} {f : Int → Option Int} {O P O' P' : Int} (h : Periodic M f O P)
    (hO : O ≤ O') (hP' : 0 < P') (hd : P ∣ P') : Periodic M f O' P' := by
  obtain ⟨k, hk⟩ := hd
  have hk0 : 0 < k := by
    rcases Int.lt_trichotomy 0 k with hh | hh | hh
    · exact hh
    · subst hh; omega
    · have : P * k < 0 := Int.mul_neg_of_pos_of_neg h.period_pos hh
      omega
  refine ⟨by have := h.offset_nonneg; omega, hP', ?_⟩
  intro n hn hlt
  have := h.mul_nat k.toNat n (by omega)
  have hkk : ((k.toNat : Nat) : Int) = k := Int.toNat_of_nonneg (Int.le_of_lt hk0)
  rw [hkk, ← hk] at this
  exact this hlt

theorem Periodic.combine2 {M : Int} {fa fb f : Int → Option Int}
    (hf : ∀ n n', fa n = fa n' → fb n = fb n' → f n = f n') {O P : Int}
    (ha : Periodic M fa O P) (hb : Periodic M fb O P) : Periodic M f O P :=
  ⟨ha.offset_nonneg, ha.period_pos, fun _ hn hlt => hf _ _ (ha.step hn hlt) (hb.step hn hlt)⟩

/-! ## the outcome of a node depends on `n` only through the outcomes of its operands -/

theorem check_overflow_indep (M n n' k : Int) :
    Evaluator._check_overflow M n k = Evaluator._check_overflow M n' k := rfl

/-- the `match` is the translator's `x = self._visit(…)` -/
theorem toOption_bind_congr {x x' : Except Exc Int} {k k' : Int → Except Exc Int} (hx : x.toOption = x'.toOption)
    (hk : ∀ v, (k v).toOption = (k' v).toOption) :
    (match (generalizing := false) x with | .error e => .error e | .ok v => k v : Except Exc Int).toOption =
      (match (generalizing := false) x' with | .error e => .error e | .ok v => k' v : Except Exc Int).toOption := by
  cases x <;> cases x' <;> cases hx
  · rfl
  · exact hk _

-- unary, arithmetic and comparison nodes: what the method does with the operands' values does not look at `n`
theorem outcome_unaryop_congr {M n n' : Int} (op : UnOp) {a : Expr}
    (ha : (Evaluator.visit M n a).toOption = (Evaluator.visit M n' a).toOption) :
    (Evaluator.visit M n (.unaryop op a)).toOption = (Evaluator.visit M n' (.unaryop op a)).toOption :=
  toOption_bind_congr ha fun _ => by cases op; rfl

theorem outcome_binop_congr {M n n' : Int} (op : BinOp) {a b : Expr}
    (ha : (Evaluator.visit M n a).toOption = (Evaluator.visit M n' a).toOption)
    (hb : (Evaluator.visit M n b).toOption = (Evaluator.visit M n' b).toOption) :
    (Evaluator.visit M n (.binop a op b)).toOption = (Evaluator.visit M n' (.binop a op b)).toOption :=
  toOption_bind_congr ha fun _ => toOption_bind_congr hb fun _ => by cases op <;> rfl

theorem outcome_compare_congr {M n n' : Int} (op : CmpOp) {a b : Expr}
    (ha : (Evaluator.visit M n a).toOption = (Evaluator.visit M n' a).toOption)
    (hb : (Evaluator.visit M n b).toOption = (Evaluator.visit M n' b).toOption) :
    (Evaluator.visit M n (.compare a op b)).toOption = (Evaluator.visit M n' (.compare a op b)).toOption :=
  toOption_bind_congr ha fun _ => toOption_bind_congr hb fun _ => by cases op <;> rfl

theorem outcome_boolop_congr {M n n' : Int} (op : BoolOp) {a b : Expr}
    (ha : (Evaluator.visit M n a).toOption = (Evaluator.visit M n' a).toOption)
    (hb : (Evaluator.visit M n b).toOption = (Evaluator.visit M n' b).toOption) :
    (Evaluator.visit M n (.boolop op a b)).toOption = (Evaluator.visit M n' (.boolop op a b)).toOption := by
  cases op
  all_goals
    -- the left operand has the same value at `n` and `n'`, so the same branch is taken: the constant, or the right
    -- operand, whose outcomes agree
    refine toOption_bind_congr ha fun _ => ?_
    split
    · rfl
    · exact toOption_bind_congr hb fun _ => rfl

theorem outcome_ifexp_congr {M n n' : Int} {c a b : Expr}
    (hc : (Evaluator.visit M n c).toOption = (Evaluator.visit M n' c).toOption)
    (ha : (Evaluator.visit M n a).toOption = (Evaluator.visit M n' a).toOption)
    (hb : (Evaluator.visit M n b).toOption = (Evaluator.visit M n' b).toOption) :
    (Evaluator.visit M n (.ifexp c a b)).toOption = (Evaluator.visit M n' (.ifexp c a b)).toOption := by
  refine toOption_bind_congr hc fun _ => ?_
  dsimp only
  split <;> assumption

/-! ## the two shapes the analysis knows by sight: `n % C` and `n <cmp> C` -/

theorem isName_iff {e : Expr} : e.isName = true ↔ e = .name := by
  cases e <;> simp [Expr.isName]

theorem isNum_iff {e : Expr} : e.isNum = true ↔ ∃ C, e = .num C := by
  cases e <;> simp [Expr.isNum]

theorem visit_name_mod {M n C : Int} (hn : 0 ≤ n ∧ n < M) (hC : 0 < C ∧ C < M) :
    Evaluator.visit M n (.binop .name .mod (.num C)) = .ok (n % C) := by
  simp only [Evaluator.visit, check_overflow_of hn.1 hn.2, check_overflow_of (Int.le_of_lt hC.1) hC.2,
    Evaluator.dispatch_BinOp, Evaluator._visit_mod, mod_ok hC.1]

theorem visit_name_cmp {M n C : Int} (op : CmpOp) (hn : 0 ≤ n ∧ n < M) (hC : 0 ≤ C ∧ C < M) :
    Evaluator.visit M n (.compare .name op (.num C)) = .ok (rel op n C) := by
  simp only [Evaluator.visit, check_overflow_of hn.1 hn.2, check_overflow_of hC.1 hC.2, cmpop_spec]

/-- the table in `PeriodEvaluator._visit_compare`: `n < C` and `n >= C` are constant from `C` on, the other four
    comparisons from `C + 1` on -/
theorem rel_succ {op : CmpOp} {n C : Int} (h : if op = .lt ∨ op = .gte then C ≤ n else C + 1 ≤ n) :
    rel op n C = rel op (n + 1) C := by
  cases op <;> simp only [rel, reduceCtorEq, or_self, or_true, true_or, ↓reduceIte] at h ⊢ <;>
    exact ite_congr (propext (by omega)) (fun _ => rfl) fun _ => rfl

theorem mod_const_periodic {M C : Int} (hC : 0 < C ∧ C < M) :
    Periodic M (fun n => (Evaluator.visit M n (.binop .name .mod (.num C))).toOption) 0 C := by
  refine ⟨Int.le_refl 0, hC.1, fun n hn hlt => ?_⟩
  simp only [visit_name_mod ⟨hn, by omega⟩ hC, visit_name_mod ⟨by omega, hlt⟩ hC, Int.add_emod_right]

theorem cmp_const_periodic {M C O : Int} (op : CmpOp) (hC : 0 ≤ C ∧ C < M)
    (hO : if op = .lt ∨ op = .gte then O = C else O = C + 1) :
    Periodic M (fun n => (Evaluator.visit M n (.compare .name op (.num C))).toOption) O 1 := by
  refine ⟨by split at hO <;> omega, by decide, fun n hn hlt => ?_⟩
  have hn0 : 0 ≤ n := by split at hO <;> omega
  simp only [visit_name_cmp op ⟨hn0, by omega⟩ hC, visit_name_cmp op ⟨by omega, hlt⟩ hC]
  rw [rel_succ]
  split at hO <;> simp only [*, ↓reduceIte] <;> omega

def PSound (M : Int) (r : Option (Int × Int)) (e : Expr) : Prop :=
  match r with
  | some p => Periodic M (fun n => (Evaluator.visit M n e).toOption) p.1 p.2
  | none => True

theorem PSound.periodic {M : Int} {p : Int × Int} {e : Expr} (h : PSound M (some p) e) :
    Periodic M (fun n => (Evaluator.visit M n e).toOption) p.1 p.2 :=
  h

theorem PSound.of_none {M : Int} {e : Expr} : PSound M none e := trivial

/-! `PSound.bind`, `PSound.lcm`, `combine_lcm2` (and `toOption_bind_congr` above) are applied to goals that hold the generated
    `Period.visit` unfolded: their statements spell the translator's output (the `match` on an operand's answer, on `lcm …`, the
    `if rp ≥ M`) so that the two sides agree by unfolding alone.  When `intexpr2lean.py` emits another shape there, the steps in
    `period_main` that apply them fail and the statements here have to follow. -/

/-- `x = self._visit(a); if x is None: return`: no answer is always sound -/
theorem PSound.bind {M : Int} {e : Expr} {ra : Option (Int × Int)} {K : Int × Int → Except Exc (Option (Int × Int))}
    (h : ∀ x, ra = some x → ∃ r, K x = .ok r ∧ PSound M r e) :
    ∃ r, (match (generalizing := false) ra with | none => .ok none | some x => K x : Except Exc (Option (Int × Int))) = .ok r ∧
      PSound M r e := by
  cases ra with
  | none => exact ⟨_, rfl, .of_none⟩
  | some x => exact h x rfl

/-- `rp = lcm(p, *ps); if rp >= max: return`, then go on with a positive common multiple below `max` -/
theorem PSound.lcm {M p : Int} {ps : List Int} {e : Expr} {K : Int → Except Exc (Option (Int × Int))}
    (hp : 0 < p) (hps : ∀ y ∈ ps, 0 < y)
    (h : ∀ rp, 0 < rp → p ∣ rp → (∀ y ∈ ps, y ∣ rp) → ∃ r, K rp = .ok r ∧ PSound M r e) :
    ∃ r, (match (generalizing := false) lcm p ps with
      | .error ex => .error ex
      | .ok rp => if rp ≥ M then .ok none else K rp : Except Exc (Option (Int × Int))) = .ok r ∧
      PSound M r e := by
  obtain ⟨rp, hl, hpos, hd, hds⟩ := lcm_spec ps p hp hps
  rw [hl]
  dsimp only
  split
  · exact ⟨_, rfl, .of_none⟩
  · exact h rp hpos hd hds

/-- two operands combined through `lcm`, as in `_visit_binop`/`_visit_compare` -/
theorem combine_lcm2 {M : Int} {e a b : Expr}
    (he : ∀ n n', (Evaluator.visit M n a).toOption = (Evaluator.visit M n' a).toOption →
      (Evaluator.visit M n b).toOption = (Evaluator.visit M n' b).toOption →
      (Evaluator.visit M n e).toOption = (Evaluator.visit M n' e).toOption)
    {ra rb : Option (Int × Int)} (sa : PSound M ra a) (sb : PSound M rb b) :
    ∃ r, (match (generalizing := false) ra with
      | none => .ok none
      | some x => match (generalizing := false) rb with
        | none => .ok none
        | some y => match lcm x.2 [y.2] with
          | .error e => .error e
          | .ok rp => if rp ≥ M then .ok none else .ok (some (max x.1 y.1, rp)) :
        Except Exc (Option (Int × Int))) = .ok r ∧ PSound M r e := by
  refine PSound.bind fun x hx => PSound.bind fun y hy => ?_
  subst hx hy
  refine PSound.lcm sa.periodic.period_pos (List.forall_mem_singleton.2 sb.periodic.period_pos) fun rp hpos hdx hdy => ⟨_, rfl, ?_⟩
  exact Periodic.combine2 he (sa.periodic.weaken (by simp only; omega) hpos hdx)
    (sb.periodic.weaken (by simp only; omega) hpos (hdy y.2 (by simp)))

theorem period_main {M : Int} (e : Expr) :
    ∃ r, Period.visit M e = .ok r ∧ PSound M r e := by
  induction e with
  | num k =>
    simp only [Period.visit]
    split
    · exact ⟨_, rfl, .of_none⟩
    · refine ⟨_, rfl, ?_⟩
      refine ⟨Int.le_refl 0, by decide, ?_⟩
      intro n _ _
      simp only [Evaluator.visit]
      rfl
  | name => exact ⟨_, rfl, .of_none⟩
  | unaryop op a iha =>
    obtain ⟨ra, ha, sa⟩ := iha
    simp only [Period.visit, ha]
    refine ⟨_, rfl, ?_⟩
    cases ra with
    | none => exact .of_none
    | some p =>
      exact Periodic.combine2 (fun n n' h _ => outcome_unaryop_congr op h) sa.periodic sa.periodic
  | binop a op b iha ihb =>
    obtain ⟨ra, ha, sa⟩ := iha
    obtain ⟨rb, hb, sb⟩ := ihb
    simp only [Period.visit, ha, hb]
    by_cases hc : op = BinOp.mod ∧ a.isName = true ∧ b.isNum = true
    · obtain ⟨rfl, hna, hnb⟩ := hc
      obtain rfl := isName_iff.1 hna
      obtain ⟨C, rfl⟩ := isNum_iff.1 hnb
      simp only [Expr.isName, Expr.isNum, and_self, decide_true, ↓reduceIte, Expr.attrN]
      split
      · exact ⟨_, rfl, .of_none⟩
      · exact ⟨_, rfl, mod_const_periodic (by omega)⟩
    · simp only [hc, decide_false, Bool.false_eq_true, ↓reduceIte]
      exact combine_lcm2 (fun _ _ => outcome_binop_congr op) sa sb
  | compare a op b iha ihb =>
    obtain ⟨ra, ha, sa⟩ := iha
    obtain ⟨rb, hb, sb⟩ := ihb
    simp only [Period.visit, ha, hb]
    by_cases hc : a.isName = true ∧ b.isNum = true
    · obtain rfl := isName_iff.1 hc.1
      obtain ⟨C, rfl⟩ := isNum_iff.1 hc.2
      simp only [Expr.isName, Expr.isNum, and_self, decide_true, ↓reduceIte, Expr.attrN]
      by_cases hC : C < 0 ∨ C ≥ M
      · exact ⟨_, if_pos hC, .of_none⟩
      rw [if_neg hC]
      by_cases hop : op = .lt ∨ op = .gte
      · exact ⟨_, if_pos hop, cmp_const_periodic op (by omega) (by rw [if_pos hop])⟩
      rw [if_neg hop]
      by_cases hmax : C + 1 = M
      · exact ⟨_, if_pos hmax, .of_none⟩
      · exact ⟨_, if_neg hmax, cmp_const_periodic op (by omega) (by rw [if_neg hop])⟩
    · simp only [hc, decide_false, Bool.false_eq_true, ↓reduceIte]
      exact combine_lcm2 (fun _ _ => outcome_compare_congr op) sa sb
  | boolop op a b iha ihb =>
    obtain ⟨ra, ha, sa⟩ := iha
    obtain ⟨rb, hb, sb⟩ := ihb
    simp only [Period.visit, ha, hb]
    refine PSound.bind fun x hx => ?_
    subst hx
    refine PSound.lcm (by decide) (List.forall_mem_singleton.2 sa.periodic.period_pos) fun t4 hpos4 _ hd4 => ?_
    refine PSound.bind fun y hy => ?_
    subst hy
    refine PSound.lcm hpos4 (List.forall_mem_singleton.2 sb.periodic.period_pos) fun t7 hpos7 hd7a hd7 => ⟨_, rfl, ?_⟩
    exact Periodic.combine2 (fun _ _ => outcome_boolop_congr op)
      (sa.periodic.weaken (by simp only; omega) hpos7 (Int.dvd_trans (hd4 x.2 (by simp)) hd7a))
      (sb.periodic.weaken (by simp only; omega) hpos7 (hd7 y.2 (by simp)))
  | ifexp c a b ihc iha ihb =>
    obtain ⟨rc, hc, sc⟩ := ihc
    obtain ⟨ra, ha, sa⟩ := iha
    obtain ⟨rb, hb, sb⟩ := ihb
    simp only [Period.visit, hc, ha, hb]
    refine PSound.bind fun t ht => PSound.bind fun x hx => PSound.bind fun y hy => ?_
    subst ht hx hy
    refine PSound.lcm sc.periodic.period_pos
      (List.forall_mem_cons.2 ⟨sa.periodic.period_pos, List.forall_mem_singleton.2 sb.periodic.period_pos⟩)
      fun rp hpos hdt hd => ⟨_, rfl, ?_⟩
    have pc := sc.periodic.weaken (O' := max (max t.1 x.1) y.1) (by omega) hpos hdt
    have pa := sa.periodic.weaken (O' := max (max t.1 x.1) y.1) (by omega) hpos (hd x.2 (by simp))
    have pb := sb.periodic.weaken (O' := max (max t.1 x.1) y.1) (by omega) hpos (hd y.2 (by simp))
    exact ⟨pc.offset_nonneg, pc.period_pos, fun _ hn hlt =>
      outcome_ifexp_congr (pc.step hn hlt) (pa.step hn hlt) (pb.step hn hlt)⟩

theorem period_ok {M : Int} {e : Expr} {O P : Int} (h : Period.visit M e = .ok (some (O, P))) :
    Periodic M (fun n => (Evaluator.visit M n e).toOption) O P := by
  obtain ⟨r, hr, hs⟩ := period_main (M := M) e
  cases hr.symm.trans h
  exact hs.periodic

theorem outcome_eq_toOption (bits : Nat) (n : Int) (e : Expr) : outcome bits n e = (evalAt bits n e).toOption := by
  unfold outcome
  cases evalAt bits n e <;> rfl

theorem outcome_periodic {bits : Nat} {e : Expr} {O P : Int} (h : period bits e = .ok (some (O, P))) :
    Periodic (2 ^ bits) (fun n => outcome bits n e) O P := by
  simp only [outcome_eq_toOption]
  exact period_ok h

end I18n.Plural
