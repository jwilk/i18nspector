import I18n.Lemmas.PyBraceTrace
/-
python-brace: `FormatString(s)` raises only the module's own `Error` classes (when the interpreter has no digit limit, as
`import lib` arranges): the `assert`s, the `AttributeError` of `_printable_prefix`, the `ValueError` of `int()` and the
termination device of the model are unreachable.  With `parseWith_ok_parseOK`: a string that Python's own parser rejects is
rejected with one of those classes (`parseWith_reject`).
-/
namespace I18n.PyBrace
open I18n.BraceChars

theorem pyInt_ok {cfg : Cfg} (h : cfg.digitLimit = 0) (ds : List Char) : pyInt cfg ds = .ok (digitsVal ds) := by
  simp [pyInt, h]

theorem addArgument_nocrash {cfg : Cfg} (h : cfg.digitLimit = 0) (st : State) (name : Option (List Char)) (a : Arg) (e : Py.Exc) :
    addArgument cfg st name a ≠ .error (.crash e) := by
  fun_cases addArgument cfg st name a with
  | case4 _ _ _ hint =>
    rw [pyInt_ok h] at hint
    cases hint
  | case1 | case2 | case3 | case5 | case6 | case7 | case8 | case9 => rintro ⟨⟩

theorem pyInt_error {cfg : Cfg} {ds : List Char} {e : Py.Exc} (h : pyInt cfg ds = .error e) : e = .ValueError := by
  unfold pyInt at h
  split at h <;> cases h
  rfl

theorem addArgument_crash {cfg : Cfg} {st : State} {name : Option (List Char)} {a : Arg} {e : Py.Exc}
    (h : addArgument cfg st name a = .error (.crash e)) : e = .ValueError := by
  revert h
  fun_cases addArgument cfg st name a with
  | case4 nm _ e' hp =>
    rintro ⟨⟩
    exact pyInt_error hp
  | _ => rintro ⟨⟩

theorem liftAdd_own {text : List Char} {b : Bool} {r : Except AddErr State} (hr : ∀ x, r ≠ .error (.crash x)) {e : PErr}
    (he : liftAdd text b r = .error e) : ∃ c a, e = .own c a := by
  revert he
  fun_cases liftAdd text b r with
  | case1 => rintro ⟨⟩
  | case2 | case3 =>
    rintro ⟨⟩
    exact ⟨_, _, rfl⟩
  | case4 x => exact absurd rfl (hr x)

/-- nested fields raise with the same argument as the field itself: the flag of `liftAdd` is not read -/
theorem liftAdd_flag (t : List Char) (b b' : Bool) (x : Except AddErr State) : liftAdd t b x = liftAdd t b' x := by
  cases x with
  | ok s => rfl
  | error e => cases e <;> rfl

theorem nestedAdds_own {cfg : Cfg} (h : cfg.digitLimit = 0) (text : List Char) : ∀ (ns : List (List Char)) (st : State) (e : PErr),
    nestedAdds cfg text ns st = .error e → ∃ c a, e = .own c a := by
  intro ns st
  fun_induction nestedAdds cfg text ns st with
  | case1 => rintro _ ⟨⟩
  | case2 _ _ _ _ hl =>
    rintro _ ⟨⟩
    exact liftAdd_own (addArgument_nocrash h _ _ _) hl
  | case3 _ _ _ _ _ ih => exact ih

theorem tpPrec_nocrash {cfg : Cfg} (h : cfg.digitLimit = 0) (f : Spec) (tp : TySet) (e : Py.Exc) :
    tpPrec cfg f tp ≠ .error (.inr e) := by
  fun_cases tpPrec cfg f tp with
  | case3 _ _ _ _ _ hint =>
    rw [pyInt_ok h] at hint
    cases hint
  | case1 | case2 | case4 | case5 => rintro ⟨⟩

theorem checkWidth_nocrash {cfg : Cfg} (h : cfg.digitLimit = 0) (f : Spec) (e : Py.Exc) :
    checkWidth cfg f ≠ .error (.inr e) := by
  fun_cases checkWidth cfg f with
  | case2 _ _ _ hint =>
    rw [pyInt_ok h] at hint
    cases hint
  | case1 | case3 | case4 => rintro ⟨⟩

theorem specCheck_nocrash {cfg : Cfg} (h : cfg.digitLimit = 0) (f : Spec) (e : Py.Exc) :
    specCheck cfg f ≠ .error (.inr e) := by
  fun_cases specCheck cfg f with
  | case1 | case2 | case3 => rintro ⟨⟩
  | case4 _ _ _ _ _ _ _ hw =>
    rintro ⟨⟩
    exact checkWidth_nocrash h f e hw
  | case5 => exact tpPrec_nocrash h f _ e

theorem specTypes_nocrash {cfg : Cfg} (h : cfg.digitLimit = 0) (t : List Char) (e : Py.Exc) :
    specTypes cfg (':' :: t) ≠ .error (.inr e) := by
  simp only [specTypes]
  split
  · simp
  · exact specCheck_nocrash h _ e

theorem fieldInit_error {cfg : Cfg} {st : State} {f : RawField} {e : PErr} (he : fieldInit cfg st f = .error e) :
    liftAdd f.text false (addArgument cfg st f.name { nested := false, types := ownTypes cfg f }) = .error e ∨
    (∃ st1, nestedAdds cfg f.text f.nested st1 = .error e) ∨
    (∃ fm c, f.format = some fm ∧ specTypes cfg fm = .error (.inl c) ∧ e = .own c (.text f.text)) ∨
    (∃ fm x, f.format = some fm ∧ specTypes cfg fm = .error (.inr x) ∧ e = .crash x) ∨
    e = .own .FormatTypeMismatch (.text f.text) ∨ e = .own .ConversionError (.text f.text) := by
  revert he
  fun_cases fieldInit cfg st f with
  | case1 _ hl =>
    rintro ⟨⟩
    exact .inl hl
  | case2 st1 _ step2 e' hs =>
    rintro ⟨⟩
    cases hf : f.format with
    | none => simp only [step2, hf] at hs; cases hs
    | some fm =>
      simp only [step2, hf] at hs
      by_cases hn : hasNested fm = true
      · rw [if_pos hn] at hs
        cases hna : nestedAdds cfg f.text f.nested st1 with
        | error e2 =>
          rw [hna] at hs
          cases hs
          exact .inr (.inl ⟨st1, hna⟩)
        | ok st2 => rw [hna] at hs; cases hs
      · rw [if_neg hn] at hs
        cases hsp : specTypes cfg fm with
        | ok tp => rw [hsp] at hs; cases hs
        | error x =>
          rw [hsp] at hs
          cases x with
          | inl c => cases hs; exact .inr (.inr (.inl ⟨fm, c, rfl, hsp, rfl⟩))
          | inr x => cases hs; exact .inr (.inr (.inr (.inl ⟨fm, x, rfl, hsp, rfl⟩)))
  | case3 | case4 => rintro ⟨⟩
  | case5 =>
    rintro ⟨⟩
    exact .inr (.inr (.inr (.inr (.inl rfl))))
  | case6 =>
    rintro ⟨⟩
    exact .inr (.inr (.inr (.inr (.inr rfl))))

theorem fieldInit_own {cfg : Cfg} (h : cfg.digitLimit = 0) (st : State) (f : RawField)
    (hfmt : ∀ fm, f.format = some fm → ∃ t, fm = ':' :: t) (e : PErr) (he : fieldInit cfg st f = .error e) :
    ∃ c a, e = .own c a := by
  rcases fieldInit_error he with hl | ⟨st1, hn⟩ | ⟨_, c, _, _, rfl⟩ | ⟨fm, x, hf, hsp, _⟩ | rfl | rfl
  · exact liftAdd_own (addArgument_nocrash h _ _ _) hl
  · exact nestedAdds_own h _ _ _ _ hn
  · exact ⟨_, _, rfl⟩
  · obtain ⟨t, rfl⟩ := hfmt fm hf
    exact absurd hsp (specTypes_nocrash h t x)
  · exact ⟨_, _, rfl⟩
  · exact ⟨_, _, rfl⟩

theorem scanError_own {c : Char} (cs : List Char) (h : c = '{' ∨ c = '}') : ∃ k a, scanError (c :: cs) = .own k a := by
  have hp : isPrintableAscii c = true := by rcases h with rfl | rfl <;> decide
  simp [scanError, printablePrefix, hp]

theorem loop_own {cfg : Cfg} (h : cfg.digitLimit = 0) : ∀ (fuel : Nat) (cs : List Char) (st : State) (items : List PreItem) (e : PErr),
    cs.length ≤ fuel → loop cfg fuel cs st items = .error e → ∃ c a, e = .own c a := by
  intro fuel cs st items
  fun_induction loop cfg fuel cs st items with
  | case1 => rintro _ _ ⟨⟩
  | case2 => exact fun _ hl => absurd hl (by simp)
  | case3 _ _ _ _ _ _ _ _ hlit ih =>
    intro e hl he
    have := congrArg List.length (scanLiteral_spec _ _ _ _ hlit).1
    simp only [List.length_cons, List.length_append] at this hl
    exact ih e (by omega) he
  | case4 _ _ cs _ _ _ hlit =>
    rintro _ _ ⟨⟩
    exact scanError_own cs (scanLiteral_nil hlit)
  | case5 _ _ _ st _ _ _ f _ hsf _ hfi =>
    rintro _ _ ⟨⟩
    exact fieldInit_own h st f (fun fm hf => (((scanField_some hsf).format fm hf).imp fun _ => And.left)) _ hfi
  | case6 _ _ _ _ _ _ _ _ _ hsf _ _ _ ih =>
    intro e hl he
    have := congrArg List.length (scanField_some hsf).input
    simp only [List.length_cons, List.length_append] at this hl
    exact ih e (by omega) he

theorem unify_own (s : List Char) : ∀ (m : List (Key × List Arg)) (e : PErr), unify s m = .error e → ∃ c a, e = .own c a := by
  intro m
  fun_induction unify s m with
  | case1 | case4 => rintro _ ⟨⟩
  | case2 =>
    rintro _ ⟨⟩
    exact ⟨_, _, rfl⟩
  | case3 _ _ _ _ _ _ hu ih =>
    rintro _ ⟨⟩
    exact ih _ hu

/-- `brace_error_own`, for any `SSIZE_MAX` -/
theorem parseWith_own {cfg : Cfg} (h : cfg.digitLimit = 0) (s : List Char) (e : PErr) (he : parseWith cfg s = .error e) : ∃ c a, e = .own c a := by
  revert he
  fun_cases parseWith cfg s with
  | case1 _ hl =>
    rintro ⟨⟩
    exact loop_own h _ _ _ _ _ (Nat.le_refl _) hl
  | case2 _ _ _ _ hu =>
    rintro ⟨⟩
    exact unify_own s _ _ hu
  | case3 => rintro ⟨⟩

theorem parseWith_reject {cfg : Cfg} (h : cfg.digitLimit = 0) {s : List Char} (hs : ¬ Spec.StrFormat.parseOK s) :
    ∃ c a, parseWith cfg s = .error (.own c a) := by
  cases hp : parseWith cfg s with
  | ok r => exact absurd (parseWith_ok_parseOK cfg s r hp) hs
  | error e =>
    obtain ⟨c, a, rfl⟩ := parseWith_own h s e hp
    exact ⟨c, a, rfl⟩

end I18n.PyBrace
