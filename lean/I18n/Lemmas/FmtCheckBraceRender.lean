import I18n.Lemmas.FmtCheckBrace
import I18n.Lemmas.Kit.List
/-!
# python-brace: strings rendered from plain fields `{name}` / `{index}` and brace-free text are accepted, with the expected arguments

The scanner's loop is followed item by item (`loop_plain`): a literal run is read back whole, a field files one `plainArg` under
`keyOfName`; as every argument filed carries the full type set, `unify` changes nothing (`unify_plain`): `parse_renderPlain`.
-/
namespace I18n.FmtCheck
open I18n I18n.FmtSig I18n.PyBrace I18n.BraceChars

theorem close_not_word : isWord '}' = false ∧ isDigit '}' = false := by decide

def FieldName (n : List Char) : Prop := IdentText n ∨ (DigitsText n ∧ digitsVal n ≤ liveCfg.ssizeMax)

theorem fieldName_head {n : List Char} (h : FieldName n) : ∃ c t, n = c :: t ∧ c ≠ '{' ∧ c ≠ '}' := by
  rcases h with ⟨c, t, rfl, hc, _⟩ | ⟨⟨hne, hd⟩, _⟩
  · exact ⟨c, t, rfl, (plain_of_word (idStart_word hc)).nobrace⟩
  · cases n with
    | nil => exact absurd rfl hne
    | cons c t => exact ⟨c, t, rfl, (plain_of_digit (hd c List.mem_cons_self)).nobrace⟩

theorem scanNameHead_field {n : List Char} (h : FieldName n) (rest : List Char) :
    scanNameHead (n ++ '}' :: rest) = some (n, '}' :: rest) := by
  rcases h with ⟨c, t, rfl, hc, ht⟩ | ⟨⟨hne, hd⟩, _⟩
  · have hnd : isDigit c = false := by simpa using (Bool.and_eq_true_iff.1 hc).2
    obtain ⟨h1, h2⟩ := Kit.span_append (p := isWord) (a := t) (b := '}' :: rest) ht (by rintro _ ⟨⟩; exact close_not_word.1)
    simp [scanNameHead, hnd, scanIdent, hc, h1, h2]
  · cases n with
    | nil => exact absurd rfl hne
    | cons c t =>
      have hc := hd c (by simp)
      obtain ⟨h1, h2⟩ := Kit.span_append (p := isDigit) (a := t) (b := '}' :: rest) (fun d hd' => hd d (by simp [hd']))
        (by rintro _ ⟨⟩; exact close_not_word.2)
      simp [scanNameHead, hc, h1, h2]

theorem scanNameTail_close (inBr : Char → Bool) (fuel : Nat) (rest : List Char) :
    scanNameTail inBr fuel ('}' :: rest) = ([], '}' :: rest) := by
  cases fuel <;> simp [scanNameTail]

def plainField (n : List Char) : RawField :=
  { text := '{' :: n ++ ['}'], name := some n, conversion := none, format := none, nested := [] }

theorem scanField_plain {n : List Char} (h : FieldName n) (rest : List Char) :
    scanField ('{' :: (n ++ '}' :: rest)) = some (plainField n, rest) := by
  simp [scanField, scanNameOpt, scanName, scanNameHead_field h, scanNameTail_close, scanConv, scanFmt, plainField]

/-- the key `add_argument` files a named field under -/
def keyOfName (n : List Char) : Key := if isDecimalStr n then .idx (digitsVal n) else .name n

def plainArg : Arg := { nested := false, types := TySet.all }

/-- manual numbering has not been ruled out (no `{}` seen) -/
def NextOK (st : State) : Prop := st.next = some 0 ∨ st.next = none

theorem addArgument_fieldName {n : List Char} (h : FieldName n) (st : State) (hn : NextOK st) (a : Arg) :
    ∃ st', addArgument liveCfg st (some n) a = .ok st' ∧ st'.map = mapAdd st.map (keyOfName n) a ∧ NextOK st' := by
  unfold addArgument keyOfName
  rcases h with hid | ⟨hdg, hle⟩
  · simp only [isDecimalStr_ident hid, Bool.false_eq_true, if_false]
    exact ⟨_, rfl, rfl, hn⟩
  · simp only [isDecimalStr_digits hdg, if_true, pyInt_ok (cfg := liveCfg) rfl n, if_neg (Nat.not_lt.2 hle)]
    rcases hn with h0 | h0
    · rw [h0]
      exact ⟨_, rfl, rfl, Or.inr rfl⟩
    · rw [h0]
      exact ⟨_, rfl, rfl, Or.inr rfl⟩

theorem fieldInit_plain {n : List Char} (h : FieldName n) (st : State) (hn : NextOK st) :
    ∃ st', fieldInit liveCfg st (plainField n) = .ok (st', TySet.all) ∧ st'.map = mapAdd st.map (keyOfName n) plainArg ∧ NextOK st' := by
  obtain ⟨st', hadd, hst'⟩ := addArgument_fieldName h st hn plainArg
  have hadd' : addArgument liveCfg st (plainField n).name { nested := false, types := ownTypes liveCfg (plainField n) } = .ok st' :=
    hadd
  refine ⟨st', ?_, hst'⟩
  rw [fieldInit, hadd']
  rfl

/-- what may follow a literal run: the end, or a field -/
def FieldStart (cs : List Char) : Prop := cs = [] ∨ ∃ c r, cs = '{' :: c :: r ∧ c ≠ '{'

theorem scanLiteral_text (t : List Char) (fuel : Nat) (rest : List Char) (ht : ∀ c ∈ t, c ≠ '{' ∧ c ≠ '}') (hr : FieldStart rest)
    (hl : t.length ≤ fuel) : scanLiteral fuel (t ++ rest) = (t, rest) := by
  induction t generalizing fuel with
  | nil => exact scanLiteral_stop fuel rest hr
  | cons c t ih =>
    obtain ⟨hc1, hc2⟩ := ht c List.mem_cons_self
    cases fuel with
    | zero => cases hl
    | succ fuel =>
      rw [List.cons_append, scanLiteral_char fuel _ hc1 hc2,
        ih fuel (fun d hd => ht d (List.mem_cons_of_mem c hd)) (Nat.le_of_succ_le_succ hl)]

inductive PlainItem where
  | lit (t : List Char)
  | field (name : List Char)
  deriving DecidableEq, Repr

def PlainItem.text : PlainItem → List Char
  | .lit t => t
  | .field n => '{' :: n ++ ['}']

def renderPlain (items : List PlainItem) : List Char := (items.map PlainItem.text).flatten

def fieldNames : List PlainItem → List (List Char)
  | [] => []
  | .lit _ :: rest => fieldNames rest
  | .field n :: rest => n :: fieldNames rest

/-- literal runs are non-empty, free of braces and maximal; field names are identifiers or decimal indices within `SSIZE_MAX` -/
def PlainClean : List PlainItem → Prop
  | [] => True
  | .lit t :: rest => t ≠ [] ∧ (∀ c ∈ t, c ≠ '{' ∧ c ≠ '}') ∧ (match rest with | .lit _ :: _ => False | _ => True) ∧ PlainClean rest
  | .field n :: rest => FieldName n ∧ PlainClean rest

theorem renderPlain_lit (t : List Char) (rest : List PlainItem) : renderPlain (.lit t :: rest) = t ++ renderPlain rest := rfl

theorem renderPlain_field (n : List Char) (rest : List PlainItem) :
    renderPlain (.field n :: rest) = '{' :: (n ++ '}' :: renderPlain rest) := by
  simp [renderPlain, PlainItem.text]

theorem renderPlain_fieldStart : ∀ (items : List PlainItem), PlainClean items →
    (match items with | .lit _ :: _ => False | _ => True) → FieldStart (renderPlain items)
  | [], _, _ => Or.inl rfl
  | .lit _ :: _, _, h => by cases h
  | .field n :: rest, hc, _ => by
    obtain ⟨c, t, rfl, hc1, _⟩ := fieldName_head hc.1
    exact Or.inr ⟨c, t ++ '}' :: renderPlain rest, renderPlain_field _ rest, hc1⟩

def addAll (m : List (Key × List Arg)) (ns : List (List Char)) : List (Key × List Arg) :=
  ns.foldl (fun m n => mapAdd m (keyOfName n) plainArg) m

theorem loop_lit {cfg : Cfg} {fuel : Nat} {c t : Char} {cs ts rest : List Char} {st : State} {acc : List PreItem}
    (h : scanLiteral (c :: cs).length (c :: cs) = (t :: ts, rest)) :
    loop cfg (fuel + 1) (c :: cs) st acc = loop cfg fuel rest st (.lit (t :: ts) :: acc) := by
  rw [loop, h]

theorem loop_field {cfg : Cfg} {fuel : Nat} {c : Char} {cs rest : List Char} {st st' : State} {acc : List PreItem} {f : RawField}
    {ty : PyBrace.TySet} (hl : scanLiteral (c :: cs).length (c :: cs) = ([], c :: cs)) (hf : scanField (c :: cs) = some (f, rest))
    (hi : fieldInit cfg st f = .ok (st', ty)) :
    loop cfg (fuel + 1) (c :: cs) st acc = loop cfg fuel rest st' (.field (keyOf st f.name) :: acc) := by
  rw [loop, hl]
  simp only [hf, hi]

theorem loop_plain (items : List PlainItem) (fuel : Nat) (st : State) (acc : List PreItem) (hc : PlainClean items) (hn : NextOK st)
    (hl : (renderPlain items).length ≤ fuel) :
    ∃ st' acc', loop liveCfg fuel (renderPlain items) st acc = .ok (st', acc') ∧ st'.map = addAll st.map (fieldNames items) := by
  induction items generalizing fuel st acc with
  | nil =>
    refine ⟨st, acc.reverse, ?_, rfl⟩
    cases fuel <;> rfl
  | cons item rest ih =>
    cases item with
    | lit t =>
      obtain ⟨hne, hfree, hnext, hrest⟩ := hc
      obtain ⟨c, t, rfl⟩ := List.exists_cons_of_ne_nil hne
      rw [renderPlain_lit] at hl ⊢
      cases fuel with
      | zero => cases hl
      | succ fuel =>
        have hscan : scanLiteral (c :: (t ++ renderPlain rest)).length (c :: (t ++ renderPlain rest)) = (c :: t, renderPlain rest) :=
          scanLiteral_text (c :: t) _ _ hfree (renderPlain_fieldStart rest hrest hnext) (by simp)
        obtain ⟨st', acc', h1, h2⟩ := ih fuel st (.lit (c :: t) :: acc) hrest hn (by simp at hl; omega)
        exact ⟨st', acc', (loop_lit hscan).trans h1, h2⟩
    | field n =>
      have hlit := scanLiteral_stop (renderPlain (.field n :: rest)).length _ (renderPlain_fieldStart (.field n :: rest) hc trivial)
      obtain ⟨hname, hrest⟩ := hc
      rw [renderPlain_field] at hl hlit ⊢
      cases fuel with
      | zero => cases hl
      | succ fuel =>
        obtain ⟨st1, hfi, hmap, hn1⟩ := fieldInit_plain hname st hn
        obtain ⟨st', acc', h1, h2⟩ := ih fuel st1 (.field (keyOf st (some n)) :: acc) hrest hn1 (by simp at hl; omega)
        refine ⟨st', acc', (loop_field hlit (scanField_plain hname _) hfi).trans h1, ?_⟩
        rw [h2, hmap]
        rfl

def AllPlain (m : List (Key × List Arg)) : Prop := ∀ p ∈ m, p.2 ≠ [] ∧ ∀ a ∈ p.2, a = plainArg

theorem mapAdd_allPlain (m : List (Key × List Arg)) (k : Key) (h : AllPlain m) : AllPlain (mapAdd m k plainArg) :=
  forall_mem_mapAdd (Q := fun p => p.2 ≠ [] ∧ ∀ a ∈ p.2, a = plainArg)
    ⟨List.cons_ne_nil _ _, fun _ ha => List.mem_singleton.1 ha⟩
    (fun _ has => ⟨List.append_ne_nil_of_right_ne_nil _ (List.cons_ne_nil _ _),
      fun a ha => (List.mem_append.1 ha).elim (has.2 a) List.mem_singleton.1⟩) h

theorem addAll_allPlain : ∀ (ns : List (List Char)) (m : List (Key × List Arg)), AllPlain m → AllPlain (addAll m ns)
  | [], m, h => h
  | n :: ns, m, h => by
    simp only [addAll, List.foldl_cons]
    exact addAll_allPlain ns _ (mapAdd_allPlain m _ h)

theorem commonTypes_plain (as : List Arg) (h : ∀ a ∈ as, a = plainArg) : commonTypes as = TySet.all := by
  unfold commonTypes
  induction as with
  | nil => rfl
  | cons a l ih =>
    rw [h a (by simp)]
    exact ih fun b hb => h b (by simp [hb])

theorem unify_plain (s : List Char) (m : List (Key × List Arg)) (h : AllPlain m) : unify s m = .ok m := by
  induction m with
  | nil => rfl
  | cons p rest ih =>
    obtain ⟨k, as⟩ := p
    rw [AllPlain, List.forall_mem_cons] at h
    have hmap : as.map (fun a => { a with types := TySet.all }) = as :=
      (List.map_congr_left fun a ha => by rw [h.1.2 a ha]; rfl).trans (List.map_id as)
    simp only [unify, commonTypes_plain as h.1.2, ih h.2, hmap]
    rfl

theorem addAll_keys (ns : List (List Char)) (m : List (Key × List Arg)) (k : Key) :
    k ∈ (addAll m ns).map (·.1) ↔ k ∈ m.map (·.1) ∨ k ∈ ns.map keyOfName := by
  induction ns generalizing m with
  | nil => simp [addAll]
  | cons n ns ih =>
    rw [addAll, List.foldl_cons, ← addAll, ih, mapAdd_keys, List.map_cons, List.mem_cons, ← or_assoc]
    refine or_congr_left ?_
    split
    next hin => exact ⟨Or.inl, fun h => h.elim id fun e => e ▸ hin⟩  -- the key of `n` is there already
    next => rw [List.mem_append, List.mem_singleton]  -- a new key goes to the end

/-- **A rendered string is accepted, and its arguments are exactly the keys of its fields, each with the full type set.** -/
theorem parse_renderPlain {items : List PlainItem} (hc : PlainClean items) :
    ∃ r, PyBrace.parse (renderPlain items) = .ok r ∧
      ∀ k c, HasArg r k c ↔ (c = TySet.all ∧ k ∈ (fieldNames items).map keyOfName) := by
  obtain ⟨st', acc', hl, hmap⟩ := loop_plain items (renderPlain items).length { next := some 0, map := [] } [] hc (Or.inl rfl)
    (Nat.le_refl _)
  have hall : AllPlain st'.map := by
    rw [hmap]; exact addAll_allPlain _ [] (by intro p hp; cases hp)
  have hu := unify_plain (renderPlain items) st'.map hall
  refine ⟨_, by simp only [PyBrace.parse, PyBrace.parseWith, hl, hu]; rfl, fun k c => ?_⟩
  simp only [HasArg]
  constructor
  · rintro ⟨as, hmem, hne, hty⟩
    have hp := hall (k, as) hmem
    refine ⟨?_, ?_⟩
    · cases as with
      | nil => exact absurd rfl hne
      | cons a rest => rw [← hty a (by simp), hp.2 a (by simp)]; rfl
    · have : k ∈ st'.map.map (·.1) := List.mem_map.2 ⟨(k, as), hmem, rfl⟩
      rw [hmap, addAll_keys] at this
      simpa using this
  · rintro ⟨rfl, hk⟩
    have : k ∈ st'.map.map (·.1) := by rw [hmap, addAll_keys]; exact Or.inr hk
    obtain ⟨p, hp, rfl⟩ := List.mem_map.1 this
    have hpl := hall p hp
    exact ⟨p.2, hp, hpl.1, fun a ha => by rw [hpl.2 a ha]; rfl⟩

end I18n.FmtCheck
