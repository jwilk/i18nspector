import I18n.Lemmas.MoEntry
/-! The MO parser model against `Spec.Encodes`, in both directions: `parse_complete` (a file that encodes `cat` is parsed
to `expected … cat`) and `parse_cases` (every outcome: a syntax error; a decode error, and then the codec `Rejects` some
string in the selected charset; or a file whose catalog the bytes encode; never an `Err.crash`).  Each level of the parser
is treated twice: its result where the specification's predicate holds (`read1_of_WordAt`, `readString_of_StringAt`,
`parseEntry_first`/`_next`, `loop_spec`), and the case split of its outcomes (`…_cases`, `loop_sound`). -/
namespace I18n.Mo
open I18n.Mo.Spec

/-! ### words and strings: `read1`, `read2`, `readString` against `WordAt`, `StringAt` -/

theorem exists_encodeWord (be : Bool) (s : Bytes) (h : s.length = 4) : ∃ w, w < 2 ^ 32 ∧ encodeWord be w = s :=
  match s, h with
  | [a0, a1, a2, a3], _ => ⟨word be a0 a1 a2 a3, word_lt _ _ _ _ _, encodeWord_word _ _ _ _ _⟩

theorem read1_cases (be : Bool) (b : Bytes) (off : Nat) :
    (b.length < off + 4 ∧ read1 be b off = .error (.syntax .truncated)) ∨
    (∃ w, WordAt be b off w ∧ read1 be b off = .ok w) := by
  by_cases h : off + 4 * 1 > b.length
  · left; exact ⟨by omega, by simp only [read1, readInts, h, if_true]⟩
  · right
    obtain ⟨hs, hl⟩ := Slice_of_slice (b := b) (off := off) (n := 4) (by omega)
    obtain ⟨w, hw, hx⟩ := exists_encodeWord be _ hl
    exact ⟨w, ⟨hw, hx ▸ hs⟩, by simp only [read1, readInts, h, if_false, Nat.mul_one, ← hx, unpack_encodeWord be w hw]⟩

theorem read2_cases (be : Bool) (b : Bytes) (off : Nat) :
    (b.length < off + 8 ∧ read2 be b off = .error (.syntax .truncated)) ∨
    (∃ v w, WordAt be b off v ∧ WordAt be b (off + 4) w ∧ read2 be b off = .ok (v, w)) := by
  by_cases h : off + 4 * 2 > b.length
  · left; exact ⟨by omega, by simp only [read2, readInts, h, if_true]⟩
  · right
    obtain ⟨hs, hl⟩ := Slice_of_slice (b := b) (off := off) (n := 8) (by omega)
    obtain ⟨v, hv, hxv⟩ := exists_encodeWord be ((slice b off (off + 8)).take 4) (by rw [List.length_take, hl]; rfl)
    obtain ⟨w, hw, hxw⟩ := exists_encodeWord be ((slice b off (off + 8)).drop 4) (by rw [List.length_drop, hl])
    have hx : slice b off (off + 8) = encodeWord be v ++ encodeWord be w := by rw [hxv, hxw, List.take_append_drop]
    rw [hx] at hs
    refine ⟨v, w, ⟨hv, hs.left⟩, ⟨hw, ?_⟩, by simp only [read2, readInts, h, if_false, hx, unpack_encodeWord2 be v w hv hw]⟩
    have := hs.right
    rwa [encodeWord_length] at this

theorem read1_of_WordAt {be : Bool} {b : Bytes} {off w : Nat} (h : WordAt be b off w) : read1 be b off = .ok w := by
  rcases read1_cases be b off with ⟨hl, _⟩ | ⟨w', hw, hr⟩
  · have := h.length_le; omega
  · rw [hr, WordAt.unique hw h]

theorem WordAt_of_read1 {be : Bool} {b : Bytes} {off w : Nat} (h : read1 be b off = .ok w) : WordAt be b off w := by
  rcases read1_cases be b off with ⟨_, hr⟩ | ⟨w', hw, hr⟩
  · rw [hr] at h; cases h
  · rw [hr] at h; cases h; exact hw

theorem read2_of_WordAt {be : Bool} {b : Bytes} {off v w : Nat} (h1 : WordAt be b off v) (h2 : WordAt be b (off + 4) w) :
    read2 be b off = .ok (v, w) := by
  rcases read2_cases be b off with ⟨hl, _⟩ | ⟨v', w', hv, hw, hr⟩
  · have := h2.length_le; omega
  · rw [hr, WordAt.unique hv h1, WordAt.unique hw h2]

theorem readString_cases (be : Bool) (b : Bytes) (desc : Nat) (nt : SynErr) :
    (∃ s, StringAt be b desc s ∧ readString be b desc nt = .ok s) ∨
    (∃ e, readString be b desc nt = .error (.syntax e)) := by
  rcases read2_cases be b desc with ⟨_, hr⟩ | ⟨v, w, hv, hw, hr⟩
  · right; exact ⟨.truncated, by simp only [readString, hr]⟩
  · cases hg : b[w + v]? with
    | none => right; exact ⟨.truncated, by simp only [readString, hr, hg]⟩
    | some c =>
      by_cases hc : c = 0
      · left
        subst hc
        have hlt : w + v < b.length := by
          rcases Nat.lt_or_ge (w + v) b.length with h' | h'
          · exact h'
          · rw [List.getElem?_eq_none h'] at hg; cases hg
        obtain ⟨hs, hl⟩ := Slice_of_slice (b := b) (off := w) (n := v) (by omega)
        refine ⟨slice b w (w + v), ⟨w, by rw [hl]; exact hv, hw, ?_⟩, ?_⟩
        · apply Slice.append hs
          rw [hl]; exact Slice_singleton hg
        · simp only [readString, hr, hg]; simp
      · right; exact ⟨nt, by simp only [readString, hr, hg]; simp [hc]⟩

theorem readString_of_StringAt {be : Bool} {b : Bytes} {desc : Nat} {s : Bytes} (nt : SynErr) (h : StringAt be b desc s) :
    readString be b desc nt = .ok s := by
  obtain ⟨off, hl, ho, hs⟩ := h
  have h0 : b[off + s.length]? = some 0 := by
    have := Slice.getElem? hs s.length (by simp)
    rw [this]; simp
  simp only [readString, read2_of_WordAt hl ho, h0, slice_eq_of_Slice hs.left]
  simp

theorem StringAt_of_readString {be : Bool} {b : Bytes} {desc : Nat} {s : Bytes} (nt : SynErr)
    (h : readString be b desc nt = .ok s) : StringAt be b desc s := by
  rcases readString_cases be b desc nt with ⟨s', hs, hr⟩ | ⟨x, hr⟩
  · rw [hr] at h; cases h; exact hs
  · rw [hr] at h; cases h

/-! ### decoding: every failure is `.decode`, and the codec rejects a string -/

/-- the codec fails on some byte string in the charset `cs`: what a decode error at any level comes down to (`dec_error` …
    `decodeEntries_error`).  It says nothing of which string; its use is `parse_no_decode`: with a charset that decodes
    every byte string (the checker's ISO-8859-1 retry) the parser raises no decode error. -/
def Rejects (db : CodecDB) (cs : Bytes) : Prop := ∃ bs, db.decode cs bs = none

theorem dec_error {db : CodecDB} {cs bs : Bytes} {x : Err} (h : dec db cs bs = .error x) : x = .decode ∧ Rejects db cs := by
  unfold dec at h
  cases hd : db.decode cs bs with
  | some t => rw [hd] at h; cases h
  | none => rw [hd] at h; cases h; exact ⟨rfl, bs, hd⟩

theorem dec_cases (db : CodecDB) (enc b : Bytes) : (∃ t, dec db enc b = .ok t) ∨ dec db enc b = .error .decode := by
  unfold dec; cases db.decode enc b <;> simp

theorem decAll_error {db : CodecDB} {cs : Bytes} {l : List Bytes} {x : Err} :
    decAll db cs l = .error x → x = .decode ∧ Rejects db cs := by
  fun_induction decAll db cs l
  case case1 => exact nofun
  case case2 h => rintro ⟨⟩; exact dec_error h
  case case3 h ih => rintro ⟨⟩; exact ih h
  case case4 => exact nofun

theorem decOpt_error {db : CodecDB} {cs : Bytes} {o : Option Bytes} {x : Err} :
    decOpt db cs o = .error x → x = .decode ∧ Rejects db cs := by
  fun_cases decOpt db cs o
  case case1 => exact nofun
  case case2 h => rintro ⟨⟩; exact dec_error h
  case case3 => exact nofun

theorem decodeEntry_error {db : CodecDB} {cs : Bytes} {e : CatEntry} {x : Err} :
    decodeEntry db cs e = .error x → x = .decode ∧ Rejects db cs := by
  fun_cases decodeEntry db cs e
  -- the arms of `decodeEntry` in the order of its definition: which field fails to decode, or none
  case case1 h => rintro ⟨⟩; exact decOpt_error h   -- msgctxt
  case case2 h => rintro ⟨⟩; exact dec_error h      -- msgid
  case case3 h => rintro ⟨⟩; exact dec_error h      -- msgstr of a singular entry
  case case4 => exact nofun                         -- a singular entry, decoded
  case case5 h => rintro ⟨⟩; exact dec_error h      -- msgid_plural
  case case6 h => rintro ⟨⟩; exact decAll_error h   -- one of the indexed forms
  case case7 => exact nofun                         -- a plural entry, decoded

theorem decodeEntries_error {db : CodecDB} {cs : Bytes} {l : List CatEntry} {x : Err} :
    decodeEntries db cs l = .error x → x = .decode ∧ Rejects db cs := by
  fun_induction decodeEntries db cs l
  case case1 => exact nofun
  case case2 h => rintro ⟨⟩; exact decodeEntry_error h
  case case3 h ih => rintro ⟨⟩; exact ih h
  case case4 => exact nofun

theorem expected_not_syntax (db : CodecDB) (given : Option Bytes) (cat : List CatEntry) (hidden : Bool) (x : SynErr) :
    expected db given cat hidden ≠ .error (.syntax x) := by
  unfold expected
  cases h : decodeEntries db (charsetOf db given cat) cat with
  | ok _ => exact nofun
  | error y => cases (decodeEntries_error h).1; exact nofun

theorem decodeEntries_get (db : CodecDB) (cs : Bytes) :
    ∀ (l : List CatEntry) (ds : List Entry), decodeEntries db cs l = .ok ds →
      ds.length = l.length ∧ ∀ i (h1 : i < l.length) (h2 : i < ds.length), decodeEntry db cs l[i] = .ok ds[i] := by
  intro l
  fun_induction decodeEntries db cs l
  case case1 => rintro ds ⟨⟩; exact ⟨rfl, fun i h1 => absurd h1 (Nat.not_lt_zero i)⟩
  case case2 => exact nofun
  case case3 => exact nofun
  case case4 e es d hd rest hr ih =>
    rintro ds ⟨⟩
    obtain ⟨hl, hi⟩ := ih rest hr
    refine ⟨congrArg (· + 1) hl, fun i h1 h2 => ?_⟩
    cases i with
    | zero => exact hd
    | succ i => exact hi i (Nat.lt_of_succ_lt_succ h1) (Nat.lt_of_succ_lt_succ h2)

/-! ### one entry: `buildEntry` is `decodeEntry`; `parseEntry` on a well-formed entry, and its outcomes -/

/-- Both sides are unfolded on the four shapes of
    an entry (singular or plural, without or with msgctxt), where `simp` evaluates the list operations and the `assert`s of
    the code.  With a msgctxt one difference is left: the code decodes msgid before msgctxt, `decodeEntry` the other way
    round.  The results agree because every failure of `dec` is the one error `.decode` (`dec_cases`). -/
theorem buildEntry_spec (db : CodecDB) (enc : Bytes) {e : CatEntry} (h : e.WF) :
    buildEntry db enc (split 0 2 e.key) e.value (splitAll 0 e.value) = decodeEntry db enc e := by
  rw [split_key h, splitAll_value h]
  have hk0 := split_key0 h
  have hne := h.forms_ne
  have hone := h.singular_one
  obtain ⟨ctxt, msgid, plural, forms⟩ := e
  cases plural with
  | none =>
    have h1 := hone rfl
    match forms, h1 with
    | [f], _ =>
      cases ctxt with
      | none =>
        simp only [buildEntry, List.headD, hk0, List.getLastD, List.dropLast, List.length_singleton, decodeEntry, decOpt,
          CatEntry.value, join0]
        simp
        rfl
      | some c =>
        simp only [buildEntry, List.headD, hk0, List.getLastD, List.dropLast, List.length_singleton, decodeEntry, decOpt,
          CatEntry.value, join0]
        rcases dec_cases db enc msgid with ⟨t, ht⟩ | ht <;> rcases dec_cases db enc c with ⟨u, hu⟩ | hu <;> simp [ht, hu] <;> rfl
  | some p =>
    have hl : ¬ forms.length < 1 := by
      cases forms with
      | nil => exact absurd rfl hne
      | cons _ _ => simp
    cases ctxt with
    | none =>
      simp only [buildEntry, List.headD, hk0, List.getLastD, List.dropLast, decodeEntry, decOpt, hl]
      simp [List.getD]
      rfl
    | some c =>
      simp only [buildEntry, List.headD, hk0, List.getLastD, List.dropLast, decodeEntry, decOpt, hl]
      rcases dec_cases db enc msgid with ⟨t, ht⟩ | ht <;> rcases dec_cases db enc c with ⟨u, hu⟩ | hu <;>
        simp [ht, hu, List.getD] <;> rfl

theorem parseEntry_first (db : CodecDB) {be : Bool} {b : Bytes} {ko vo : Nat} {e : CatEntry}
    (hk : StringAt be b ko e.key) (hv : StringAt be b vo e.value) (hwf : e.WF) (st : St) :
    parseEntry db be b st 0 ko vo =
      match decodeEntry db (selectEncoding db st.encoding e.key0 e.value) e with
      | .error x => .error x
      | .ok d => .ok (d, ⟨some (selectEncoding db st.encoding e.key0 e.value), some e.key0⟩) := by
  obtain ⟨h1, h2, h3⟩ := nul_tests_pass hwf
  simp only [parseEntry, readString_of_StringAt _ hk, readString_of_StringAt _ hv, buildEntry_spec db _ hwf, h1, h2, h3,
    if_false, if_true]
  cases decodeEntry db (selectEncoding db st.encoding e.key0 e.value) e <;> rfl

theorem parseEntry_next (db : CodecDB) {be : Bool} {b : Bytes} {ko vo : Nat} {e : CatEntry}
    (hk : StringAt be b ko e.key) (hv : StringAt be b vo e.value) (hwf : e.WF) {i : Nat} (hi : i ≠ 0) (cs last : Bytes) :
    parseEntry db be b ⟨some cs, some last⟩ i ko vo =
      if e.key0 < last then .error (.syntax .notSorted)
      else match decodeEntry db cs e with
        | .error x => .error x
        | .ok d => .ok (d, ⟨some cs, some e.key0⟩) := by
  obtain ⟨h1, h2, h3⟩ := nul_tests_pass hwf
  simp only [parseEntry, readString_of_StringAt _ hk, readString_of_StringAt _ hv, buildEntry_spec db _ hwf, h1, h2, h3,
    if_false, hi, pyListEqBytes, bytesLt_iff]
  by_cases hlt : e.key0 < last <;> simp only [hlt, Bool.false_eq_true, if_false, if_true]
  cases decodeEntry db cs e <;> rfl

/-- The right disjunct does not say what `parseEntry` returns: with a well-formed entry at `ko` / `vo` that is given by
    `parseEntry_first` / `parseEntry_next`. -/
theorem parseEntry_cases (db : CodecDB) (be : Bool) (b : Bytes) (st : St) (i ko vo : Nat) :
    (∃ x, parseEntry db be b st i ko vo = .error (.syntax x)) ∨
    (∃ e : CatEntry, e.WF ∧ StringAt be b ko e.key ∧ StringAt be b vo e.value) := by
  rcases readString_cases be b ko .msgidNotTerminated with ⟨K, hK, hrK⟩ | ⟨x, hx⟩
  · by_cases h2 : (split 0 2 K).length > 2
    · left; exact ⟨.msgidNul, by simp only [parseEntry, hrK, h2, if_true]⟩
    · rcases readString_cases be b vo .msgstrNotTerminated with ⟨V, hV, hrV⟩ | ⟨x, hx⟩
      · by_cases h3 : (split 0 2 K).length = 1 ∧ (splitAll 0 V).length > 1
        · left; exact ⟨.msgstrNul, by simp only [parseEntry, hrK, hrV, h3, and_self, if_true]; simp⟩
        · right
          obtain ⟨e, hwf, ek, ev⟩ := rawEntry_exists K V h2 h3
          exact ⟨e, hwf, by rw [ek]; exact hK, by rw [ev]; exact hV⟩
      · left; exact ⟨x, by simp only [parseEntry, hrK, h2, if_false, hx]⟩
  · left; exact ⟨x, by simp only [parseEntry, hx]⟩

/-! ### a file that encodes a catalog is parsed to it -/

theorem loop_spec (db : CodecDB) {be : Bool} {b : Bytes} {ko to : Nat} :
    ∀ (cat : List CatEntry) (i : Nat) (enc last : Bytes), i ≠ 0 →
      EntriesAt be b ko to i cat → (∀ e ∈ cat, e.WF) → Sorted (last :: cat.map CatEntry.key0) →
      loop db be b ko to cat.length i ⟨some enc, some last⟩ = decodeEntries db enc cat := by
  intro cat
  induction cat with
  | nil => intros; rfl
  | cons e es ih =>
    intro i enc last hi hE hwf hs
    obtain ⟨hk, hv, hrest⟩ := hE
    obtain ⟨hlt, hs'⟩ := hs
    simp only [List.length_cons, loop, parseEntry_next db hk hv (hwf e (by simp)) hi, hlt, if_false, decodeEntries]
    cases decodeEntry db enc e with
    | error x => rfl
    | ok d =>
      simp only []
      rw [ih (i + 1) enc e.key0 (by omega) hrest (fun x hx => hwf x (List.mem_cons_of_mem _ hx)) hs']
      cases decodeEntries db enc es <;> rfl

theorem loop_spec0 (db : CodecDB) (given : Option Bytes) {be : Bool} {b : Bytes} {ko to : Nat} (cat : List CatEntry)
    (hE : EntriesAt be b ko to 0 cat) (hwf : ∀ e ∈ cat, e.WF) (hs : Sorted (cat.map CatEntry.key0)) :
    loop db be b ko to cat.length 0 ⟨given, none⟩ = decodeEntries db (charsetOf db given cat) cat := by
  cases cat with
  | nil => rfl
  | cons e es =>
    obtain ⟨hk, hv, hrest⟩ := hE
    simp only [List.length_cons, loop, parseEntry_first db hk hv (hwf e (by simp)), decodeEntries, charsetOf]
    cases decodeEntry db (selectEncoding db given e.key0 e.value) e with
    | error x => rfl
    | ok d =>
      simp only []
      rw [loop_spec db es (0 + 1) _ e.key0 (by omega) hrest (fun x hx => hwf x (List.mem_cons_of_mem _ hx)) hs]
      cases decodeEntries db (selectEncoding db given e.key0 e.value) es <;> rfl

theorem slice_magic_iff {b : Bytes} {be : Bool} : slice b 0 4 = magicOf be ↔ Slice b 0 (magicOf be) := by
  constructor
  · intro h
    rw [Slice.prefix_iff, ← h]
    exact List.take_prefix 4 b
  · intro h
    have := slice_eq_of_Slice h
    cases be <;> simpa [magicOf, leMagic, beMagic] using this

theorem parse_of_magic (db : CodecDB) (given : Option Bytes) {b : Bytes} {be : Bool} (hm : Slice b 0 (magicOf be)) :
    parse db given b = parseBody db given b be := by
  have hsl := slice_magic_iff.2 hm
  cases be with
  | false => simp only [parse, hsl, magicOf, Bool.false_eq_true, if_false, if_true]
  | true => simp only [parse, hsl, magicOf, if_true, show beMagic ≠ leMagic by decide, if_false]

theorem parse_magic_cases (db : CodecDB) (given : Option Bytes) (b : Bytes) :
    (∃ be, Slice b 0 (magicOf be) ∧ parse db given b = parseBody db given b be) ∨ parse db given b = .error (.syntax .magic) := by
  by_cases h1 : slice b 0 4 = magicOf false
  · exact .inl ⟨false, slice_magic_iff.1 h1, parse_of_magic db given (slice_magic_iff.1 h1)⟩
  · by_cases h2 : slice b 0 4 = magicOf true
    · exact .inl ⟨true, slice_magic_iff.1 h2, parse_of_magic db given (slice_magic_iff.1 h2)⟩
    · exact .inr (by simp only [parse, show slice b 0 4 ≠ leMagic from h1, show slice b 0 4 ≠ beMagic from h2, if_false])

/-- the local `let hidden := …` of `Mo.parseBody` under a name, so that `hiddenStep_cases` and `hiddenStep_of_flag` can be
    stated -/
def hiddenStep (be : Bool) (b : Bytes) (minor : Nat) : Except Err Bool :=
  if minor > 1 then .ok true
  else if minor = 1 then
    match read1 be b 36 with
    | .error e => .error e
    | .ok nSysdep => .ok (decide (nSysdep > 0))
  else .ok false

theorem hiddenStep_cases (be : Bool) (b : Bytes) (minor : Nat) :
    hiddenStep be b minor = .error (.syntax .truncated) ∨
    ∃ h, hiddenStep be b minor = .ok h ∧ HiddenFlag be b minor h := by
  unfold hiddenStep HiddenFlag
  by_cases h1 : minor > 1
  · right; exact ⟨true, by simp [h1]⟩
  · by_cases h2 : minor = 1
    · subst h2
      rcases read1_cases be b 36 with ⟨_, hr⟩ | ⟨ns, hw, hr⟩
      · left; simp [hr]
      · right; exact ⟨decide (ns > 0), by simp [hr], ⟨ns, hw, rfl⟩⟩
    · right; exact ⟨false, by simp [h1, h2]⟩

theorem hiddenStep_of_flag {be : Bool} {b : Bytes} {minor : Nat} {hidden : Bool} (h : HiddenFlag be b minor hidden) :
    hiddenStep be b minor = .ok hidden := by
  unfold HiddenFlag at h
  unfold hiddenStep
  by_cases h1 : minor > 1
  · rw [if_pos h1] at h ⊢
    rw [h]
  · rw [if_neg h1] at h ⊢
    by_cases h2 : minor = 1
    · rw [if_pos h2] at h ⊢
      obtain ⟨ns, hns, rfl⟩ := h
      rw [read1_of_WordAt hns]
    · rw [if_neg h2] at h ⊢
      rw [h]

/-- `Mo.parseBody` as it is defined, with `hiddenStep` for its `let hidden := …` and nothing else changed -/
theorem parseBody_eq (db : CodecDB) (given : Option Bytes) (b : Bytes) (be : Bool) :
    parseBody db given b be =
      match read1 be b 4 with
      | .error e => .error e
      | .ok revision =>
        if revision / 65536 > 1 then .error (.syntax (.major (revision / 65536))) else
        match read1 be b 8 with
        | .error e => .error e
        | .ok nStrings =>
          match hiddenStep be b (revision % 65536) with
          | .error e => .error e
          | .ok possibleHiddenStrings =>
            match read2 be b 12 with
            | .error e => .error e
            | .ok (msgidOffset, msgstrOffset) =>
              match loop db be b msgidOffset msgstrOffset nStrings 0 ⟨given, none⟩ with
              | .error e => .error e
              | .ok entries => .ok ⟨entries, possibleHiddenStrings⟩ := by
  rfl

theorem parseBody_of_reads (db : CodecDB) (given : Option Bytes) {b : Bytes} {be : Bool} {rev n ko to : Nat} {hid : Bool}
    (h4 : read1 be b 4 = .ok rev) (hmaj : ¬ rev / 65536 > 1) (h8 : read1 be b 8 = .ok n)
    (hh : hiddenStep be b (rev % 65536) = .ok hid) (h12 : read2 be b 12 = .ok (ko, to)) :
    parseBody db given b be =
      match loop db be b ko to n 0 ⟨given, none⟩ with
      | .error e => .error e
      | .ok entries => .ok ⟨entries, hid⟩ := by
  simp only [parseBody_eq, h4, hmaj, if_false, h8, hh, h12]

theorem parse_complete (db : CodecDB) (given : Option Bytes) {b : Bytes} {cat : List CatEntry} {hidden : Bool}
    (h : Encodes b cat hidden) (hwf : ∀ e ∈ cat, e.WF) :
    parse db given b = expected db given cat hidden := by
  obtain ⟨be, rev, ko, to, hw, hrev, hmaj, hh, hE, hs⟩ := Encodes_iff.1 h
  rw [parse_of_magic db given hw.magic, parseBody_of_reads db given (read1_of_WordAt hrev) (by omega)
    (read1_of_WordAt hw.count) (hiddenStep_of_flag hh) (read2_of_WordAt hw.keys hw.values), loop_spec0 db given cat hE hwf hs]
  rfl

/-! ### every outcome of the parser; no Python partial operation of the source can fail -/

theorem loop_sound (db : CodecDB) {be : Bool} {b : Bytes} {ko to : Nat} (cs : Bytes) :
    ∀ (n i : Nat) (last : Bytes), i ≠ 0 →
      (∃ x, loop db be b ko to n i ⟨some cs, some last⟩ = .error (.syntax x)) ∨
      (loop db be b ko to n i ⟨some cs, some last⟩ = .error .decode ∧ Rejects db cs) ∨
      (∃ es cat, loop db be b ko to n i ⟨some cs, some last⟩ = .ok es ∧ cat.length = n ∧ EntriesAt be b ko to i cat ∧
        (∀ e ∈ cat, e.WF) ∧ Sorted (last :: cat.map CatEntry.key0)) := by
  intro n
  induction n with
  | zero => intro i last _; exact .inr (.inr ⟨[], [], rfl, rfl, trivial, nofun, trivial⟩)
  | succ n ih =>
    intro i last hi
    rcases parseEntry_cases db be b ⟨some cs, some last⟩ i (ko + 8 * i) (to + 8 * i) with ⟨x, hx⟩ | ⟨e, hwf, hk, hv⟩
    · left; exact ⟨x, by simp only [loop, hx]⟩
    · have hspec := parseEntry_next db hk hv hwf hi cs last
      by_cases hlt : e.key0 < last
      · left; exact ⟨.notSorted, by simp only [loop, hspec, hlt, if_true]⟩
      rw [if_neg hlt] at hspec
      cases hd : decodeEntry db cs e with
      | error x =>
        obtain ⟨rfl, hr⟩ := decodeEntry_error hd
        right; left; exact ⟨by simp only [loop, hspec, hd], hr⟩
      | ok d =>
        rcases ih (i + 1) e.key0 (by omega) with ⟨x, hx⟩ | ⟨hx, hr⟩ | ⟨es, cat, hes, hlen, hE, hwfs, hs⟩
        · left; exact ⟨x, by simp only [loop, hspec, hd, hx]⟩
        · right; left; exact ⟨by simp only [loop, hspec, hd, hx], hr⟩
        · right; right
          exact ⟨d :: es, e :: cat, by simp only [loop, hspec, hd, hes], by simp [hlen], ⟨hk, hv, hE⟩,
            List.forall_mem_cons.2 ⟨hwf, hwfs⟩, hlt, hs⟩

theorem loop_sound0 (db : CodecDB) (given : Option Bytes) {be : Bool} {b : Bytes} {ko to : Nat} (n : Nat) :
    (∃ x, loop db be b ko to n 0 ⟨given, none⟩ = .error (.syntax x)) ∨
    (loop db be b ko to n 0 ⟨given, none⟩ = .error .decode ∧ ∃ k v, Rejects db (selectEncoding db given k v)) ∨
    (∃ es cat, loop db be b ko to n 0 ⟨given, none⟩ = .ok es ∧ cat.length = n ∧ EntriesAt be b ko to 0 cat ∧
      (∀ e ∈ cat, e.WF) ∧ Sorted (cat.map CatEntry.key0)) := by
  cases n with
  | zero => exact .inr (.inr ⟨[], [], rfl, rfl, trivial, nofun, trivial⟩)
  | succ n =>
    rcases parseEntry_cases db be b ⟨given, none⟩ 0 (ko + 8 * 0) (to + 8 * 0) with ⟨x, hx⟩ | ⟨e, hwf, hk, hv⟩
    · left; exact ⟨x, by simp only [loop, hx]⟩
    · have hspec := parseEntry_first db hk hv hwf ⟨given, none⟩
      cases hd : decodeEntry db (selectEncoding db given e.key0 e.value) e with
      | error x =>
        obtain ⟨rfl, hr⟩ := decodeEntry_error hd
        right; left; exact ⟨by simp only [loop, hspec, hd], _, _, hr⟩
      | ok d =>
        rcases loop_sound db (be := be) (b := b) (ko := ko) (to := to) (selectEncoding db given e.key0 e.value) n (0 + 1)
          e.key0 (by omega) with ⟨x, hx⟩ | ⟨hx, hr⟩ | ⟨es, cat, hes, hlen, hE, hwfs, hs⟩
        · left; exact ⟨x, by simp only [loop, hspec, hd, hx]⟩
        · right; left; exact ⟨by simp only [loop, hspec, hd, hx], _, _, hr⟩
        · right; right
          exact ⟨d :: es, e :: cat, by simp only [loop, hspec, hd, hes], by simp [hlen], ⟨hk, hv, hE⟩,
            List.forall_mem_cons.2 ⟨hwf, hwfs⟩, hs⟩

theorem parseBody_reads (db : CodecDB) (given : Option Bytes) (b : Bytes) (be : Bool) :
    (∃ x, parseBody db given b be = .error (.syntax x)) ∨
    ∃ rev n hid ko to, WordAt be b 4 rev ∧ ¬ rev / 65536 > 1 ∧ WordAt be b 8 n ∧ HiddenFlag be b (rev % 65536) hid ∧
      WordAt be b 12 ko ∧ WordAt be b 16 to ∧
      parseBody db given b be =
        match loop db be b ko to n 0 ⟨given, none⟩ with
        | .error e => .error e
        | .ok entries => .ok ⟨entries, hid⟩ := by
  rcases read1_cases be b 4 with ⟨_, hr⟩ | ⟨rev, hrev, hr⟩
  · left; exact ⟨.truncated, by simp only [parseBody_eq, hr]⟩
  by_cases hmaj : rev / 65536 > 1
  · left; exact ⟨.major (rev / 65536), by simp only [parseBody_eq, hr, hmaj, if_true]⟩
  rcases read1_cases be b 8 with ⟨_, hr8⟩ | ⟨n, hn, hr8⟩
  · left; exact ⟨.truncated, by simp only [parseBody_eq, hr, hmaj, if_false, hr8]⟩
  rcases hiddenStep_cases be b (rev % 65536) with hh | ⟨hid, hh, hflag⟩
  · left; exact ⟨.truncated, by simp only [parseBody_eq, hr, hmaj, if_false, hr8, hh]⟩
  rcases read2_cases be b 12 with ⟨_, hr12⟩ | ⟨ko, to, hko, hto, hr12⟩
  · left; exact ⟨.truncated, by simp only [parseBody_eq, hr, hmaj, if_false, hr8, hh, hr12]⟩
  · right; exact ⟨rev, n, hid, ko, to, hrev, hmaj, hn, hflag, hko, hto, parseBody_of_reads db given hr hmaj hr8 hh hr12⟩

theorem parse_cases (db : CodecDB) (given : Option Bytes) (b : Bytes) :
    (∃ x, parse db given b = .error (.syntax x)) ∨
    (parse db given b = .error .decode ∧ ∃ k v, Rejects db (selectEncoding db given k v)) ∨
    (∃ f cat, parse db given b = .ok f ∧ Encodes b cat f.possibleHiddenStrings ∧ ∀ e ∈ cat, e.WF) := by
  rcases parse_magic_cases db given b with ⟨be, hm, h⟩ | h
  · rw [h]
    rcases parseBody_reads db given b be with hx | ⟨rev, n, hid, ko, to, hrev, hmaj, hn, hflag, hko, hto, hb⟩
    · exact .inl hx
    rw [hb]
    rcases loop_sound0 db given (be := be) (b := b) (ko := ko) (to := to) n with
      ⟨x, hx⟩ | ⟨hx, k, v, hr⟩ | ⟨es, cat, hes, hlen, hE, hwf, hs⟩
    · left; exact ⟨x, by rw [hx]⟩
    · right; left; exact ⟨by rw [hx], k, v, hr⟩
    · right; right
      refine ⟨⟨es, hid⟩, cat, by rw [hes], ?_, hwf⟩
      exact Encodes_iff.2 ⟨be, rev, ko, to, { magic := hm, count := by rw [hlen]; exact hn, keys := hko, values := hto },
        hrev, by omega, hflag, hE, hs⟩
  · exact .inl ⟨.magic, h⟩

theorem parse_ok {db : CodecDB} {given : Option Bytes} {b : Bytes} {f : MoFile} (h : parse db given b = .ok f) :
    ∃ cat, Encodes b cat f.possibleHiddenStrings ∧ ∀ e ∈ cat, e.WF := by
  rcases parse_cases db given b with ⟨x, hx⟩ | ⟨hx, _⟩ | ⟨f', cat, hf, henc, hwf⟩
  · rw [hx] at h; cases h
  · rw [hx] at h; cases h
  · rw [hf] at h; cases h
    exact ⟨cat, henc, hwf⟩

theorem selectEncoding_given {db : CodecDB} {enc : Bytes} (hc : db.asciiCompatible enc = true) (k v : Bytes) :
    selectEncoding db (some enc) k v = enc := by
  simp [selectEncoding, hc]

/-- for the checker's second attempt, `constructor(self.path, encoding='ISO-8859-1')` (lib/check/__init__.py:156) -/
theorem parse_no_decode (db : CodecDB) {enc : Bytes} (hc : db.asciiCompatible enc = true)
    (ht : ∀ bs, (db.decode enc bs).isSome) (b : Bytes) : parse db (some enc) b ≠ .error .decode := by
  intro h
  rcases parse_cases db (some enc) b with ⟨x, hx⟩ | ⟨_, k, v, bs, hbs⟩ | ⟨f, _, hf, _⟩
  · rw [hx] at h; cases h
  · rw [selectEncoding_given hc] at hbs
    have := ht bs
    rw [hbs] at this
    cases this
  · rw [hf] at h; cases h

end I18n.Mo
