import I18n.Model.Date
import I18n.Lemmas.Kit.Sorted
/- `sortedSet` (model of `sorted(set(dates))`): same elements, strictly increasing in code-point order. -/
namespace I18n.Date

theorem strLt_eq : ∀ a b : List Char, strLt a b = decide (a < b) :=
  Kit.eq_decide_lt rfl (fun _ _ => rfl) (fun _ _ => rfl) fun a as b bs => by
    simp only [strLt, Char.lt_def, UInt32.lt_iff_toNat_lt, Char.toNat]

theorem strLt_strictTotal : Kit.StrictTotal strLt := by
  rw [show strLt = fun a b => decide (a < b) from funext fun a => funext (strLt_eq a)]
  exact Kit.strictTotal_decide_lt

theorem insertU_eq (x : List Char) (l : List (List Char)) : insertU x l = Kit.insertBy strLt x l := by
  induction l with
  | nil => rfl
  | cons y ys ih => simp only [insertU, Kit.insertBy, ih]

theorem sortedSet_eq (l : List (List Char)) : sortedSet l = Kit.sortedSet strLt l := by
  simp only [sortedSet, Kit.sortedSet, funext fun x => funext (insertU_eq x)]

theorem mem_sortedSet (y : List Char) (l : List (List Char)) : y ∈ sortedSet l ↔ y ∈ l := by
  rw [sortedSet_eq, Kit.mem_sortedSet]

theorem sortedSet_sorted (l : List (List Char)) : (sortedSet l).Pairwise (fun a b => strLt a b = true) :=
  sortedSet_eq l ▸ Kit.pairwise_sortedSet strLt_strictTotal l

theorem length_sortedSet (l : List (List Char)) : (sortedSet l).length ≤ l.length :=
  sortedSet_eq l ▸ Kit.length_sortedSet_le strLt_strictTotal l

theorem length_insertU (x : List Char) {l : List (List Char)} (h : l.Pairwise (fun a b => strLt a b = true)) :
    (insertU x l).length = if x ∈ l then l.length else l.length + 1 := by
  rw [insertU_eq, Kit.length_insertBy strLt_strictTotal x h]
  -- the two sides decide `x ∈ l` through different `BEq (List Char)` instances (from `DecidableEq` and `List.instBEq`)
  congr

end I18n.Date
