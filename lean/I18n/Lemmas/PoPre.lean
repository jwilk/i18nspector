import I18n.Spec.PoSpelling
/-! `Codecs.open` (`Po.preprocess`) on a file made of physical lines: everything up to the last line it does not hold back
(`Held`) is yielded, in order and normalised; what follows is dropped (`preprocess_body`).  With the lemmas through which
`Held`, `normalise` and `atypical` are used elsewhere. -/
namespace I18n.Lemmas.PoPre
open I18n I18n.Po I18n.Spec.PoSpelling

theorem physLines_line (c rest : Text) (hc : '\n' ∉ c) : physLines (c ++ '\n' :: rest) = (c ++ ['\n']) :: physLines rest := by
  induction c with
  | nil => simp [physLines]
  | cons a as ih =>
    have ha : a ≠ '\n' := by intro e; apply hc; simp [e]
    have := ih (by intro h; apply hc; simp [h])
    simp [physLines, ha, this]

theorem physLines_flatten_append (ls : List Text) (h : ∀ l ∈ ls, IsLine l) (t : Text) :
    physLines (ls.flatten ++ t) = ls ++ physLines t := by
  induction ls with
  | nil => rfl
  | cons l rest ih =>
    obtain ⟨c, rfl, hc⟩ := h l (by simp)
    rw [List.flatten_cons, List.append_assoc, List.append_assoc, List.singleton_append, physLines_line c _ hc,
      ih (fun x hx => h x (by simp [hx]))]
    rfl

theorem physLines_flatten (ls : List Text) (h : ∀ l ∈ ls, IsLine l) : physLines ls.flatten = ls := by
  have := physLines_flatten_append ls h []
  rwa [List.append_nil, physLines, List.append_nil] at this

theorem physLines_noLF (last : Text) (hl : '\n' ∉ last) (hne : last ≠ []) : physLines last = [last] := by
  induction last with
  | nil => exact absurd rfl hne
  | cons a as ih =>
    have ha : a ≠ '\n' := by intro e; apply hl; simp [e]
    cases as with
    | nil => simp [physLines, ha]
    | cons b bs =>
      have := ih (by intro h; apply hl; simp [h]) (by simp)
      simp [physLines, ha] at this ⊢
      rw [this]

theorem physLines_flatten_last (ls : List Text) (h : ∀ l ∈ ls, IsLine l) (last : Text) (hl : '\n' ∉ last) (hne : last ≠ []) :
    physLines (ls.flatten ++ last) = ls ++ [last] := by
  rw [physLines_flatten_append ls h, physLines_noLF last hl hne]

/-- `IsLine` as a test, for the sample files -/
def isLineB (l : Text) : Bool := l.getLast? == some '\n' && !(l.dropLast.contains '\n')

theorem isLine_of_isLineB (l : Text) (h : isLineB l = true) : IsLine l := by
  simp only [isLineB, Bool.and_eq_true, beq_iff_eq, Bool.not_eq_true', List.contains_eq_mem, decide_eq_false_iff_not] at h
  have hne : l ≠ [] := by intro e; rw [e] at h; simp at h
  refine ⟨l.dropLast, ?_, h.2⟩
  have := List.dropLast_concat_getLast hne
  rw [List.getLast?_eq_some_getLast hne] at h
  simp at h
  rw [← h.1]; exact this.symm

/-- `Codecs.open` holds the line back -/
def Held (env : Env) (l : Text) : Prop := holdBack env (normalise l) = true

variable {env : Env} {l l' : Text}

theorem held_iff : Held env l ↔ holdBack env (normalise l) = true := Iff.rfl

theorem not_held_iff : ¬ Held env l ↔ holdBack env (normalise l) = false := by rw [held_iff, Bool.not_eq_true]

theorem held_of_normalise (hn : normalise l = l') (h : holdBack env l' = true) : Held env l := by rw [held_iff, hn]; exact h

theorem not_held_of_normalise (hn : normalise l = l') (h : holdBack env l' = false) : ¬ Held env l := by
  rw [not_held_iff, hn]; exact h

/-- the empty string after the last line feed -/
theorem held_nil (env : Env) : Held env [] := by simp [Held, normalise, atypical, holdBack]

theorem holdBack_hash_blank (env : Env) (r : Text) : holdBack env ('#' :: ' ' :: r) = true := by simp [holdBack]

theorem atypical_hash_cons (c : Char) (r : Text) :
    atypical ('#' :: c :: r) = true ↔ c ≠ ' ' ∧ ¬ (c = '.' ∨ c = ':' ∨ c = ',' ∨ c = '|' ∨ c = '~') := by
  simp [atypical, not_or, and_assoc]

theorem normalise_of_not_atypical (l : Text) (h : atypical l = false) : normalise l = l := by
  simp [normalise, h]

theorem normalise_of_atypical (l : Text) (h : atypical l = true) : normalise l = '#' :: ' ' :: l.drop 1 := by
  simp [normalise, h]

theorem normalise_of_head_ne_hash (l : Text) (h : ∀ c r, l = c :: r → c ≠ '#') : normalise l = l := by
  apply normalise_of_not_atypical
  unfold atypical
  split
  · exact absurd rfl (h '#' _ rfl)
  · rfl

theorem preLoop_held (env : Env) (tail : List Text) (h : ∀ l ∈ tail, Held env l) (pending : List Text) (empty : Bool) :
    preLoop env tail pending empty = if empty then [['#', ' ']] else [] := by
  induction tail generalizing pending with
  | nil => simp [preLoop]
  | cons l rest ih =>
    have hl : holdBack env (normalise l) = true := held_iff.1 (h l (by simp))
    simp only [preLoop, hl, if_true]
    exact ih (fun x hx => h x (by simp [hx])) _

theorem preLoop_body (env : Env) (b : List Text) (l : Text) (hl : ¬ Held env l) (tail : List Text) (ht : ∀ x ∈ tail, Held env x)
    (pending : List Text) (empty : Bool) :
    preLoop env (b ++ l :: tail) pending empty = pending ++ (b ++ [l]).map normalise := by
  induction b generalizing pending empty with
  | nil =>
    have hl' : holdBack env (normalise l) = false := not_held_iff.1 hl
    simp only [List.nil_append, preLoop, hl', preLoop_held env tail ht]
    simp
  | cons x xs ih =>
    simp only [List.cons_append, preLoop]
    split
    · rw [ih]; simp
    · rw [ih]; simp

theorem preprocess_body (env : Env) (contents : Text) (b : List Text) (l : Text) (hl : ¬ Held env l) (tail : List Text)
    (ht : ∀ x ∈ tail, Held env x) (hlines : physLines contents = b ++ l :: tail) :
    preprocess env contents = (b ++ [l]).map normalise := by
  unfold preprocess iterlines
  rw [hlines]
  have : b ++ l :: tail ++ [[]] = b ++ l :: (tail ++ [[]]) := by simp
  rw [this, preLoop_body env b l hl (tail ++ [[]]) (by
    intro x hx; simp at hx; rcases hx with hx | rfl
    · exact ht x hx
    · exact held_nil env)]
  simp

end I18n.Lemmas.PoPre
