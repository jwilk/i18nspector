import I18n.Lemmas.HdrLines
/-
C15 lemmas: multiplicity.  Thanks to `sorted(set(values))` the tag lists of the MIME-Version, Content-Transfer-Encoding,
Project-Id-Version, Report-Msgid-Bugs-To, Last-Translator, Language-Team and field-name stages have no duplicates.  The
invariant `Once L l` carries the inventory `L` of tag names along with "no repetition", so that lists with disjoint
inventories can be appended; the lists emitted for one value `v` (`Once L l (some v)`) also all name `v` first, so that
those of distinct values can be concatenated.  One closure lemma per list constructor the model uses.  The proof terms
for `reportOne`, `translatorOne`, `teamOne`, `projectOne` have the shape of the model's `if/elif` chains, branch by branch; nothing
is unfolded, Lean unifies the `Once` goal with them through the `let`s of the definitions.
-/
namespace I18n.Hdr
open I18n.Date

/-- the value (or field name) a diagnostic is about: its first extra -/
def firstStr (t : TagCall) : Str := match t.extras with | .str s :: _ => s | _ => []

theorem nodup_flatMap_key (l : List Str) (f : Str → List TagCall) (hl : l.Nodup)
    (hf : ∀ v ∈ l, (f v).Nodup) (hk : ∀ v ∈ l, ∀ t ∈ f v, firstStr t = v) : (l.flatMap f).Nodup := by
  induction l with
  | nil => simp
  | cons a r ih =>
    have hl' := List.nodup_cons.1 hl
    rw [List.flatMap_cons, List.nodup_append]
    refine ⟨hf a (by simp), ih hl'.2 (fun v hv => hf v (by simp [hv])) (fun v hv => hk v (by simp [hv])), ?_⟩
    intro t ht t' ht' e
    obtain ⟨y, hy, hty⟩ := List.mem_flatMap.1 ht'
    have k1 := hk a (by simp) t ht
    have k2 := hk y (by simp [hy]) t' hty
    rw [e] at k1
    exact hl'.1 (by rw [← k1, k2]; exact hy)

/-- diagnostics without repetition, with tag names among `L`; with `v = some w`, all of them about the value `w` -/
structure Once (L : List String) (l : List TagCall) (v : Option Str := none) : Prop where
  nodup : l.Nodup
  names : ∀ t ∈ l, t.name ∈ L
  about : ∀ w ∈ v, ∀ t ∈ l, firstStr t = w

theorem Once.nil (L : List String) (v : Option Str := none) : Once L [] v :=
  ⟨List.nodup_nil, (fun _ h => nomatch h), fun _ _ _ h => nomatch h⟩

theorem Once.single {L : List String} {n : String} (h : n ∈ L) (es : List Extra) : Once L [tag n es] :=
  ⟨by simp, fun _ ht => List.mem_singleton.1 ht ▸ h, fun _ hw => nomatch hw⟩

theorem Once.singleFor {L : List String} {n : String} (h : n ∈ L) (v : Str) (rest : List Extra) :
    Once L [tag n (sx v :: rest)] (some v) :=
  ⟨(single h _).nodup, (single h _).names, fun _ hw _ ht => by cases hw; cases List.mem_singleton.1 ht; rfl⟩

theorem Once.ite {L : List String} {a b : List TagCall} {v : Option Str} (c : Prop) [Decidable c] (ha : Once L a v) (hb : Once L b v) :
    Once L (if c then a else b) v := by
  split
  · exact ha
  · exact hb

theorem Once.opt {L : List String} {t : TagCall} {v : Option Str} (c : Prop) [Decidable c] (h : Once L [t] v) :
    Once L (if c then [t] else []) v :=
  .ite c h (.nil L v)

theorem Once.append {LA LB : List String} {a b : List TagCall} {v : Option Str} (ha : Once LA a v) (hb : Once LB b v)
    (hd : ∀ n ∈ LA, n ∉ LB) : Once (LA ++ LB) (a ++ b) v where
  nodup := by
    -- a diagnostic of `a` and one of `b` differ in name
    refine List.nodup_append.2 ⟨ha.nodup, hb.nodup, fun t ht t' ht' e => ?_⟩
    subst e
    exact hd _ (ha.names t ht) (hb.names t ht')
  names := by
    intro t ht
    rcases List.mem_append.1 ht with h | h
    · exact List.mem_append_left _ (ha.names t h)
    · exact List.mem_append_right _ (hb.names t h)
  about := by
    intro w hw t ht
    rcases List.mem_append.1 ht with h | h
    · exact ha.about w hw t h
    · exact hb.about w hw t h

theorem Once.flatMap {L : List String} (l : List Str) (f : Str → List TagCall) (hl : l.Nodup) (hf : ∀ v, Once L (f v) (some v)) :
    Once L (l.flatMap f) :=
  ⟨nodup_flatMap_key l f hl (fun v _ => (hf v).nodup) (fun v _ => (hf v).about v rfl),
   fun t ht => by obtain ⟨v, _, htv⟩ := List.mem_flatMap.1 ht; exact (hf v).names t htv, fun _ hw => nomatch hw⟩

theorem Once.map {L : List String} {n : String} (h : n ∈ L) (l : List Str) (rest : List Extra) (hl : l.Nodup) :
    Once L (l.map fun v => tag n (sx v :: rest)) := by
  rw [List.map_eq_flatMap]
  exact .flatMap _ _ hl fun v => .singleFor h v rest

/-- a field with one good value: `duplicate-…` / `invalid-…` per other value / `no-…` -/
theorem fixed_once (vs : List Str) (good : Str) (dup inv no : String) (rest e : List Extra) (h : [dup, inv, no].Nodup) :
    Once [dup, inv, no]
      ((if vs.length > 1 then [tag dup []] else [])
        ++ ((dedup vs).filter (· ≠ good)).map (fun v => tag inv (sx v :: rest))
        ++ (if (dedup vs).length = 0 then [tag no e] else [])) := by
  simp only [List.nodup_cons, List.mem_cons, List.not_mem_nil, or_false, not_or] at h
  refine Once.append (LA := [dup, inv])
    (Once.append (LA := [dup]) (.opt _ (.single (List.mem_singleton_self _) _))
      (.map (List.mem_singleton_self _) _ _ ((dedup_nodup vs).filter _)) ?_)
    (.opt _ (.single (List.mem_singleton_self _) _)) ?_
  · simpa using h.1.1
  · simpa using ⟨h.1.2, h.2.1⟩

theorem mimeVersionTags_once (m : Meta) :
    Once ["duplicate-header-field-mime-version", "invalid-mime-version", "no-mime-version-header-field"] (mimeVersionTags m) :=
  fixed_once (m.getS "MIME-Version") _ "duplicate-header-field-mime-version" "invalid-mime-version"
    "no-mime-version-header-field" _ _ (by simp)

theorem mimeVersionTags_nodup (m : Meta) : (mimeVersionTags m).Nodup :=
  (mimeVersionTags_once m).nodup

theorem cteTags_once (m : Meta) :
    Once ["duplicate-header-field-content-transfer-encoding", "invalid-content-transfer-encoding",
      "no-content-transfer-encoding-header-field"] (cteTags m) :=
  fixed_once (m.getS "Content-Transfer-Encoding") _ "duplicate-header-field-content-transfer-encoding"
    "invalid-content-transfer-encoding" "no-content-transfer-encoding-header-field" _ _ (by simp)

theorem cteTags_nodup (m : Meta) : (cteTags m).Nodup :=
  (cteTags_once m).nodup

/-- the head of a field's stage: `duplicate-…` for several values, `no-…` for none -/
theorem count_once (dup no : String) (n : Nat) :
    Once [dup, no] (if n > 1 then [tag dup []] else if n = 0 then [tag no []] else []) :=
  .ite _ (.single List.mem_cons_self _) (.opt _ (.single (List.mem_cons_of_mem _ List.mem_cons_self) _))

theorem projectOne_once (db : UDB) (v : Str) :
    Once ["boilerplate-in-project-id-version", "no-package-name-in-project-id-version", "no-version-in-project-id-version"]
      (projectOne db v) (some v) :=
  .ite _ (.singleFor (by simp) v _)
    (Once.append (LA := ["boilerplate-in-project-id-version", "no-package-name-in-project-id-version"])
      (.opt _ (.singleFor (by simp) v _)) (.opt _ (.singleFor (List.mem_singleton_self _) v _)) (by simp))

theorem projectIdTags_once (db : UDB) (m : Meta) :
    Once ["duplicate-header-field-project-id-version", "no-project-id-version-header-field", "boilerplate-in-project-id-version",
      "no-package-name-in-project-id-version", "no-version-in-project-id-version"] (projectIdTags db m) :=
  (count_once "duplicate-header-field-project-id-version" "no-project-id-version-header-field" _).append
    (.flatMap _ _ (dedup_nodup _) (projectOne_once db)) (by simp)

theorem reportOne_once (x : Ext) (v : Str) :
    Once ["invalid-report-msgid-bugs-to", "boilerplate-in-report-msgid-bugs-to"] (reportOne x v) (some v) :=
  .ite _ (.opt _ (.singleFor (by simp) v _))
    (.ite _ (.singleFor (by simp) v _) (.ite _ (.singleFor (by simp) v _) (.opt _ (.singleFor (by simp) v _))))

theorem reportTags_once (x : Ext) (m : Meta) :
    Once ["duplicate-header-field-report-msgid-bugs-to", "no-report-msgid-bugs-to-header-field", "invalid-report-msgid-bugs-to",
      "boilerplate-in-report-msgid-bugs-to"] (reportTags x m) := by
  unfold reportTags
  refine Once.append (LA := ["duplicate-header-field-report-msgid-bugs-to", "no-report-msgid-bugs-to-header-field"])
    (Once.append (LA := ["duplicate-header-field-report-msgid-bugs-to"])
      (.opt _ (.single (List.mem_singleton_self _) _)) (.opt _ (.single (List.mem_singleton_self _) _)) (by simp))
    (.flatMap _ _ ?_ (reportOne_once x)) (by simp)
  -- the values: `[]` if the only one is empty
  split
  · exact List.nodup_nil
  · exact dedup_nodup _

theorem checkProject_once (x : Ext) (m : Meta) :
    Once ["duplicate-header-field-project-id-version", "no-project-id-version-header-field", "boilerplate-in-project-id-version",
      "no-package-name-in-project-id-version", "no-version-in-project-id-version", "duplicate-header-field-report-msgid-bugs-to",
      "no-report-msgid-bugs-to-header-field", "invalid-report-msgid-bugs-to", "boilerplate-in-report-msgid-bugs-to"]
      (checkProject x m) :=
  (projectIdTags_once x.db m).append (reportTags_once x m) (by simp)

theorem checkProject_nodup (x : Ext) (m : Meta) : (checkProject x m).Nodup :=
  (checkProject_once x m).nodup

theorem translatorOne_once (x : Ext) (tmpl : Bool) (v : Str) :
    Once ["invalid-last-translator", "boilerplate-in-last-translator"] (translatorOne x tmpl v) (some v) :=
  .ite _ (.singleFor (by simp) v _)
    (.ite _ (.singleFor (by simp) v _)
      (.ite _ (.ite _ (.nil _ _) (.singleFor (by simp) v _)) (.opt _ (.singleFor (by simp) v _))))

theorem teamOne_once (x : Ext) (tmpl : Bool) (emails : List (Str × Str)) (v : Str) :
    Once ["invalid-language-team", "boilerplate-in-language-team", "language-team-equal-to-last-translator"]
      (teamOne x tmpl emails v) (some v) :=
  .ite _ (.nil _ _)
    (.ite _ (.singleFor (by simp) v _)
      (.ite _ (.ite _ (.nil _ _) (.singleFor (by simp) v _))
        (.ite _ (.singleFor (by simp) v _) (by
          split
          · exact .singleFor (by simp) v _
          · exact .nil _ _))))

theorem checkTranslator_once (x : Ext) (tmpl : Bool) (m : Meta) :
    Once ["duplicate-header-field-last-translator", "no-last-translator-header-field", "invalid-last-translator",
      "boilerplate-in-last-translator", "duplicate-header-field-language-team", "no-language-team-header-field",
      "invalid-language-team", "boilerplate-in-language-team", "language-team-equal-to-last-translator"]
      (checkTranslator x tmpl m) := by
  -- `t1 ++ t2 ++ t3 ++ t4` of `check_translator`, stage by stage
  have t1 := count_once "duplicate-header-field-last-translator" "no-last-translator-header-field"
    (m.getS "Last-Translator").length
  have t2 := Once.flatMap _ _ (dedup_nodup (m.getS "Last-Translator")) (translatorOne_once x tmpl)
  have t3 := count_once "duplicate-header-field-language-team" "no-language-team-header-field"
    (m.getS "Language-Team").length
  have t4 := Once.flatMap _ _ (dedup_nodup (m.getS "Language-Team"))
    (teamOne_once x tmpl (translatorEmails x (dedup (m.getS "Last-Translator")) []))
  exact ((t1.append t2 (by simp)).append t3 (by simp)).append t4 (by simp)

theorem checkTranslator_nodup (x : Ext) (tmpl : Bool) (m : Meta) : (checkTranslator x tmpl m).Nodup :=
  (checkTranslator_once x tmpl m).nodup

theorem fieldNameTags_once (x : Ext) (m : Meta) (key : Str) :
    Once ["unknown-header-field", "duplicate-header-field"] (fieldNameTags x m key) (some key) := by
  rw [fieldNameTags_eq]
  have hdup : Once ["duplicate-header-field"] [tag "duplicate-header-field" [sx key]] (some key) :=
    .singleFor (List.mem_singleton_self _) key _
  refine Once.append (LA := ["unknown-header-field"]) (.ite _ (.nil _ _) (.ite _ (.nil _ _) ?_)) (.opt _ hdup) (by simp)
  cases hintOf x m key <;> exact .singleFor (List.mem_singleton_self _) key _

theorem nameTags_once (x : Ext) (m : Meta) :
    Once ["unknown-header-field", "duplicate-header-field"] ((sortedSet (m.map (·.1))).flatMap (fieldNameTags x m)) :=
  .flatMap _ _ (sortedSet_nodup _) (fieldNameTags_once x m)

theorem nameTags_nodup (x : Ext) (m : Meta) : ((sortedSet (m.map (·.1))).flatMap (fieldNameTags x m)).Nodup :=
  (nameTags_once x m).nodup

theorem valueStages_once (x : Ext) (tmpl : Bool) (m : Meta) :
    Once (["duplicate-header-field-mime-version", "invalid-mime-version", "no-mime-version-header-field"]
        ++ ["duplicate-header-field-content-transfer-encoding", "invalid-content-transfer-encoding",
            "no-content-transfer-encoding-header-field"]
        ++ ["duplicate-header-field-project-id-version", "no-project-id-version-header-field", "boilerplate-in-project-id-version",
            "no-package-name-in-project-id-version", "no-version-in-project-id-version", "duplicate-header-field-report-msgid-bugs-to",
            "no-report-msgid-bugs-to-header-field", "invalid-report-msgid-bugs-to", "boilerplate-in-report-msgid-bugs-to"]
        ++ ["duplicate-header-field-last-translator", "no-last-translator-header-field", "invalid-last-translator",
            "boilerplate-in-last-translator", "duplicate-header-field-language-team", "no-language-team-header-field",
            "invalid-language-team", "boilerplate-in-language-team", "language-team-equal-to-last-translator"]
        ++ ["unknown-header-field", "duplicate-header-field"])
      (mimeVersionTags m ++ cteTags m ++ checkProject x m ++ checkTranslator x tmpl m
        ++ (sortedSet (m.map (·.1))).flatMap (fieldNameTags x m)) := by
  have mimeCte := (mimeVersionTags_once m).append (cteTags_once m) (by simp)
  have withProject := mimeCte.append (checkProject_once x m) (by simp)
  have withTranslator := withProject.append (checkTranslator_once x tmpl m) (by simp)
  exact withTranslator.append (nameTags_once x m) (by simp)

end I18n.Hdr
