import I18n.Lemmas.LocaleFixCodes
import I18n.Lemmas.LocaleNames
/-
`check_language` model = the reference verdict (`Spec.LocaleTags`): `checkLanguage_eq`, stage by stage.  The path and string
helpers of the model (`strip`, `normpath`, `splitOn`, `splitext`, `basename`, the `munch` function) stay opaque: the verdict is
stated through them, and only `Lemmas/LocalePath` says anything about them.
-/
namespace I18n.Locale
open I18n.Spec.LocaleTags

/-! ### the Language field -/

theorem eraseDups_short {α : Type} [BEq α] (ms : List α) (h : ¬ ms.length > 1) : ms.eraseDups = ms := by
  match ms, h with
  | [], _ => simp
  | [a], _ => simp [List.eraseDups_cons]
  | a :: b :: t, h => simp at h

theorem stageMeta_tags (ms : List (List Char)) :
    (stageMeta ms).tags = when (ms.length > 1) (tag "duplicate-header-field-language" []) := by
  simp [stageMeta, when]

theorem stageMeta_value (ms : List (List Char)) : (stageMeta ms).metaLanguage = fieldValue ms := by
  by_cases h : ms.length > 1
  · simp only [stageMeta, fieldValue, h, if_true]
    generalize ms.eraseDups = x
    match x with
    | [] => rfl
    | [a] => rfl
    | _ :: _ :: _ => rfl
  · simp only [stageMeta, fieldValue, h, if_false, eraseDups_short ms h]
    match ms with
    | [] => rfl
    | [a] => rfl
    | _ :: _ :: _ => rfl

theorem stageMeta_dup (ms : List (List Char)) : (stageMeta ms).duplicate = conflicting ms := by
  by_cases h : ms.length > 1
  · simp [stageMeta, conflicting, h]
  · have := eraseDups_short ms h
    simp [stageMeta, conflicting, h, this]

/-! ### the field's value: name stage and normalisation stage -/

theorem removeEncoding_eq (l : Language) : removeEncoding l = (dropEncoding l, l.enc.isSome) := by
  obtain ⟨a, b, c, d⟩ := l
  cases c <;> rfl

theorem removeNonling_eq (l : Language) :
    removeNonlinguisticModifier l = (dropEuro l, decide (l.mod = some "euro".toList)) := by
  unfold removeNonlinguisticModifier dropEuro
  by_cases h : l.mod = some "euro".toList
  · rw [if_pos h, if_pos h, decide_eq_true h]
  · rw [if_neg h, if_neg h, decide_eq_false h]

theorem stageField_eq (munch : List Char → List Char) (v : List Char) :
    stageField munch v = .ok
      ((match parseLanguage v, named munch v with
        | some _, _ => []
        | none, some l => [tag "invalid-language" [.str v, sExtra "=>", langExtra l]]
        | none, none => [tag "invalid-language" [.str v]]),
       candidate munch v) := by
  unfold stageField candidate
  cases hp : parseLanguage v with
  | some l => rfl
  | none =>
    simp only
    rw [named_eq]
    cases named munch v <;> rfl

theorem stageNormalise_eq (orig : List Char) (l : Language) :
    stageNormalise orig l = .ok
      (when l.enc.isSome (tag "encoding-in-language-header-field" [.str orig])
        ++ when (l.mod = some "euro".toList) (tag "language-variant-does-not-affect-translation" [.str orig])
        ++ (match canonical l with
          | none => [tag "invalid-language" [.str orig]]
          | some (l', changed) => when changed (tag "invalid-language" [.str orig, sExtra "=>", langExtra l'])),
       (canonical l).map (·.1)) := by
  unfold stageNormalise canonical
  simp only [removeEncoding_eq, removeNonling_eq]
  have hmod : (dropEncoding l).mod = l.mod := rfl
  rw [hmod]
  rcases fixCodes_cases (dropEuro (dropEncoding l)) with ⟨l', fixed, hf⟩ | hf <;> rw [hf] <;> rfl


/-! ### the sources outside the header -/

theorem lcMessagesLanguage_eq (path : List Char) :
    lcMessagesLanguage path = .ok (((lcMessagesDir path).bind known).map (fun l => dropEuro (dropEncoding l))) := by
  unfold lcMessagesLanguage lcMessagesDir
  simp only
  generalize splitOn '/' (normpath path) = comps
  generalize List.findIdx _ comps = i
  by_cases hi : i < comps.length ∧ i > 0
  · rw [if_pos hi, if_pos ⟨hi.2, hi.1⟩]
    simp only [Option.bind_some, known, parseLanguageE]
    cases parseLanguage (comps.getD (i - 1) []) with
    | none => rfl
    | some l =>
      simp only
      rcases fixCodes_cases l with ⟨l', f, hf⟩ | hf <;> rw [hf]
      · simp [removeEncoding_eq, removeNonling_eq]
      · rfl
  · rw [if_neg hi, if_neg (fun h => hi ⟨h.2, h.1⟩)]
    rfl

theorem basenameLanguage_eq (path : List Char) (hext : (splitext (basename path)).2 = ".po".toList) :
    basenameLanguage path = .ok ((known (splitext (basename path)).1).bind
      (fun l => if l.enc.isSome then none else some (dropEuro l))) := by
  unfold basenameLanguage known
  simp only [hext, ne_eq, not_true_eq_false, if_false, parseLanguageE]
  cases parseLanguage (splitext (basename path)).1 with
  | none => rfl
  | some l =>
    simp only
    rcases fixCodes_cases l with ⟨l', f, hf⟩ | hf <;> rw [hf]
    · have he := fixCodes_enc _ _ _ hf
      cases hle : l.enc with
      | none => simp [hle, he, removeNonling_eq]
      | some e => simp [hle, he]
    · cases l.enc <;> rfl

theorem basenameLanguage_assert (path : List Char) (hext : (splitext (basename path)).2 ≠ ".po".toList) :
    basenameLanguage path = .error .assertion := by
  unfold basenameLanguage
  simp only
  rw [if_pos hext]


def pathStage : Option Outside → PathStage
  | none => ⟨none, "command-line", 1⟩
  | some o => ⟨some o.language, o.source, if o.strength = .weak then 0 else 1⟩

theorem pathStage_none : pathStage none = ⟨none, "command-line", 1⟩ := rfl

theorem pathStage_some (o : Outside) :
    pathStage (some o) = ⟨some o.language, o.source, if o.strength = .weak then 0 else 1⟩ := rfl

/-- `language_source_quality <= 0` singles out the base name -/
theorem pathStage_quality (o : Outside) : (pathStage (some o)).quality ≤ 0 ↔ o.strength = .weak := by
  rw [pathStage_some]
  by_cases h : o.strength = .weak <;> simp [h]

/-- the path stage raises nothing and yields the outside source of the specification: the base name is consulted only when
    `os.path.splitext` gives it the extension `.po`, and then `assert ext == '.po'` holds -/
theorem stagePath_eq (inp : Input) : stagePath inp.optLanguage inp.path = .ok (pathStage (outside inp)) := by
  unfold stagePath outside
  cases inp.optLanguage with
  | some l => rfl
  | none =>
    simp only [lcMessagesLanguage_eq]
    cases (lcMessagesDir inp.path).bind known with
    | some l => rfl
    | none =>
      simp only [Option.map_none]
      unfold poStem
      by_cases hext : (splitext (basename inp.path)).2 = ".po".toList
      · simp only [hext, if_true, basenameLanguage_eq _ hext, Option.bind_some]
        cases known (splitext (basename inp.path)).1 with
        | none => rfl
        | some l => cases hle : l.enc <;> simp [hle, pathStage_none, pathStage_some]
      · simp only [hext, if_false]; rfl

/-! ### comparison, X-Poedit-Language, final stage -/

/-- the language settled on so far, with the source it came from -/
def LangState.cur (st : LangState) : Option (Language × String) := st.language.map (fun l => (l, st.source))

theorem cur_tags (st : LangState) (ts : List TagCall) : ({ st with tags := ts } : LangState).cur = st.cur := rfl

theorem cur_of_none {st : LangState} (h : st.language = none) : st.cur = none := by rw [LangState.cur, h]; rfl

theorem cur_of_some {st : LangState} {l : Language} (h : st.language = some l) : st.cur = some (l, st.source) := by
  rw [LangState.cur, h]; rfl

theorem cur_language (st : LangState) : st.cur.map (·.1) = st.language := by
  unfold LangState.cur; cases st.language <;> rfl

theorem disparityTag_eq : disparityTag = disparity := rfl

theorem stageCompare_tags (st : LangState) (ml : Option Language) :
    (stageCompare st ml).tags = st.tags ++
      (match st.cur, ml with
        | some (l, src), some m => when (l ≠ m) (disparity l src m "Language header field")
        | _, _ => []) := by
  unfold stageCompare
  cases ml with
  | none => rcases st.cur with _ | ⟨l, src⟩ <;> exact (List.append_nil _).symm
  | some m =>
    cases hl : st.language with
    | none => rw [cur_of_none hl]; exact (List.append_nil _).symm
    | some l =>
      rw [cur_of_some hl]
      by_cases hne : l = m <;> simp [hne, when, disparityTag_eq]

theorem stageCompare_cur (st : LangState) (ml : Option Language) :
    (stageCompare st ml).cur =
      (match st.cur with
        | some c => some c
        | none => ml.map (fun m => (m, "Language header field"))) := by
  unfold stageCompare
  cases ml with
  | none => cases st.cur <;> rfl
  | some m =>
    cases hl : st.language with
    | none => rw [cur_of_none hl]; rfl
    | some l =>
      rw [cur_of_some hl]
      dsimp only
      by_cases hne : l = m
      · rw [if_neg (not_not_intro hne)]; exact cur_of_some hl
      · rw [if_pos hne]; rfl

theorem poeditDedup_tags (f : String) (xs : List (List Char)) :
    (poeditDedup f xs).1 = when (xs.length > 1) (tag "duplicate-header-field-x-poedit" [sExtra f]) := by
  unfold poeditDedup when
  by_cases h : xs.length > 1 <;> simp [h]

theorem poeditDedup_list (f : String) (xs : List (List Char)) : (poeditDedup f xs).2 = xs.eraseDups := by
  unfold poeditDedup
  by_cases h : xs.length > 1
  · simp [h]
  · simp [h, eraseDups_short xs h]

theorem stagePoedit_eq (munch : List Char → List Char) (st : LangState) (pls pcs : List (List Char)) :
    ∃ st', stagePoedit munch st pls pcs = .ok st' ∧
      st'.tags = st.tags
        ++ when (pls.length > 1) (tag "duplicate-header-field-x-poedit" [sExtra "X-Poedit-Language"])
        ++ when (pcs.length > 1) (tag "duplicate-header-field-x-poedit" [sExtra "X-Poedit-Country"])
        ++ (match poeditValueOf pls pcs with
          | none => []
          | some p =>
            match named munch p with
            | none => [tag "unknown-poedit-language" [.str p]]
            | some pl =>
              match st.cur with
              | none => []
              | some (l, src) => when (l.ll ≠ pl.ll) (disparity l src pl "X-Poedit-Language header field"))
      ∧ st'.cur = (match st.cur with
          | some c => some c
          | none => ((poeditValueOf pls pcs).bind (named munch)).map (fun p => (p, "X-Poedit-Language header field"))) := by
  unfold stagePoedit poeditValueOf
  simp only [poeditDedup_tags, poeditDedup_list]
  generalize st.tags ++ when (pls.length > 1) _ ++ when (pcs.length > 1) _ = ts
  -- X-Poedit-Language is not consulted: nothing is added to the duplicate tags
  have skip : ∃ st', (Except.ok { st with tags := ts } : Except LErr LangState) = .ok st' ∧
      st'.tags = ts ++ [] ∧ st'.cur = (match st.cur with | some c => some c | none => none) :=
    ⟨_, rfl, (List.append_nil _).symm, by rw [cur_tags]; cases st.cur <;> rfl⟩
  generalize pls.eraseDups = d1
  match d1 with
  | [] => exact skip
  | _ :: _ :: _ => exact skip
  | [p] =>
    simp only
    by_cases hc : pcs.eraseDups.length ≤ 1
    · simp only [hc, if_true, Option.bind_some]
      rw [named_eq]
      cases hn : named munch p with
      | none => -- not a language name: one tag, the language stays
        exact ⟨_, rfl, rfl, by rw [cur_tags]; cases st.cur <;> rfl⟩
      | some pl =>
        simp only
        cases hl : st.language with
        | none => -- no language so far: X-Poedit-Language gives it
          rw [cur_of_none hl]
          exact ⟨_, rfl, (List.append_nil _).symm, rfl⟩
        | some l => -- a language already: compared by language code
          rw [cur_of_some hl]
          by_cases hne : l.ll = pl.ll
          · simp only [hne, ne_eq, not_true_eq_false, if_false]
            exact ⟨_, rfl, (List.append_nil _).symm, rfl⟩
          · simp only [ne_eq, hne, not_false_eq_true, if_true]
            exact ⟨_, rfl, rfl, rfl⟩
    · simp only [hc, if_false]
      exact skip

theorem stageFinal_eq (st : LangState) (oe dup : Bool) :
    stageFinal st oe dup = ⟨st.tags ++ (match st.language with
      | none => when (oe && !dup) (tag "no-language-header-field" []) ++ [tag "unable-to-determine-language" []]
      | some l => when (oe && !dup) (tag "no-language-header-field" [safeExtra "Language:", langExtra l])), st.language⟩ := by
  have h : (oe = true ∧ ¬ dup = true) ↔ (oe && !dup) = true := by simp
  unfold stageFinal when
  simp only [h]
  cases st.language <;> simp only [List.append_assoc]

/-- from the comparison on, the stages complete the verdict: `base` is what the stages before have emitted, `lang`/`src` the outside
    source they have settled on, `ml2` the field's language -/
theorem tail_verdict (munch : List Char → List Char) (inp : Input) (ht : inp.isTemplate = false)
    (base : List TagCall) (lang : Option Language) (src : String)
    (hcur : (⟨base, lang, src⟩ : LangState).cur = (effectiveOutside munch inp).map (fun o => (o.language, o.source)))
    (ml2 : Option Language) (hml : ml2 = fieldLanguage munch inp.metaLanguages)
    (hbase : base = when (inp.metaLanguages.length > 1) (tag "duplicate-header-field-language" [])
      ++ (match fieldValue inp.metaLanguages with
        | none => []
        | some v => if v = [] then [] else fieldRules munch v))
    (oe dupb : Bool) (habs : (oe && !dupb) = fieldAbsent inp.metaLanguages) :
    (match stagePoedit munch (stageCompare ⟨base, lang, src⟩ ml2) inp.poeditLanguages inp.poeditCountries with
      | .error e => .error e
      | .ok st => .ok (stageFinal st oe dupb))
      = (Except.ok ⟨verdictTags munch inp, verdictLanguage munch inp⟩ : Except LErr Output) := by
  subst hml
  obtain ⟨st', hst, htags, hcur'⟩ := stagePoedit_eq munch (stageCompare ⟨base, lang, src⟩ (fieldLanguage munch inp.metaLanguages))
    inp.poeditLanguages inp.poeditCountries
  have hprim : (stageCompare ⟨base, lang, src⟩ (fieldLanguage munch inp.metaLanguages)).cur = primary munch inp := by
    rw [stageCompare_cur, hcur]
    unfold primary
    cases effectiveOutside munch inp <;> rfl
  rw [hprim] at hcur' htags
  have hfin : st'.language = finalLanguage munch inp := by
    rw [← cur_language, hcur']
    unfold finalLanguage poeditValue
    cases hp : primary munch inp with
    | none =>
      cases poeditValueOf inp.poeditLanguages inp.poeditCountries with
      | none => rfl
      | some p => simp only [Option.bind_some]; cases named munch p <;> rfl
    | some c => obtain ⟨l, s⟩ := c; rfl
  rw [stageCompare_tags, hcur] at htags
  have hcmp : (match (effectiveOutside munch inp).map (fun o => (o.language, o.source)), fieldLanguage munch inp.metaLanguages with
      | some (l, src), some m => when (l ≠ m) (disparity l src m "Language header field")
      | _, _ => [])
    = (match effectiveOutside munch inp, fieldLanguage munch inp.metaLanguages with
      | some o, some m => when (o.language ≠ m) (disparity o.language o.source m "Language header field")
      | _, _ => []) := by
    cases effectiveOutside munch inp <;> cases fieldLanguage munch inp.metaLanguages <;> rfl
  rw [hst]
  show Except.ok (stageFinal st' _ _) = _
  rw [stageFinal_eq, htags, hcmp, habs, hfin, hbase]
  unfold verdictTags verdictLanguage
  simp only [ht, Bool.false_eq_true, if_false, List.append_assoc, poeditValue]
  rfl

theorem effectiveOutside_of_strong (munch : List Char → List Char) (inp : Input) (o : Outside) (h : outside inp = some o)
    (hs : o.strength = .strong) : effectiveOutside munch inp = some o := by
  unfold effectiveOutside
  rw [h]
  cases fieldLanguage munch inp.metaLanguages with
  | none => rfl
  | some m => simp [libreOfficeException, hs]

theorem libreOffice_pathStage (o : Outside) (m : Language) (path : List Char) :
    libreOffice (pathStage (some o)).quality (some m) path = libreOfficeException o m path := by
  unfold libreOffice libreOfficeException fmtLang
  simp only [pathStage_quality]

theorem cur_effective (munch : List Char → List Char) (inp : Input) (base : List TagCall) :
    (⟨base, if libreOffice (pathStage (outside inp)).quality (fieldLanguage munch inp.metaLanguages) inp.path = true then none
        else (pathStage (outside inp)).language, (pathStage (outside inp)).source⟩ : LangState).cur
      = (effectiveOutside munch inp).map (fun o => (o.language, o.source)) := by
  unfold effectiveOutside
  cases outside inp with
  | none =>
    rw [pathStage_none]
    cases libreOffice 1 (fieldLanguage munch inp.metaLanguages) inp.path <;> rfl
  | some o =>
    cases fieldLanguage munch inp.metaLanguages with
    | none => rw [pathStage_some]; rfl
    | some m =>
      rw [libreOffice_pathStage, pathStage_some]
      dsimp only
      cases libreOfficeException o m inp.path <;> rfl

theorem checkLanguage_eq (munch : List Char → List Char) (inp : Input) :
    checkLanguage munch inp = .ok ⟨verdictTags munch inp, verdictLanguage munch inp⟩ := by
  unfold checkLanguage
  simp only [stageMeta_tags, stageMeta_value, stageMeta_dup]
  by_cases ht : inp.isTemplate = true
  · simp [verdictTags, verdictLanguage, ht, when]
  · have ht' : inp.isTemplate = false := by simpa using ht
    simp only [ht', Bool.false_eq_true, if_false]
    rw [stagePath_eq]
    have habs : (decide ((fieldValue inp.metaLanguages).getD [] = []) && !conflicting inp.metaLanguages) = fieldAbsent inp.metaLanguages := by
      simp [fieldAbsent]
    -- the two Booleans of the final stage are made opaque: the case analysis on `fieldValue` below would rewrite inside them
    generalize decide ((fieldValue inp.metaLanguages).getD [] = []) = oe at habs ⊢
    generalize conflicting inp.metaLanguages = dupb at habs ⊢
    have hce := cur_effective munch inp
    -- without a language named by the field there is no LibreOffice exception
    have hcur0 : fieldLanguage munch inp.metaLanguages = none → ∀ base, (⟨base, (pathStage (outside inp)).language, (pathStage (outside inp)).source⟩ : LangState).cur
        = (effectiveOutside munch inp).map (fun o => (o.language, o.source)) := by
      intro hfl base; rw [hfl] at hce; simpa [libreOffice] using hce base
    cases hfv : fieldValue inp.metaLanguages with
    | none =>
      have hfl : fieldLanguage munch inp.metaLanguages = none := by simp [fieldLanguage, hfv]
      exact tail_verdict munch inp ht' _ _ _ (hcur0 hfl _) none hfl.symm (by simp [hfv]) oe dupb habs
    | some v =>
      by_cases hve : v = []
      · have hfl : fieldLanguage munch inp.metaLanguages = none := by simp [fieldLanguage, hfv, hve]
        simp only [hve, if_true]
        exact tail_verdict munch inp ht' _ _ _ (hcur0 hfl _) none hfl.symm (by simp [hfv, hve]) oe dupb habs
      · simp only [hve, if_false, stageField_eq]
        cases hc : candidate munch v with
        | none =>
          have hfl : fieldLanguage munch inp.metaLanguages = none := by simp [fieldLanguage, hfv, hve, hc]
          refine tail_verdict munch inp ht' _ _ _ (hcur0 hfl _) none hfl.symm ?_ oe dupb habs
          simp [hfv, hve, fieldRules, hc]
          -- both sides read the same: the `match` written in `stageField_eq` and the one in `fieldRules` are two auxiliary
          -- constants, equal by unfolding
          rfl
        | some l =>
          have hfl : fieldLanguage munch inp.metaLanguages = (canonical l).map (·.1) := by simp [fieldLanguage, hfv, hve, hc]
          simp only [stageNormalise_eq, Option.getD_some]
          rw [hfl] at hce
          refine tail_verdict munch inp ht' _ _ _ (hce _) _ hfl.symm ?_ oe dupb habs
          simp [hfv, hve, List.append_assoc, fieldRules, hc]
          rfl

theorem checkLanguage_verdict (munch : List Char → List Char) (inp : Input) (out : Output)
    (h : checkLanguage munch inp = .ok out) :
    out.tags = verdictTags munch inp ∧ out.language = verdictLanguage munch inp := by
  rw [checkLanguage_eq] at h
  cases h
  exact ⟨rfl, rfl⟩

end I18n.Locale
