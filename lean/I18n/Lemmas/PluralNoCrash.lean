import I18n.Lemmas.CheckPluralsSpec
/-!
# `check_plurals` lets no exception escape (for C01)

Given that the registry's strings parse (`RegistryParses`): `analyse_nocrash` from the case equation `analyse_eq`, the window
and the gap analysis raising nothing; `checkPlurals_nocrash` from `checkPlurals_eq`, the reader raising no `ValueError`.
-/
namespace I18n.CheckPlurals
open I18n.PluralParse

/-- the registry strings of `data/languages` (an input of the model) all parse: a data-integrity condition of the tool,
    not a property of the checked file -/
def RegistryParses (inp : Input) : Prop :=
  ∀ cs, inp.correct = some cs → ∀ n, ∃ r, localCorrect n cs = .ok r

theorem lcsOf_ok {inp : Input} (hreg : RegistryParses inp) (n : Nat) : ∃ lcs, lcsOf inp n = .ok lcs := by
  unfold lcsOf
  cases hc : inp.correct with
  | none => exact ⟨none, rfl⟩
  | some cs =>
    obtain ⟨r, hr⟩ := hreg cs hc n
    exact ⟨some r, by simp only [hr]; rfl⟩

theorem analyse_nocrash (inp : Input) (hreg : RegistryParses inp) (pf : List Char) (hp : Bool) (expected : List (Nat × List Char))
    (hint : Extra) (tags0 : List TagCall) (n : Nat) (e : Expr) (lj rj : List Char) (ex : Py.Exc) :
    analyse inp pf hp expected hint tags0 n e lj rj ≠ .error ex := by
  obtain ⟨lcs, hl⟩ := lcsOf_ok hreg n
  rw [analyse_eq, hl]
  dsimp only
  generalize hw : window n e _ _ _ _ _ = w
  obtain ⟨st, fin⟩ := w
  obtain ⟨rs, hrs⟩ := gapRanges_nocrash n e (completedOf st fin)
  cases fin with
  | crashed ex' => exact absurd hw (window_nocrash _ _ _ _ _ _ _ _ _)
  | completed => simp only [hrs]; nofun
  | stopped => simp only [hrs]; nofun

/-- **`check_plurals` lets no exception escape**, whatever the Plural-Forms field, the messages and the language
    (given only that the tool's own registry strings parse). -/
theorem checkPlurals_nocrash (inp : Input) (hreg : RegistryParses inp) (ex : Py.Exc) : checkPlurals inp ≠ .error ex := by
  -- the exits of the method, one by one: all return normally but the reader's `ValueError`, which it never raises, and `analyse`
  rw [checkPlurals_eq]
  rcases headerValues inp with _ | ⟨pf, _ | ⟨pf2, rest⟩⟩
  · nofun
  · dsimp only
    by_cases ht : inp.isTemplate = true
    · rw [if_pos ht]
      nofun
    · rw [if_neg ht]
      cases hpf : parsePluralForms pf with
      | valueError => exact absurd hpf (parsePluralForms_ne_valueError pf)
      | syntaxError => nofun
      | ok n e lj rj => exact analyse_nocrash inp hreg _ _ _ _ _ _ _ _ _ ex
  · nofun

end I18n.CheckPlurals
