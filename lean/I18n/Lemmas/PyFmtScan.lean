import I18n.Lemmas.PyFmtTables
/-!
# The parser's scanner and CPython's `unicode_format_arg_parse` read the same conversion specifications

`effect d c` replays on the interpreter's argument context what `unicode_format_arg` does for a specification that the
parser's scanner reads as `d`; `formatArg_of_scan` is the equation, `formatArg_of_scan_none` the failure half.  The last
part is what `PyFmtFold` and `PyFmtEffect` build on besides: every specification read consumes a character
(`scanDirective_length`, for the termination device) and is well formed (`scanDirective_wf`); the specification `%%`
(`percentDirective`) is read from the two characters `%%` and from nothing else (`scan_percent_iff`), and the domain of the
property says that every `%` conversion is that one (`Directive.plain_iff`, `plain_percent`, `Directive.plain_eq_false`).
-/
namespace I18n.PyFmt
open I18n.Spec.CPyPercent
open I18n.Generated.PyFormatTables (flagChars allCvt)

/-! ## key -/

theorem scanKey_eq_readKey : ∀ (cs : List Char) (n : Nat), scanKey n cs = readKey n cs := by
  intro cs
  induction cs with
  | nil => intro n; rfl
  | cons c cs ih =>
    intro n
    simp only [scanKey, readKey]
    by_cases h1 : c = '('
    · subst h1
      simp [ih]
      cases readKey (n + 1) cs <;> rfl
    · by_cases h2 : c = ')'
      · subst h2
        simp [ih]
        by_cases h3 : n = 1
        · simp [h3]
        · simp [h3]
          cases readKey (n - 1) cs <;> rfl
      · simp [h1, h2, ih]
        cases readKey n cs <;> rfl

theorem scanKey_length {n : Nat} {cs k r} (h : scanKey n cs = some (k, r)) : r.length < cs.length := by
  fun_induction scanKey n cs generalizing k r
  -- `(`, and the rest closes
  case case3 hk ih => cases h; exact Nat.lt_succ_of_lt (ih hk)
  -- the matching `)`
  case case4 => cases h; exact Nat.lt_succ_self _
  -- an inner `)`, and the rest closes
  case case6 hk ih => cases h; exact Nat.lt_succ_of_lt (ih hk)
  -- any other character, and the rest closes
  case case8 hk ih => cases h; exact Nat.lt_succ_of_lt (ih hk)
  all_goals cases h

/-! ## flags -/

theorem readFlags_cons (c : Char) (cs : List Char) :
    readFlags (c :: cs) = if flagChars.contains c then (readFlags cs).map fun (f, x) => (c :: f, x) else some ([], c, cs) := by
  rw [flag_contains, readFlags]
  simp only [decide_eq_true_eq]

theorem scanFlags_eq_readFlags (ch : Char) (rest : List Char) : scanFlags ch rest = readFlags (ch :: rest) := by
  rw [readFlags_cons]
  fun_induction scanFlags ch rest
  -- the last character: a flag (both run off the end), not a flag
  case case1 hf => rw [if_pos hf]; rfl
  case case2 hf => rw [if_neg hf]
  -- a flag followed by more: the rest runs off the end, the rest stops
  case case3 hf h2 ih => rw [if_pos hf, readFlags_cons, ← ih, h2]; rfl
  case case4 hf f x h2 ih => rw [if_pos hf, readFlags_cons, ← ih, h2]; rfl
  -- not a flag
  case case5 hf => rw [if_neg hf]

theorem scanFlags_spec {ch : Char} {rest f ch' rest'} (h : scanFlags ch rest = some (f, ch', rest')) :
    flagChars.contains ch' = false ∧ (∀ x ∈ f, flagChars.contains x = true) ∧ rest'.length ≤ rest.length ∧
    (f = [] → ch' = ch ∧ rest' = rest) := by
  fun_induction scanFlags ch rest generalizing f ch' rest'
  -- the last character, not a flag
  case case2 hf =>
    cases h
    exact ⟨Bool.eq_false_iff.2 hf, fun _ hx => absurd hx List.not_mem_nil, Nat.le_refl _, fun _ => ⟨rfl, rfl⟩⟩
  -- a flag, and the rest stops
  case case4 hf _ _ h2 ih =>
    cases h
    obtain ⟨a, b, c', _⟩ := ih h2
    exact ⟨a, List.forall_mem_cons.2 ⟨hf, b⟩, Nat.le_succ_of_le c', fun hn => nomatch hn⟩
  -- not a flag, more follows
  case case5 hf =>
    cases h
    exact ⟨Bool.eq_false_iff.2 hf, fun _ hx => absurd hx List.not_mem_nil, Nat.le_refl _, fun _ => ⟨rfl, rfl⟩⟩
  all_goals cases h

theorem scanFlags_stop {ch : Char} {rest f ch' rest'} (h : scanFlags ch rest = some (f, ch', rest')) :
    flagChars.contains ch' = false := (scanFlags_spec h).1

theorem scanFlags_flags {ch : Char} {rest f ch' rest'} (h : scanFlags ch rest = some (f, ch', rest')) :
    ∀ x ∈ f, flagChars.contains x = true := (scanFlags_spec h).2.1

theorem scanFlags_length {ch : Char} {rest f ch' rest'} (h : scanFlags ch rest = some (f, ch', rest')) :
    rest'.length ≤ rest.length := (scanFlags_spec h).2.2.1

theorem scanFlags_nil {ch : Char} {rest ch' rest'} (h : scanFlags ch rest = some ([], ch', rest')) :
    ch' = ch ∧ rest' = rest := (scanFlags_spec h).2.2.2 rfl

/-! ## digits -/

theorem digitVal_le (c : Char) (h : PyFmt.isDigit c = true) : PyFmt.digitVal c ≤ 9 := by
  simp only [PyFmt.isDigit, Bool.and_eq_true, decide_eq_true_eq] at h
  have h2 : c.val ≤ '9'.val := h.2
  have h3 := UInt32.le_iff_toNat_le.1 h2
  have e : PyFmt.digitVal c = c.val.toNat - 48 := rfl
  have e9 : '9'.val.toNat = 57 := rfl
  omega

theorem digitVal_pos (c : Char) (h : PyFmt.isDigit c = true) (h0 : c ≠ '0') : 1 ≤ PyFmt.digitVal c := by
  simp only [PyFmt.isDigit, Bool.and_eq_true, decide_eq_true_eq] at h
  have h1 : '0'.toNat ≤ c.toNat := UInt32.le_iff_toNat_le.1 h.1
  have h2 : c.toNat ≠ '0'.toNat := mt Char.toNat_inj.1 h0
  unfold PyFmt.digitVal
  omega

theorem scanDigits_spec {acc : Nat} {ch : Char} {rest w ch' rest'} (h : scanDigits acc ch rest = some (w, ch', rest')) :
    acc ≤ w ∧ PyFmt.isDigit ch' = false ∧ rest'.length ≤ rest.length ∧
    (PyFmt.isDigit ch = true → acc * 10 + PyFmt.digitVal ch ≤ w) ∧
    (PyFmt.isDigit ch = false → w = acc ∧ ch' = ch ∧ rest' = rest) := by
  fun_induction scanDigits acc ch rest
  -- the last character: a digit (the scanner runs off the end), not a digit
  case case1 => cases h
  case case2 hd =>
    cases h
    exact ⟨Nat.le_refl _, Bool.eq_false_iff.2 hd, Nat.le_refl _, fun h => absurd h hd, fun _ => ⟨rfl, rfl, rfl⟩⟩
  -- a digit followed by more
  case case3 hd ih =>
    obtain ⟨a, b, c', _, _⟩ := ih h
    exact ⟨by omega, b, Nat.le_succ_of_le c', fun _ => a, fun hn => by rw [hd] at hn; cases hn⟩
  -- not a digit, more follows
  case case4 hd =>
    cases h
    exact ⟨Nat.le_refl _, Bool.eq_false_iff.2 hd, Nat.le_refl _, fun h => absurd h hd, fun _ => ⟨rfl, rfl, rfl⟩⟩

theorem scanDigits_le {acc : Nat} {ch : Char} {rest w ch' rest'} (h : scanDigits acc ch rest = some (w, ch', rest')) :
    acc ≤ w := (scanDigits_spec h).1

theorem scanDigits_length {acc : Nat} {ch : Char} {rest w ch' rest'} (h : scanDigits acc ch rest = some (w, ch', rest')) :
    rest'.length ≤ rest.length := (scanDigits_spec h).2.2.1

theorem scanDigits_of_digit {acc : Nat} {ch : Char} {rest w ch' rest'} (h : scanDigits acc ch rest = some (w, ch', rest'))
    (hd : PyFmt.isDigit ch = true) : acc * 10 + PyFmt.digitVal ch ≤ w := (scanDigits_spec h).2.2.2.1 hd

theorem scanDigits_of_not_digit {acc : Nat} {ch : Char} {rest w ch' rest'} (h : scanDigits acc ch rest = some (w, ch', rest'))
    (hd : PyFmt.isDigit ch = false) : w = acc ∧ ch' = ch ∧ rest' = rest := (scanDigits_spec h).2.2.2.2 hd

/-- one round of CPython's digit loop (the parser's `isDigit`, `digitVal` are CPython's by `rfl`) -/
theorem readDigits_cons (max : Nat) (tooBig : Err) (acc : Nat) (c : Char) (cs : List Char) :
    readDigits max tooBig acc (c :: cs) =
      if PyFmt.isDigit c then
        if acc > (max - PyFmt.digitVal c) / 10 then .error tooBig else readDigits max tooBig (acc * 10 + PyFmt.digitVal c) cs
      else .ok (acc, c, cs) := rfl

/-- CPython's test before `acc * 10 + d` is exact -/
theorem overflow_test_exact (acc : Nat) {d max : Nat} (h : d ≤ max) : acc ≤ (max - d) / 10 ↔ acc * 10 + d ≤ max := by
  rw [Nat.le_div_iff_mul_le (by decide), Nat.le_sub_iff_add_le h]

theorem readDigits_of_scan (max : Nat) (tooBig : Err) (hmax : 9 ≤ max) {acc : Nat} {ch : Char} {rest w ch' rest'}
    (h : scanDigits acc ch rest = some (w, ch', rest')) (hacc : acc ≤ max) :
    readDigits max tooBig acc (ch :: rest) = if w ≤ max then .ok (w, ch', rest') else .error tooBig := by
  fun_induction scanDigits acc ch rest
  -- the arms as in `scanDigits_spec`: last character (digit, not a digit); a digit followed by more; not a digit
  case case1 => cases h
  case case2 hd =>
    cases h
    rw [readDigits_cons, if_neg hd, if_pos hacc]
  case case3 acc ch c r hd ih =>
    have hfits := overflow_test_exact acc (Nat.le_trans (digitVal_le _ hd) hmax)
    rw [readDigits_cons, if_pos hd]
    by_cases hfit : acc * 10 + PyFmt.digitVal ch ≤ max
    · rw [if_neg (Nat.not_lt.2 (hfits.2 hfit))]
      exact ih h hfit
    · rw [if_pos (Nat.lt_of_not_le (mt hfits.1 hfit)), if_neg (fun hw => hfit (Nat.le_trans (scanDigits_le h) hw))]
  case case4 hd =>
    cases h
    rw [readDigits_cons, if_neg hd, if_pos hacc]

/-- when the parser's digit loop runs off the end, so does CPython's (or the numeral is too big first) -/
theorem readDigits_of_scan_none (max : Nat) (tooBig : Err) {acc : Nat} {ch : Char} {rest : List Char}
    (h : scanDigits acc ch rest = none) : ∃ e, readDigits max tooBig acc (ch :: rest) = .error e := by
  rw [readDigits_cons]
  fun_induction scanDigits acc ch rest
  -- the last character is a digit: CPython overflows or reads past the end
  case case1 hd =>
    rw [if_pos hd]
    split <;> exact ⟨_, rfl⟩
  case case2 => cases h
  -- a digit followed by more: CPython overflows or goes on
  case case3 hd ih =>
    rw [if_pos hd]
    split
    · exact ⟨_, rfl⟩
    · rw [readDigits_cons]
      exact ih h
  case case4 => cases h

/-- the two loops entered as the callers enter them: the parser's with no digit read, CPython's after the first digit -/
theorem digits_of_scan (max : Nat) (tooBig : Err) (hmax : 9 ≤ max) {ch : Char} {rest : List Char} {n x r}
    (h : scanDigits 0 ch rest = some (n, x, r)) :
    (Spec.CPyPercent.isDigit ch = true ∧
      readDigits max tooBig (Spec.CPyPercent.digitVal ch) rest = if n ≤ max then .ok (n, x, r) else .error tooBig) ∨
    (Spec.CPyPercent.isDigit ch = false ∧ n = 0 ∧ x = ch ∧ r = rest) := by
  by_cases hdig : PyFmt.isDigit ch = true
  · have hr := readDigits_of_scan max tooBig hmax h (Nat.zero_le _)
    rw [readDigits_cons, if_pos hdig, if_neg (Nat.not_lt_zero _), Nat.zero_mul, Nat.zero_add] at hr
    -- `Spec.CPyPercent.isDigit`, `digitVal` in the statement are `PyFmt.isDigit`, `digitVal` by `rfl`
    exact Or.inl ⟨hdig, hr⟩
  · have hdf := Bool.eq_false_iff.2 hdig
    exact Or.inr ⟨hdf, scanDigits_of_not_digit h hdf⟩

theorem digits_of_scan_none (max : Nat) (tooBig : Err) {ch : Char} {rest : List Char} (h : scanDigits 0 ch rest = none) :
    Spec.CPyPercent.isDigit ch = true ∧ ∃ e, readDigits max tooBig (Spec.CPyPercent.digitVal ch) rest = .error e := by
  obtain ⟨e, he⟩ := readDigits_of_scan_none max tooBig h
  rw [readDigits_cons] at he
  by_cases hdig : PyFmt.isDigit ch = true
  · rw [if_pos hdig, if_neg (Nat.not_lt_zero _), Nat.zero_mul, Nat.zero_add] at he
    exact ⟨hdig, e, he⟩
  · rw [if_neg hdig] at he
    cases he

/-! ## what `unicode_format_arg` does for a specification the parser's scanner reads as `d` -/

/-- `(key)`: the value is looked up in the mapping and becomes the one argument (`unicode_format_arg_parse`, "Get argument
    value from a dictionary") -/
def keyStep (key : Option (List Char)) (c : Ctx) : Except Err Ctx :=
  match key with
  | none => .ok c
  | some k =>
    match c.dict with
    | none => .error .requiresMapping
    | some m =>
      match lookup m k with
      | none => .error .keyError
      | some v => .ok { c with cur := .one v false }

/-- the width: a `*` fetches an `int` that must fit `Py_ssize_t`, a numeral must not overflow it.  The value is dropped:
    nothing later in the model depends on the width. -/
def widthStep (w : Num) (c : Ctx) : Except Err Ctx :=
  match w with
  | .star =>
    match getNextArg c with
    | .error e => .error e
    | .ok (.int n, c) => if n < -(PY_SSIZE_T_MAX : Int) - 1 ∨ n > PY_SSIZE_T_MAX then .error .overflow else .ok c
    | .ok (_, _) => .error .starWantsInt
  | .num n => if n ≤ PY_SSIZE_T_MAX then .ok c else .error .widthTooBig

/-- the precision: a `*` fetches an `int` that must fit a C `int`, a numeral must not overflow it.  The value is kept,
    because `formatValue` tests it for the integer conversions. -/
def precStep (p : Option Num) (c : Ctx) : Except Err (Option Nat × Ctx) :=
  match p with
  | none => .ok (none, c)
  | some .star =>
    match getNextArg c with
    | .error e => .error e
    | .ok (.int n, c) => if n < -(INT_MAX : Int) - 1 ∨ n > INT_MAX then .error .overflow else .ok (some n.toNat, c)
    | .ok (_, _) => .error .starWantsInt
  | some (.num n) => if n ≤ INT_MAX then .ok (some n, c) else .error .precTooBig

/-- `unicode_format_arg` on a specification already read as `d`: key, width, precision, then the value is fetched and
    `formatValue` tests it against the conversion character; with a mapping, all of a non-mapping argument must be used.
    Flags and length modifier have no effect on the arguments. -/
def effect (d : Directive) (c : Ctx) : Except Err Ctx :=
  match keyStep d.key c with
  | .error e => .error e
  | .ok c =>
    match widthStep d.width c with
    | .error e => .error e
    | .ok c =>
      match precStep d.prec c with
      | .error e => .error e
      | .ok (p, c) =>
        match getNextArg c with
        | .error e => .error e
        | .ok (v, c) =>
          match formatValue d.conv p v with
          | .error e => .error e
          | .ok () => if c.dict.isSome && c.unconverted then .error .notAllConverted else .ok c

/-! ## what each part of the scanner returns, read backwards -/

theorem scanKeyPart_some {ch : Char} {rest : List Char} {key ch' rest'} (h : scanKeyPart ch rest = some (key, ch', rest')) :
    (ch = '(' ∧ ∃ k, key = some k ∧ scanKey 1 rest = some (k, ch' :: rest')) ∨ (ch ≠ '(' ∧ key = none ∧ ch' = ch ∧ rest' = rest) := by
  revert h
  fun_cases scanKeyPart ch rest
  case case3 hp k x xs hk => intro h; cases h; exact Or.inl ⟨eq_of_beq hp, k, rfl, hk⟩
  case case4 hp => intro h; cases h; exact Or.inr ⟨fun e => hp (beq_iff_eq.2 e), rfl, rfl, rfl⟩
  all_goals intro h; cases h

theorem scanKeyPart_none {ch : Char} {rest : List Char} (h : scanKeyPart ch rest = none) :
    ch = '(' ∧ (scanKey 1 rest = none ∨ ∃ k, scanKey 1 rest = some (k, [])) := by
  revert h
  fun_cases scanKeyPart ch rest
  case case1 hp hk => intro _; exact ⟨eq_of_beq hp, Or.inl hk⟩
  case case2 hp k hk => intro _; exact ⟨eq_of_beq hp, Or.inr ⟨k, hk⟩⟩
  all_goals intro h; cases h

theorem scanWidth_some {ch : Char} {rest : List Char} {w ch' rest'} (h : scanWidth ch rest = some (w, ch', rest')) :
    (ch = '*' ∧ w = .star ∧ rest = ch' :: rest') ∨
    (ch ≠ '*' ∧ ∃ n, w = .num n ∧ scanDigits 0 ch rest = some (n, ch', rest')) := by
  revert h
  fun_cases scanWidth ch rest
  case case2 hs x xs => intro h; cases h; exact Or.inl ⟨eq_of_beq hs, rfl, rfl⟩
  case case4 hs n p hd => intro h; cases h; exact Or.inr ⟨fun e => hs (beq_iff_eq.2 e), n, rfl, hd⟩
  all_goals intro h; cases h

theorem scanWidth_none {ch : Char} {rest : List Char} (h : scanWidth ch rest = none) :
    (ch = '*' ∧ rest = []) ∨ (ch ≠ '*' ∧ scanDigits 0 ch rest = none) := by
  revert h
  fun_cases scanWidth ch rest
  case case1 hs => intro _; exact Or.inl ⟨eq_of_beq hs, rfl⟩
  case case3 hs hd => intro _; exact Or.inr ⟨fun e => hs (beq_iff_eq.2 e), hd⟩
  all_goals intro h; cases h

theorem scanPrec_some {ch : Char} {rest : List Char} {p ch' rest'} (h : scanPrec ch rest = some (p, ch', rest')) :
    (ch ≠ '.' ∧ p = none ∧ ch' = ch ∧ rest' = rest) ∨
    (ch = '.' ∧ p = some .star ∧ rest = '*' :: ch' :: rest') ∨
    (ch = '.' ∧ ∃ x xs n, rest = x :: xs ∧ x ≠ '*' ∧ p = some (.num n) ∧ scanDigits 0 x xs = some (n, ch', rest')) := by
  revert h
  fun_cases scanPrec ch rest
  case case3 hd x hs y ys => intro h; cases h; cases eq_of_beq hs; exact Or.inr (Or.inl ⟨eq_of_beq hd, rfl, rfl⟩)
  case case5 hd x xs hs n q hq =>
    intro h; cases h
    exact Or.inr (Or.inr ⟨eq_of_beq hd, x, xs, n, rfl, fun e => hs (beq_iff_eq.2 e), rfl, hq⟩)
  case case6 hd => intro h; cases h; exact Or.inl ⟨fun e => hd (beq_iff_eq.2 e), rfl, rfl, rfl⟩
  all_goals intro h; cases h

theorem scanPrec_none {ch : Char} {rest : List Char} (h : scanPrec ch rest = none) :
    ch = '.' ∧ (rest = [] ∨ rest = ['*'] ∨ ∃ x xs, rest = x :: xs ∧ x ≠ '*' ∧ scanDigits 0 x xs = none) := by
  revert h
  fun_cases scanPrec ch rest
  case case1 hd => intro _; exact ⟨eq_of_beq hd, Or.inl rfl⟩
  case case2 hd x hs => intro _; cases eq_of_beq hs; exact ⟨eq_of_beq hd, Or.inr (Or.inl rfl)⟩
  case case4 hd x xs hs hq => intro _; exact ⟨eq_of_beq hd, Or.inr (Or.inr ⟨x, xs, rfl, fun e => hs (beq_iff_eq.2 e), hq⟩)⟩
  all_goals intro h; cases h

theorem scanLength_some {ch : Char} {rest : List Char} {len ch' rest'} (h : scanLength ch rest = some (len, ch', rest')) :
    ((ch = 'h' ∨ ch = 'l' ∨ ch = 'L') ∧ len = some ch ∧ rest = ch' :: rest') ∨
    (¬ (ch = 'h' ∨ ch = 'l' ∨ ch = 'L') ∧ len = none ∧ ch' = ch ∧ rest' = rest) := by
  revert h
  rw [← decide_eq_true_iff (p := ch = 'h' ∨ ch = 'l' ∨ ch = 'L'), ← length_contains]
  fun_cases scanLength ch rest
  case case1 => intro h; cases h
  case case2 hl x xs => intro h; cases h; exact Or.inl ⟨hl, rfl, rfl⟩
  case case3 hl => intro h; cases h; exact Or.inr ⟨hl, rfl, rfl, rfl⟩

theorem scanLength_none {ch : Char} {rest : List Char} (h : scanLength ch rest = none) :
    (ch = 'h' ∨ ch = 'l' ∨ ch = 'L') ∧ rest = [] := by
  revert h
  rw [← decide_eq_true_iff (p := ch = 'h' ∨ ch = 'l' ∨ ch = 'L'), ← length_contains]
  fun_cases scanLength ch rest
  case case1 hl => intro _; exact ⟨hl, rfl⟩
  all_goals intro h; cases h

/-! ## part by part -/

theorem parseKey_of_scan {ch : Char} {rest : List Char} {key ch' rest'} (h : scanKeyPart ch rest = some (key, ch', rest')) (c : Ctx) :
    parseKey (ch :: rest) c = match keyStep key c with | .error e => .error e | .ok c' => .ok (ch' :: rest', c') := by
  rcases scanKeyPart_some h with ⟨rfl, k, rfl, hk⟩ | ⟨hp, rfl, rfl, rfl⟩
  · rw [scanKey_eq_readKey] at hk
    simp only [parseKey, keyStep, hk]
    cases c.dict with
    | none => rfl
    | some m =>
      dsimp only
      cases lookup m k <;> rfl
  · simp only [keyStep]
    unfold parseKey
    split
    · rename_i heq; cases heq; exact absurd rfl hp
    · rfl

theorem parseKey_of_scan_none {ch : Char} {rest : List Char} (h : scanKeyPart ch rest = none) (c : Ctx) :
    (∃ e, parseKey (ch :: rest) c = .error e) ∨ (∃ c', parseKey (ch :: rest) c = .ok ([], c')) := by
  obtain ⟨rfl, hk⟩ := scanKeyPart_none h
  rw [scanKey_eq_readKey] at hk
  simp only [parseKey]
  cases c.dict with
  | none => exact Or.inl ⟨_, rfl⟩
  | some m =>
    rcases hk with hk | ⟨k, hk⟩
    · simp only [hk]
      exact Or.inl ⟨_, rfl⟩
    · simp only [hk]
      cases lookup m k with
      | none => exact Or.inl ⟨_, rfl⟩
      | some v => exact Or.inr ⟨_, rfl⟩

theorem parseWidth_of_scan {ch : Char} {rest : List Char} {w ch' rest'} (h : scanWidth ch rest = some (w, ch', rest')) (c : Ctx) :
    parseWidth ch rest c = match widthStep w c with | .error e => .error e | .ok c' => .ok (ch', rest', c') := by
  rcases scanWidth_some h with ⟨rfl, rfl, rfl⟩ | ⟨hs, n, rfl, hd⟩
  · simp only [parseWidth, widthStep, if_true, readChar]
    cases getNextArg c with
    | error e => rfl
    | ok p =>
      obtain ⟨v, c'⟩ := p
      cases v <;> simp only []
      split <;> rfl
  · simp only [parseWidth, hs, if_false, widthStep]
    rcases digits_of_scan PY_SSIZE_T_MAX .widthTooBig (by decide) hd with ⟨hdig, hr⟩ | ⟨hdig, rfl, rfl, rfl⟩
    · simp only [hdig, if_true, hr]
      by_cases hn : n ≤ PY_SSIZE_T_MAX <;> simp only [hn, if_true, if_false]
    · simp [hdig, PY_SSIZE_T_MAX]

theorem parseWidth_of_scan_none {ch : Char} {rest : List Char} (h : scanWidth ch rest = none) (c : Ctx) :
    ∃ e, parseWidth ch rest c = .error e := by
  rcases scanWidth_none h with ⟨rfl, rfl⟩ | ⟨hs, hd⟩
  · simp only [parseWidth, if_true, readChar]
    cases getNextArg c with
    | error e => exact ⟨_, rfl⟩
    | ok p =>
      obtain ⟨v, c'⟩ := p
      cases v <;> simp only []
      · split <;> exact ⟨_, rfl⟩
      all_goals exact ⟨_, rfl⟩
  · obtain ⟨hdig, e, he⟩ := digits_of_scan_none PY_SSIZE_T_MAX .widthTooBig hd
    simp only [parseWidth, hs, if_false, hdig, if_true, he]
    exact ⟨_, rfl⟩

theorem parsePrec_of_scan {ch : Char} {rest : List Char} {p ch' rest'} (h : scanPrec ch rest = some (p, ch', rest')) (c : Ctx) :
    parsePrec ch rest c = match precStep p c with | .error e => .error e | .ok (pv, c') => .ok (pv, ch', rest', c') := by
  rcases scanPrec_some h with ⟨hdot, rfl, rfl, rfl⟩ | ⟨rfl, rfl, rfl⟩ | ⟨rfl, x, xs, n, rfl, hs, rfl, hd⟩
  · simp only [parsePrec, hdot, if_false, precStep]
  · simp only [parsePrec, precStep, if_true, readChar]
    cases getNextArg c with
    | error e => rfl
    | ok q =>
      obtain ⟨v, c'⟩ := q
      cases v <;> simp only []
      split <;> rfl
  · simp only [parsePrec, if_true, readChar, hs, if_false, precStep]
    rcases digits_of_scan INT_MAX .precTooBig (by decide) hd with ⟨hdig, hr⟩ | ⟨hdig, rfl, rfl, rfl⟩
    · simp only [hdig, if_true, hr]
      by_cases hn : n ≤ INT_MAX <;> simp only [hn, if_true, if_false]
    · simp [hdig, INT_MAX]

theorem parsePrec_of_scan_none {ch : Char} {rest : List Char} (h : scanPrec ch rest = none) (c : Ctx) :
    ∃ e, parsePrec ch rest c = .error e := by
  obtain ⟨rfl, rfl | rfl | ⟨x, xs, rfl, hs, hd⟩⟩ := scanPrec_none h
  · exact ⟨_, rfl⟩
  · simp only [parsePrec, if_true, readChar]
    cases getNextArg c with
    | error e => exact ⟨_, rfl⟩
    | ok q =>
      obtain ⟨v, c'⟩ := q
      cases v <;> simp only []
      · split <;> exact ⟨_, rfl⟩
      all_goals exact ⟨_, rfl⟩
  · obtain ⟨hdig, e, he⟩ := digits_of_scan_none INT_MAX .precTooBig hd
    simp only [parsePrec, if_true, readChar, hs, if_false, hdig, he]
    exact ⟨_, rfl⟩

/-! ## the whole specification -/

theorem scanDirective_parts {cs : List Char} {d : Directive} {rest : List Char} (h : scanDirective cs = some (d, rest)) :
    ∃ ch0 rest0 ch1 rest1 ch2 rest2 ch3 rest3 ch4 rest4,
      cs = ch0 :: rest0 ∧ scanKeyPart ch0 rest0 = some (d.key, ch1, rest1) ∧ scanFlags ch1 rest1 = some (d.flags, ch2, rest2) ∧
      scanWidth ch2 rest2 = some (d.width, ch3, rest3) ∧ scanPrec ch3 rest3 = some (d.prec, ch4, rest4) ∧
      scanLength ch4 rest4 = some (d.length, d.conv, rest) ∧ allCvt.contains d.conv = true := by
  revert h
  fun_cases scanDirective cs
  case case7 ch0 rest0 key ch1 rest1 hk flags ch2 rest2 hf width ch3 rest3 hw prec ch4 rest4 hp len ch5 rest5 hl hc =>
    intro h
    cases h
    exact ⟨ch0, rest0, ch1, rest1, ch2, rest2, ch3, rest3, ch4, rest4, rfl, hk, hf, hw, hp, hl, hc⟩
  all_goals intro h; cases h

/-- **The parser's scanner and `unicode_format_arg_parse` read the same specification**: where the scanner reads `d`
    and leaves `rest`, CPython performs `effect d` on its argument context and continues at `rest`. -/
theorem formatArg_of_scan {cs : List Char} {d : Directive} {rest : List Char} (h : scanDirective cs = some (d, rest)) (c : Ctx) :
    formatArg cs c = match effect d c with | .error e => .error e | .ok c' => .ok (rest, c') := by
  obtain ⟨ch0, rest0, ch1, rest1, ch2, rest2, ch3, rest3, ch4, rest4, rfl, hk, hf, hw, hp, hl, _⟩ := scanDirective_parts h
  simp only [formatArg, argParse, effect, parseKey_of_scan hk]
  rcases keyStep d.key c with e | c1
  · rfl
  simp only [← scanFlags_eq_readFlags, hf, parseWidth_of_scan hw]
  rcases widthStep d.width c1 with e | c2
  · rfl
  simp only [parsePrec_of_scan hp]
  rcases precStep d.prec c2 with e | ⟨pv, c3⟩
  · rfl
  rcases scanLength_some hl with ⟨hc, _, rfl⟩ | ⟨hc, _, rfl, rfl⟩
  all_goals
    simp only [hc, if_true, if_false, readChar]
    rcases getNextArg c3 with e | ⟨v, c4⟩
    · rfl
    simp only []
    rcases formatValue d.conv pv v with e | u
    · rfl
    simp only []
    split <;> rfl

/-- **Where the parser's scanner raises `Error`, CPython raises too, whatever the arguments.** -/
theorem formatArg_of_scan_none {cs : List Char} (h : scanDirective cs = none) (c : Ctx) :
    ∃ e, formatArg cs c = .error e := by
  -- stage by stage in the order of `scanDirective`: at the stage where the scanner stops CPython raises
  -- (`…_of_scan_none`); past a stage that the scanner passes both go on (`…_of_scan`), unless the arguments make CPython raise
  cases cs with
  | nil => exact ⟨_, rfl⟩
  | cons ch0 rest0 =>
    unfold scanDirective at h
    simp only [formatArg, argParse]
    rcases hk : scanKeyPart ch0 rest0 with _ | ⟨key, ch1, rest1⟩
    · rcases parseKey_of_scan_none hk c with ⟨e, he⟩ | ⟨c', he⟩
      · exact ⟨e, by simp only [he]⟩
      · -- the `)` was the last character: the next read fails
        exact ⟨.incompleteFormat, by simp only [he, readFlags]⟩
    simp only [hk] at h
    simp only [parseKey_of_scan hk]
    rcases keyStep key c with e | c1
    · exact ⟨_, rfl⟩
    simp only [← scanFlags_eq_readFlags]
    rcases hf : scanFlags ch1 rest1 with _ | ⟨flags, ch2, rest2⟩
    · exact ⟨.incompleteFormat, rfl⟩
    simp only [hf] at h
    rcases hw : scanWidth ch2 rest2 with _ | ⟨width, ch3, rest3⟩
    · obtain ⟨e, he⟩ := parseWidth_of_scan_none hw c1
      exact ⟨e, by simp only [he]⟩
    simp only [hw] at h
    simp only [parseWidth_of_scan hw]
    rcases widthStep width c1 with e | c2
    · exact ⟨_, rfl⟩
    rcases hp : scanPrec ch3 rest3 with _ | ⟨prec, ch4, rest4⟩
    · obtain ⟨e, he⟩ := parsePrec_of_scan_none hp c2
      exact ⟨e, by simp only [he]⟩
    simp only [hp] at h
    simp only [parsePrec_of_scan hp]
    rcases precStep prec c2 with e | ⟨pv, c3⟩
    · exact ⟨_, rfl⟩
    rcases hl : scanLength ch4 rest4 with _ | ⟨len, ch5, rest5⟩
    · obtain ⟨hc, rfl⟩ := scanLength_none hl
      exact ⟨.incompleteFormat, by simp only [hc, if_true, readChar]⟩
    simp only [hl] at h
    -- the conversion character: the scanner stops here, so it is none of `_info.all_cvt`, and `formatValue` has no arm for it
    have hcv : allCvt.contains ch5 = false := by
      cases hcv : allCvt.contains ch5 with
      | false => rfl
      | true => rw [if_pos hcv] at h; cases h
    rcases scanLength_some hl with ⟨hc, _, rfl⟩ | ⟨hc, _, rfl, rfl⟩
    all_goals
      simp only [hc, if_true, if_false, readChar]
      rcases getNextArg c3 with e | r
      · exact ⟨_, rfl⟩
      · exact ⟨.unsupportedChar, by simp only [formatValue_unsupported hcv]⟩

/-! ## lengths (for the termination device) and the literal `%%` -/

theorem scanKeyPart_length {ch : Char} {rest : List Char} {key ch' rest'} (h : scanKeyPart ch rest = some (key, ch', rest')) :
    rest'.length ≤ rest.length := by
  rcases scanKeyPart_some h with ⟨_, k, _, hk⟩ | ⟨_, _, _, rfl⟩
  · exact Nat.le_of_lt (Nat.lt_of_succ_lt (scanKey_length hk))
  · exact Nat.le_refl _

theorem scanWidth_length {ch : Char} {rest : List Char} {w ch' rest'} (h : scanWidth ch rest = some (w, ch', rest')) :
    rest'.length ≤ rest.length := by
  rcases scanWidth_some h with ⟨_, _, rfl⟩ | ⟨_, n, _, hd⟩
  · exact Nat.le_succ _
  · exact scanDigits_length hd

theorem scanPrec_length {ch : Char} {rest : List Char} {p ch' rest'} (h : scanPrec ch rest = some (p, ch', rest')) :
    rest'.length ≤ rest.length := by
  rcases scanPrec_some h with ⟨_, _, _, rfl⟩ | ⟨_, _, rfl⟩ | ⟨_, x, xs, n, rfl, _, _, hd⟩
  · exact Nat.le_refl _
  · exact Nat.le_succ_of_le (Nat.le_succ _)
  · exact Nat.le_succ_of_le (scanDigits_length hd)

theorem scanLength_length {ch : Char} {rest : List Char} {l ch' rest'} (h : scanLength ch rest = some (l, ch', rest')) :
    rest'.length ≤ rest.length := by
  rcases scanLength_some h with ⟨_, _, rfl⟩ | ⟨_, _, _, rfl⟩
  · exact Nat.le_succ _
  · exact Nat.le_refl _

/-- every round of the parser's loop consumes at least one character -/
theorem scanDirective_length {cs : List Char} {d : Directive} {rest : List Char} (h : scanDirective cs = some (d, rest)) :
    rest.length < cs.length := by
  obtain ⟨ch0, rest0, ch1, rest1, ch2, rest2, ch3, rest3, ch4, rest4, rfl, hk, hf, hw, hp, hl, _⟩ := scanDirective_parts h
  have := scanKeyPart_length hk
  have := scanFlags_length hf
  have := scanWidth_length hw
  have := scanPrec_length hp
  have := scanLength_length hl
  simp only [List.length_cons]; omega

theorem scanDirective_wf {cs : List Char} {d : Directive} {rest : List Char} (h : scanDirective cs = some (d, rest)) :
    (∀ x ∈ d.flags, flagChars.contains x = true) ∧ allCvt.contains d.conv = true := by
  obtain ⟨ch0, rest0, ch1, rest1, ch2, rest2, ch3, rest3, ch4, rest4, rfl, hk, hf, hw, hp, hl, hc⟩ := scanDirective_parts h
  exact ⟨scanFlags_flags hf, hc⟩

/-- the specification `%%` -/
def percentDirective : Directive := { key := none, flags := [], width := .num 0, prec := none, length := none, conv := '%' }

theorem Directive.plain_iff (d : Directive) : d.plain = true ↔
    (d.conv = '%' → d.key = none ∧ d.flags = [] ∧ d.width = .num 0 ∧ d.prec = none ∧ d.length = none) := by
  simp only [Directive.plain, Bool.or_eq_true, bne_iff_ne, ne_eq, Bool.and_eq_true, Option.isNone_iff_eq_none,
    List.isEmpty_iff, beq_iff_eq, and_assoc]
  exact Decidable.imp_iff_not_or.symm

theorem Directive.plain_eq_false {d : Directive} (h : d.plain = false) : d.conv = '%' ∧ d ≠ percentDirective := by
  have hn : ¬ d.plain = true := by rw [h]; exact Bool.false_ne_true
  rw [Directive.plain_iff, Classical.not_imp] at hn
  exact ⟨hn.1, fun hd => hn.2 (hd ▸ ⟨rfl, rfl, rfl, rfl, rfl⟩)⟩

theorem plain_percent {d : Directive} (hp : d.plain = true) (hc : d.conv = '%') : d = percentDirective := by
  obtain ⟨key, flags, width, prec, length, conv⟩ := d
  obtain ⟨rfl, rfl, rfl, rfl, rfl⟩ := (Directive.plain_iff _).1 hp hc
  cases hc
  rfl

theorem scan_percent (r : List Char) : scanDirective ('%' :: r) = some (percentDirective, r) := by
  cases r <;> rfl

theorem scan_percent_iff {cs rest : List Char} : scanDirective cs = some (percentDirective, rest) ↔ cs = '%' :: rest := by
  refine ⟨fun h => ?_, fun h => h ▸ scan_percent rest⟩
  obtain ⟨ch0, rest0, ch1, rest1, ch2, rest2, ch3, rest3, ch4, rest4, rfl, hk, hf, hw, hpr, hl, _⟩ := scanDirective_parts h
  -- with nothing attached every part hands its character on unchanged
  rcases scanKeyPart_some hk with ⟨_, k, hk', _⟩ | ⟨_, _, rfl, rfl⟩
  · cases hk'
  have hnf := scanFlags_stop hf
  obtain ⟨rfl, rfl⟩ := scanFlags_nil hf
  have h3 : ch3 = ch2 ∧ rest3 = rest2 := by
    rcases scanWidth_some hw with ⟨_, hw', _⟩ | ⟨_, n, hn, hd⟩
    · cases hw'
    cases hn
    by_cases hdig : PyFmt.isDigit ch2 = true
    · -- a width that starts with a digit other than the flag `0` is not 0
      have h0 : ch2 ≠ '0' := by
        intro h0; subst h0
        rw [flag_contains] at hnf
        simp at hnf
      have := digitVal_pos ch2 hdig h0
      have := scanDigits_of_digit hd hdig
      omega
    · exact (scanDigits_of_not_digit hd (Bool.eq_false_iff.2 hdig)).2
  obtain ⟨rfl, rfl⟩ := h3
  rcases scanPrec_some hpr with ⟨_, _, rfl, rfl⟩ | ⟨_, hp', _⟩ | ⟨_, x, xs, n, _, _, hp', _⟩
  · rcases scanLength_some hl with ⟨_, hl', _⟩ | ⟨_, _, hc, rfl⟩
    · cases hl'
    · rw [← hc]; rfl
  · cases hp'
  · cases hp'

end I18n.PyFmt
