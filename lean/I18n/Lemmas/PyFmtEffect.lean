import I18n.Lemmas.PyFmtFold
import I18n.Spec.PyFmtArgs
/-!
# One specification: what `unicode_format_arg` needs of the arguments and what it does to them

Both directions speak of a context through its mapping `c.dict` and the values not yet fetched `c.cur.toList`.  After the
facts about `okAll` and the stages that fetch nothing: forwards, values of the reported types make `effect` succeed
(`effect_pos` without a mapping, `effect_dict` with one); backwards, a successful `effect` took one value per `*` plus one
and found its key (`effect_inv`), so a `%` conversion other than `%%` fails (`effect_percent_fails`); then the same for
`step`, which is `effect` except on `%%`: `step_inv` backwards, and `Fits`/`step_fits`, the invariant of the induction
in `PyFmtLoop`, forwards.
-/
namespace I18n.PyFmt
open I18n.Spec.CPyPercent I18n.Spec.PyFmtArgs
open I18n.Generated.PyFormatTables (intCvt SSIZE_MAX typeTable)

theorem formatValue_ok {c : Char} {tp : String} {parent : Nat} {v : Val} {p : Option Nat}
    (hl : typeTable.lookup c = some tp) (hn : tp ≠ "None") (hv : okFor ⟨.conv, tp, parent⟩ v)
    (hp : ∀ n, p = some n → intCvt.contains c = true → n ≤ INT_MAX - 3) :
    formatValue c p v = .ok () := by
  rcases typeTable_classes _ (Kit.lookup_mem hl) with h | ⟨h, hc⟩ | ⟨h, hc⟩ | ⟨h, hc⟩ | ⟨_, hc⟩
  · exact absurd h hn
  · dsimp only at h hc
    subst h
    obtain ⟨n, rfl⟩ : ∃ n, v = .int n := by simpa only [okFor, if_true] using hv
    rw [formatValue_int hc]
    cases p with
    | none => rfl
    | some q =>
      have := hp q rfl (by simpa using hc)
      exact if_neg (by omega)
  · dsimp only at h hc
    subst h
    simp only [okFor, String.reduceEq, if_true, if_false] at hv
    rw [formatValue_float hc]
    rcases hv with rfl | ⟨n, rfl, hlt⟩
    · rfl
    · exact if_neg (by omega)
  · dsimp only at h hc
    subst h hc
    simp only [okFor, String.reduceEq, if_true, if_false] at hv
    unfold formatValue
    simp only [Char.reduceEq, or_false, if_true, if_false]
    rcases hv with rfl | ⟨n, rfl, h0, h1⟩
    · rfl
    · exact if_neg (by omega)
  · unfold formatValue
    exact if_pos hc

/-- an `int` that `okFor` admits for a `*` passes `PyLong_AsSsize_t` … -/
theorem star_fits_ssize {n : Int} (h0 : -2147483648 ≤ n) (h1 : n ≤ 2147483644) :
    ¬ (n < -(PY_SSIZE_T_MAX : Int) - 1 ∨ n > PY_SSIZE_T_MAX) := by
  simp only [PY_SSIZE_T_MAX]
  omega

/-- … and `_PyLong_AsInt` … -/
theorem star_fits_int {n : Int} (h0 : -2147483648 ≤ n) (h1 : n ≤ 2147483644) : ¬ (n < -(INT_MAX : Int) - 1 ∨ n > INT_MAX) := by
  simp only [INT_MAX]
  omega

/-- … and as a precision it is not "too large" for an integer conversion -/
theorem star_prec_le {n : Int} (h1 : n ≤ 2147483644) : n.toNat ≤ INT_MAX - 3 := by
  simp only [INT_MAX]
  omega

theorem okAll_nil {vs : List Val} (h : okAll [] vs) : vs = [] := by
  cases vs with
  | nil => rfl
  | cons v vs => simp [okAll] at h

theorem okAll_cons {e : Entry} {es : List Entry} {vs : List Val} (h : okAll (e :: es) vs) :
    ∃ v vs', vs = v :: vs' ∧ okFor e v ∧ okAll es vs' := by
  cases vs with
  | nil => simp [okAll] at h
  | cons v vs' => exact ⟨v, vs', rfl, h.1, h.2⟩

theorem okAll_append : ∀ (a b : List Entry) (vs : List Val), okAll (a ++ b) vs →
    ∃ v1 v2, vs = v1 ++ v2 ∧ okAll a v1 ∧ okAll b v2 := by
  intro a
  induction a with
  | nil => intro b vs h; exact ⟨[], vs, rfl, trivial, h⟩
  | cons e es ih =>
    intro b vs h
    obtain ⟨v, vs', rfl, h1, h2⟩ := okAll_cons h
    obtain ⟨v1, v2, rfl, h3, h4⟩ := ih b vs' h2
    exact ⟨v :: v1, v2, rfl, ⟨h1, h3⟩, h4⟩

theorem widthStep_nil {w : Num} {parent : Nat} (hw : ∀ n, w = .num n → n ≤ SSIZE_MAX) (h : widthEntries w parent = [])
    (c : Ctx) : widthStep w c = .ok c := by
  cases w with
  | star => cases h
  | num n => simp only [widthStep, if_pos (Nat.le_trans (hw n rfl) ssize_le_py)]

theorem precStep_nil {p : Option Num} {conv : Char} {parent : Nat}
    (hp : ∀ n, p = some (.num n) → n ≤ SSIZE_MAX ∧ (intCvt.contains conv = true → n ≤ SSIZE_MAX - 3))
    (h : precEntries p parent = []) :
    ∃ pv, (∀ c, precStep p c = .ok (pv, c)) ∧ ∀ q, pv = some q → intCvt.contains conv = true → q ≤ INT_MAX - 3 := by
  rcases p with _ | _ | q
  · exact ⟨none, fun _ => rfl, fun q hq => by cases hq⟩
  · cases h
  · obtain ⟨q1, q2⟩ := hp q rfl
    exact ⟨some q, fun _ => by simp only [precStep, if_pos (ssize_eq_int ▸ q1)],
      fun q' hq hi => by cases hq; exact ssize_eq_int ▸ q2 hi⟩

/-! ## forwards, without a mapping: a tuple, or a bare value standing for a 1-tuple -/

/-- the values not yet fetched: a bare value (or the value found under a key) counts as a 1-tuple, and once it is fetched
    (`one v true`) nothing is left.  Declared here, in the namespace of the specification's `Cur`, for the dot notation. -/
def _root_.I18n.Spec.CPyPercent.Cur.toList : Cur → List Val
  | .tup vs => vs
  | .one v fetched => if fetched then [] else [v]

structure Pos (c : Ctx) (vs : List Val) : Prop where
  dict : c.dict = none
  cur : c.cur.toList = vs

theorem getNextArg_pos {c : Ctx} {v : Val} {vs : List Val} (h : Pos c (v :: vs)) : ∃ c', getNextArg c = .ok (v, c') ∧ Pos c' vs := by
  obtain ⟨dict, cur⟩ := c
  obtain ⟨rfl, h2⟩ := h
  cases cur with
  | tup l => cases h2; exact ⟨_, rfl, rfl, rfl⟩
  | one x f =>
    cases f
    · cases h2; exact ⟨_, rfl, rfl, rfl⟩
    · cases h2

theorem widthStep_pos {w : Num} {parent : Nat} {c : Ctx} {vs rest : List Val} (hc : Pos c (vs ++ rest))
    (hw : ∀ n, w = .num n → n ≤ SSIZE_MAX) (hv : okAll (widthEntries w parent) vs) : ∃ c', widthStep w c = .ok c' ∧ Pos c' rest := by
  cases w with
  | star =>
    obtain ⟨a, an, rfl, ha, hnil⟩ := okAll_cons hv
    obtain rfl := okAll_nil hnil
    obtain ⟨n, rfl, n0, n1⟩ := ha
    obtain ⟨c', hg, hc'⟩ := getNextArg_pos hc
    exact ⟨c', by simp only [widthStep, hg, if_neg (star_fits_ssize n0 n1)], hc'⟩
  | num n =>
    obtain rfl := okAll_nil hv
    exact ⟨c, widthStep_nil (parent := parent) hw rfl _, hc⟩

theorem precStep_pos {p : Option Num} {conv : Char} {parent : Nat} {c : Ctx} {vs rest : List Val} (hc : Pos c (vs ++ rest))
    (hp : ∀ n, p = some (.num n) → n ≤ SSIZE_MAX ∧ (intCvt.contains conv = true → n ≤ SSIZE_MAX - 3))
    (hv : okAll (precEntries p parent) vs) :
    ∃ pv c', precStep p c = .ok (pv, c') ∧ Pos c' rest ∧ ∀ q, pv = some q → intCvt.contains conv = true → q ≤ INT_MAX - 3 := by
  by_cases hs : p = some .star
  · subst hs
    obtain ⟨b, bn, rfl, hb, hnil⟩ := okAll_cons hv
    obtain rfl := okAll_nil hnil
    obtain ⟨m, rfl, m0, m1⟩ := hb
    obtain ⟨c', hg, hc'⟩ := getNextArg_pos hc
    exact ⟨some m.toNat, c', by simp only [precStep, hg, if_neg (star_fits_int m0 m1)], hc',
      fun q hq _ => by cases hq; exact star_prec_le m1⟩
  · rw [precEntries_nil hs] at hv
    obtain rfl := okAll_nil hv
    obtain ⟨pv, h1, h2⟩ := precStep_nil hp (precEntries_nil (n := parent) hs)
    exact ⟨pv, c, h1 _, hc, h2⟩

theorem effect_pos {d : Directive} {tp : String} {parent : Nat} {c : Ctx} {vs rest : List Val} (hc : Pos c (vs ++ rest))
    (hin : d.inRange) (hl : typeTable.lookup d.conv = some tp) (hk : d.key = none) (hn : tp ≠ "None")
    (hv : okAll (seqAdd d tp parent) vs) : ∃ c', effect d c = .ok c' ∧ Pos c' rest := by
  simp only [seqAdd, hk, hn, if_false] at hv
  obtain ⟨v12, v3, rfl, hv12, hv3⟩ := okAll_append _ _ _ hv
  obtain ⟨v1, v2, rfl, hv1, hv2⟩ := okAll_append _ _ _ hv12
  obtain ⟨v, vn, rfl, hvc, hnil⟩ := okAll_cons hv3
  obtain rfl := okAll_nil hnil
  rw [List.append_assoc, List.append_assoc] at hc
  obtain ⟨c1, h1, hc1⟩ := widthStep_pos hc hin.width_le hv1
  obtain ⟨pv, c2, h2, hc2, hpv⟩ := precStep_pos hc1 hin.prec_le hv2
  obtain ⟨c3, h3, hc3⟩ := getNextArg_pos hc2
  refine ⟨c3, ?_, hc3⟩
  -- the last test of `effect` asks for a mapping
  simp only [effect, hk, keyStep, h1, h2, h3, formatValue_ok hl hn hvc hpv, hc3.dict]
  rfl

/-! ## forwards, with a mapping -/

theorem effect_dict {d : Directive} {tp : String} {parent : Nat} {m : List (List Char × Val)} {cur : Cur} {k : List Char} {v : Val}
    (hin : d.inRange) (hl : typeTable.lookup d.conv = some tp) (hk : d.key = some k) (hn : tp ≠ "None")
    (hs : seqAdd d tp parent = []) (hm : Spec.CPyPercent.lookup m k = some v) (hv : okFor ⟨.conv, tp, parent⟩ v) :
    effect d ⟨some m, cur⟩ = .ok ⟨some m, .one v true⟩ := by
  simp only [seqAdd, List.append_eq_nil_iff] at hs
  obtain ⟨⟨hw, hp⟩, _⟩ := hs
  obtain ⟨pv, hps, hpv⟩ := precStep_nil hin.prec_le hp
  simp only [effect, hk, keyStep, hm, widthStep_nil hin.width_le hw, hps, getNextArg, formatValue_ok hl hn hv hpv]
  rfl

/-! ## backwards: a successful `unicode_format_arg` kept the mapping and took values from the front -/

theorem unconverted_eq (c : Ctx) : c.unconverted = !c.cur.toList.isEmpty := by
  rcases c with ⟨_, _ | ⟨_, _ | _⟩⟩ <;> rfl

theorem getNextArg_ok {c c' : Ctx} {v : Val} (h : getNextArg c = .ok (v, c')) :
    c'.dict = c.dict ∧ c.cur.toList = v :: c'.cur.toList := by
  revert h
  fun_cases getNextArg c
  -- a tuple with an item left
  case case1 hc =>
    intro h
    cases h
    exact ⟨rfl, congrArg Cur.toList hc⟩
  -- a bare value not yet fetched
  case case3 hc =>
    intro h
    cases h
    exact ⟨rfl, congrArg Cur.toList hc⟩
  -- nothing left: `getNextArg` raises
  all_goals intro h; cases h

theorem keyStep_inv {key : Option (List Char)} {c c' : Ctx} (h : keyStep key c = .ok c') :
    c'.dict = c.dict ∧ (key = none → c' = c) ∧
    ∀ k, key = some k → ∃ m, c.dict = some m ∧ (Spec.CPyPercent.lookup m k).isSome = true := by
  revert h
  fun_cases keyStep key c
  -- no key: the context is untouched
  case case1 =>
    intro h
    cases h
    exact ⟨rfl, fun _ => rfl, nofun⟩
  -- a key the mapping has
  case case4 k m hd v hl =>
    intro h
    cases h
    refine ⟨rfl, nofun, fun k' hk => ⟨m, hd, ?_⟩⟩
    cases hk
    rw [hl]
    rfl
  -- a key without a mapping, or one the mapping lacks: `keyStep` raises
  all_goals intro h; cases h

theorem widthStep_inv {w : Num} {c c' : Ctx} (h : widthStep w c = .ok c') :
    c'.dict = c.dict ∧ ∃ taken, c.cur.toList = taken ++ c'.cur.toList ∧ taken.length = if w = .star then 1 else 0 := by
  revert h
  fun_cases widthStep w c
  -- `*`: one value fetched, an `int` in range
  case case3 n c1 hg _ =>
    intro h
    cases h
    obtain ⟨hdict, hcur⟩ := getNextArg_ok hg
    exact ⟨hdict, [.int n], hcur, rfl⟩
  -- a literal width in range: nothing fetched
  case case5 =>
    intro h
    cases h
    exact ⟨rfl, [], rfl, rfl⟩
  -- the other branches of `widthStep` raise
  all_goals intro h; cases h

theorem precStep_inv {p : Option Num} {c c' : Ctx} {pv : Option Nat} (h : precStep p c = .ok (pv, c')) :
    c'.dict = c.dict ∧ ∃ taken, c.cur.toList = taken ++ c'.cur.toList ∧ taken.length = if p = some .star then 1 else 0 := by
  revert h
  fun_cases precStep p c
  -- no precision: nothing fetched
  case case1 =>
    intro h
    cases h
    exact ⟨rfl, [], rfl, rfl⟩
  -- `.*`: one value fetched, an `int` in range
  case case4 n c1 hg _ =>
    intro h
    cases h
    obtain ⟨hdict, hcur⟩ := getNextArg_ok hg
    exact ⟨hdict, [.int n], hcur, rfl⟩
  -- a literal precision in range: nothing fetched
  case case6 =>
    intro h
    cases h
    exact ⟨rfl, [], rfl, rfl⟩
  -- the other branches of `precStep` raise
  all_goals intro h; cases h

theorem effect_inv {d : Directive} {c c' : Ctx} (h : effect d c = .ok c') :
    c'.dict = c.dict ∧ d.conv ≠ '%' ∧
    (∀ k, d.key = some k → ∃ m, c.dict = some m ∧ (Spec.CPyPercent.lookup m k).isSome = true) ∧
    (d.key = none → ∃ taken, c.cur.toList = taken ++ c'.cur.toList ∧
      taken.length = (if d.width = .star then 1 else 0) + (if d.prec = some .star then 1 else 0) + 1) := by
  revert h
  fun_cases effect d c
  -- the one branch of `effect` that does not raise: key, width, precision, value, `formatValue`, each successful
  case case7 c1 hk c2 hw pv c3 hp v c4 hg hf _ =>
    intro h
    cases h
    obtain ⟨k1, k2, k3⟩ := keyStep_inv hk
    obtain ⟨w1, t1, w2, w3⟩ := widthStep_inv hw
    obtain ⟨p1, t2, p2, p3⟩ := precStep_inv hp
    obtain ⟨g1, g2⟩ := getNextArg_ok hg
    refine ⟨by rw [g1, p1, w1, k1], fun hc => ?_, k3, fun hn => ⟨t1 ++ t2 ++ [v], ?_, ?_⟩⟩
    · rw [hc, formatValue_percent] at hf
      cases hf
    · rw [← k2 hn, w2, p2, g2, List.append_assoc, List.append_assoc, List.singleton_append]
    · rw [List.length_append, List.length_append, w3, p3, List.length_singleton]
  all_goals intro h; cases h

/-- a specification with conversion character `%` that is not the two characters `%%` is never formatted
    (CPython 3.12: "unsupported format character '%'" after the argument fetch, or an earlier error) -/
theorem effect_percent_fails {d : Directive} (hc : d.conv = '%') (c : Ctx) : ∃ e, effect d c = .error e := by
  cases h : effect d c with
  | error e => exact ⟨e, rfl⟩
  | ok c' => exact absurd hc (effect_inv h).2.1

/-! ## `step`: `effect`, except on `%%` -/

theorem step_cases {d : Directive} {tp : String} (hp : d.plain = true) (hl : typeTable.lookup d.conv = some tp) (c : Ctx) :
    (tp = "None" ∧ d = percentDirective ∧ step d c = .ok c) ∨ (tp ≠ "None" ∧ d.conv ≠ '%' ∧ step d c = effect d c) := by
  by_cases hc : d.conv = '%'
  · have := plain_percent hp hc
    subst this
    exact Or.inl ⟨(type_none_iff hl).2 rfl, rfl, step_percent c⟩
  · have hd : d ≠ percentDirective := fun h => hc (by rw [h]; rfl)
    exact Or.inr ⟨(type_ne_none_iff hl).2 hc, hc, step_of_ne hd c⟩

/-- one specification backwards, whatever the context: what it records by name was found in the mapping, and without a
    mapping it took as many values as it records positionally.  No domain is needed: a `%` other than `%%` raises. -/
theorem step_inv {d : Directive} {tp : String} {parent : Nat} {c c' : Ctx} (hl : typeTable.lookup d.conv = some tp)
    (h : step d c = .ok c') : c'.dict = c.dict ∧
    (∀ k e, (k, e) ∈ mapAdd d tp parent → ∃ m, c.dict = some m ∧ (Spec.CPyPercent.lookup m k).isSome = true) ∧
    (c.dict = none → ∃ taken, c.cur.toList = taken ++ c'.cur.toList ∧ taken.length = (seqAdd d tp parent).length) := by
  by_cases hd : d = percentDirective
  · -- `%%` records nothing and fetches nothing
    subst hd
    rw [step_percent] at h
    cases h
    cases (type_none_iff hl).2 rfl
    exact ⟨rfl, nofun, fun _ => ⟨[], rfl, rfl⟩⟩
  · rw [step_of_ne hd] at h
    obtain ⟨h1, h2, h3, h4⟩ := effect_inv h
    have hn : tp ≠ "None" := (type_ne_none_iff hl).2 h2
    refine ⟨h1, fun k e hke => h3 k (mem_mapAdd hke).1, fun hc => ?_⟩
    -- without a mapping a key raises
    have hk : d.key = none := by
      cases hk : d.key with
      | none => rfl
      | some k =>
        obtain ⟨m, hm, _⟩ := h3 k hk
        rw [hc] at hm
        cases hm
    obtain ⟨taken, a, b⟩ := h4 hk
    exact ⟨taken, a, b.trans (seqAdd_length hk hn).symm⟩

/-- the context can supply what the specifications still to come will record: positionally the values not yet
    fetched (one of the reported type per entry), by name the mapping -/
def Fits (S : List Entry) (M : List (List Char × Entry)) (c : Ctx) : Prop :=
  match c.dict with
  | none => M = [] ∧ okAll S c.cur.toList
  | some m => S = [] ∧ ∀ k e, (k, e) ∈ M → ∃ v, Spec.CPyPercent.lookup m k = some v ∧ okFor e v

theorem fits_of_none {S : List Entry} {M : List (List Char × Entry)} {c : Ctx} (h : c.dict = none) :
    Fits S M c ↔ M = [] ∧ okAll S c.cur.toList := by
  rw [Fits, h]

theorem fits_of_some {S : List Entry} {M : List (List Char × Entry)} {c : Ctx} {m : List (List Char × Val)}
    (h : c.dict = some m) :
    Fits S M c ↔ S = [] ∧ ∀ k e, (k, e) ∈ M → ∃ v, Spec.CPyPercent.lookup m k = some v ∧ okFor e v := by
  rw [Fits, h]

/-- **One specification in lock step**: if the context can supply what this specification and the later ones record,
    `unicode_format_arg` succeeds and the context can supply what the later ones record -/
theorem step_fits {d : Directive} {tp : String} {parent : Nat} {S : List Entry} {M : List (List Char × Entry)} {c : Ctx}
    (hl : typeTable.lookup d.conv = some tp) (hin : d.inRange) (hp : d.plain = true)
    (hc : Fits (seqAdd d tp parent ++ S) (mapAdd d tp parent ++ M) c) : ∃ c', step d c = .ok c' ∧ Fits S M c' := by
  rcases step_cases hp hl c with ⟨rfl, rfl, hs⟩ | ⟨hn, _, hs⟩
  · exact ⟨c, hs, hc⟩
  · rw [hs]
    obtain ⟨dict, cur⟩ := c
    cases dict with
    | none =>
      -- no mapping: nothing is recorded by name, and the values this specification takes stand in front
      obtain ⟨hM, hv⟩ := (fits_of_none rfl).1 hc
      obtain ⟨hmadd, hM⟩ := List.append_eq_nil_iff.1 hM
      obtain ⟨v1, v2, hvs, hv1, hv2⟩ := okAll_append _ _ _ hv
      obtain ⟨c', he, hpos'⟩ := effect_pos (c := ⟨none, cur⟩) ⟨rfl, hvs⟩ hin hl (mapAdd_nil_key hn hmadd) hn hv1
      exact ⟨c', he, (fits_of_none hpos'.dict).2 ⟨hM, hpos'.cur ▸ hv2⟩⟩
    | some m =>
      -- a mapping: nothing is recorded positionally, so the specification has a key, and the mapping has it
      obtain ⟨hS, hm⟩ := (fits_of_some rfl).1 hc
      obtain ⟨hsadd, hS⟩ := List.append_eq_nil_iff.1 hS
      cases hk : d.key with
      | none => simp [seqAdd, hk, hn] at hsadd
      | some k =>
        have hmem : (k, ⟨.conv, tp, parent⟩) ∈ mapAdd d tp parent := by simp [mapAdd, hk, hn]
        obtain ⟨v, hv1, hv2⟩ := hm k _ (List.mem_append_left _ hmem)
        exact ⟨_, effect_dict hin hl hk hn hsadd hv1 hv2,
          (fits_of_some rfl).2 ⟨hS, fun k e hke => hm k e (List.mem_append_right _ hke)⟩⟩

end I18n.PyFmt
