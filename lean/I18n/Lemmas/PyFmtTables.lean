import I18n.Model.PyFmt
import I18n.Spec.CPyPercent
import I18n.Lemmas.Kit.Assoc
/-!
# The dumped `_info` tables: what the proofs use of them, and the model against the probes of the live module

First the facts about `flagChars`, `lengthChars`, `allCvt`, `typeTable` and `SSIZE_MAX` that the other `PyFmt*` modules
rest on, each read off the table (membership spelled out, the type of a conversion character by class, CPython's
`switch (arg->ch)` arm for a class, the limits compared).  Then the pins: `tools/translate/pyfmt2lean.py` runs
`FormatString` on ~1500 single directives (every conversion x flag sets x precision kinds x length) and on the
widths/precisions around `SSIZE_MAX`, and dumps outcome and warnings.  Here the *model* is evaluated on the same
directives by the kernel and compared: a change of the flag/precision/length/range logic in the source changes the
generated table and breaks these lemmas at build time.
-/
namespace I18n.PyFmt
open I18n.Generated.PyFormatTables
open I18n.Spec.CPyPercent (formatValue floatLimit Val INT_MAX PY_SSIZE_T_MAX)

/-- membership in `flagChars`, in the order of `flagLoop`'s tests -/
theorem flagChars_contains (f : Char) :
    flagChars.contains f = (f == '#' || f == '-' || (f == '0' || f == ' ' || f == '+')) := by
  simp only [flagChars, List.contains_cons, List.contains_nil, Bool.or_false]
  ac_rfl

/-- membership in `flagChars`, as `readFlags` (CPython's flag `switch`) tests it -/
theorem flag_contains (c : Char) : flagChars.contains c = decide (c = '-' ∨ c = '+' ∨ c = ' ' ∨ c = '#' ∨ c = '0') := by
  simp [flagChars, or_comm, or_left_comm]

theorem length_contains (c : Char) : lengthChars.contains c = decide (c = 'h' ∨ c = 'l' ∨ c = 'L') := by
  simp [lengthChars, or_comm, or_left_comm]

/-- every conversion character of `_info.all_cvt` has a type (the `assert False  # no coverage` is dead) -/
theorem typeTable_total : ∀ c ∈ allCvt, (typeTable.lookup c).isSome = true := by decide +kernel

theorem type_none_iff {c : Char} {tp : String} (hl : typeTable.lookup c = some tp) : tp = "None" ↔ c = '%' :=
  (by decide : ∀ q ∈ typeTable, q.2 = "None" ↔ q.1 = '%') _ (Kit.lookup_mem hl)

theorem type_ne_none_iff {c : Char} {tp : String} (hl : typeTable.lookup c = some tp) : tp ≠ "None" ↔ c ≠ '%' :=
  not_congr (type_none_iff hl)

/-- the probed types by class of conversion character: CPython's `switch (arg->ch)` has one arm per class -/
theorem typeTable_classes : ∀ q ∈ typeTable, q.2 = "None" ∨ (q.2 = "int" ∧ q.1 ∈ intCvt) ∨ (q.2 = "float" ∧ q.1 ∈ floatCvt) ∨
    (q.2 = "chr" ∧ q.1 = 'c') ∨ ((q.2 = "str" ∨ q.2 = "object") ∧ (q.1 = 's' ∨ q.1 = 'r' ∨ q.1 = 'a')) := by decide +kernel

theorem formatValue_int {c : Char} (hc : c ∈ intCvt) (p : Option Nat) (n : Int) :
    formatValue c p (.int n) =
      match p with
      | some q => if q > INT_MAX - 3 then .error .overflow else .ok ()
      | none => .ok () := by
  have arm : ∀ c ∈ intCvt, ¬ (c = 's' ∨ c = 'r' ∨ c = 'a') ∧ (c = 'd' ∨ c = 'i' ∨ c = 'u' ∨ c = 'o' ∨ c = 'x' ∨ c = 'X') := by
    decide +kernel
  unfold formatValue
  rw [if_neg (arm c hc).1, if_pos (arm c hc).2]
  rfl

theorem formatValue_float {c : Char} (hc : c ∈ floatCvt) (p : Option Nat) (v : Val) :
    formatValue c p v =
      match v with
      | .int n => if n.natAbs ≥ floatLimit then .error .overflow else .ok ()
      | .float => .ok ()
      | _ => .error .badArgType := by
  have arm : ∀ c ∈ floatCvt, ¬ (c = 's' ∨ c = 'r' ∨ c = 'a') ∧ ¬ (c = 'd' ∨ c = 'i' ∨ c = 'u' ∨ c = 'o' ∨ c = 'x' ∨ c = 'X') ∧
      (c = 'e' ∨ c = 'E' ∨ c = 'f' ∨ c = 'F' ∨ c = 'g' ∨ c = 'G') := by
    decide +kernel
  unfold formatValue
  rw [if_neg (arm c hc).1, if_neg (arm c hc).2.1, if_pos (arm c hc).2.2]
  cases v <;> rfl

/-- CPython has no arm for `%` (the two characters `%%` never reach `formatValue`) -/
theorem formatValue_percent (p : Option Nat) (v : Val) : formatValue '%' p v = .error .unsupportedChar := by
  unfold formatValue
  simp

theorem formatValue_unsupported {ch : Char} (h : allCvt.contains ch = false) (p : Option Nat) (v : Val) :
    formatValue ch p v = .error .unsupportedChar := by
  simp only [allCvt, List.contains_cons, List.contains_nil, Bool.or_false, Bool.or_eq_false_iff, beq_eq_false_iff_ne, ne_eq] at h
  unfold formatValue
  simp [h]

theorem ssize_le_py : SSIZE_MAX ≤ PY_SSIZE_T_MAX := by decide

theorem ssize_eq_int : SSIZE_MAX = INT_MAX := rfl

/-! ## the probes -/

/-- the outcome column of the generated tables: `1 + ERR.index(class)` of `pyfmt2lean.py`'s `row`, 99 for any other
    exception, 0 for acceptance -/
def errCode : PErr → Nat
  | .Error => 1 | .ForbiddenArgumentKey => 2 | .ArgumentIndexingMixture => 3 | .ArgumentTypeMismatch => 4
  | .WidthRangeError => 5 | .PrecisionRangeError => 6 | .crash _ => 99

/-- `WARN.index(class)` of the same function -/
def warnCode : Warn → Nat
  | .RedundantFlag => 0 | .RedundantPrecision => 1 | .RedundantLength => 2 | .ObsoleteConversion => 3

/-- outcome and warnings of the model, in the encoding of the generated tables (occurs in `Props.C12.probes_pin`) -/
def probe (s : List Char) : Nat × List Nat :=
  match parse s with
  | .ok r => (0, r.warnings.map warnCode)
  | .error e => (errCode e, [])

theorem warnTable_pin : warnTable.all (fun row => probe row.1 == row.2) = true := by decide +kernel

theorem rangeTable_pin : rangeTable.all (fun row => probe row.1 == row.2) = true := by decide +kernel

end I18n.PyFmt
