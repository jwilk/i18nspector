import I18n.Lemmas.PluralNoCrash
/-!
Where the declaration that the window compares with comes from.  `locally_correct_plural_forms` of `check_plurals` is
`registryDecls`: the strict reference readings of the language's registry strings that have the declared nplurals
(`localCorrect_eq_ite`); `compared` is what the `if correct_plural_forms is not None:` block makes of it.

The hypotheses about the registry, strongest first: `FromRegistry` (the language is unknown or one of the shipped registry;
`PluralRegistry`) gives `RegistryClean` (every string of the language parses strictly and is total on the window), the
condition on the tool's own data under which C07's clauses about the report are stated; that gives `RegistryParses` (what
"no exception" needs) and, through `compared_total`, `LcTotal` of the compared declaration, which the lemmas about the window take.
-/
namespace I18n.CheckPlurals
open I18n I18n.Py I18n.Plural I18n.PluralParse I18n.Spec.PluralForms

/-- the registry's declarations (of the language) with nplurals `n`: `locally_correct_plural_forms` -/
def registryDecls (cs : List (List Char)) (n : Nat) : List (Nat × Expr) :=
  cs.filterMap fun c => match strictDeclOf c with
    | some (k, e) => if k = n then some (k, e) else none
    | none => none

theorem mem_registryDecls {cs : List (List Char)} {n : Nat} {x : Nat × Expr} :
    x ∈ registryDecls cs n ↔ x.1 = n ∧ ∃ c ∈ cs, strictDeclOf c = some x := by
  simp only [registryDecls, List.mem_filterMap]
  constructor
  · rintro ⟨c, hc, hx⟩
    cases hs : strictDeclOf c with
    | none => rw [hs] at hx; cases hx
    | some y =>
      obtain ⟨k, e⟩ := y
      rw [hs] at hx
      dsimp only at hx
      by_cases hk : k = n
      · rw [if_pos hk] at hx
        cases hx
        exact ⟨hk, c, hc, hs⟩
      · rw [if_neg hk] at hx
        cases hx
  · rintro ⟨rfl, c, hc, hs⟩
    exact ⟨c, hc, by rw [hs]; simp⟩

theorem localCorrect_eq_ite (n : Nat) (cs : List (List Char)) :
    localCorrect n cs =
      if cs.all (fun c => (strictDeclOf c).isSome) then .ok (registryDecls cs n) else .error .ValueError := by
  induction cs with
  | nil => rfl
  | cons c cs ih =>
    rw [localCorrect, parsePluralFormsStrict_eq, ih, List.all_cons]
    simp only [registryDecls, List.filterMap_cons]
    cases strictDeclOf c with
    | none => rfl
    | some x =>
      obtain ⟨k, e⟩ := x
      cases cs.all (fun c => (strictDeclOf c).isSome)
      · rfl
      · by_cases hk : k = n <;> simp [hk]

theorem localCorrect_ok (n : Nat) (cs : List (List Char)) (r : List (Nat × Expr)) (h : localCorrect n cs = .ok r) :
    r = registryDecls cs n := by
  rw [localCorrect_eq_ite] at h
  split at h
  · cases h; rfl
  · cases h

theorem strictDeclOf_of_strict {c : List Char} {n : Nat} {e : Expr} {lj rj : List Char}
    (h : parsePluralFormsStrict c = .ok n e lj rj) : strictDeclOf c = some (n, e) := by
  rw [parsePluralFormsStrict_eq] at h
  cases hsd : strictDeclOf c with
  | none => rw [hsd] at h; cases h
  | some x =>
    obtain ⟨a, b⟩ := x
    rw [hsd] at h
    simp only [PfResult.ok.injEq] at h
    rw [h.1, h.2.1]

/-- every declaration of the registry (for this language) parses strictly and is total on the window — a data-integrity
    condition of the tool, discharged for the shipped registry by evaluation -/
def RegistryClean (inp : Input) : Prop :=
  ∀ cs, inp.correct = some cs → ∀ c ∈ cs, ∃ n e, parsePluralFormsStrict c = .ok n e [] [] ∧
    ∀ i, i < codomainLimit → ∃ v, evalAt 32 i e = .ok v

theorem RegistryClean.parses {inp : Input} (h : RegistryClean inp) : RegistryParses inp := by
  intro cs hcs n
  rw [localCorrect_eq_ite, if_pos]
  · exact ⟨_, rfl⟩
  · rw [List.all_eq_true]
    intro c hc
    obtain ⟨k, e, h1, _⟩ := h cs hcs c hc
    rw [strictDeclOf_of_strict h1]
    rfl

theorem lcsOf_eq {inp : Input} {n : Nat} {lcs : Option (List (Nat × Expr))} (h : lcsOf inp n = .ok lcs) :
    lcs = inp.correct.map (registryDecls · n) := by
  unfold lcsOf at h
  cases hc : inp.correct with
  | none => rw [hc] at h; cases h; rfl
  | some cs =>
    rw [hc] at h
    dsimp only at h
    cases hl : localCorrect n cs with
    | error ex => rw [hl] at h; cases h
    | ok r => rw [hl] at h; cases h; rw [localCorrect_ok n cs r hl]; rfl

theorem pickLc_of_mem (ut : TagCall) (lcs : List (Nat × Expr)) (x : Nat × Expr) (hx : x ∈ lcs) :
    (pickLc ut (some lcs)).1 = [] ∧ ((pickLc ut (some lcs)).2 = none ∨ (pickLc ut (some lcs)).2 = some x) := by
  match lcs, hx with
  | [y], hx =>
    simp only [List.mem_singleton] at hx
    subst hx
    exact ⟨rfl, Or.inr rfl⟩
  | _ :: _ :: _, _ => exact ⟨rfl, Or.inl rfl⟩

theorem mem_pickLc (ut : TagCall) (lcs : Option (List (Nat × Expr))) (t : TagCall) (h : t ∈ (pickLc ut lcs).1) : t = ut := by
  match lcs, h with
  | some [], h => simpa [pickLc] using h
  | none, h => simp [pickLc] at h
  | some [_], h => simp [pickLc] at h
  | some (_ :: _ :: _), h => simp [pickLc] at h

/-- what the declared nplurals selects from the registry: the `unusual` tag when no declaration has it, the declaration to
    compare with when exactly one has -/
def compared (inp : Input) (pf : List Char) (n : Nat) : List TagCall × Option (Nat × Expr) :=
  pickLc (unusualTag (hasPlurals inp) pf (hintOf inp)) (inp.correct.map (registryDecls · n))

theorem compared_fst_ne_nil {inp : Input} {pf : List Char} {n : Nat} :
    (compared inp pf n).1 ≠ [] ↔ ∃ cs, inp.correct = some cs ∧ registryDecls cs n = [] := by
  unfold compared
  cases inp.correct with
  | none => simp [pickLc]
  | some cs =>
    simp only [Option.map_some, Option.some.injEq, exists_eq_left']
    rcases registryDecls cs n with _ | ⟨x, _ | ⟨y, l⟩⟩ <;> simp [pickLc]

theorem compared_snd_eq_some {inp : Input} {pf : List Char} {n : Nat} {x : Nat × Expr} :
    (compared inp pf n).2 = some x ↔ ∃ cs, inp.correct = some cs ∧ registryDecls cs n = [x] := by
  unfold compared
  cases inp.correct with
  | none => simp [pickLc]
  | some cs =>
    simp only [Option.map_some, Option.some.injEq, exists_eq_left']
    rcases registryDecls cs n with _ | ⟨y, _ | ⟨z, l⟩⟩ <;> simp [pickLc]

theorem compared_total {inp : Input} (hreg : RegistryClean inp) (pf : List Char) (n : Nat) :
    LcTotal (compared inp pf n).2 (List.range codomainLimit) := by
  intro ln le hlc i hi
  obtain ⟨cs, hc, hr⟩ := compared_snd_eq_some.1 hlc
  obtain ⟨_, c, hcm, hs⟩ := mem_registryDecls.1 (hr ▸ List.mem_singleton_self (ln, le))
  obtain ⟨k, e', hs', htot⟩ := hreg cs hc c hcm
  rw [strictDeclOf_of_strict hs'] at hs
  cases hs
  exact htot i (List.mem_range.1 hi)

theorem compared_registered {inp : Input} {n : Nat} {e : Expr} (pf : List Char)
    (hreg : inp.correct = none ∨ ∃ cs c lj' rj', inp.correct = some cs ∧ c ∈ cs ∧ parsePluralFormsStrict c = .ok n e lj' rj') :
    (compared inp pf n).1 = [] ∧ ((compared inp pf n).2 = none ∨ (compared inp pf n).2 = some (n, e)) := by
  rcases hreg with hnone | ⟨cs, c, lj', rj', hcs, hc, hstrict⟩
  · simp [compared, hnone, pickLc]
  · rw [compared, hcs]
    exact pickLc_of_mem _ _ (n, e) (mem_registryDecls.2 ⟨rfl, c, hc, strictDeclOf_of_strict hstrict⟩)

end I18n.CheckPlurals
