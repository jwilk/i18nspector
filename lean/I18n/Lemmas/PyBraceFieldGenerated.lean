import I18n.Model.PyBraceG
import I18n.Lemmas.PyKitLemmas
import I18n.Lemmas.PyBraceOwn
import I18n.Lemmas.PyBraceSpec
/-!
# `Field.__init__` / `FormatString.add_argument` regenerated from `lib/strformat/pybrace.py` equal the hand-written model

The model's `fieldInit` is first rewritten as a chain of named stages in the order of the source (`fieldInit_staged`: the registration,
`mFormat`, `mConv`; inside `mFormat` the stages of `specCheck_staged`); `field_init_eq` peels the regenerated text stage by stage with
`bind_congr`, and with `bind_congr'` where a stage needs what the previous one returned (`tpType_nonempty`).
The object under construction is stored in the map before its attribute `types` is assigned, so the regenerated `Field.__init__` takes
the value `self.types` will have as a parameter; `fieldInit_types` shows that it returns that value.
-/
-- Some simp sets name lemmas for spellings of the source other than the present one (the other orientation of a test, another
-- way to write an update), so that the proofs survive such edits; on the present text the linter would report them.
set_option linter.unusedSimpArgs false
namespace I18n.PyBrace.Gen
open I18n I18n.PyBrace I18n.PyBrace.Py I18n.Generated I18n.PyKit

/-- the exceptions of `add_argument` as the regenerated code raises them -/
def liftAddErr : Except AddErr State → Except PErr State
  | .ok s => .ok s
  | .error .indexError => .error (.crash .IndexError)
  | .error .overflowError => .error (.crash .Overflow)
  | .error (.crash e) => .error (.crash e)

theorem add_argument_eq (cfg : Cfg) (st : State) (name : Option (List Char)) (a : Arg) :
    PyBraceField.add_argument cfg st name a = liftAddErr (addArgument cfg st name a) := by
  obtain ⟨next, map⟩ := st
  unfold PyBraceField.add_argument addArgument
  cases name with
  | none =>
    cases next with
    | none => rfl
    | some n =>
      simp only [apply_ite liftAddErr, decide_eq_true_eq]
      rfl
  | some nm =>
    simp only [apply_ite liftAddErr]
    refine ite_congr rfl (fun _ => ?_) (fun _ => rfl)
    unfold Py.pyInt
    cases PyBrace.pyInt cfg nm with
    | error e => rfl
    | ok n =>
      simp only [bind_ok, apply_ite liftAddErr, decide_eq_true_eq]
      refine ite_congr rfl (fun _ => rfl) (fun _ => ?_)
      cases next with
      | none => rfl
      | some k => cases k <;> rfl

/-- the callers' two `except` clauses around `add_argument` = the model's `liftAdd` -/
theorem try_lift (cfg : Cfg) (st : State) (name : Option (List Char)) (a : Arg) (s : List Char) (b : Bool) :
    PyKit.tryExcept (PyKit.tryExcept (PyBraceField.add_argument cfg st name a) isIndexError (.error (.own .ArgumentNumberingMixture (.text s))))
      isOverflowError (.error (.own .ArgumentRangeError (.text s))) = liftAdd s b (addArgument cfg st name a) := by
  rw [add_argument_eq]
  cases h : addArgument cfg st name a with
  | ok st' => rfl
  | error e =>
    cases e with
    | indexError => rfl
    | overflowError => rfl
    | crash x =>
      have := addArgument_crash h
      subst this
      rfl

theorem getLast_braces (nm : List Char) : ('{' :: (nm ++ ['}'])).getLast? = some '}' := by
  rw [← List.cons_append, List.getLast?_append]
  rfl

theorem strip_braces (nm : List Char) : (('{' :: (nm ++ ['}'])).drop 1).dropLast = nm := by
  simp

/-- an error class of the typing rules is raised with the field's text as argument -/
def liftCls {α : Type} (s : List Char) : Except ErrClass α → Except PErr α
  | .ok x => .ok x
  | .error c => .error (.own c (.text s))

theorem liftCls_eq_ok {α : Type} {s : List Char} {x : Except ErrClass α} {y : α} (h : liftCls s x = .ok y) : x = .ok y := by
  cases x with
  | ok x => exact congrArg _ (Except.ok.inj h)
  | error c => cases h

/-- the errors of `specTypes` as the regenerated code raises them: a class of the typing rules with the field's text, or a crash -/
def liftSpecErr {α : Type} (s : List Char) : Except (ErrClass ⊕ Py.Exc) α → Except PErr α
  | .ok x => .ok x
  | .error (.inl c) => .error (.own c (.text s))
  | .error (.inr e) => .error (.crash e)

/-- the local `align` after `if (align is None) and (zero is not None): align = '='` -/
def mAlignVal (f : Spec) : Option Char := if f.align.isNone && f.zero then some '=' else f.align

/-- `tp &= {'int', 'float'}; if not tp: raise FormatError(s)` -/
def numericOnly (tp : TySet) : Except ErrClass TySet :=
  if (tp.inter TySet.numeric).isEmpty then .error .FormatError else .ok (tp.inter TySet.numeric)

theorem numericOnly_nonempty {tp tp' : TySet} (h : numericOnly tp = .ok tp') : tp'.isEmpty = false := by
  unfold numericOnly at h
  by_cases he : (tp.inter TySet.numeric).isEmpty = true
  · rw [if_pos he] at h; cases h
  · rw [if_neg he] at h; cases h; exact Bool.eq_false_iff.2 he

/-- the model tests for emptiness whether or not it has intersected, the source only inside `if alt or sign or comma:`; on a non-empty
    `tp` the two agree -/
theorem tpFlags_eq {f : Spec} {tp : TySet} (hne : tp.isEmpty = false) :
    tpFlags f tp = if f.alt || f.sign.isSome || f.comma then numericOnly tp else .ok tp := by
  unfold tpFlags
  by_cases hb : (f.alt || f.sign.isSome || f.comma) = true
  · simp only [hb, if_true, numericOnly]
  · simp only [hb, if_false, hne, Bool.false_eq_true]

theorem tpAlign_eq {f : Spec} {tp : TySet} (hne : tp.isEmpty = false) :
    tpAlign f tp = if decide (mAlignVal f = some '=') then numericOnly tp else .ok tp := by
  unfold tpAlign mAlignVal
  by_cases hb : (if (f.align.isNone && f.zero) = true then some '=' else f.align) = some '='
  · simp only [hb, beq_self_eq_true, decide_true, if_true, numericOnly]
  · simp only [hb, beq_eq_false_iff_ne.2 hb, decide_false, if_false, hne, Bool.false_eq_true]

theorem tpFlags_nonempty {f : Spec} {tp tp' : TySet} (hne : tp.isEmpty = false) (h : tpFlags f tp = .ok tp') : tp'.isEmpty = false := by
  rw [tpFlags_eq hne] at h
  by_cases hb : (f.alt || f.sign.isSome || f.comma) = true
  · rw [if_pos hb] at h; exact numericOnly_nonempty h
  · rw [if_neg hb] at h; cases h; exact hne

/-- `numericOnly` in the spelling of the regenerated text: `{'int', 'float'}` as the literal `⟨false, true, true⟩`, `if not tp` as `!(!…)` -/
theorem liftCls_numericOnly (s : List Char) (tp : TySet) :
    liftCls s (numericOnly tp) =
      if (!(!(tp.inter ⟨false, true, true⟩).isEmpty)) = true then .error (.own .FormatError (.text s)) else .ok (tp.inter ⟨false, true, true⟩) := by
  rw [numericOnly, apply_ite (liftCls s), Bool.not_not]
  rfl

/-- `n = int(ds); if n > SSIZE_MAX: raise FormatError(s)` in the code and in the model -/
theorem int_step {α : Type} (cfg : Cfg) (s ds : List Char) (v : α) :
    Except.bind (Py.pyInt cfg ds) (fun n => if decide (n > cfg.ssizeMax) = true then .error (.own .FormatError (.text s)) else .ok v) =
      liftSpecErr s (match PyBrace.pyInt cfg ds with
        | .error e => .error (.inr e)
        | .ok n => if n > cfg.ssizeMax then .error (.inl .FormatError) else .ok v) := by
  unfold Py.pyInt
  cases PyBrace.pyInt cfg ds with
  | error e => rfl
  | ok n =>
    simp only [bind_ok, apply_ite (liftSpecErr s), decide_eq_true_eq]
    rfl

/-- the typing rules, one `bind` per statement of the code -/
theorem specCheck_staged {β : Type} (cfg : Cfg) (s : List Char) (f : Spec) (k : TySet → Except PErr β) :
    Except.bind (liftSpecErr s (specCheck cfg f)) k =
      Except.bind (liftCls s (tpType f)) (fun tp => Except.bind (liftCls s (tpFlags f tp)) (fun tp =>
        Except.bind (liftCls s (tpAlign f tp)) (fun tp => Except.bind (liftSpecErr s (checkWidth cfg f)) (fun _ =>
          Except.bind (liftSpecErr s (tpPrec cfg f tp)) k)))) := by
  unfold specCheck
  cases tpType f with
  | error c => rfl
  | ok tp =>
    simp only [liftCls, bind_ok]
    cases tpFlags f tp with
    | error c => rfl
    | ok tp1 =>
      simp only [liftCls, bind_ok]
      cases tpAlign f tp1 with
      | error c => rfl
      | ok tp2 =>
        simp only [liftCls, bind_ok]
        cases checkWidth cfg f with
        | error e => cases e <;> rfl
        | ok u => rfl

theorem conv_test (c : List Char) :
    ["!s".toList, "!r".toList, "!a".toList].contains c = (c == "!s".toList || c == "!r".toList || c == "!a".toList) := by
  simp only [List.contains_cons, List.contains_nil, Bool.or_false, Bool.or_assoc]

/-- `if conversion is None: pass elif conversion in {'!s', '!r', '!a'}: if 'str' not in tp: raise FormatTypeMismatch(s) else: raise ConversionError(s)` -/
def mConv (s : List Char) (conv : Option (List Char)) (tp : TySet) : Except PErr Unit :=
  match conv with
  | none => .ok ()
  | some c =>
    if ["!s".toList, "!r".toList, "!a".toList].contains c then
      (if !tp.str then .error (.own .FormatTypeMismatch (.text s)) else .ok ())
    else .error (.own .ConversionError (.text s))

/-- `if fmt is not None:` — the nested fields of a format with `{`, else the format specification: the parent's state and `tp` -/
def mFormat (cfg : Cfg) (f : RawField) (st1 : State) : Except PErr (State × TySet) :=
  match f.format with
  | none => .ok (st1, TySet.all)
  | some fmt =>
    if hasNested fmt then Except.bind (nestedAdds cfg f.text f.nested st1) (fun st2 => .ok (st2, TySet.all))
    else Except.bind (liftSpecErr f.text (specTypes cfg fmt)) (fun tp => .ok (st1, tp))

theorem fieldInit_staged (cfg : Cfg) (st : State) (f : RawField) :
    (fieldInit cfg st f).map (fun r => (r.2, r.1)) =
      Except.bind (liftAdd f.text false (addArgument cfg st f.name { nested := false, types := ownTypes cfg f })) (fun st1 =>
        Except.bind (mFormat cfg f st1) (fun r =>
          Except.bind (mConv f.text f.conversion r.2) (fun _ => .ok (r.2, r.1)))) := by
  unfold fieldInit
  cases liftAdd f.text false (addArgument cfg st f.name { nested := false, types := ownTypes cfg f }) with
  | error e => rfl
  | ok st1 =>
    simp only [bind_ok, mFormat]
    have tail : ∀ (st2 : State) (tp : TySet),
        Except.map (fun r => (r.2, r.1))
          (match f.conversion with
           | none => (Except.ok (st2, tp) : Except PErr (State × TySet))
           | some c =>
             if (c == "!s".toList || c == "!r".toList || c == "!a".toList) = true then
               if tp.str = true then Except.ok (st2, tp) else Except.error (PErr.own ErrClass.FormatTypeMismatch (ErrArg.text f.text))
             else Except.error (PErr.own ErrClass.ConversionError (ErrArg.text f.text))) =
        Except.bind (mConv f.text f.conversion tp) (fun _ => .ok (tp, st2)) := by
      intro st2 tp
      unfold mConv
      cases f.conversion with
      | none => rfl
      | some c =>
        simp only [conv_test]
        cases (c == "!s".toList || c == "!r".toList || c == "!a".toList) <;> cases tp.str <;> rfl
    cases f.format with
    | none => exact tail st1 TySet.all
    | some fmt =>
      simp only []
      by_cases hn : hasNested fmt = true
      · simp only [hn, if_true]
        cases nestedAdds cfg f.text f.nested st1 with
        | error e => rfl
        | ok st2 => exact tail st2 TySet.all
      · simp only [hn, Bool.false_eq_true, if_false]
        cases specTypes cfg fmt with
        | error e => cases e <;> rfl
        | ok tp => exact tail st1 tp

/-- `Field(parent, match)` as regenerated — called with the value `self.types` will have — = the model's `fieldInit` -/
theorem field_init_eq (cfg : Cfg) (st : State) (f : RawField) (hfmt : ∀ fm, f.format = some fm → ∃ t, fm = ':' :: t) :
    PyBraceField.Field.__init__ cfg (ownTypes cfg f) st f = (fieldInit cfg st f).map (fun r => (r.2, r.1)) := by
  rw [fieldInit_staged]
  unfold PyBraceField.Field.__init__
  refine bind_congr (try_lift _ _ _ _ _ false) (fun st1 => bind_congr ?fmt (fun r => bind_congr ?conv (fun _ => rfl)))
  case conv => rfl
  case fmt =>
    unfold mFormat
    cases hf : f.format with
    | none => rfl
    | some fmt =>
      obtain ⟨t, rfl⟩ := hfmt fmt hf
      refine ite_congr rfl (fun _ => ?nested) (fun _ => ?spec)
      case nested =>
        refine bind_congr (forEach_map _ _ (nestedAdds cfg f.text) (fun _ => rfl) (fun nm rest s => ?_) f.nested st1) (fun _ => rfl)
        -- one round of the loop: the two assertions hold by the shape of `findallSimple`
        simp only [try_lift _ _ _ _ _ false, List.cons_append, strFirst, strLast, getLast_braces, strip_braces, bind_ok, decide_true, if_true, nestedAdds,
          orNone, nestedArg, liftAdd_flag f.text true false]
        generalize liftAdd f.text false _ = x
        cases x <;> rfl
      case spec =>
        rw [strFirst, bind_ok, if_pos (decide_eq_true rfl), List.drop, List.drop, specTypes]
        cases scanSpec t with
        | none => rfl
        | some spec =>
          rw [specCheck_staged]
          refine bind_congr' ?tp (fun tp htp => ?_)
          case tp =>
            unfold tpType
            cases spec.type with
            | none => rfl
            | some c =>
              -- `eq_comm`: the source may write `'s' == ftype`
              simp only [apply_ite (liftCls f.text), eq_comm (a := 's')]
              rfl
          have hne : tp.isEmpty = false := tpType_nonempty (liftCls_eq_ok htp)
          refine bind_congr' ?flags (fun tp2 htp2 => ?_)
          case flags => rw [tpFlags_eq hne, apply_ite (liftCls f.text), liftCls_numericOnly]; rfl
          have hne2 : tp2.isEmpty = false := tpFlags_nonempty hne (liftCls_eq_ok htp2)
          refine (bind_of_ok (x := mAlignVal spec) ?alignval).trans ?_
          case alignval =>
            unfold mAlignVal
            cases spec.align <;> cases spec.zero <;> rfl
          refine bind_congr ?align (fun tp3 => ?_)
          case align =>
            -- `eq_comm`: the source may write `'=' == align`
            simp only [tpAlign_eq hne2, apply_ite (liftCls f.text), liftCls_numericOnly, eq_comm (a := some '=')]
            rfl
          refine bind_congr ?width (fun _ => bind_congr ?prec (fun _ => rfl))
          case width =>
            unfold checkWidth
            cases spec.width with
            | none => rfl
            | some w => exact int_step cfg f.text w ()
          case prec =>
            unfold tpPrec
            cases spec.precision with
            | none => rfl
            | some p =>
              -- `bind_ok`: the source may compute the comparison in a helper (`if _too_large(precision):`)
              simp only [bind_ok, apply_ite (liftSpecErr f.text), int_step, Bool.not_not]
              rfl

theorem mFormat_types {cfg : Cfg} {f : RawField} {st1 : State} {r : State × TySet} (h : mFormat cfg f st1 = .ok r) :
    r.2 = ownTypes cfg f := by
  revert h
  unfold mFormat ownTypes
  cases f.format with
  | none =>
    rintro ⟨⟩
    rfl
  | some fmt =>
    dsimp only
    cases hasNested fmt with
    | true =>
      intro h
      obtain ⟨st2, -, ⟨⟩⟩ := bind_eq_ok h
      rfl
    | false =>
      intro h
      obtain ⟨tp, htp, ⟨⟩⟩ := bind_eq_ok h
      cases hs : specTypes cfg fmt with
      | error e =>
        rw [hs] at htp
        cases e <;> cases htp
      | ok tp' =>
        rw [hs] at htp
        cases htp
        rfl

theorem fieldInit_types {cfg : Cfg} {st st' : State} {f : RawField} {tp : TySet} (h : fieldInit cfg st f = .ok (st', tp)) :
    tp = ownTypes cfg f := by
  have hs := fieldInit_staged cfg st f
  rw [h] at hs
  obtain ⟨st1, -, hs⟩ := bind_eq_ok hs.symm
  obtain ⟨r, hr, hs⟩ := bind_eq_ok hs
  obtain ⟨u, -, hs⟩ := bind_eq_ok hs
  cases hs
  exact mFormat_types hr

/-- the regenerated constructor inside the hybrid parser = the model's `fieldInit` -/
theorem fieldInitG_eq (cfg : Cfg) (st : State) (f : RawField) (hfmt : ∀ fm, f.format = some fm → ∃ t, fm = ':' :: t) :
    G.fieldInitG cfg st f = fieldInit cfg st f := by
  unfold G.fieldInitG
  rw [field_init_eq cfg st f hfmt]
  cases h : fieldInit cfg st f with
  | error e => rfl
  | ok r =>
    obtain ⟨st', tp⟩ := r
    have := fieldInit_types h
    simp [Except.map, this]

end I18n.PyBrace.Gen
