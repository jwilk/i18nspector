import I18n.Lemmas.ParseSound
/-! Completeness of the recursive-descent model: every derivation of the stratified C grammar is found
    by the parser, with the fuel `parseToks` actually passes (`9 * length + 9`), by one induction over the
    derivation (`CompleteAt`, `complete_all`).  With soundness the parser of every level returns exactly the trees of
    that level (`P_iff`; `parseToks_iff` is level 0 before the end of input); the parser being a function, the grammar
    is unambiguous (`D_functional`). -/
namespace I18n.PluralParse
open I18n I18n.Spec

/-- binding level of a token that can continue an expression: `?` 0, binary operators 1–6 -/
def tokLevel : Tok → Option Nat
  | .qm => some 0
  | t => (binInfo t).map (·.1)

/-- `rest` does not start with a token that a level-`k` parse would still absorb -/
def Stop (k : Nat) (rest : List Tok) : Prop :=
  ∀ t r, rest = t :: r → ∀ l, tokLevel t = some l → l < k

theorem tokLevel_of_binInfo {t : Tok} {k : Nat} {mk} (h : binInfo t = some (k, mk)) : tokLevel t = some k := by
  unfold tokLevel
  split
  · cases h
  · rw [h]
    rfl

theorem Stop.mono {k k' : Nat} {rest : List Tok} (h : Stop k rest) (hk : k ≤ k') : Stop k' rest :=
  fun t r hr l hl => Nat.lt_of_lt_of_le (h t r hr l hl) hk

theorem Stop.nil (k : Nat) : Stop k [] := fun _ _ h => by cases h

theorem D_length_pos {k ts e} (d : D k ts e) : 1 ≤ ts.length := by
  induction d <;> simp_all <;> omega

def P (f k : Nat) (ts : List Tok) : PResult := if k = 0 then parseCond f ts else parseLevel f k ts

theorem P_zero (f : Nat) (ts : List Tok) : P f 0 ts = parseCond f ts := rfl

theorem P_pos {k : Nat} (hk : 1 ≤ k) (f : Nat) (ts : List Tok) : P f k ts = parseLevel f k ts := if_neg (by omega)

theorem parseLevel_seven (f : Nat) (ts : List Tok) : parseLevel (f + 1) 7 ts = parseUnary f ts := by
  simp [parseLevel]

theorem parseLoop_stop {k : Nat} {rest : List Tok} (hs : Stop k rest) (a : Expr) (f : Nat) (hf : 1 ≤ f) :
    parseLoop f k a rest = some (a, rest) := by
  obtain ⟨f, rfl⟩ : ∃ f', f = f' + 1 := ⟨f - 1, by omega⟩
  simp only [parseLoop]
  split
  · rfl
  · rename_i t r
    split
    · rename_i k' mk hbi
      have := hs t r rfl k' (tokLevel_of_binInfo hbi)
      have : ¬ k' = k := by omega
      simp [this]
    · rfl

/-- what the induction over `D k ts e` proves at every level:
    * (A) `ts` followed by any `rest` that does not start with an operator the level would still absorb
      (`Stop k rest`) is parsed to `(e, rest)` with every fuel `≥ 9 * |ts| - k`;
    * (B) for the left-associative levels 1–6, the continuation-generalised loop statement: whatever
      `parseLoop k e rest` returns once `e` has been accumulated, `parseLevel k (ts ++ rest)` returns too —
      this is what lets the left-recursive rule `Lk := Lk op L(k+1)` meet the iterative loop.

    The fuel: every function entered costs one unit.  A token parsed at level `k` is reached through the levels
    `k … 7` and `parseUnary`, `9 - k` entries; every further token costs at most a whole descent (`parseCond`, seven
    levels, `parseUnary`: 9).  In (B) `f0` is what the loop needs behind `ts`; `parseLevel k` hands its loop the fuel
    it hands level `k + 1`, so `f0` on top of the `9 * |ts| - (k + 1)` of (A) is enough. -/
def CompleteAt (k : Nat) (ts : List Tok) (e : Expr) : Prop :=
  (∀ rest, Stop k rest → ∀ f, 9 * ts.length - k ≤ f → P f k (ts ++ rest) = some (e, rest)) ∧
  (1 ≤ k → k ≤ 6 → ∀ rest r f0, Stop (k + 1) rest → 1 ≤ f0 → (∀ f, f0 ≤ f → parseLoop f k e rest = some r) →
      ∀ f, f0 + 9 * ts.length - k - 1 ≤ f → parseLevel f k (ts ++ rest) = some r)

theorem completeA_of_B {k ts e} (hk : 1 ≤ k)
    (hB : ∀ rest r f0, Stop (k + 1) rest → 1 ≤ f0 → (∀ f, f0 ≤ f → parseLoop f k e rest = some r) →
      ∀ f, f0 + 9 * ts.length - k - 1 ≤ f → parseLevel f k (ts ++ rest) = some r) :
    ∀ rest, Stop k rest → ∀ f, 9 * ts.length - k ≤ f → P f k (ts ++ rest) = some (e, rest) := by
  intro rest hs f hf
  rw [P_pos hk]
  exact hB rest (e, rest) 1 (hs.mono (by omega)) (Nat.le_refl 1) (fun f hf => parseLoop_stop hs e f hf) f (by omega)

theorem complete_all {k ts e} (d : D k ts e) : CompleteAt k ts e := by
  induction d with
  | var | int n =>
    refine ⟨?_, by omega⟩
    intro rest _ f hf
    obtain ⟨f, rfl⟩ : ∃ f', f = f' + 2 := ⟨f - 2, by simp at hf; omega⟩
    rw [P_pos (by decide), parseLevel_seven]
    simp [parseUnary]
  | @paren ts e d ih =>
    refine ⟨?_, by omega⟩
    intro rest _ f hf
    obtain ⟨f, rfl⟩ : ∃ f', f = f' + 2 := ⟨f - 2, by simp at hf; omega⟩
    have hstop : Stop 0 (Tok.rpar :: rest) := by
      intro t r h l hl; cases h; simp [tokLevel, binInfo] at hl
    have := ih.1 (Tok.rpar :: rest) hstop f (by simp at hf ⊢; omega)
    rw [P_zero] at this
    rw [P_pos (by decide), parseLevel_seven]
    simp [parseUnary, this]
  | @not ts e d ih =>
    refine ⟨?_, by omega⟩
    intro rest hs f hf
    obtain ⟨f, rfl⟩ : ∃ f', f = f' + 2 := ⟨f - 2, by simp at hf; omega⟩
    have := ih.1 rest hs (f + 1) (by simp at hf ⊢; omega)
    rw [P_pos (by omega), parseLevel_seven] at this
    rw [P_pos (by decide), parseLevel_seven]
    simp [parseUnary, this]
  | @bin k l r a b t mk hk hk6 hbi dl dr ihl ihr =>
    have hB : ∀ rest res f0, Stop (k + 1) rest → 1 ≤ f0 → (∀ f, f0 ≤ f → parseLoop f k (mk a b) rest = some res) →
        ∀ f, f0 + 9 * (l ++ t :: r).length - k - 1 ≤ f → parseLevel f k ((l ++ t :: r) ++ rest) = some res := by
      intro rest res f0 hs hf0 hloop f hf
      have hl1 := D_length_pos dl
      have hr1 := D_length_pos dr
      -- the loop, entered with `a` in front of `t :: r ++ rest`, takes one more turn
      have hstep : ∀ g, f0 + 9 * r.length - k ≤ g → parseLoop g k a (t :: (r ++ rest)) = some res := by
        intro g hg
        obtain ⟨g, rfl⟩ : ∃ g', g = g' + 1 := ⟨g - 1, by omega⟩
        have hr := ihr.1 rest hs g (by omega)
        rw [P_pos (by omega)] at hr
        simp only [parseLoop, hbi, if_true, hr]
        exact hloop g (by omega)
      have hs' : Stop (k + 1) (t :: (r ++ rest)) := by
        intro t' r' h l' hl'
        cases h
        rw [tokLevel_of_binInfo hbi] at hl'
        cases hl'; omega
      have := ihl.2 hk hk6 (t :: (r ++ rest)) res (f0 + 9 * r.length - k) hs' (by omega) hstep f
        (by simp at hf ⊢; omega)
      simpa using this
    exact ⟨completeA_of_B hk hB, fun _ _ => hB⟩
  | @up k ts e hk hk6 d ih =>
    have hB : ∀ rest res f0, Stop (k + 1) rest → 1 ≤ f0 → (∀ f, f0 ≤ f → parseLoop f k e rest = some res) →
        ∀ f, f0 + 9 * ts.length - k - 1 ≤ f → parseLevel f k (ts ++ rest) = some res := by
      intro rest res f0 hs hf0 hloop f hf
      have hl1 := D_length_pos d
      obtain ⟨f, rfl⟩ : ∃ f', f = f' + 1 := ⟨f - 1, by omega⟩
      have h1 := ih.1 rest hs f (by omega)
      rw [P_pos (by omega)] at h1
      have hk7 : ¬ k ≥ 7 := by omega
      simp only [parseLevel, hk7, if_false, h1]
      exact hloop f (by omega)
    exact ⟨completeA_of_B hk hB, fun _ _ => hB⟩
  | @cond c a b ec ea eb dc da db ihc iha ihb =>
    refine ⟨?_, by omega⟩
    intro rest hs f hf
    have hc1 := D_length_pos dc
    have ha1 := D_length_pos da
    have hb1 := D_length_pos db
    obtain ⟨f, rfl⟩ : ∃ f', f = f' + 1 := ⟨f - 1, by simp at hf; omega⟩
    have hsq : Stop 1 (Tok.qm :: (a ++ Tok.colon :: (b ++ rest))) := by
      intro t r h l hl; cases h; simp [tokLevel] at hl; omega
    have h1 := ihc.1 _ hsq f (by simp at hf ⊢; omega)
    have hsc : Stop 0 (Tok.colon :: (b ++ rest)) := by
      intro t r h l hl; cases h; simp [tokLevel, binInfo] at hl
    have h2 := iha.1 _ hsc f (by simp at hf ⊢; omega)
    have h3 := ihb.1 rest hs f (by simp at hf ⊢; omega)
    rw [P_zero] at h2 h3
    rw [P_pos (by omega)] at h1
    rw [P_zero]
    simp [parseCond, h1, h2, h3]
  | @up0 ts e d ih =>
    refine ⟨?_, by omega⟩
    intro rest hs f hf
    have hl1 := D_length_pos d
    obtain ⟨f, rfl⟩ : ∃ f', f = f' + 1 := ⟨f - 1, by simp at hf; omega⟩
    have h1 := ih.1 rest (hs.mono (by omega)) f (by simp at hf ⊢; omega)
    rw [P_pos (by omega)] at h1
    simp only [P_zero, parseCond, h1]
    rcases rest with _ | ⟨t, r⟩
    · rfl
    · have hq : t ≠ Tok.qm := by
        intro h; subst h
        have := hs _ _ rfl 0 rfl
        omega
      cases t <;> first | rfl | exact absurd rfl hq

theorem P_iff {k : Nat} (hk : k ≤ 7) {ts rest : List Tok} (hs : Stop k rest) {f : Nat} (hf : 9 * ts.length - k ≤ f)
    (e : Expr) : P f k (ts ++ rest) = some (e, rest) ↔ D k ts e := by
  constructor
  · intro h
    have hsound : ∃ pre, ts ++ rest = pre ++ rest ∧ D k pre e := by
      rcases Nat.eq_zero_or_pos k with rfl | hk1
      · exact parseCond_sound h
      · rw [P_pos hk1] at h
        exact parseLevel_sound hk1 hk h
    obtain ⟨pre, hpre, d⟩ := hsound
    rwa [List.append_cancel_right hpre]
  · intro d
    exact (complete_all d).1 rest hs f hf

theorem parseToks_iff (ts : List Tok) (e : Expr) : parseToks ts = some e ↔ D 0 ts e := by
  have hfuel : 9 * ts.length - 0 ≤ fuelFor ts := by unfold fuelFor; omega
  rw [← P_iff (Nat.zero_le 7) (Stop.nil 0) hfuel e, P_zero, List.append_nil]
  -- `parseToks` keeps the tree of `parseCond` when no token is left over
  unfold parseToks
  rcases parseCond (fuelFor ts) ts with _ | ⟨e', _ | ⟨t, r⟩⟩ <;> simp

theorem D_functional {k ts e e'} (d : D k ts e) (d' : D k ts e') : e = e' := by
  have h := (complete_all d).1 [] (Stop.nil k) _ (Nat.le_refl _)
  have h' := (complete_all d').1 [] (Stop.nil k) _ (Nat.le_refl _)
  rw [h] at h'
  cases h'
  rfl

end I18n.PluralParse
