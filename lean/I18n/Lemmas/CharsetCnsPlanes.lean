import I18n.Lemmas.CharsetCnsCheck
/-! C20: the kernel's pass over every unit of every plane table of CNS 11643 (`checkPlanes`), and that the two tables iconv has
    for plane 1 are one -/
namespace I18n.Charset.Cns
open I18n.Generated.CharsetCns

theorem planes_all : checkPlanes planesAccepted = true := by decide +kernel

/-- iconv gives the two-byte units `r c` and the four-byte units `8E A1 r c` the very same table -/
theorem plane1_forms_agree : plane1two = plane1 := by decide +kernel

end I18n.Charset.Cns
