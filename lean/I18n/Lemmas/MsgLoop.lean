import I18n.Lemmas.MsgFlagsLoop
/-
`check_messages` against the rule set: the per-message body, with the two accumulators replaced by what they stand for
(`msgid_counter[k]` = number of earlier messages with key `k`; `found_unusual_characters` = the unexplained unusual characters
in translations of earlier messages), and the loop over the file; of the context neither reads `is_binary` or whether strings
may be hidden, which only the `empty-file` decision does (`checkMessage_blind`, `messageLoop_blind`, `emptyFileCheck_text`).
-/
namespace I18n.Msg
open I18n.Tags (Str lit Extra)
open I18n.Spec.MessageRules

theorem hasMsgstrPlural_eq (e : Entry) : e.hasMsgstrPlural = someForm e := by
  simp only [Entry.hasMsgstrPlural, someForm]
  congr 1; funext s; cases s <;> simp

theorem not_all_nonempty (e : Entry) : (!e.forms.all (!·.isEmpty)) = e.forms.any (· = []) := by
  rw [List.not_all_eq_any_not]
  congr 1; funext s; cases s <;> rfl

theorem isMessage_eq (e : Entry) : isMessage e = (!e.obsolete && !isHeaderEntry e) := by
  cases h : e.msgctxt <;> simp [isMessage, isHeaderEntry, h]

theorem entryTags_of_not_isMessage {e : Entry} (h : isMessage e = false) (env : Env) (ctx : Ctx) (pre : List Entry) :
    entryTags env ctx pre e = [] := by
  simp [entryTags, h]

theorem markerCheck_eq (env : Env) (e : Entry) (strings : List Str) :
    markerCheck env e strings = markerTag env.flag.db e (strings.findSome? env.searchMarker) := by
  induction strings with
  | nil => simp [markerCheck, markerTag]
  | cons s rest ih =>
    cases h : env.searchMarker s <;> simp [markerCheck, markerTag, h, ih]

theorem newlineCheck_eq (db : Tags.UnicodeDB) (e : Entry) (t : MTag) (bit : Str → Bool) (strings : List Str) :
    newlineCheck db e t bit strings = rule (strings.any fun s => bit s != bit e.msgid) (tagR db e tplPlain t []) := rfl

theorem ucNames_isSome (charName : Nat → Option Str) : ∀ (l : List Nat), (∀ c ∈ l, (charName c).isSome) →
    (ucNames charName l).isSome
  | [], _ => rfl
  | [c], h => by simpa [ucNames] using h c
  | c :: d :: rest, h => by
    obtain ⟨nm, hc⟩ := Option.isSome_iff_exists.mp (h c List.mem_cons_self)
    obtain ⟨tail, hr⟩ := Option.isSome_iff_exists.mp
      (ucNames_isSome charName (d :: rest) fun x hx => h x (List.mem_cons_of_mem c hx))
    simp [ucNames, hc, hr]

theorem ucNames_reported {env : Env} (hs : Sane env) (pre : List Entry) (e : Entry) (done : List Str) (s : Str) :
    ∃ names, ucNames env.charName (reported env pre e done s) = some names := by
  have hnamed : ∀ c ∈ reported env pre e done s, (env.charName c).isSome := fun c hc => by
    simp only [reported, unexplained, mem_toSorted, List.mem_filter] at hc
    exact hs.names s c hc.1.1
  exact Option.isSome_iff_exists.mp (ucNames_isSome env.charName _ hnamed)

theorem unusualLoop_eq {env : Env} (hs : Sane env) (pre : List Entry) (e : Entry) :
    ∀ (rest done : List Str) (found : List Nat),
      (∀ c, c ∈ found ↔ c ∈ seenBefore env pre ∨ c ∈ done.flatMap (unexplained env e)) →
      (unusualLoop env e (explained env e) found rest).2 = unusualTags env pre e done rest ∧
      (∀ c, c ∈ (unusualLoop env e (explained env e) found rest).1 ↔
        c ∈ seenBefore env pre ∨ c ∈ (done ++ rest).flatMap (unexplained env e))
  | [], done, found, h => by simpa [unusualLoop, unusualTags] using h
  | s :: rest, done, found, h => by
    have hb (c : Nat) : found.contains c = ((seenBefore env pre).contains c || (done.flatMap (unexplained env e)).contains c) := by
      rw [Bool.eq_iff_iff]
      simpa only [List.contains_eq_mem, decide_eq_true_eq, Bool.or_eq_true] using h c
    have huc : toSorted natLt ((env.findUnusual s).filter fun c => !(explained env e).contains c && !found.contains c)
        = reported env pre e done s := by
      simp only [reported, unexplained, List.filter_filter, hb, Bool.not_or]
      congr 1
      exact List.filter_congr fun c _ => Bool.and_comm ..
    have hmem (c : Nat) : c ∈ reported env pre e done s ↔ c ∈ unexplained env e s ∧ c ∉ found := by
      simp only [reported, mem_toSorted, List.mem_filter, Bool.and_eq_true, Bool.not_eq_true', List.contains_eq_mem,
        decide_eq_false_iff_not, h c, not_or]
    -- `found ++ reported …` is `found` itself when nothing is reported
    have ih := unusualLoop_eq hs pre e rest (done ++ [s]) (found ++ reported env pre e done s) (by
      intro c
      rw [List.mem_append, hmem c, List.flatMap_append, List.mem_append, ← or_assoc, ← h c]
      by_cases hf : c ∈ found <;> simp [hf])
    simp only [unusualLoop, huc, unusualTags]
    by_cases hemp : (reported env pre e done s).isEmpty = true
    · rw [List.isEmpty_iff.mp hemp, List.append_nil] at ih
      simp only [hemp, ↓reduceIte, List.nil_append]
      simpa using ih
    · obtain ⟨names, hn⟩ := ucNames_reported hs pre e done s
      simp only [hemp, Bool.false_eq_true, ↓reduceIte, hn, unusualTag]
      exact ⟨by simp [ih.1], by simpa using ih.2⟩

theorem checkMessageFormats_eq {env : Env} (hs : Sane env) (ctx : Ctx) (e : Entry) :
    checkMessageFormats env ctx e (info env.flag e) = dispatch env e ++ xmlTags env ctx e := by
  have hx := hs.xml
  simp only [checkMessageFormats, dispatch, xmlTags, checkXmlFormat, info, rule]
  congr 1
  by_cases hg : env.xmlGate e.comment = true
  case neg => simp [hg]
  by_cases he : ctx.hasEncoding = true
  case neg => simp [hg, he]
  simp only [hg, he, Bool.and_self, Bool.not_true, Bool.false_eq_true, if_true, if_false]
  cases h1 : env.xml e.msgid with
  | other => exact absurd h1 (hx _)
  | syntaxError msg => simp
  | ok =>
    by_cases hf : fuzzy e = true
    case pos => simp [hf]
    by_cases hm : e.hasMsgstr = true
    case neg => simp [hf, hm]
    simp only [hf, hm, Bool.not_true, Bool.false_eq_true, if_true, if_false, Bool.not_false, Bool.and_self]
    cases h2 : env.xml (e.msgstr.getD []) with
    | other => exact absurd h2 (hx _)
    | syntaxError msg => rfl
    | ok => rfl

structure MInv (env : Env) (ctx : Ctx) (pre : List Entry) (st : MSt) : Prop where
  counter : ∀ k, (assocGet k st.counter).getD 0 = (pre.filter fun m => isMessage m && key m = k).length
  empty : st.counter = [] ↔ pre.any isMessage = false
  found : ctx.hasEncoding = true → ∀ c, c ∈ st.found ↔ c ∈ seenBefore env pre

theorem seenBefore_snoc (env : Env) (pre : List Entry) (e : Entry) :
    seenBefore env (pre ++ [e]) =
      seenBefore env pre ++ if isMessage e then (translations e).flatMap (unexplained env e) else [] := by
  cases h : isMessage e <;> simp [seenBefore, List.filter_append, h]

theorem translations_eq (e : Entry) : translationStrings e = translations e := by
  simp [translationStrings, translations, hasMsgstrPlural_eq]

theorem considered_eq (e : Entry) : consideredStrings e (fuzzy e) = considered e := by
  cases h : fuzzy e <;> simp [consideredStrings, considered, hasMsgstrPlural_eq, h]

theorem checkMessage_eq {env : Env} (hs : Sane env) (ctx : Ctx) {pre : List Entry} {st : MSt} (hi : MInv env ctx pre st)
    (e : Entry) (hm : isMessage e = true) :
    (checkMessage env ctx st e).2 = entryTags env ctx pre e ∧ MInv env ctx (pre ++ [e]) (checkMessage env ctx st e).1 := by
  obtain ⟨hc, hemp, hf⟩ := hi
  have hcnt : (assocGet (e.msgid, e.msgctxt) st.counter).getD 0 = earlierSame pre e := hc (e.msgid, e.msgctxt)
  have hfuz : (info env.flag e).fuzzy = fuzzy e := rfl
  simp only [checkMessage, checkMessageFlags_eq, checkMessageFormats_eq hs, hfuz, translations_eq, considered_eq,
    newlineCheck_eq, markerCheck_eq, not_all_nonempty, hasMsgstrPlural_eq]
  have hex : env.findUnusual e.msgid ++ env.findUnusual (e.msgidPlural.getD []) = explained env e := rfl
  have hu (henc : ctx.hasEncoding = true) :=
    unusualLoop_eq hs pre e (translations e) [] st.found (by simpa using hf henc)
  refine ⟨?tags, ?counter, ?empty, ?found⟩
  case tags =>
    have hu2 : (if ctx.hasEncoding = true then unusualLoop env e (explained env e) st.found (translations e)
          else (st.found, [])).2 = if ctx.hasEncoding = true then unusualTags env pre e [] (translations e) else [] := by
      by_cases henc : ctx.hasEncoding = true
      · rw [if_pos henc, if_pos henc]; exact (hu henc).1
      · rw [if_neg henc, if_neg henc]
    simp only [entryTags, hm, hcnt, hasTranslation, firstMarker, rule, hex, hu2, List.append_assoc,
      Nat.reduceEqDiff, decide_eq_true_eq, Bool.not_true, Bool.false_eq_true, if_false]
    -- the two sides now differ in how they test `fuzzy e` only
    cases fuzzy e <;> rfl
  case counter =>
    intro k
    by_cases hk : (e.msgid, e.msgctxt) = k
    · subst hk
      simp [assocGet_assocSet_self, hcnt, earlierSame, List.filter_append, hm, key]
    · have hk' : key e ≠ k := hk
      simp [assocGet_assocSet_ne (Ne.symm hk), hc k, List.filter_append, hm, hk']
  case empty => simp [assocSet_ne_nil, hm]
  case found =>
    intro henc c
    rw [seenBefore_snoc, hm, if_pos rfl]
    simp only [henc, if_true, hex]
    simpa using (hu henc).2 c

theorem MInv_skip {env : Env} {ctx : Ctx} {pre : List Entry} {st : MSt} (hi : MInv env ctx pre st) (e : Entry)
    (hm : isMessage e = false) : MInv env ctx (pre ++ [e]) st := by
  obtain ⟨hc, hemp, hf⟩ := hi
  exact
    { counter := fun k => by simp [hc k, List.filter_append, hm]
      empty := by simp [hemp, hm]
      found := fun h c => by rw [seenBefore_snoc, hm, if_neg Bool.false_ne_true, List.append_nil]; exact hf h c }

theorem messageLoop_eq {env : Env} (hs : Sane env) (ctx : Ctx) :
    ∀ (rest pre : List Entry) (st : MSt), MInv env ctx pre st →
      (messageLoop env ctx st rest).2 = entriesFrom env ctx pre rest ∧
      MInv env ctx (pre ++ rest) (messageLoop env ctx st rest).1 := by
  intro rest pre st hi
  fun_induction messageLoop env ctx st rest generalizing pre with
  | case1 st => simpa [entriesFrom] using hi
  -- an obsolete entry, then a header entry: skipped on both sides
  | case2 st e rest ho r ih =>
    have hm : isMessage e = false := by simp [isMessage_eq, ho]
    obtain ⟨h1, h2⟩ := ih (pre ++ [e]) (MInv_skip hi e hm)
    exact ⟨by simp [entriesFrom, entryTags_of_not_isMessage hm, h1, r], by simpa using h2⟩
  | case3 st e rest ho hh r ih =>
    have hm : isMessage e = false := by simp [isMessage_eq, hh]
    obtain ⟨h1, h2⟩ := ih (pre ++ [e]) (MInv_skip hi e hm)
    exact ⟨by simp [entriesFrom, entryTags_of_not_isMessage hm, h1, r], by simpa using h2⟩
  | case4 st e rest ho hh st' out heq r ih =>
    have hm : isMessage e = true := by simp [isMessage_eq, ho, hh]
    obtain ⟨hout, hinv⟩ := checkMessage_eq hs ctx hi e hm
    rw [heq] at hout hinv
    obtain ⟨h1, h2⟩ := ih (pre ++ [e]) hinv
    exact ⟨by simp [entriesFrom, ← hout, h1, r], by simpa using h2⟩

theorem trace_eq {env : Env} (hs : Sane env) (ctx : Ctx) (file : List Entry) :
    trace env ctx file = messageRules env ctx file := by
  have h0 : MInv env ctx [] ({} : MSt) := ⟨by simp, by simp, by simp [seenBefore]⟩
  have h := messageLoop_eq hs ctx file [] {} h0
  simp only [List.nil_append] at h
  obtain ⟨h1, -, hemp, -⟩ := h
  simp only [trace, messageRules, h1, emptyFileCheck, fileTags, rule]
  congr 1
  simp only [List.length_eq_zero_iff, hemp]
  cases file.any isMessage <;> cases ctx.isBinary <;> cases ctx.possibleHiddenStrings <;> rfl

theorem checkMessage_blind (env : Env) (tpl b h b' h' enc : Bool) (st : MSt) (e : Entry) :
    checkMessage env ⟨tpl, b, h, enc⟩ st e = checkMessage env ⟨tpl, b', h', enc⟩ st e := rfl

theorem messageLoop_cons (env : Env) (mc : Ctx) (st : MSt) (e : Entry) (rest : List Entry) :
    messageLoop env mc st (e :: rest) =
      (let s := if e.obsolete || isHeaderEntry e then (st, []) else checkMessage env mc st e
       ((messageLoop env mc s.1 rest).1, s.2 :: (messageLoop env mc s.1 rest).2)) := by
  rw [messageLoop]
  cases e.obsolete
  · cases isHeaderEntry e
    · rfl
    · rfl
  · rfl

theorem messageLoop_blind (env : Env) (tpl b h b' h' enc : Bool) (st : MSt) (file : List Entry) :
    messageLoop env ⟨tpl, b, h, enc⟩ st file = messageLoop env ⟨tpl, b', h', enc⟩ st file := by
  induction file generalizing st with
  | nil => rfl
  | cons e rest ih =>
    rw [messageLoop_cons, messageLoop_cons, checkMessage_blind env tpl b h b' h' enc]
    simp only [ih]

theorem emptyFileCheck_text (tpl h enc : Bool) (st : MSt) :
    emptyFileCheck ⟨tpl, false, h, enc⟩ st = emptyFileCheck ⟨tpl, true, false, enc⟩ st := by
  simp [emptyFileCheck]

end I18n.Msg
