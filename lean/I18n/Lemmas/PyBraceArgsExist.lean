import I18n.Lemmas.PyBraceFormat
/-
python-brace: every accepted string has arguments of the reported positions, names and types (`Matches` is never
vacuous): the keys of `argument_map` are distinct, every key has at least one entry, the entries of a key carry one
non-empty type set.
-/
namespace I18n.PyBrace
open I18n.Spec.StrFormat

/-- a value of one of the types of a non-empty set (`.int 65`: any code point would do; `chrOK` asks that of an `int`
    because the field may be formatted with `c`) -/
def valOf (tp : TySet) : Val := if tp.int then .int 65 else if tp.float then .float else .str

theorem valOf_hasType {tp : TySet} (h : tp.isEmpty = false) : hasType tp (valOf tp) = true := by
  obtain ⟨s, i, f⟩ := tp
  cases s <;> cases i <;> cases f <;> simp_all [valOf, hasType, TySet.isEmpty]

theorem valOf_chr (tp : TySet) : chrOK (valOf tp) := by
  simp only [valOf]
  split
  · simp [chrOK]
  · split <;> trivial

/-- the type set of the first entry of a key (`SigOK`: all entries of the key carry that set) -/
def headTypes (as : List Arg) : TySet :=
  match as with
  | a :: _ => a.types
  | [] => TySet.all

def maxIdx (m : List (Key × List Arg)) : Nat :=
  m.foldr (fun p acc => match p.1 with | .idx n => max n acc | .name _ => acc) 0

/-- canonical arguments for a reported signature -/
def argsOf (m : List (Key × List Arg)) : Args :=
  { pos := (List.range (maxIdx m + 1)).map fun n =>
      match m.find? (fun p => p.1 == Key.idx n) with
      | some p => valOf (headTypes p.2)
      | none => .str,
    kw := m.filterMap fun p =>
      match p.1 with
      | .name nm => some (nm, valOf (headTypes p.2))
      | .idx _ => none }

theorem le_maxIdx {m : List (Key × List Arg)} {n : Nat} {as : List Arg} (h : (Key.idx n, as) ∈ m) : n ≤ maxIdx m := by
  induction m with
  | nil => cases h
  | cons p m ih =>
    rcases List.mem_cons.mp h with rfl | h
    · exact Nat.le_max_left _ _
    · have := ih h
      simp only [maxIdx, List.foldr_cons]
      cases p.1 with
      | idx k => exact Nat.le_trans this (Nat.le_max_right _ _)
      | name s => exact this

theorem find_key {m : List (Key × List Arg)} (hnd : (m.map (·.1)).Nodup) {k : Key} {as : List Arg} (h : (k, as) ∈ m) :
    m.find? (fun p => p.1 == k) = some (k, as) := by
  induction m with
  | nil => simp at h
  | cons p m ih =>
    simp only [List.map_cons, List.nodup_cons] at hnd
    simp only [List.mem_cons] at h
    rcases h with rfl | h
    · simp
    · have hne : (p.1 == k) = false := by
        have : p.1 ≠ k := by
          rintro rfl
          exact hnd.1 (List.mem_map.mpr ⟨(p.1, as), h, rfl⟩)
        simpa using this
      simp only [List.find?_cons, hne]
      exact ih hnd.2 h

theorem argsOf_pos {m : List (Key × List Arg)} (hnd : (m.map (·.1)).Nodup) {n : Nat} {as : List Arg}
    (h : (Key.idx n, as) ∈ m) : (argsOf m).pos[n]? = some (valOf (headTypes as)) := by
  have hr : (List.range (maxIdx m + 1))[n]? = some n := by
    rw [List.getElem?_range]
    exact Nat.lt_succ_of_le (le_maxIdx h)
  simp only [argsOf, List.getElem?_map, hr, Option.map_some, find_key hnd h]

theorem argsOf_kw {m : List (Key × List Arg)} (hnd : (m.map (·.1)).Nodup) {nm : List Char} {as : List Arg}
    (h : (Key.name nm, as) ∈ m) : (argsOf m).kw.find? (fun q => q.1 == nm) = some (nm, valOf (headTypes as)) := by
  have hp : (fun p : Key × List Arg => Option.any (fun q : List Char × Val => q.1 == nm)
      (match p.1 with | .name nm => some (nm, valOf (headTypes p.2)) | .idx _ => none)) = fun p => p.1 == Key.name nm := by
    funext ⟨k, _⟩
    cases k with
    | idx n => rfl
    | name s => exact Bool.eq_iff_iff.mpr (by simp)
  rw [argsOf, List.find?_filterMap, hp, find_key hnd h]
  rfl

/-- what every `add_argument` keeps of `_argument_map`: distinct keys, no key without an entry -/
def MapOK (m : List (Key × List Arg)) : Prop :=
  (m.map (·.1)).Nodup ∧ ∀ k as, (k, as) ∈ m → as ≠ []

/-- `MapOK`, and after `unify` the entries of a key carry one non-empty type set (`Lemmas/FmtCheckBrace` takes this apart
    by its components) -/
def SigOK (m : List (Key × List Arg)) : Prop :=
  (m.map (·.1)).Nodup ∧ ∀ k as, (k, as) ∈ m → as ≠ [] ∧ ∃ c : TySet, c.isEmpty = false ∧ ∀ x ∈ as, x.types = c

theorem matches_argsOf {r : Result} (h : SigOK r.argMap) : Matches r (argsOf r.argMap) := by
  intro k as hk
  obtain ⟨hne, c, hc, hall⟩ := h.2 k as hk
  have hhead : headTypes as = c := by
    cases as with
    | nil => exact absurd rfl hne
    | cons a as' => exact hall a (by simp)
  refine ⟨valOf c, ?_, fun x hx => by rw [hall x hx]; exact valOf_hasType hc, valOf_chr c⟩
  cases k with
  | idx n => simp only [lookupArg, argsOf_pos h.1 hk, hhead]
  | name nm => simp only [lookupArg, argsOf_kw h.1 hk, hhead, Option.map_some]

theorem mapAdd_keys (m : List (Key × List Arg)) (k : Key) (x : Arg) :
    (mapAdd m k x).map (·.1) = if k ∈ m.map (·.1) then m.map (·.1) else m.map (·.1) ++ [k] := by
  fun_induction mapAdd m k x with
  | case1 => simp
  | case2 => simp
  | case3 k' _ _ hk ih =>
    have hk' : ¬ k = k' := fun h => hk h.symm
    simp only [List.map_cons, ih, List.mem_cons, hk', false_or]
    split <;> simp

theorem forall_mem_mapAdd {Q : Key × List Arg → Prop} {m : List (Key × List Arg)} {k : Key} {x : Arg}
    (hnew : Q (k, [x])) (happ : ∀ as, Q (k, as) → Q (k, as ++ [x])) (h : ∀ p ∈ m, Q p) : ∀ p ∈ mapAdd m k x, Q p := by
  fun_induction mapAdd m k x with
  | case1 => exact List.forall_mem_singleton.2 hnew
  | case2 as rest => exact List.forall_mem_cons.2 ⟨happ as (h _ List.mem_cons_self), fun p hp => h p (List.mem_cons_of_mem _ hp)⟩
  | case3 k' as rest _ ih => exact List.forall_mem_cons.2 ⟨h _ List.mem_cons_self, ih fun p hp => h p (List.mem_cons_of_mem _ hp)⟩

theorem mapAdd_ok (m : List (Key × List Arg)) (k : Key) (x : Arg) (h : MapOK m) : MapOK (mapAdd m k x) := by
  constructor
  · rw [mapAdd_keys]
    split
    · exact h.1
    · rename_i hk
      have hdisj : ∀ a ∈ m.map (·.1), ∀ b ∈ [k], a ≠ b := by
        intro a ha b hb hab
        cases List.mem_singleton.1 hb
        exact hk (hab ▸ ha)
      exact List.nodup_append.mpr ⟨h.1, by simp, hdisj⟩
  · exact fun k' as' hm => forall_mem_mapAdd (Q := fun p => p.2 ≠ []) (List.cons_ne_nil _ _) (fun _ _ => by simp)
      (fun p hp => h.2 p.1 p.2 hp) (k', as') hm

theorem unify_sigOK (s : List Char) : ∀ (m0 m : List (Key × List Arg)), unify s m0 = .ok m → MapOK m0 → SigOK m := by
  intro m0 m h hm
  obtain ⟨rfl, hne⟩ := unify_ok s m0 m h
  refine ⟨by rw [List.map_map]; exact hm.1, fun k as hk => ?_⟩
  obtain ⟨⟨k0, as0⟩, hmem, heq⟩ := List.mem_map.mp hk
  cases heq
  refine ⟨by simpa using hm.2 _ _ hmem, commonTypes as0, hne _ hmem, fun x hx => ?_⟩
  obtain ⟨y, _, rfl⟩ := List.mem_map.mp hx
  rfl

theorem parseWith_sigOK {cfg : Cfg} {s : List Char} {r : Result} (h : parseWith cfg s = .ok r) : SigOK r.argMap := by
  obtain ⟨stF, fs, hr, hu⟩ := parseWith_run h
  exact unify_sigOK s _ _ hu (run_inv mapAdd_ok hr ⟨List.nodup_nil, nofun⟩)

/-- `matches_exists`, for any constants -/
theorem parseWith_matches_exists {cfg : Cfg} (s : List Char) (r : Result) (h : parseWith cfg s = .ok r) : ∃ a, Matches r a :=
  ⟨_, matches_argsOf (parseWith_sigOK h)⟩

end I18n.PyBrace
