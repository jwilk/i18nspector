import I18n.Model.CheckPlurals
import I18n.Generated.PluralForms
import I18n.Lemmas.Kit.List
import I18n.Lemmas.Kit.Basic
/-!
The header scanner of the model (`CheckPlurals.matchHere`, `CheckPlurals.search`) computes exactly what Python's
backtracking engine computes for the LIVE pattern of `gettext._parse_plural_forms` (its `re._parser` tree, dumped
by tools/translate/pluralforms2lean.py), under the reference semantics `Spec.PluralFormsRe` — including the
leftmost-start rule of `search`, greedy repetition and the two capture groups.
-/
namespace I18n.CheckPlurals
open I18n I18n.Spec.PluralFormsRe I18n.PluralParse

def litSeq (cs : List Char) (t : Re) : Re := cs.foldr (fun c t => Re.seq (.lit c.toNat) t) t

def digit19 : Cls := ⟨false, [.range 49 57]⟩
def digit09 : Cls := ⟨false, [.range 48 57]⟩
def blankCls : Cls := ⟨false, [.chr 9, .chr 32]⟩
def notSemi : Cls := ⟨true, [.chr 59]⟩
/-- `([1-9][0-9]*)` -/
def grp1 : Re := .group 1 (.seq (.set digit19) (.rep digit09 0 none))
/-- `([^;]+);?` -/
def tailRe : Re := .seq (.group 2 (.rep notSemi 1 none)) (.opt (.lit 59))
/-- `plural=([^;]+);?` -/
def pluralRe : Re := litSeq "plural=".toList tailRe
/-- `[ \t]*plural=([^;]+);?` -/
def blanksRe : Re := .seq (.rep blankCls 0 none) pluralRe
/-- `;[ \t]*plural=([^;]+);?` -/
def afterN : Re := .seq (.lit 59) blanksRe
/-- `nplurals=([1-9][0-9]*);[ \t]*plural=([^;]+);?` -/
def headerRe : Re := litSeq "nplurals=".toList (.seq grp1 afterN)

theorem headerRe_eq : Generated.PluralForms.headerRe = headerRe := by decide

theorem digit09_has (c : Char) : digit09.has c = isDigit c := by
  simp only [digit09, Cls.has, ClsItem.has, isDigit, List.any_cons, List.any_nil, Bool.or_false, Bool.bne_false, Kit.Char.le_iff_toNat]
  rfl

theorem digit19_has (c : Char) : digit19.has c = true ↔ '1' ≤ c ∧ c ≤ '9' := by
  simp only [digit19, Cls.has, ClsItem.has, List.any_cons, List.any_nil, Bool.or_false, Bool.bne_false, Kit.Char.le_iff_toNat,
    Bool.and_eq_true, decide_eq_true_eq]
  exact Iff.rfl

theorem digit19_digit09 (c : Char) (h : digit19.has c = true) : isDigit c = true := by
  rw [digit19_has] at h
  simp only [isDigit, Bool.and_eq_true, decide_eq_true_eq, Kit.Char.le_iff_toNat] at *
  have : ('0' : Char).toNat = 48 := rfl
  have : ('1' : Char).toNat = 49 := rfl
  omega

def isBlank (c : Char) : Bool := c == ' ' || c == '\t'

theorem blankCls_has (c : Char) : blankCls.has c = isBlank c := by
  simp only [blankCls, Cls.has, ClsItem.has, isBlank, List.any_cons, List.any_nil, Bool.or_false, Bool.bne_false]
  have h1 : (c.toNat == 9) = (c == '\t') := Kit.Char.toNat_beq c '\t'
  have h2 : (c.toNat == 32) = (c == ' ') := Kit.Char.toNat_beq c ' '
  rw [h1, h2, Bool.or_comm]

theorem notSemi_has (c : Char) : notSemi.has c = !(c == ';') := by
  simp only [notSemi, Cls.has, ClsItem.has, List.any_cons, List.any_nil, Bool.or_false]
  have : (c.toNat == 59) = (c == ';') := Kit.Char.toNat_beq c ';'
  rw [this]; cases (c == ';') <;> rfl

theorem spanLen_eq (p : Char → Bool) (s : List Char) : spanLen p s = (s.takeWhile p).length := by
  induction s with
  | nil => rfl
  | cons c r ih => by_cases h : p c <;> simp [spanLen, h, ih]

theorem spanLen_le (p : Char → Bool) (s : List Char) : spanLen p s ≤ s.length := by
  rw [spanLen_eq]
  exact (List.takeWhile_sublist p).length_le

theorem spanLen_congr {p q : Char → Bool} (h : ∀ c, p c = q c) (s : List Char) : spanLen p s = spanLen q s := by
  rw [funext h]

theorem spanDigits_eq (s : List Char) : spanDigits s = (s.take (spanLen isDigit s), s.drop (spanLen isDigit s)) := by
  induction s with
  | nil => rfl
  | cons c r ih =>
    simp only [spanDigits, spanLen]
    split
    · simp [ih]
    · simp

theorem dropBlanks_eq (s : List Char) : dropBlanks s = s.drop (spanLen isBlank s) := by
  induction s with
  | nil => rfl
  | cons c r ih =>
    simp only [dropBlanks, spanLen, isBlank]
    by_cases h : c = ' ' ∨ c = '\t'
    · have : (c == ' ' || c == '\t') = true := by simpa using h
      simp [h, this, ih]
    · have : (c == ' ' || c == '\t') = false := by simpa using h
      simp [h, this]

theorem spanNotSemi_eq (s : List Char) :
    spanNotSemi s = (s.take (spanLen (fun c => !(c == ';')) s), s.drop (spanLen (fun c => !(c == ';')) s)) := by
  induction s with
  | nil => rfl
  | cons c r ih =>
    simp only [spanNotSemi, spanLen]
    by_cases h : c = ';'
    · simp [h]
    · simp [h, ih]

theorem drop_lt_spanLen (p : Char → Bool) (s : List Char) (j : Nat) (hj : j < spanLen p s) :
    ∃ c r, s.drop j = c :: r ∧ p c = true := by
  rw [spanLen_eq] at hj
  have hs : s.drop j = (s.takeWhile p).drop j ++ s.dropWhile p := by
    conv => lhs; rw [← List.takeWhile_append_dropWhile (p := p) (l := s)]
    exact List.drop_append_of_le_length (Nat.le_of_lt hj)
  cases hd : (s.takeWhile p).drop j with
  | nil => rw [List.drop_eq_nil_iff] at hd; omega
  | cons c r =>
    exact ⟨c, r ++ s.dropWhile p, by rw [hs, hd]; rfl,
      Kit.takeWhile_all p s c (List.mem_of_mem_drop (hd ▸ List.mem_cons_self))⟩

theorem runs_split : ∀ (r : Re) (s : List Char) (x : Run), x ∈ runs r s → s = x.1 ++ x.2.1 := by
  intro r
  induction r with
  | eps => intro s x h; simp only [runs, List.mem_singleton] at h; subst h; rfl
  | lit c =>
    intro s x h
    cases s with
    | nil => simp [runs] at h
    | cons a t =>
      simp only [runs] at h
      split at h
      · simp only [List.mem_singleton] at h; subst h; rfl
      · cases h
  | set k =>
    intro s x h
    cases s with
    | nil => simp [runs] at h
    | cons a t =>
      simp only [runs] at h
      split at h
      · simp only [List.mem_singleton] at h; subst h; rfl
      · cases h
  | rep k mn mx =>
    intro s x h
    simp only [runs, List.mem_map] at h
    obtain ⟨d, _, rfl⟩ := h
    simp
  | opt a ih =>
    intro s x h
    simp only [runs, List.mem_append, List.mem_singleton] at h
    rcases h with h | rfl
    · exact ih s x h
    · rfl
  | seq a b iha ihb =>
    intro s x h
    simp only [runs, List.mem_flatMap, List.mem_map] at h
    obtain ⟨⟨m1, r1, c1⟩, h1, ⟨m2, r2, c2⟩, h2, rfl⟩ := h
    have e1 := iha s _ h1
    have e2 := ihb r1 _ h2
    simp only at e1 e2 ⊢
    rw [e1, e2, List.append_assoc]
  | group n a ih =>
    intro s x h
    simp only [runs, List.mem_map] at h
    obtain ⟨⟨m, r, c⟩, h1, rfl⟩ := h
    exact ih s (m, r, c) h1

theorem matchAt_eq_none {r : Re} {s : List Char} : matchAt r s = none ↔ runs r s = [] := by
  simp [matchAt, List.head?_eq_none_iff]

/-! `pattern.search` is a scan for the leftmost suffix on which an anchored test succeeds; the reference engine's `searchFrom`
    (test: `matchAt r`) and the model's `CheckPlurals.search` (test: `matchHere`) are both this scan. -/

def firstAt {α : Type} (f : List Char → Option α) (skipped s : List Char) : Option (List Char × α) :=
  match f s with
  | some a => some (skipped.reverse, a)
  | none =>
    match s with
    | [] => none
    | c :: t => firstAt f (c :: skipped) t

theorem firstAt_eq_some {α : Type} (f : List Char → Option α) (skipped s pre : List Char) (a : α) :
    firstAt f skipped s = some (pre, a) ↔
      ∃ p q, s = p ++ q ∧ pre = skipped.reverse ++ p ∧ f q = some a ∧ ∀ p' q', s = p' ++ q' → p'.length < p.length → f q' = none := by
  fun_induction firstAt f skipped s with
  | case1 s skipped b hb =>
    constructor
    · rintro ⟨⟩
      exact ⟨[], s, rfl, (List.append_nil _).symm, hb, fun p' q' _ hl => absurd hl (Nat.not_lt_zero _)⟩
    · rintro ⟨p, q, rfl, rfl, hq, hleft⟩
      cases p with
      | nil => cases hb.symm.trans hq; rw [List.append_nil]
      | cons c p => exact absurd (hb.symm.trans (hleft [] _ rfl (Nat.zero_lt_succ _))) nofun
  | case2 skipped hf =>
    simp only [reduceCtorEq, false_iff]
    rintro ⟨p, q, hs, -, hq, -⟩
    obtain ⟨rfl, rfl⟩ := List.append_eq_nil_iff.1 hs.symm
    rw [hf] at hq; cases hq
  | case3 skipped c t hf ih =>
    rw [ih]
    constructor
    · rintro ⟨p, q, rfl, rfl, hq, hleft⟩
      refine ⟨c :: p, q, rfl, by simp, hq, fun p' q' hpq hl => ?_⟩
      cases p' with
      | nil => cases hpq; exact hf
      | cons a p'' =>
        rw [List.cons_append, List.cons.injEq] at hpq
        exact hleft p'' q' hpq.2 (Nat.lt_of_succ_lt_succ hl)
    · rintro ⟨p, q, hs, rfl, hq, hleft⟩
      cases p with
      | nil => cases hs; rw [hf] at hq; cases hq
      | cons a p =>
        cases hs
        exact ⟨p, q, rfl, by simp, hq, fun p' q' hpq hl => hleft (c :: p') q' (by rw [hpq]; rfl) (Nat.succ_lt_succ hl)⟩

theorem firstAt_eq_none {α : Type} (f : List Char → Option α) (skipped s : List Char) :
    firstAt f skipped s = none ↔ ∀ p q, s = p ++ q → f q = none := by
  fun_induction firstAt f skipped s with
  | case1 s skipped b hb =>
    simp only [reduceCtorEq, false_iff]
    intro h
    rw [h [] s rfl] at hb; cases hb
  | case2 skipped hf =>
    simp only [true_iff]
    intro p q h
    obtain ⟨rfl, rfl⟩ := List.append_eq_nil_iff.1 h.symm
    exact hf
  | case3 skipped c t hf ih =>
    rw [ih]
    constructor
    · intro h p q hpq
      cases p with
      | nil => cases hpq; exact hf
      | cons a p' => cases hpq; exact h p' q rfl
    · intro h p q hpq
      exact h (c :: p) q (by rw [hpq]; rfl)

theorem firstAt_map {α β : Type} (f : List Char → Option α) (g : List Char → Option β) (φ : α → β)
    (hfg : ∀ s, g s = (f s).map φ) (skipped s : List Char) :
    firstAt g skipped s = (firstAt f skipped s).map fun x => (x.1, φ x.2) := by
  fun_induction firstAt f skipped s with
  | case1 s skipped a ha => rw [firstAt.eq_def, hfg, ha]; rfl
  | case2 skipped hf => rw [firstAt.eq_def, hfg, hf]; rfl
  | case3 skipped c t hf ih => rw [firstAt.eq_def, hfg, hf]; exact ih

theorem searchFrom_eq_firstAt (r : Re) (skipped s : List Char) :
    searchFrom r skipped s = (firstAt (matchAt r) skipped s).map fun x => ⟨x.1, x.2.1, x.2.2.1, x.2.2.2⟩ := by
  fun_induction searchFrom r skipped s with
  | case1 skipped s m rest caps hm => rw [firstAt.eq_def, hm]; rfl
  | case2 skipped hm => rw [firstAt.eq_def, hm]; rfl
  | case3 skipped c t hm ih => rw [firstAt.eq_def, hm]; exact ih

theorem search_eq_firstAt (skipped s : List Char) : CheckPlurals.search skipped s = firstAt matchHere skipped s := by
  fun_induction CheckPlurals.search skipped s with
  | case1 skipped s ds ex rest hm => rw [firstAt.eq_def, hm]
  | case2 skipped hm => rw [firstAt.eq_def, hm]
  | case3 skipped c t hm ih => rw [firstAt.eq_def, hm]; exact ih

theorem matchAt_seq (a b : Re) (s : List Char) :
    matchAt (.seq a b) s =
      (runs a s).findSome? (fun x => (matchAt b x.2.1).map (fun y => (x.1 ++ y.1, y.2.1, x.2.2 ++ y.2.2))) := by
  simp only [matchAt, runs, List.head?_flatMap, List.head?_map]

/-- what the scanner keeps of the engine's preferred match at the head of `s`: the rest of the subject and the groups -/
def pref (r : Re) (s : List Char) : Option (List Char × Caps) := (matchAt r s).map fun x => (x.2.1, x.2.2)

theorem pref_seq (a b : Re) (s : List Char) :
    pref (.seq a b) s = (runs a s).findSome? fun x => (pref b x.2.1).map fun z => (z.1, x.2.2 ++ z.2) := by
  simp only [pref, matchAt_seq, List.map_findSome?]
  congr 1
  funext x
  simp only [Function.comp_apply]
  cases matchAt b x.2.1 <;> rfl

theorem pref_lit_seq (c : Char) (b : Re) (s : List Char) :
    pref (.seq (.lit c.toNat) b) s = match s with
      | x :: r => if x = c then pref b r else none
      | [] => none := by
  rw [pref_seq]
  cases s with
  | nil => simp [runs]
  | cons x r =>
    simp only [runs, Char.toNat_inj]
    split <;> simp [*]

theorem stripPrefix_cons_cons (a : Char) (p : List Char) (b : Char) (s : List Char) :
    stripPrefix (a :: p) (b :: s) = if a = b then stripPrefix p s else none := by
  by_cases h : a = b <;> simp [stripPrefix, List.isPrefixOf, h]

theorem pref_litSeq (cs : List Char) (t : Re) : ∀ (s : List Char),
    pref (litSeq cs t) s = match stripPrefix cs s with
      | some r => pref t r
      | none => none := by
  induction cs with
  | nil => intro s; rfl
  | cons c cs ih =>
    intro s
    have : litSeq (c :: cs) t = .seq (.lit c.toNat) (litSeq cs t) := rfl
    rw [this, pref_lit_seq]
    cases s with
    | nil => rfl
    | cons x r =>
      rw [stripPrefix_cons_cons]
      dsimp only
      by_cases hx : x = c
      · subst hx
        rw [if_pos rfl, if_pos rfl, ih r]
      · rw [if_neg hx, if_neg (Ne.symm hx)]

/-- greedy `k*` followed by something that cannot start on a `k` character: only the longest run counts -/
theorem findSome_rep0 {β : Type} (k : Cls) (s : List Char) (g : Run → Option β)
    (hg : ∀ j, j < spanLen k.has s → g (s.take j, s.drop j, []) = none) :
    (runs (.rep k 0 none) s).findSome? g = g (s.take (spanLen k.has s), s.drop (spanLen k.has s), []) := by
  simp only [runs, Nat.sub_zero, List.range_succ_eq_map, List.map_cons, List.map_map, List.findSome?_cons]
  cases h0 : g (List.take (spanLen k.has s) s, List.drop (spanLen k.has s) s, []) with
  | some y => rfl
  | none =>
    simp only
    rw [List.findSome?_eq_none_iff]
    intro x hx
    simp only [List.mem_map, List.mem_range, Function.comp] at hx
    obtain ⟨d, hd, rfl⟩ := hx
    exact hg _ (by omega)

theorem matchAt_optSemi (t : List Char) :
    matchAt (.opt (.lit 59)) t = match t with
      | c :: r => if c = ';' then some ([c], r, []) else some ([], c :: r, [])
      | [] => some ([], [], []) := by
  cases t with
  | nil => simp [matchAt, runs]
  | cons c r =>
    simp only [matchAt, runs]
    have : c.toNat = 59 ↔ c = ';' := Char.toNat_inj (d := ';')
    by_cases h : c = ';'
    · simp [h]
    · simp [h, this]

theorem match_semi_of_ne {α : Sort _} {c : Char} (hc : c ≠ ';') (t : List Char) (f : List Char → α) (g : List Char → α) :
    (match c :: t with
      | ';' :: s => f s
      | x => g x) = g (c :: t) := by
  split
  next s heq => exact absurd (List.cons.inj heq).1 hc
  next => rfl

theorem pref_tail (s : List Char) :
    pref tailRe s =
      (let (ex, s5) := spanNotSemi s
       if ex.isEmpty then none
       else match s5 with
         | ';' :: s6 => some (s6, [(2, ex)])
         | _ => some (s5, [(2, ex)])) := by
  rw [pref, spanNotSemi_eq]
  have hL : spanLen notSemi.has s = spanLen (fun c => !(c == ';')) s := spanLen_congr notSemi_has s
  simp only [tailRe, matchAt_seq, runs, hL]
  have hle := spanLen_le (fun c => !(c == ';')) s
  generalize spanLen (fun c => !(c == ';')) s = L at hle ⊢
  cases L with
  | zero => simp
  | succ L =>
    have hne : (List.take (L + 1) s).isEmpty = false := by
      cases s with
      | nil => exact absurd hle (Nat.not_succ_le_zero L)
      | cons a t => rfl
    simp only [Nat.add_sub_cancel, List.range_succ_eq_map, List.map_cons, Nat.sub_zero, List.findSome?_cons, matchAt_optSemi, hne,
      Bool.false_eq_true, ↓reduceIte]
    cases hd : List.drop (L + 1) s with
    | nil => simp
    | cons c r =>
      by_cases hc : c = ';'
      · subst hc; simp
      · simp only [hc, ↓reduceIte, Option.map_some, List.append_nil]
        rw [match_semi_of_ne hc]

theorem pref_plural_blank (c : Char) (r : List Char) (h : isBlank c = true) : pref pluralRe (c :: r) = none := by
  rw [pluralRe, pref_litSeq]
  have : stripPrefix "plural=".toList (c :: r) = none := by
    simp only [isBlank, Bool.or_eq_true, beq_iff_eq] at h
    rcases h with rfl | rfl <;> rfl
  rw [this]

theorem pref_blanks (s : List Char) : pref blanksRe s = pref pluralRe (dropBlanks s) := by
  rw [blanksRe, pref_seq, dropBlanks_eq, findSome_rep0, spanLen_congr blankCls_has s]
  · cases pref pluralRe (s.drop (spanLen isBlank s)) <;> simp
  · intro j hj
    obtain ⟨c, r, hd, hc⟩ := drop_lt_spanLen _ s j hj
    simp only [hd, pref_plural_blank c r (by rw [← blankCls_has]; exact hc), Option.map_none]

theorem pref_afterN_digit (c : Char) (r : List Char) (h : isDigit c = true) : pref afterN (c :: r) = none := by
  have h59 : (59 : Nat) = (';' : Char).toNat := rfl
  rw [afterN, h59, pref_lit_seq]
  have : c ≠ ';' := by
    rintro rfl
    revert h; decide
  simp [this]

theorem pref_afterN (t : List Char) :
    pref afterN t = match t with
      | ';' :: s3 => pref pluralRe (dropBlanks s3)
      | _ => none := by
  have h59 : (59 : Nat) = (';' : Char).toNat := rfl
  rw [afterN, h59, pref_lit_seq]
  cases t with
  | nil => rfl
  | cons c t' =>
    by_cases hc : c = ';'
    · subst hc
      exact pref_blanks t'
    · simp only [hc, ↓reduceIte]
      rw [match_semi_of_ne hc]

theorem pref_num (s1 : List Char) :
    pref (.seq grp1 afterN) s1 =
      match s1 with
      | d :: _ =>
        if '1' ≤ d ∧ d ≤ '9' then (pref afterN (spanDigits s1).2).map (fun z => (z.1, (1, (spanDigits s1).1) :: z.2))
        else none
      | [] => none := by
  cases s1 with
  | nil => simp [pref_seq, grp1, runs]
  | cons d r =>
    simp only
    by_cases hd : '1' ≤ d ∧ d ≤ '9'
    · have h19 : digit19.has d = true := (digit19_has d).2 hd
      have h09 : isDigit d = true := digit19_digit09 d h19
      have hsp : spanDigits (d :: r) = (d :: r.take (spanLen isDigit r), r.drop (spanLen isDigit r)) := by
        rw [spanDigits_eq]; simp [spanLen, h09]
      rw [if_pos hd, hsp, pref_seq]
      simp only [grp1, runs, h19, ↓reduceIte, List.flatMap_cons, List.flatMap_nil, List.append_nil, List.map_map, List.findSome?_map]
      -- the runs of `grp1` are `d ::` the runs of `[0-9]*`; of these only the longest can be followed by `afterN`
      have := findSome_rep0 digit09 r
        (fun x => (pref afterN x.2.1).map (fun z => (z.1, ((1, d :: x.1) :: x.2.2) ++ z.2))) ?_
      · simp only [runs, Nat.sub_zero, List.findSome?_map, Function.comp_def, List.nil_append, List.cons_append] at this
        simp only [Function.comp_def, List.nil_append, Nat.sub_zero, List.cons_append]
        rw [this, spanLen_congr digit09_has r]
      · intro j hj
        obtain ⟨c, r', hdrop, hc⟩ := drop_lt_spanLen _ r j hj
        simp only [hdrop, pref_afterN_digit c r' (by rw [← digit09_has]; exact hc), Option.map_none]
    · have h19 : digit19.has d = false := by
        cases h : digit19.has d with
        | false => rfl
        | true => exact absurd ((digit19_has d).1 h) hd
      simp [hd, pref_seq, grp1, runs, h19]

/-- **The model's anchored matcher is the engine's preferred match** of the live pattern: same rest, same groups
    (group 1 = the digits of nplurals, group 2 = the expression text), and no match exactly when the engine has none. -/
theorem pref_header (s : List Char) :
    pref headerRe s = (matchHere s).map (fun y => (y.2.2, [(1, y.1), (2, y.2.1)])) := by
  rw [headerRe, pref_litSeq]
  unfold matchHere
  cases stripPrefix "nplurals=".toList s with
  | none => rfl
  | some s1 =>
    simp only [pref_num]
    cases s1 with
    | nil => rfl
    | cons d r =>
      simp only
      by_cases hd : '1' ≤ d ∧ d ≤ '9'
      · rw [if_pos hd, if_pos hd, pref_afterN]
        generalize spanDigits (d :: r) = sd
        obtain ⟨ds, s2⟩ := sd
        simp only
        cases s2 with
        | nil => rfl
        | cons c s3 =>
          by_cases hc : c = ';'
          · subst hc
            simp only
            rw [pluralRe, pref_litSeq]
            cases stripPrefix "plural=".toList (dropBlanks s3) with
            | none => rfl
            | some s4 =>
              simp only [pref_tail]
              generalize spanNotSemi s4 = sp
              obtain ⟨ex, s5⟩ := sp
              by_cases hex : ex.isEmpty = true
              · simp [hex]
              · simp only [hex, Bool.false_eq_true, ↓reduceIte]
                split <;> simp
          · rw [match_semi_of_ne hc]
            -- `matchHere` takes its `_` arm too (its `match` is not the one `match_semi_of_ne` rewrites)
            split
            next s3' heq => exact absurd (List.cons.inj heq).1 hc
            next => rfl
      · rw [if_neg hd, if_neg hd]; rfl

/-- **The model's `search` is `pattern.search` of the live pattern**: same text before the match (ljunk), same text
    after it (rjunk), same groups — and `None` in exactly the same cases. -/
theorem search_header (s skipped : List Char) :
    (searchFrom headerRe skipped s).map (fun f => (f.pre, f.post, f.caps)) =
      (CheckPlurals.search skipped s).map (fun y => (y.1, y.2.2.2, [(1, y.2.1), (2, y.2.2.1)])) := by
  -- both are the scan with the test `pref headerRe`, up to what is kept of the result
  have h1 := firstAt_map (matchAt headerRe) (pref headerRe) (fun x => (x.2.1, x.2.2)) (fun _ => rfl) skipped s
  have h2 := firstAt_map matchHere (pref headerRe) (fun y => (y.2.2, [(1, y.1), (2, y.2.1)])) pref_header skipped s
  rw [searchFrom_eq_firstAt, search_eq_firstAt, Option.map_map]
  have := congrArg (Option.map fun x : List Char × List Char × Caps => (x.1, x.2.1, x.2.2)) (h1.symm.trans h2)
  rw [Option.map_map, Option.map_map] at this
  exact this

end I18n.CheckPlurals
