import I18n.Lemmas.ParseAmb
import I18n.Lemmas.LexSpec
/-! End to end on strings: `PluralParse.parse` (= `gettext.parse_plural_expression`) against the token
    specification composed with the grammars. -/
namespace I18n.PluralParse
open I18n I18n.Spec

theorem parse_ok_iff_lex (s : List Char) (e : Expr) : parse s = .ok e ↔ ∃ ts, lex s = .ok ts ∧ parseToks ts = some e := by
  unfold parse
  cases lex s with
  | ok ts =>
    dsimp only
    cases hp : parseToks ts <;> simp [hp]
  | _ => simp

theorem parse_ok_iff (s : List Char) (e : Expr) : parse s = .ok e ↔ ∃ ts, Tokens s ts ∧ D 0 ts e := by
  simp only [parse_ok_iff_lex, lex_iff_tokens, parseToks_iff]

theorem parse_accepts_iff (s : List Char) : (∃ e, parse s = .ok e) ↔ ∃ ts, Tokens s ts ∧ Amb ts := by
  simp only [parse_ok_iff, ← derivable_iff_amb]
  exact ⟨fun ⟨e, ts, h, d⟩ => ⟨ts, h, e, d⟩, fun ⟨ts, h, e, d⟩ => ⟨e, ts, h, d⟩⟩

theorem parse_never_valueError (s : List Char) : parse s ≠ .valueError := by
  unfold parse
  cases hl : lex s with
  | syntaxError => simp
  | valueError => exact absurd hl (lexGo_never_valueError s none)
  | ok ts => cases hp : parseToks ts <;> simp [hp]

theorem parse_syntaxError_iff (s : List Char) : parse s = .syntaxError ↔ ¬ ∃ ts, Tokens s ts ∧ Amb ts := by
  rw [← parse_accepts_iff]
  constructor
  · rintro h ⟨e, he⟩
    rw [h] at he
    cases he
  · intro h
    cases hp : parse s with
    | ok e => exact absurd ⟨e, hp⟩ h
    | syntaxError => rfl
    | valueError => exact absurd hp (parse_never_valueError s)

end I18n.PluralParse
