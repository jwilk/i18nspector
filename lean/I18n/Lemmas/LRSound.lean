import I18n.Lemmas.LRActions
/-! The invariant of a run of the LR driver over the dumped tables, and what acceptance means under it: the stack is a
    path of the automaton from the start state (`Path`), and its symbols span, in order, the consumed prefix of the
    input, each `ast` value over a sentence of plural.y's grammar (`SpansV`).  The second half holds of any run of
    shifts and reductions, whatever the tables, because the action functions check the shape of their arguments; the
    first half is what tells that at acceptance the stack is the bottom marker under one `ast.Expr`. -/
namespace I18n.PluralLR
open I18n I18n.PluralParse I18n.Spec

def Inv (ts : List Tok) (c : Config) : Prop :=
  Path T c.stack ∧ ∃ w, SpansV (c.stack.reverse.map (·.2)) w ∧ w ++ c.rest = ts

theorem Inv.init (ts : List Tok) : Inv ts ⟨[(0, .bottom)], ts⟩ :=
  ⟨⟨rfl, rfl⟩, [], SpansV_singleton.2 rfl, rfl⟩

theorem spans_push {st : List (Nat × Val)} {w1 w2 : List Tok} (s : Nat) {v : Val}
    (h1 : SpansV (st.reverse.map (·.2)) w1) (h2 : ValOK v w2) : SpansV (((s, v) :: st).reverse.map (·.2)) (w1 ++ w2) := by
  rw [List.reverse_cons, List.map_append]
  exact SpansV_snoc.2 ⟨w1, w2, rfl, h1, h2⟩

theorem Path.top_lt {s : Nat} {v : Val} {st : List (Nat × Val)} (h : Path T ((s, v) :: st)) : s < 26 := by
  rcases st with _ | ⟨⟨s0, u⟩, st⟩
  · obtain ⟨rfl, _⟩ := h
    omega
  · obtain ⟨⟨x, _, hx⟩, _⟩ := h
    exact edge_lt hx

/-- state 6 is entered only from state 0, by `start`, and nothing enters state 0 -/
theorem Path.accept {v : Val} {st : List (Nat × Val)} (h : Path T ((6, v) :: st)) :
    ∃ e, v = .expr e ∧ st = [(0, .bottom)] := by
  rcases st with _ | ⟨⟨s0, u⟩, st⟩
  · cases h.1
  · obtain ⟨⟨x, hk, hx⟩, h0⟩ := h
    obtain ⟨rfl, rfl⟩ := edge_accept hx
    rcases st with _ | ⟨⟨s1, u1⟩, st⟩
    · obtain ⟨_, rfl⟩ := h0
      cases v <;> cases hk
      exact ⟨_, rfl, rfl⟩
    · obtain ⟨⟨y, _, hy⟩, _⟩ := h0
      exact absurd rfl (edge_ne_start hy)

theorem reduce_inv {ts : List Tok} {p : Nat} {c c' : Config} (h : reduce T p c = .next c') (hi : Inv ts c) : Inv ts c' := by
  obtain ⟨pr, v, s, u, below, s', hp, hlen, ha, hdrop, hg, rfl⟩ := reduce_next h
  obtain ⟨hpath, w, hspan, hw⟩ := hi
  refine ⟨?_, ?_⟩
  · -- path: the goto entry under the handle is an edge labelled by the kind of the new value
    have hpd := Path.drop c.stack pr.len hpath hlen
    rw [hdrop] at hpd
    exact ⟨⟨_, applyAction_kind_lhs hp ha, goto_mem_edges hg⟩, hpd⟩
  · rw [← List.take_append_drop pr.len c.stack, hdrop, List.reverse_append, List.map_append] at hspan
    obtain ⟨w1, w2, rfl, h1, h2⟩ := SpansV_append.1 hspan
    exact ⟨w1 ++ w2, spans_push s' h1 (applyAction_ok ha h2), hw⟩

theorem shift_inv {ts : List Tok} {s s' : Nat} {v : Val} {st : List (Nat × Val)} {tok : Tok} {r : List Tok}
    (h : decision T s (col (some tok)) = .shift s') (hi : Inv ts ⟨(s, v) :: st, tok :: r⟩) :
    Inv ts ⟨(s', .tok tok) :: (s, v) :: st, r⟩ := by
  obtain ⟨hpath, w, hspan, hw⟩ := hi
  exact ⟨hpath.shift h, w ++ [tok], spans_push s' hspan rfl, by rw [← hw]; simp⟩

theorem accept_amb {ts : List Tok} {s : Nat} {v : Val} {st : List (Nat × Val)} {rest : List Tok}
    (h : decision T s (col rest.head?) = .accept) (hi : Inv ts ⟨(s, v) :: st, rest⟩) : ∃ e, v = .expr e ∧ Amb ts := by
  obtain ⟨hp, hs⟩ := hi
  obtain ⟨rfl, hc13⟩ := decision_accept hp.top_lt (col_lt _) h
  obtain ⟨e, rfl, rfl⟩ := hp.accept
  rcases rest with _ | ⟨tok, r⟩
  · -- the stack is the bottom marker, which spans nothing, under the tree
    obtain ⟨w, hw, rfl⟩ := hs
    obtain ⟨_, w', rfl, rfl, he⟩ := SpansV_cons.1 hw
    have he : Amb w' := SpansV_singleton.1 he
    exact ⟨e, rfl, by simpa using he⟩
  · exact absurd hc13 (Nat.ne_of_lt (col_some_lt tok))

end I18n.PluralLR
