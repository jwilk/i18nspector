import I18n.Lemmas.FmtCheckCSig
/-!
# Numbering the references of an unnumbered C format string, then permuting its directives

The constructive form of C14's clause `reorder_silent` (`Props.C14.c_reorder_silent_numbered`).  Numbering gives every reference
the position it had implicitly (`ptFrom_enum`), and once every reference carries its number the (argument, type) pairs are read
off the directives one by one, whatever their order (`ptFrom_numbered`): `posType_numbered_perm`.
-/
namespace I18n.FmtCheck
open I18n I18n.FmtSig I18n.CFmt I18n.Spec.Printf I18n.Spec.FmtCompare

/-! The numbers are printed by `digitsOf`, whose one law is that `Spec.Printf.decimal`, which reads the `n$` of a directive in
the reference, reads them back (`decimal_digitsOf`). -/

def digitChar : Nat → Char
  | 0 => '0' | 1 => '1' | 2 => '2' | 3 => '3' | 4 => '4' | 5 => '5' | 6 => '6' | 7 => '7' | 8 => '8' | _ => '9'

theorem digitChar_val : ∀ d, d < 10 → (digitChar d).toNat - 48 = d := by decide +kernel

/-- least significant digit first; `fuel` is a termination device -/
def digitsRev : Nat → Nat → List Char
  | 0, _ => []
  | fuel + 1, n => if n < 10 then [digitChar n] else digitChar (n % 10) :: digitsRev fuel (n / 10)

def digitsOf (n : Nat) : List Char := (digitsRev (n + 1) n).reverse

theorem digitsRev_value : ∀ (fuel n : Nat), n < fuel →
    (digitsRev fuel n).foldr (fun c acc => 10 * acc + (c.toNat - 48)) 0 = n
  | 0, _, h => by omega
  | fuel + 1, n, h => by
    simp only [digitsRev]
    by_cases hn : n < 10
    · simp [hn, digitChar_val n hn]
    · simp only [hn, ↓reduceIte, List.foldr_cons]
      rw [digitsRev_value fuel (n / 10) (by omega), digitChar_val (n % 10) (Nat.mod_lt _ (by omega))]
      omega

theorem decimal_digitsOf (n : Nat) : decimal (digitsOf n) = n := by
  unfold decimal digitsOf
  rw [List.foldl_reverse]
  exact digitsRev_value (n + 1) n (by omega)

/-- the references a directive makes: explicit argument number (if any) and type, in the order printf fetches them -/
def refTypes (d : Directive) : List (Option Nat × String) := (d.refs 0).map fun r => (r.idx, r.entry.type)

/-- the position of the directive (`parent`) is all that `refs` takes from its second argument -/
theorem refs_types (d : Directive) (p : Nat) : (d.refs p).map (fun r => (r.idx, r.entry.type)) = refTypes d := by
  unfold refTypes Directive.refs
  rw [List.map_append, List.map_append, List.map_append, List.map_append]
  congr 1
  · cases d.width <;> rfl
  · congr 1
    · cases d.prec <;> rfl
    · by_cases h : d.body.conv ∈ consuming
      · rw [if_pos h, if_pos h]
        rfl
      · rw [if_neg h, if_neg h]

theorem refsFrom_types : ∀ (items : List Item) (k : Nat),
    (refsFrom k items).map (fun r => (r.idx, r.entry.type)) = (dirs items).flatMap refTypes
  | [], _ => rfl
  | .lit _ :: rest, k => by simp only [refsFrom, dirs]; exact refsFrom_types rest (k + 1)
  | .dir d :: rest, k => by
    simp only [refsFrom, dirs, List.map_append, List.flatMap_cons, refs_types, refsFrom_types rest (k + 1)]

def ptFrom : Nat → List (Option Nat × String) → List (Nat × String)
  | _, [] => []
  | k, (i, t) :: rest => (i.getD k, t) :: ptFrom (k + 1) rest

theorem positionsFrom_types : ∀ (rs : List Ref) (k : Nat),
    (positionsFrom k rs).map (fun p => (p.1, p.2.type)) = ptFrom k (rs.map fun r => (r.idx, r.entry.type))
  | [], _ => rfl
  | r :: rs, k => by
    simp only [positionsFrom, List.map_cons, ptFrom, positionsFrom_types rs (k + 1)]
    cases r.idx <;> rfl

theorem posType_iff_dirs (items : List Item) (j : Nat) (t : String) :
    PosType (positions (refs items)) j t ↔ (j, t) ∈ ptFrom 1 ((dirs items).flatMap refTypes) := by
  rw [← refsFrom_types items 0, ← positionsFrom_types]
  exact posType_iff_mem _ j t

def enum : Nat → List (Option Nat × String) → List (Option Nat × String)
  | _, [] => []
  | k, (_, t) :: rest => (some k, t) :: enum (k + 1) rest

theorem enum_append : ∀ (a b : List (Option Nat × String)) (k : Nat), enum k (a ++ b) = enum k a ++ enum (k + a.length) b
  | [], b, k => by simp [enum]
  | (_, t) :: a, b, k => by
    simp only [List.cons_append, enum, List.length_cons, enum_append a b (k + 1)]
    congr 3; omega

theorem ptFrom_enum : ∀ (l : List (Option Nat × String)) (k k' : Nat), (∀ x ∈ l, x.1 = none) → ptFrom k' (enum k l) = ptFrom k l
  | [], _, _, _ => rfl
  | (i, t) :: rest, k, k', h => by
    have hi : i = none := h (i, t) (by simp)
    subst hi
    simp only [enum, ptFrom, Option.getD_some, Option.getD_none]
    rw [ptFrom_enum rest (k + 1) (k' + 1) (fun x hx => h x (by simp [hx]))]

theorem ptFrom_numbered : ∀ (l : List (Option Nat × String)) (k : Nat), (∀ x ∈ l, x.1 ≠ none) →
    ptFrom k l = l.map fun x => (x.1.getD 0, x.2)
  | [], _, _ => rfl
  | (i, t) :: rest, k, h => by
    have hi : i ≠ none := h (i, t) (by simp)
    cases i with
    | none => exact absurd rfl hi
    | some v =>
      simp only [ptFrom, Option.getD_some, List.map_cons]
      rw [ptFrom_numbered rest (k + 1) (fun x hx => h x (by simp [hx]))]

theorem enum_numbered : ∀ (l : List (Option Nat × String)) (k : Nat), ∀ x ∈ enum k l, x.1 ≠ none
  | [], _, x, hx => by cases hx
  | (_, t) :: rest, k, x, hx => by
    simp only [enum, List.mem_cons] at hx
    rcases hx with rfl | hx
    · simp
    · exact enum_numbered rest (k + 1) x hx

/-- give every reference of the directive the explicit number it has as the `k`-th, `k+1`-th, … reference;
    returns the next free number -/
def numberDir (k : Nat) (d : Directive) : Directive × Nat :=
  let w : Width × Nat := match d.width with
    | .star _ => (.star (some (digitsOf k)), k + 1)
    | w => (w, k)
  let p : Prec × Nat := match d.prec with
    | .star _ => (.star (some (digitsOf w.2)), w.2 + 1)
    | p => (p, w.2)
  if d.body.conv ∈ consuming then ({ d with index := some (digitsOf p.2), width := w.1, prec := p.1 }, p.2 + 1)
  else ({ d with width := w.1, prec := p.1 }, p.2)

def numberDirs : Nat → List Directive → List Directive
  | _, [] => []
  | k, d :: ds => (numberDir k d).1 :: numberDirs (numberDir k d).2 ds

theorem numberDir_types (k : Nat) (d : Directive) :
    refTypes (numberDir k d).1 = enum k (refTypes d) ∧ (numberDir k d).2 = k + (refTypes d).length := by
  unfold refTypes numberDir Directive.refs
  cases hw : d.width <;> cases hp : d.prec <;> by_cases hc : d.body.conv ∈ consuming <;>
    simp [hc, enum, idxValue, decimal_digitsOf]

theorem numberDirs_types : ∀ (ds : List Directive) (k : Nat),
    (numberDirs k ds).flatMap refTypes = enum k (ds.flatMap refTypes)
  | [], _ => rfl
  | d :: ds, k => by
    simp only [numberDirs, List.flatMap_cons, enum_append, (numberDir_types k d).1]
    rw [numberDirs_types ds, (numberDir_types k d).2]

theorem posType_numbered_perm {src dst : List Item} (hun : ∀ r ∈ refs src, r.idx = none)
    (hperm : (dirs dst).Perm (numberDirs 1 (dirs src))) (j : Nat) (t : String) :
    PosType (positions (refs src)) j t ↔ PosType (positions (refs dst)) j t := by
  rw [posType_iff_dirs, posType_iff_dirs]
  have hnone : ∀ x ∈ (dirs src).flatMap refTypes, x.1 = none := by
    intro x hx
    rw [← refsFrom_types src 0] at hx
    obtain ⟨r, hr, rfl⟩ := List.mem_map.1 hx
    exact hun r hr
  -- the source: positions are those of the numbered list
  rw [← ptFrom_enum _ 1 1 hnone, ← numberDirs_types]
  -- both sides: explicitly numbered, so positions are read off the references, in any order
  have hnum1 : ∀ x ∈ (numberDirs 1 (dirs src)).flatMap refTypes, x.1 ≠ none := by
    rw [numberDirs_types]; exact enum_numbered _ 1
  have hp : ((dirs dst).flatMap refTypes).Perm ((numberDirs 1 (dirs src)).flatMap refTypes) := hperm.flatMap_right _
  have hnum2 : ∀ x ∈ (dirs dst).flatMap refTypes, x.1 ≠ none := fun x hx => hnum1 x (hp.mem_iff.1 hx)
  rw [ptFrom_numbered _ 1 hnum1, ptFrom_numbered _ 1 hnum2]
  exact ((hp.map _).mem_iff).symm

end I18n.FmtCheck
