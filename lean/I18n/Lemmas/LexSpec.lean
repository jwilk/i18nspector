import I18n.Spec.PluralTokens
import I18n.Lemmas.Kit.List
/-! The lexer model (rply's loop: rules tried in declaration order, first match wins, greedy regexes) computes
    exactly the longest-lexeme tokenisation `Spec.Tokens` (`lex_iff_tokens`).
    `lexGo` answers a tokenisation or the syntax error (`Lexed`, `lexGo_lexed`: induction on the length) and
    finds every tokenisation (`lexGo_complete`: induction on `Tokens`). -/
namespace I18n.PluralParse
open I18n I18n.Spec

/-- the six two-character equations of `lexGo` as one function (no two of them overlap, so their order does not
    matter here) -/
def twoCharTok (c c' : Char) : Option Tok :=
  if c = '|' ∧ c' = '|' then some (.bool .or)
  else if c = '&' ∧ c' = '&' then some (.bool .and)
  else if c = '!' ∧ c' = '=' then some (.cmp .noteq)
  else if c = '=' ∧ c' = '=' then some (.cmp .eq)
  else if c = '<' ∧ c' = '=' then some (.cmp .lte)
  else if c = '>' ∧ c' = '=' then some (.cmp .gte)
  else none

theorem ite_some_cases {α : Type} {p : Prop} [Decidable p] {a b : α} {e : Option α}
    (h : (if p then some a else e) = some b) : (p ∧ a = b) ∨ (¬ p ∧ e = some b) := by
  by_cases hp : p <;> simp_all

theorem twoCharTok_cases {c c' : Char} {t : Tok} (h : twoCharTok c c' = some t) :
    c = '|' ∧ c' = '|' ∧ t = .bool .or ∨ c = '&' ∧ c' = '&' ∧ t = .bool .and ∨
    c = '!' ∧ c' = '=' ∧ t = .cmp .noteq ∨ c = '=' ∧ c' = '=' ∧ t = .cmp .eq ∨
    c = '<' ∧ c' = '=' ∧ t = .cmp .lte ∨ c = '>' ∧ c' = '=' ∧ t = .cmp .gte := by
  unfold twoCharTok at h
  iterate 6
    rcases ite_some_cases h with ⟨hc, rfl⟩ | ⟨_, h⟩
    · simp only [hc, and_self, true_or, or_true]
  cases h

theorem lexGo_two {c c' : Char} {t : Tok} (h : twoCharTok c c' = some t) (r : List Char) (p : Pending) :
    lexGo (c :: c' :: r) p = flush p ((lexGo r none).cons t) := by
  rcases twoCharTok_cases h with h | h | h | h | h | h <;> obtain ⟨rfl, rfl, rfl⟩ := h <;> simp only [lexGo]

/-- the right-hand side of the last equation of `lexGo`, copied word for word: `lexGo_one` closes by `rfl` only while
    it stays a copy -/
def lexOne (c : Char) (rest : List Char) (p : Pending) : LexResult :=
    if isDigit c then
      match p with
      | none => lexGo rest (some (digitVal c, 1))
      | some (v, len) => lexGo rest (some (v * 10 + digitVal c, len + 1))
    else
      flush p <|
        if c = ' ' ∨ c = '\t' then lexGo rest none
        else match oneCharTok c with
          | some t => (lexGo rest none).cons t
          | none => .syntaxError

theorem lexGo_one {c : Char} {rest : List Char} (h : ∀ c' ∈ rest.head?, twoCharTok c c' = none) (p : Pending) :
    lexGo (c :: rest) p = lexOne c rest p := by
  rw [lexGo.eq_def]
  split
  next heq => cases heq   -- the equation for `[]`
  -- the six two-character equations: `h` says their pair is no token
  iterate 6 (next heq => cases heq; exact absurd (h _ rfl) (by decide))
  -- the last equation
  next heq => cases heq; rfl

theorem lexGo_cons_cases (c : Char) (rest : List Char) (p : Pending) :
    (∃ c' r t, rest = c' :: r ∧ twoCharTok c c' = some t ∧ lexGo (c :: rest) p = flush p ((lexGo r none).cons t)) ∨
    (∀ c' ∈ rest.head?, twoCharTok c c' = none) ∧ lexGo (c :: rest) p = lexOne c rest p := by
  rcases rest with _ | ⟨c', r⟩
  · have hh : ∀ c' ∈ ([] : List Char).head?, twoCharTok c c' = none := fun _ h => nomatch h
    exact .inr ⟨hh, lexGo_one hh p⟩
  · cases h2 : twoCharTok c c' with
    | none =>
      have hh : ∀ c'' ∈ (c' :: r).head?, twoCharTok c c'' = none := fun _ h => by cases h; exact h2
      exact .inr ⟨hh, lexGo_one hh p⟩
    | some t => exact .inl ⟨c', r, t, rfl, h2, lexGo_two h2 r p⟩

theorem twoCharTok_not_digit {c c' : Char} {t : Tok} (h : twoCharTok c c' = some t) : isDigit c = false := by
  rcases twoCharTok_cases h with h | h | h | h | h | h <;> obtain ⟨rfl, -, -⟩ := h <;> decide

theorem oneCharTok_not_digit {c : Char} {t : Tok} (h : oneCharTok c = some t) : isDigit c = false := by
  unfold oneCharTok at h
  iterate 13 (rcases ite_some_cases h with ⟨rfl, rfl⟩ | ⟨_, h⟩; · decide)
  cases h

theorem blank_not_digit {c : Char} (h : IsBlank c) : isDigit c = false := by
  rcases h with rfl | rfl <;> decide

theorem twoCharTok_digit {c : Char} (h : isDigit c = true) (c' : Char) : twoCharTok c c' = none := by
  cases h2 : twoCharTok c c' with
  | none => rfl
  | some t => rw [twoCharTok_not_digit h2] at h; cases h

/-- what the digit branch of `lexGo` does to the pending numeral (its two `match` arms, copied) -/
def push (p : Pending) (c : Char) : Pending :=
  match p with
  | none => some (digitVal c, 1)
  | some (v, len) => some (v * 10 + digitVal c, len + 1)

theorem lexGo_digit {c : Char} (h : isDigit c = true) (r : List Char) (p : Pending) :
    lexGo (c :: r) p = lexGo r (push p c) := by
  rw [lexGo_one (fun c' _ => twoCharTok_digit h c')]
  simp only [lexOne, h, if_true]
  cases p <;> rfl

theorem lexGo_digits (ds : List Char) (hd : ∀ c ∈ ds, isDigit c = true) (s : List Char) (p : Pending) :
    lexGo (ds ++ s) p = lexGo s (ds.foldl push p) := by
  induction ds generalizing p with
  | nil => rfl
  | cons d ds ih =>
    rw [List.cons_append, lexGo_digit (hd d (by simp)), ih (fun c hc => hd c (by simp [hc]))]
    rfl

theorem flush_none (r : LexResult) : flush none r = r := rfl

theorem blank_two {c : Char} (h : IsBlank c) (c' : Char) : twoCharTok c c' = none := by
  rcases h with rfl | rfl <;> simp [twoCharTok]

theorem oneCharTok_not_blank {c : Char} {t : Tok} (h : oneCharTok c = some t) : ¬ IsBlank c := by
  rintro (rfl | rfl) <;> simp [oneCharTok] at h

theorem lexGo_blank {c : Char} (hb : IsBlank c) (rest : List Char) : lexGo (c :: rest) none = lexGo rest none := by
  rw [lexGo_one (fun c' _ => blank_two hb c')]
  have hb' : c = ' ' ∨ c = '\t' := hb   -- the test as `lexGo` spells it
  simp only [lexOne, blank_not_digit hb, hb', flush_none, Bool.false_eq_true, if_false, if_true]

theorem lexGo_tok {c : Char} {t : Tok} (ht : oneCharTok c = some t) {rest : List Char}
    (hh : ∀ c' ∈ rest.head?, twoCharTok c c' = none) : lexGo (c :: rest) none = (lexGo rest none).cons t := by
  rw [lexGo_one hh]
  have hb : ¬ (c = ' ' ∨ c = '\t') := oneCharTok_not_blank ht
  simp only [lexOne, oneCharTok_not_digit ht, hb, ht, flush_none, Bool.false_eq_true, if_false]

theorem lexGo_none {c : Char} (hd : isDigit c = false) (hb : ¬ IsBlank c) (ht : oneCharTok c = none) {rest : List Char}
    (hh : ∀ c' ∈ rest.head?, twoCharTok c c' = none) : lexGo (c :: rest) none = .syntaxError := by
  rw [lexGo_one hh]
  have hb' : ¬ (c = ' ' ∨ c = '\t') := hb
  simp only [lexOne, hd, hb', ht, flush_none, Bool.false_eq_true, if_false]

/-- holds because `maxStrDigits = 0` (`tooLong` is `false`); with a limit, `flush` would answer `valueError` for a long
    numeral.  `lexGo_digits_none`, `Lexed` and all that follows them rest on it. -/
theorem flush_some_cons (v len : Nat) (r : LexResult) : flush (some (v, len)) r = r.cons (.int v) := by
  cases r <;> simp [flush, tooLong, maxStrDigits, LexResult.cons]

theorem lexGo_flush {s : List Char} (h : ∀ c ∈ s.head?, isDigit c = false) (p : Pending) : lexGo s p = flush p (lexGo s none) := by
  rcases s with _ | ⟨c, rest⟩
  · simp [lexGo, flush_none]
  · have hc := h c rfl
    rcases lexGo_cons_cases c rest p with ⟨c', r, t, rfl, h2, e⟩ | ⟨hh, e⟩
    · rw [e, lexGo_two h2, flush_none]
    · rw [e, lexGo_one hh]
      simp [lexOne, hc, flush_none]

theorem isDigit_iff (c : Char) : isDigit c = true ↔ IsDecDigit c := by
  simp [isDigit, IsDecDigit]

theorem foldl_push_some (ds : List Char) (v len : Nat) :
    ds.foldl push (some (v, len)) =
      some (ds.foldl (fun v c => 10 * v + (c.toNat - '0'.toNat)) v, len + ds.length) := by
  induction ds generalizing v len with
  | nil => rfl
  | cons d ds ih =>
    simp only [List.foldl_cons, push, ih, digitVal, List.length_cons]
    congr 2
    · congr 1; omega
    · omega

theorem foldl_push_none {ds : List Char} (h : ds ≠ []) :
    ds.foldl push none = some (decimalValue ds, ds.length) := by
  rcases ds with _ | ⟨d, ds⟩
  · exact absurd rfl h
  · simp only [List.foldl_cons, push, foldl_push_some, decimalValue, digitVal, List.length_cons]
    congr 2
    · congr 1; omega
    · omega

theorem lexGo_digits_none {ds : List Char} (hne : ds ≠ []) (hd : ∀ c ∈ ds, isDigit c = true) {s : List Char}
    (hs : ∀ c ∈ s.head?, isDigit c = false) : lexGo (ds ++ s) none = (lexGo s none).cons (.int (decimalValue ds)) := by
  rw [lexGo_digits ds hd, foldl_push_none hne, lexGo_flush hs, flush_some_cons]

theorem lex_digits {ds : List Char} (hne : ds ≠ []) (hd : ∀ c ∈ ds, isDigit c = true) :
    lex ds = .ok [.int (decimalValue ds)] := by
  have h := lexGo_digits_none hne hd (s := []) (fun _ h => nomatch h)
  rwa [List.append_nil] at h

theorem lexeme_cases {w : List Char} {t : Tok} (h : Lexeme w t) :
    (∃ c, w = [c] ∧ oneCharTok c = some t) ∨ (∃ c c', w = [c, c'] ∧ twoCharTok c c' = some t) ∨
    (w ≠ [] ∧ (∀ c ∈ w, isDigit c = true) ∧ t = .int (decimalValue w)) := by
  cases h
  case num h1 h2 => exact .inr (.inr ⟨h1, fun c hc => (isDigit_iff c).2 (h2 c hc), rfl⟩)
  case or => exact .inr (.inl ⟨_, _, rfl, by decide⟩)
  case and => exact .inr (.inl ⟨_, _, rfl, by decide⟩)
  case eq => exact .inr (.inl ⟨_, _, rfl, by decide⟩)
  case ne => exact .inr (.inl ⟨_, _, rfl, by decide⟩)
  case le => exact .inr (.inl ⟨_, _, rfl, by decide⟩)
  case ge => exact .inr (.inl ⟨_, _, rfl, by decide⟩)
  all_goals exact .inl ⟨_, rfl, by decide⟩

theorem lexeme_of_one {c : Char} {t : Tok} (h : oneCharTok c = some t) : Lexeme [c] t := by
  unfold oneCharTok at h
  iterate 13 (rcases ite_some_cases h with ⟨rfl, rfl⟩ | ⟨_, h⟩; · constructor)
  cases h

theorem lexeme_of_two {c c' : Char} {t : Tok} (h : twoCharTok c c' = some t) : Lexeme [c, c'] t := by
  rcases twoCharTok_cases h with h | h | h | h | h | h <;> obtain ⟨rfl, rfl, rfl⟩ := h <;> constructor

theorem lexeme_head {w : List Char} {t : Tok} (h : Lexeme w t) : ∃ c r, w = c :: r := by
  rcases lexeme_cases h with ⟨c, rfl, _⟩ | ⟨c, c', rfl, _⟩ | ⟨hne, _, _⟩
  · exact ⟨_, _, rfl⟩
  · exact ⟨_, _, rfl⟩
  · rcases w with _ | ⟨c, r⟩
    · exact absurd rfl hne
    · exact ⟨_, _, rfl⟩

theorem lexeme_prefix {w' : List Char} {t' : Tok} (hl : Lexeme w' t') {c : Char} {rest : List Char} (hp : w' <+: c :: rest) :
    w'.length ≤ 1 ∨ (w'.length = 2 ∧ ∃ c' r t, rest = c' :: r ∧ twoCharTok c c' = some t) ∨
    (isDigit c = true ∧ w' <+: (c :: rest).takeWhile isDigit) := by
  rcases lexeme_cases hl with ⟨x, rfl, _⟩ | ⟨x, y, rfl, h2⟩ | ⟨hne, hd, _⟩
  · exact .inl (Nat.le_refl 1)
  · rcases rest with _ | ⟨c', r⟩
    · simp at hp
    · simp only [List.cons_prefix_cons] at hp
      obtain ⟨rfl, rfl, _⟩ := hp
      exact .inr (.inl ⟨rfl, _, _, _, rfl, h2⟩)
  · rcases w' with _ | ⟨x, r⟩
    · exact absurd rfl hne
    · obtain rfl := (List.cons_prefix_cons.1 hp).1
      obtain ⟨t, ht⟩ := hp
      have hrun : x :: r <+: (x :: rest).takeWhile isDigit := by
        rw [← ht, List.takeWhile_append_of_pos hd]
        exact List.prefix_append _ _
      exact .inr (.inr ⟨hd x List.mem_cons_self, hrun⟩)

theorem longest_two {c c' : Char} {t : Tok} (h : twoCharTok c c' = some t) (s : List Char) : Longest [c, c'] s := by
  intro w' t' hl hp
  rcases lexeme_prefix hl hp with h1 | ⟨h2, _⟩ | ⟨hd, _⟩
  · exact Nat.le_succ_of_le h1
  · exact Nat.le_of_eq h2
  · rw [twoCharTok_not_digit h] at hd
    cases hd

theorem longest_one {c : Char} (hc : isDigit c = false) {rest : List Char}
    (h : ∀ c' ∈ rest.head?, twoCharTok c c' = none) : Longest [c] rest := by
  intro w' t' hl hp
  rcases lexeme_prefix hl hp with h1 | ⟨_, c', r, t, hr, h2⟩ | ⟨hd, _⟩
  · exact h1
  · obtain rfl : rest = c' :: r := hr
    rw [h c' rfl] at h2
    cases h2
  · rw [hc] at hd
    cases hd

theorem longest_digits {c : Char} (hc : isDigit c = true) (rest : List Char) :
    Longest ((c :: rest).takeWhile isDigit) ((c :: rest).dropWhile isDigit) := by
  intro w' t' hl hp
  rw [List.takeWhile_append_dropWhile] at hp
  rcases lexeme_prefix hl hp with h1 | ⟨_, c', r, t, _, h2⟩ | ⟨_, hpre⟩
  · simp [hc]
    omega
  · rw [twoCharTok_digit hc] at h2
    cases h2
  · exact hpre.length_le

theorem takeWhile_digit_ne_nil {c : Char} (hc : isDigit c = true) (rest : List Char) :
    (c :: rest).takeWhile isDigit ≠ [] := by
  simp [hc]

theorem lexGo_numeral {c : Char} (hc : isDigit c = true) (rest : List Char) :
    lexGo (c :: rest) none = (lexGo ((c :: rest).dropWhile isDigit) none).cons
      (.int (decimalValue ((c :: rest).takeWhile isDigit))) := by
  have e := lexGo_digits_none (takeWhile_digit_ne_nil hc rest) (Kit.takeWhile_all isDigit (c :: rest))
    (Kit.dropWhile_head isDigit (c :: rest))
  rwa [List.takeWhile_append_dropWhile] at e

theorem tokens_numeral {c : Char} (hc : isDigit c = true) (rest : List Char) {ts : List Tok}
    (h : Tokens ((c :: rest).dropWhile isDigit) ts) :
    Tokens (c :: rest) (.int (decimalValue ((c :: rest).takeWhile isDigit)) :: ts) := by
  have := Tokens.tok (Lexeme.num _ (takeWhile_digit_ne_nil hc rest)
    (fun x hx => (isDigit_iff x).1 (Kit.takeWhile_all isDigit (c :: rest) x hx))) (longest_digits hc rest) h
  rwa [List.takeWhile_append_dropWhile] at this

def Lexed (s : List Char) : Prop := (∃ ts, lexGo s none = .ok ts ∧ Tokens s ts) ∨ lexGo s none = .syntaxError

theorem Lexed.cons {s r : List Char} {t : Tok} (e : lexGo s none = (lexGo r none).cons t)
    (ht : ∀ ts, Tokens r ts → Tokens s (t :: ts)) (h : Lexed r) : Lexed s := by
  rcases h with ⟨ts, h, htok⟩ | h
  · exact .inl ⟨t :: ts, by rw [e, h]; rfl, ht ts htok⟩
  · exact .inr (by rw [e, h]; rfl)

theorem Lexed.blank {c : Char} {rest : List Char} (hb : IsBlank c) (h : Lexed rest) : Lexed (c :: rest) := by
  rcases h with ⟨ts, h, htok⟩ | h
  · exact .inl ⟨ts, (lexGo_blank hb rest).trans h, .blank hb htok⟩
  · exact .inr ((lexGo_blank hb rest).trans h)

theorem lexGo_lexed : ∀ (n : Nat) (s : List Char), s.length < n → Lexed s := by
  intro n
  induction n with
  | zero => exact fun s hn => absurd hn (Nat.not_lt_zero _)
  | succ n ih =>
    intro s hn
    rcases s with _ | ⟨c, rest⟩
    · exact .inl ⟨[], by simp [lexGo, flush_none], .nil⟩
    · simp only [List.length_cons] at hn
      cases hc : isDigit c with
      | true =>
        have hle : ((c :: rest).dropWhile isDigit).length ≤ rest.length := by
          rw [List.dropWhile_cons_of_pos hc]
          exact (List.dropWhile_sublist _).length_le
        exact (ih _ (by omega)).cons (lexGo_numeral hc rest) fun _ => tokens_numeral hc rest
      | false =>
        rcases lexGo_cons_cases c rest none with ⟨c', r, t, rfl, h2, e⟩ | ⟨hh, -⟩
        · have htok : ∀ ts, Tokens r ts → Tokens (c :: c' :: r) (t :: ts) := fun ts h => by
            simpa using Tokens.tok (lexeme_of_two h2) (longest_two h2 r) h
          exact (ih r (by simp at hn; omega)).cons e htok
        · by_cases hb : IsBlank c
          · exact (ih rest (by omega)).blank hb
          · cases ht : oneCharTok c with
            | some t =>
              have htok : ∀ ts, Tokens rest ts → Tokens (c :: rest) (t :: ts) := fun ts h => by
                simpa using Tokens.tok (lexeme_of_one ht) (longest_one hc hh) h
              exact (ih rest (by omega)).cons (lexGo_tok ht hh) htok
            | none => exact .inr (lexGo_none hc hb ht hh)

theorem lex_total (s : List Char) : (∃ ts, lex s = .ok ts ∧ Tokens s ts) ∨ lex s = .syntaxError :=
  lexGo_lexed _ s (Nat.lt_succ_self _)

theorem lexGo_complete {s : List Char} {ts : List Tok} (h : Tokens s ts) : lexGo s none = .ok ts := by
  induction h with
  | nil => simp [lexGo, flush_none]
  | @blank c s ts hb _ ih =>
    rw [lexGo_blank hb, ih]
  | @tok w s t ts hl hlong _ ih =>
    rcases lexeme_cases hl with ⟨c, rfl, h1⟩ | ⟨c, c', rfl, h2⟩ | ⟨hne, hd, rfl⟩
    · -- one character: by maximality no two-character rule applies
      have hh : ∀ c' ∈ s.head?, twoCharTok c c' = none := by
        intro c' hs
        obtain ⟨r, rfl⟩ := List.head?_eq_some_iff.1 hs
        cases h2 : twoCharTok c c' with
        | none => rfl
        | some t' =>
          have := hlong [c, c'] t' (lexeme_of_two h2) (by simp)
          simp at this
      rw [List.cons_append, List.nil_append, lexGo_tok h1 hh, ih]
      rfl
    · rw [List.cons_append, List.cons_append, List.nil_append, lexGo_two h2, flush_none, ih]
      rfl
    · -- a numeral: by maximality no digit follows
      have hs : ∀ c ∈ s.head?, isDigit c = false := by
        intro c hs
        obtain ⟨r, rfl⟩ := List.head?_eq_some_iff.1 hs
        cases hc : isDigit c with
        | false => rfl
        | true =>
          have hl' : Lexeme (w ++ [c]) (.int (decimalValue (w ++ [c]))) :=
            .num _ (by simp) (by
              intro x hx
              rcases List.mem_append.1 hx with hx | hx
              · exact (isDigit_iff x).1 (hd x hx)
              · simp at hx; subst hx; exact (isDigit_iff x).1 hc)
          have := hlong _ _ hl' (by simp)
          simp at this
          omega
      rw [lexGo_digits_none hne hd hs, ih]
      rfl

theorem lex_iff_tokens (s : List Char) (ts : List Tok) : lex s = .ok ts ↔ Tokens s ts := by
  refine ⟨fun h => ?_, lexGo_complete⟩
  rcases lex_total s with ⟨ts', h', htok⟩ | h'
  · cases h.symm.trans h'
    exact htok
  · cases h.symm.trans h'

theorem flush_never_valueError {p : Pending} {r : LexResult} (h : r ≠ .valueError) : flush p r ≠ .valueError := by
  rcases p with _ | ⟨v, len⟩
  · exact h
  · cases r <;> simp_all [flush, tooLong, maxStrDigits]

/-- holds because `maxStrDigits = 0` (`flush_never_valueError`): the pending digits are flushed in front of what the
    lexer answers on the rest, and `flush` refuses a numeral only for its length -/
theorem lexGo_never_valueError (s : List Char) (p : Pending) : lexGo s p ≠ .valueError := by
  have e := lexGo_digits _ (Kit.takeWhile_all isDigit s) (s.dropWhile isDigit) p
  rw [List.takeWhile_append_dropWhile, lexGo_flush (Kit.dropWhile_head isDigit s)] at e
  rw [e]
  apply flush_never_valueError
  rcases lexGo_lexed _ (s.dropWhile isDigit) (Nat.lt_succ_self _) with ⟨ts, h, _⟩ | h <;> simp [h]

theorem lex_syntaxError_iff (s : List Char) : lex s = .syntaxError ↔ ¬ ∃ ts, Tokens s ts := by
  constructor
  · rintro h ⟨ts, ht⟩
    rw [(lex_iff_tokens s ts).2 ht] at h
    cases h
  · intro h
    rcases lex_total s with ⟨ts, _, htok⟩ | h'
    · exact absurd ⟨ts, htok⟩ h
    · exact h'

theorem tokens_functional {s : List Char} {ts ts' : List Tok} (h : Tokens s ts) (h' : Tokens s ts') : ts = ts' := by
  have := (lex_iff_tokens s ts).2 h
  rw [(lex_iff_tokens s ts').2 h'] at this
  cases this
  rfl

end I18n.PluralParse
