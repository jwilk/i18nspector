import I18n.Spec.BraceRe
import I18n.Lemmas.Kit.Basic
/-!
# A kit for reasoning about `Spec.BraceRe.bt` (backtracking first-match semantics)

For every file that reads a regex under `bt`; the defining equations of `bt` come first, as rewrite rules.  Three ideas carry the rest.
A greedy repetition of a class consumes the maximal run when the continuation never needs a character given back (`Greedy`,
`bt_star_cls`, `bt_plus_cls`).  A class made of literals and ranges is constant between consecutive break points, so a fact about
such classes that holds for ALL characters is decided by testing the break points (`Steps`, `clsEquivB`, `fsDisjointB`, `fs_decide`).
A regex cannot get past a character outside its first set (`bt_stuck`); on this rests `norm`, a canonical form (classes as sorted
merged ranges, sequences right-nested without `eps`, `x+` as `x x*`, alternations of non-nullable branches with pairwise disjoint
first sets sorted by their smallest first character) with `norm_sound : bt db (norm r) = bt db r`.  A proof about `norm` of a
regenerated parse tree therefore survives every respelling of the pattern that `norm` identifies.  A star-free piece made of
single characters is an ordered list of words (`words`, `bt_words`); when the list is prefix-free at most one word can be
read, and `findSome_unique` picks it.  Core Lean only.

Two namespaces: what is stated of `bt` and `clsTest` alone (the equations, `FailsOn`, `Greedy`, the greedy-class lemmas,
`cls_any_of`) is declared into `I18n.Spec.BraceRe`, next to the definitions, and is in scope wherever that is open; what
needs a notion of this file (`Steps`, first sets, `norm`, `words`) is in `I18n.ReKit`.
-/
namespace I18n.Spec.BraceRe

section eqns
variable {β : Type} (db : CharDB) (k : St → Option β)
theorem bt_eps (st : St) : bt db .eps st k = k st := rfl
theorem bt_cls_nil (neg items pos caps) : bt db (.cls neg items) ⟨[], pos, caps⟩ k = none := rfl
theorem bt_alt (a b st) : bt db (.alt a b) st k = (match bt db a st k with | some r => some r | none => bt db b st k) := rfl
theorem bt_opt (a st) : bt db (.opt a) st k = (match bt db a st k with | some r => some r | none => k st) := rfl
theorem bt_star (a st) : bt db (.star a) st k = starLoop (bt db a) st.rest.length st k := rfl
theorem bt_plus (a st) : bt db (.plus a) st k = bt db a st (fun st' => starLoop (bt db a) st'.rest.length st' k) := rfl
theorem bt_bos (st) : bt db .bos st k = if st.pos = 0 then k st else none := rfl
theorem bt_eos (st) : bt db .eos st k = if st.rest.isEmpty then k st else none := rfl
theorem bt_cls_cons (neg items c r pos caps) :
    bt db (.cls neg items) ⟨c :: r, pos, caps⟩ k = if clsTest db neg items c then k ⟨r, pos + 1, caps⟩ else none := rfl
theorem bt_seq (a b st) : bt db (.seq a b) st k = bt db a st (fun st' => bt db b st' k) := rfl
theorem bt_group (g a st) : bt db (.group g a) st k = bt db a st (fun st' => k { st' with caps := (g, st.pos, st'.pos) :: st'.caps }) := rfl
theorem bt_alt_or (a b st) : bt db (.alt a b) st k = (bt db a st k).or (bt db b st k) := by
  simp only [bt]; cases bt db a st k <;> rfl
theorem bt_opt_or (a st) : bt db (.opt a) st k = (bt db a st k).or (k st) := by
  simp only [bt]; cases bt db a st k <;> rfl
end eqns

def FailsOn {β : Type} (p : Char → Bool) (k : St → Option β) : Prop :=
  ∀ c r pos caps, p c = true → k ⟨c :: r, pos, caps⟩ = none

/-- the continuation, where it succeeds in front of a character of the class, also succeeds after the maximal run of the
    class from there (so a greedy repetition of the class never has to give a character back) -/
def Greedy {β : Type} (p : Char → Bool) (k : St → Option β) : Prop :=
  ∀ c r pos caps, p c = true → k ⟨c :: r, pos, caps⟩ ≠ none →
    k ⟨r.dropWhile p, pos + 1 + (r.takeWhile p).length, caps⟩ ≠ none

theorem FailsOn.greedy {β : Type} {p : Char → Bool} {k : St → Option β} (h : FailsOn p k) : Greedy p k :=
  fun c r pos caps hc hne => absurd (h c r pos caps hc) hne

theorem FailsOn.caps {β : Type} {p : Char → Bool} {k : St → Option β} (h : FailsOn p k) (f : St → Caps) :
    FailsOn p fun st => k ⟨st.rest, st.pos, f st⟩ :=
  fun c r _ _ hc => h c r _ _ hc

theorem greedy_of_ne_none {β : Type} (p : Char → Bool) {k : St → Option β} (h : ∀ st, k st ≠ none) : Greedy p k :=
  fun _ _ _ _ _ _ => h _

theorem bt_star_cls (db : CharDB) (neg : Bool) (items : List ClsItem) (p : Char → Bool) (hp : ∀ c, clsTest db neg items c = p c)
    {β : Type} (k : St → Option β) (H : Greedy p k) (rest : List Char) (pos : Nat) (caps : Caps) :
    bt db (.star (.cls neg items)) ⟨rest, pos, caps⟩ k = k ⟨rest.dropWhile p, pos + (rest.takeWhile p).length, caps⟩ := by
  obtain rfl : clsTest db neg items = p := funext hp
  suffices ∀ (fuel : Nat) (rest : List Char) (pos : Nat), rest.length ≤ fuel →
      starLoop (bt db (.cls neg items)) fuel ⟨rest, pos, caps⟩ k =
        k ⟨rest.dropWhile (clsTest db neg items), pos + (rest.takeWhile (clsTest db neg items)).length, caps⟩ from
    this _ rest pos (Nat.le_refl _)
  intro fuel
  induction fuel with
  | zero =>
    intro rest pos h
    obtain rfl : rest = [] := List.eq_nil_of_length_eq_zero (Nat.le_zero.1 h)
    rfl
  | succ fuel ih =>
    intro rest pos h
    cases rest with
    | nil => rfl
    | cons c r =>
      by_cases hc : clsTest db neg items c = true
      · simp only [starLoop, bt_cls_cons, hc, if_true, List.length_cons, Nat.lt_add_one, List.dropWhile_cons, List.takeWhile_cons,
          ih r (pos + 1) (Nat.le_of_succ_le_succ h), ← Nat.add_assoc, Nat.add_right_comm pos _ 1]
        -- the loop result after `c`, else the continuation here: the same when the former is `none`, by `H`
        cases hk : k ⟨r.dropWhile (clsTest db neg items), pos + 1 + (r.takeWhile (clsTest db neg items)).length, caps⟩ with
        | some x => rfl
        | none =>
          cases hk2 : k ⟨c :: r, pos, caps⟩ with
          | none => rfl
          | some y => exact absurd hk (H c r pos caps hc (by rw [hk2]; exact Option.some_ne_none y))
      · simp [starLoop, bt_cls_cons, hc]

theorem bt_plus_cls (db : CharDB) (neg : Bool) (items : List ClsItem) (p : Char → Bool) (hp : ∀ c, clsTest db neg items c = p c)
    {β : Type} (k : St → Option β) (H : Greedy p k) (rest : List Char) (pos : Nat) (caps : Caps) :
    bt db (.plus (.cls neg items)) ⟨rest, pos, caps⟩ k =
      if (rest.takeWhile p).isEmpty then none else k ⟨rest.dropWhile p, pos + (rest.takeWhile p).length, caps⟩ := by
  cases rest with
  | nil => rfl
  | cons c r =>
    rw [show bt db (.plus (.cls neg items)) ⟨c :: r, pos, caps⟩ k =
      bt db (.cls neg items) ⟨c :: r, pos, caps⟩ (bt db (.star (.cls neg items)) · k) from rfl, bt_cls_cons, hp]
    by_cases hc : p c = true
    · simp only [hc, if_true, bt_star_cls db neg items p hp k H, List.takeWhile_cons, List.dropWhile_cons, List.isEmpty_cons,
        List.length_cons, Bool.false_eq_true, if_false, ← Nat.add_assoc, Nat.add_right_comm pos _ 1]
    · simp [hc]

theorem any_test_lits (db : CharDB) (l : List Char) (c : Char) :
    (l.map fun ch => ClsItem.lit ch.toNat).any (ClsItem.test db c) = l.contains c := by
  induction l with
  | nil => rfl
  | cons ch l ih => simp only [List.map_cons, List.any_cons, ClsItem.test, Kit.Char.toNat_beq, ih, List.contains_cons]

theorem cls_any_of (db : CharDB) (l : List Char) (c : Char) :
    clsTest db false (l.map fun ch => .lit ch.toNat) c = l.contains c := by
  rw [clsTest, any_test_lits, Bool.bne_false]

theorem cls_none_of (db : CharDB) (l : List Char) (c : Char) :
    clsTest db true (l.map fun ch => .lit ch.toNat) c = !l.contains c := by
  rw [clsTest, any_test_lits, Bool.bne_true]

end I18n.Spec.BraceRe

namespace I18n.ReKit
open I18n.Spec.BraceRe

theorem starLoop_succ {β : Type} (body : St → (St → Option β) → Option β) (fuel : Nat) (st : St) (k : St → Option β) :
    starLoop body (fuel + 1) st k =
      (body st (fun st' => if st'.rest.length < st.rest.length then starLoop body fuel st' k else none)).or (k st) := by
  simp only [starLoop]; cases body st _ <;> rfl

/-! ## classes on code points

`itemN`, `itemsN`, `fsN` are `ClsItem.test`, a class and a union of classes as functions of the code point `n : Nat`, for items
without categories (`noCatItem`): such a function changes value only at the `itemBps`, which is what lets `Steps.decide` settle a
statement about all characters by testing finitely many. -/

def itemN (n : Nat) : ClsItem → Bool
  | .lit k => n == k
  | .range a b => a ≤ n && n ≤ b
  | _ => false

def itemBps : ClsItem → List Nat
  | .lit k => [k, k + 1]
  | .range a b => [a, b + 1]
  | _ => []

def noCatItem : ClsItem → Bool
  | .lit _ => true | .range _ _ => true | _ => false

theorem item_test_eq (db : CharDB) (c : Char) {it : ClsItem} (h : noCatItem it = true) : it.test db c = itemN c.toNat it := by
  cases it <;> simp_all [noCatItem, ClsItem.test, itemN]

def itemsN (items : List ClsItem) (n : Nat) : Bool := items.any (itemN n)

theorem items_test_eq (db : CharDB) (c : Char) {items : List ClsItem} (h : items.all noCatItem = true) :
    items.any (ClsItem.test db c) = itemsN items c.toNat := by
  induction items with
  | nil => rfl
  | cons it rest ih =>
    simp only [List.all_cons, Bool.and_eq_true] at h
    simp only [List.any_cons, itemsN, item_test_eq db c h.1]
    rw [ih h.2]; rfl

def Steps (bps : List Nat) (f : Nat → Bool) : Prop := ∀ n, n + 1 ∉ bps → f (n + 1) = f n

theorem Steps.map {bps : List Nat} {f : Nat → Bool} (op : Bool → Bool) (hf : Steps bps f) : Steps bps (fun n => op (f n)) :=
  fun n hn => congrArg op (hf n hn)

theorem Steps.map2 {bps : List Nat} {f g : Nat → Bool} (op : Bool → Bool → Bool) (hf : Steps bps f) (hg : Steps bps g) :
    Steps bps (fun n => op (f n) (g n)) := fun n hn => by
  show op (f (n + 1)) (g (n + 1)) = op (f n) (g n)
  rw [hf n hn, hg n hn]

theorem Steps.decide {bps : List Nat} {f : Nat → Bool} (hs : Steps bps f) (h : (0 :: bps).all (fun n => !f n) = true) : ∀ n, f n = false
  | 0 => by simpa using List.all_eq_true.1 h 0 List.mem_cons_self
  | n + 1 => by
    by_cases hn : n + 1 ∈ bps
    · simpa using List.all_eq_true.1 h _ (List.mem_cons_of_mem _ hn)
    · rw [hs n hn]; exact Steps.decide hs h n

theorem steps_item {bps : List Nat} {it : ClsItem} (h : ∀ x ∈ itemBps it, x ∈ bps) : Steps bps (fun n => itemN n it) := by
  intro n hn
  cases it with
  | lit k =>
    have h1 : n + 1 ≠ k := fun e => hn (e ▸ h k (by simp [itemBps]))
    have h2 : n + 1 ≠ k + 1 := fun e => hn (e ▸ h (k + 1) (by simp [itemBps]))
    simp only [itemN, beq_eq_false_iff_ne.2 h1]
    exact (beq_eq_false_iff_ne.2 fun e => h2 (by omega)).symm
  | range a b =>
    have h1 : n + 1 ≠ a := fun e => hn (e ▸ h a (by simp [itemBps]))
    have h2 : n + 1 ≠ b + 1 := fun e => hn (e ▸ h (b + 1) (by simp [itemBps]))
    show (decide (a ≤ n + 1) && decide (n + 1 ≤ b)) = (decide (a ≤ n) && decide (n ≤ b))
    rw [Bool.eq_iff_iff]
    simp only [Bool.and_eq_true, decide_eq_true_eq]
    omega
  | _ => rfl

theorem steps_items {bps : List Nat} {items : List ClsItem} (h : ∀ x ∈ items.flatMap itemBps, x ∈ bps) : Steps bps (itemsN items) := by
  induction items with
  | nil => intro n _; rfl
  | cons it rest ih =>
    simp only [List.flatMap_cons, List.mem_append] at h
    exact Steps.map2 (· || ·) (steps_item fun x hx => h x (Or.inl hx)) (ih fun x hx => h x (Or.inr hx))

/-- the two item lists denote the same set of code points (decided at the break points) -/
def clsEquivB (a b : List ClsItem) : Bool :=
  a.all noCatItem && b.all noCatItem &&
    (0 :: (a.flatMap itemBps ++ b.flatMap itemBps)).all (fun n => !(itemsN a n != itemsN b n))

theorem clsEquivB_sound {a b : List ClsItem} (h : clsEquivB a b = true) (db : CharDB) (neg : Bool) (c : Char) :
    clsTest db neg a c = clsTest db neg b c := by
  simp only [clsEquivB, Bool.and_eq_true] at h
  obtain ⟨⟨ha, hb⟩, hall⟩ := h
  have := Steps.decide (Steps.map2 (· != ·) (steps_items fun x hx => List.mem_append_left _ hx)
    (steps_items fun x hx => List.mem_append_right _ hx)) hall c.toNat
  simp only [clsTest, items_test_eq db c ha, items_test_eq db c hb]
  have e : itemsN a c.toNat = itemsN b c.toNat := by simpa using this
  rw [e]

theorem cls_of_chars (db : CharDB) (chars : List Char) (items : List ClsItem)
    (h : clsEquivB items (chars.map (fun ch => ClsItem.lit ch.toNat)) = true) (c : Char) :
    clsTest db false items c = chars.contains c :=
  (clsEquivB_sound h db false c).trans (cls_any_of db chars c)

/-- a union of (possibly negated) classes -/
abbrev FS := List (Bool × List ClsItem)

def fsTest (db : CharDB) (fs : FS) (c : Char) : Bool := fs.any (fun p => clsTest db p.1 p.2 c)

def nullable : Re → Bool
  | .eps => true
  | .cls _ _ => false
  | .seq a b => nullable a && nullable b
  | .alt a b => nullable a || nullable b
  | .opt _ => true
  | .star _ => true
  | .plus a => nullable a
  | .group _ a => nullable a
  | .bos => true
  | .eos => true

def first : Re → FS
  | .eps => []
  | .cls neg items => [(neg, items)]
  | .seq a b => if nullable a then first a ++ first b else first a
  | .alt a b => first a ++ first b
  | .opt a => first a
  | .star a => first a
  | .plus a => first a
  | .group _ a => first a
  | .bos => []
  | .eos => []

def HeadOut (db : CharDB) (fs : FS) (rest : List Char) : Prop := ∀ c r, rest = c :: r → fsTest db fs c = false

theorem HeadOut.append_left {db : CharDB} {f g : FS} {rest : List Char} (h : HeadOut db (f ++ g) rest) : HeadOut db f rest := by
  intro c r hr; have := h c r hr; simp only [fsTest, List.any_append, Bool.or_eq_false_iff] at this; exact this.1
theorem HeadOut.append_right {db : CharDB} {f g : FS} {rest : List Char} (h : HeadOut db (f ++ g) rest) : HeadOut db g rest := by
  intro c r hr; have := h c r hr; simp only [fsTest, List.any_append, Bool.or_eq_false_iff] at this; exact this.2

section stuck
variable {β : Type} (db : CharDB)

theorem starLoop_stuck (body : St → (St → Option β) → Option β) (st : St)
    (hb : ∀ k, (∀ st' : St, st'.rest = st.rest → k st' = none) → body st k = none)
    (fuel : Nat) (k : St → Option β) (hk : ∀ st' : St, st'.rest = st.rest → k st' = none) :
    starLoop body fuel st k = none := by
  cases fuel with
  | zero => simp only [starLoop]; exact hk st rfl
  | succ fuel =>
    rw [starLoop_succ]
    rw [hb _ (fun st' h => by simp [h])]
    simp [hk st rfl]

/-- **a regex cannot get past a character outside its first set**: if the next character is not in `first a` (or the
    input is exhausted), `a` can only match the empty string — so it fails outright when it is not nullable, and it fails
    when the continuation fails on every state with the same remaining input -/
theorem bt_stuck (a : Re) : ∀ (st : St) (k : St → Option β), HeadOut db (first a) st.rest →
    ((nullable a = false → bt db a st k = none) ∧ ((∀ st' : St, st'.rest = st.rest → k st' = none) → bt db a st k = none)) := by
  induction a with
  | eps => intro st k _; exact ⟨by simp [nullable], fun hk => by rw [bt_eps]; exact hk st rfl⟩
  | cls neg items =>
    intro st k h
    have : bt db (.cls neg items) st k = none := by
      obtain ⟨rest, pos, caps⟩ := st
      cases rest with
      | nil => exact bt_cls_nil db ..
      | cons c r =>
        have := h c r rfl
        simp only [first, fsTest, List.any_cons, List.any_nil, Bool.or_false] at this
        rw [bt_cls_cons, this]; rfl
    exact ⟨fun _ => this, fun _ => this⟩
  | seq a b iha ihb =>
    intro st k h
    simp only [first] at h
    by_cases na : nullable a = true
    · simp only [na, if_true] at h
      constructor
      · intro hn
        simp only [nullable, na, Bool.true_and] at hn
        rw [bt_seq]
        exact (iha st _ h.append_left).2 (fun st' hs => (ihb st' k (hs ▸ h.append_right)).1 hn)
      · intro hk
        rw [bt_seq]
        exact (iha st _ h.append_left).2 (fun st' hs => (ihb st' k (hs ▸ h.append_right)).2 (fun st'' hs' => hk st'' (hs'.trans hs)))
    · have na' : nullable a = false := by simpa using na
      simp only [na', Bool.false_eq_true, if_false] at h
      have : bt db (.seq a b) st k = none := by rw [bt_seq]; exact (iha st _ h).1 na'
      exact ⟨fun _ => this, fun _ => this⟩
  | alt a b iha ihb =>
    intro st k h
    simp only [first] at h
    constructor
    · intro hn
      simp only [nullable, Bool.or_eq_false_iff] at hn
      rw [bt_alt_or, (iha st k h.append_left).1 hn.1, (ihb st k h.append_right).1 hn.2]; rfl
    · intro hk
      rw [bt_alt_or, (iha st k h.append_left).2 hk, (ihb st k h.append_right).2 hk]; rfl
  | opt a iha =>
    intro st k h
    simp only [first] at h
    exact ⟨by simp [nullable], fun hk => by rw [bt_opt_or, (iha st k h).2 hk, hk st rfl]; rfl⟩
  | star a iha =>
    intro st k h
    simp only [first] at h
    refine ⟨by simp [nullable], fun hk => ?_⟩
    rw [bt_star]
    exact starLoop_stuck _ st (fun k' hk' => (iha st k' h).2 hk') _ k hk
  | plus a iha =>
    intro st k h
    simp only [first] at h
    constructor
    · intro hn
      rw [bt_plus]; exact (iha st _ h).1 (by simpa [nullable] using hn)
    · intro hk
      rw [bt_plus]
      refine (iha st _ h).2 (fun st' hs => ?_)
      exact starLoop_stuck _ st' (fun k' hk' => (iha st' k' (hs ▸ h)).2 hk') _ k (fun st'' hs' => hk st'' (hs'.trans hs))
  | group g a iha =>
    intro st k h
    simp only [first] at h
    constructor
    · intro hn; rw [bt_group]; exact (iha st _ h).1 (by simpa [nullable] using hn)
    · intro hk; rw [bt_group]; exact (iha st _ h).2 (fun st' hs => hk _ hs)
  | bos | eos =>
    intro st k _
    refine ⟨by simp [nullable], fun hk => ?_⟩
    simp only [bt]; split
    · exact hk st rfl
    · rfl

end stuck

def fsN (fs : FS) (n : Nat) : Bool := fs.any (fun p => itemsN p.2 n != p.1)
def fsBps (fs : FS) : List Nat := fs.flatMap (fun p => p.2.flatMap itemBps)
def fsNoCat (fs : FS) : Bool := fs.all (fun p => p.2.all noCatItem)

theorem fsTest_eq (db : CharDB) (c : Char) {fs : FS} (h : fsNoCat fs = true) : fsTest db fs c = fsN fs c.toNat := by
  induction fs with
  | nil => rfl
  | cons p rest ih =>
    simp only [fsNoCat, List.all_cons, Bool.and_eq_true] at h
    have := ih (by simpa [fsNoCat] using h.2)
    simp only [fsTest, fsN] at this
    simp only [fsTest, fsN, List.any_cons, this]
    simp only [clsTest, items_test_eq db c h.1]

theorem steps_fs {bps : List Nat} {fs : FS} (h : ∀ x ∈ fsBps fs, x ∈ bps) : Steps bps (fsN fs) := by
  induction fs with
  | nil => intro n _; rfl
  | cons p rest ih =>
    simp only [fsBps, List.flatMap_cons, List.mem_append] at h
    have hp : Steps bps (fun n => itemsN p.2 n != p.1) := (steps_items fun x hx => h x (Or.inl hx)).map (· != p.1)
    exact Steps.map2 (· || ·) hp (ih fun x hx => h x (Or.inr hx))

theorem fs_decide (op : Bool → Bool → Bool) {f g : FS} (nf : fsNoCat f = true) (ng : fsNoCat g = true)
    (h : (0 :: (fsBps f ++ fsBps g)).all (fun n => !(op (fsN f n) (fsN g n))) = true) (db : CharDB) (c : Char) :
    op (fsTest db f c) (fsTest db g c) = false := by
  rw [fsTest_eq db c nf, fsTest_eq db c ng]
  have hf : Steps (fsBps f ++ fsBps g) (fsN f) := steps_fs fun x hx => List.mem_append_left _ hx
  have hg : Steps (fsBps f ++ fsBps g) (fsN g) := steps_fs fun x hx => List.mem_append_right _ hx
  exact (Steps.map2 op hf hg).decide h c.toNat

def fsDisjointB (f g : FS) : Bool :=
  fsNoCat f && fsNoCat g && (0 :: (fsBps f ++ fsBps g)).all (fun n => !(fsN f n && fsN g n))

theorem fsDisjointB_sound {f g : FS} (h : fsDisjointB f g = true) (db : CharDB) (c : Char) (hf : fsTest db f c = true) :
    fsTest db g c = false := by
  simp only [fsDisjointB, Bool.and_eq_true] at h
  simpa [hf] using fs_decide (· && ·) h.1.1 h.1.2 h.2 db c

/-- `fsEmptyB`, `fsSubsetB`: emptiness and inclusion of first sets, decided at the break points like `fsDisjointB`; part of the
    kit's surface, without a client in this development -/
def fsEmptyB (fs : FS) : Bool := fsNoCat fs && (0 :: fsBps fs).all (fun n => !fsN fs n)

def fsSubsetB (f g : FS) : Bool :=
  fsNoCat f && fsNoCat g && (0 :: (fsBps f ++ fsBps g)).all (fun n => !(fsN f n && !fsN g n))

theorem fsSubsetB_sound {f g : FS} (h : fsSubsetB f g = true) (db : CharDB) (c : Char) (hf : fsTest db f c = true) :
    fsTest db g c = true := by
  simp only [fsSubsetB, Bool.and_eq_true] at h
  simpa [hf] using fs_decide (fun x y => x && !y) h.1.1 h.1.2 h.2 db c

def toRange : ClsItem → List (Nat × Nat)
  | .lit k => [(k, k)]
  | .range a b => if a ≤ b then [(a, b)] else []
  | _ => []

def insertR (r : Nat × Nat) : List (Nat × Nat) → List (Nat × Nat)
  | [] => [r]
  | x :: xs => if r.1 ≤ x.1 then r :: x :: xs else x :: insertR r xs

def mergeGo (a b : Nat) : List (Nat × Nat) → List (Nat × Nat)
  | [] => [(a, b)]
  | (c, d) :: rest => if c ≤ b + 1 then mergeGo a (max b d) rest else (a, b) :: mergeGo c d rest

/-- sorted, merged ranges (computed without proof; `normCls` validates the result with `clsEquivB`) -/
def canonItems (items : List ClsItem) : List ClsItem :=
  match (items.flatMap toRange).foldr insertR [] with
  | [] => []
  | (a, b) :: rest => (mergeGo a b rest).map (fun p => .range p.1 p.2)

def normCls (neg : Bool) (items : List ClsItem) : Re :=
  if clsEquivB items (canonItems items) then .cls neg (canonItems items) else .cls neg items

def mkSeq (a b : Re) : Re :=
  match a with
  | .eps => b
  | .seq a1 a2 => .seq a1 (mkSeq a2 b)
  | a => if b = .eps then a else .seq a b

def altList : Re → List Re
  | .alt a b => altList a ++ altList b
  | r => [r]

def ofAltList : List Re → Re
  | [] => .cls false []
  | [a] => a
  | a :: b :: rest => .alt a (ofAltList (b :: rest))

/-- the smallest code point of a first set (0 if it has none) -/
def fsMin (fs : FS) : Nat :=
  match (0 :: fsBps fs).filter (fsN fs) with
  | [] => 0
  | x :: xs => xs.foldl (fun m y => if y < m then y else m) x

def altKey (a : Re) : Nat := fsMin (first a)

def insertA (a : Re) : List Re → List Re
  | [] => [a]
  | x :: xs => if altKey a ≤ altKey x then a :: x :: xs else x :: insertA a xs

def sortAlts (l : List Re) : List Re := l.foldr insertA []

/-- every branch is non-nullable and any two different branches have disjoint first sets: at most one branch can match
    at any input, so the order of the branches does not matter -/
def sortableB (l : List Re) : Bool :=
  l.all (fun a => !nullable a) && l.all (fun a => l.all (fun b => a == b || fsDisjointB (first a) (first b)))

def mkAlt (a b : Re) : Re :=
  if sortableB (altList a ++ altList b) then ofAltList (sortAlts (altList a ++ altList b)) else .alt a b

def norm : Re → Re
  | .eps => .eps
  | .cls neg items => normCls neg items
  | .seq a b => mkSeq (norm a) (norm b)
  | .alt a b => mkAlt (norm a) (norm b)
  | .opt a => .opt (norm a)
  | .star a => .star (norm a)
  | .plus a => mkSeq (norm a) (.star (norm a))
  | .group g a => .group g (norm a)
  | .bos => .bos
  | .eos => .eos

/-! ## `norm` preserves `bt` -/

section sound
variable {β : Type} (db : CharDB)

theorem normCls_sound (neg : Bool) (items : List ClsItem) (st : St) (k : St → Option β) :
    bt db (normCls neg items) st k = bt db (.cls neg items) st k := by
  unfold normCls
  by_cases h : clsEquivB items (canonItems items) = true
  · rw [if_pos h]
    obtain ⟨rest, pos, caps⟩ := st
    cases rest with
    | nil => rw [bt_cls_nil, bt_cls_nil]
    | cons c r => rw [bt_cls_cons, bt_cls_cons, clsEquivB_sound h db neg c]
  · rw [if_neg h]

theorem mkSeq_sound (a b : Re) : ∀ (st : St) (k : St → Option β), bt db (mkSeq a b) st k = bt db (.seq a b) st k := by
  induction a with
  | eps => intro st k; simp [mkSeq, bt_seq, bt_eps]
  | seq a1 a2 _ ih2 =>
    intro st k
    simp only [mkSeq, bt_seq]
    congr 1; funext st'; rw [ih2, bt_seq]
  -- the other constructors: `mkSeq a b` is `a` when `b = eps`, and `seq a eps` reads as `a` (`bt_eps`); else it is `seq a b`
  | _ => intro st k; simp only [mkSeq]; split <;> simp_all [bt_seq, bt_eps]

theorem bt_ofAltList (l : List Re) (st : St) (k : St → Option β) :
    bt db (ofAltList l) st k = l.findSome? (fun a => bt db a st k) := by
  induction l with
  | nil =>
    obtain ⟨rest, pos, caps⟩ := st
    cases rest <;> simp [ofAltList, bt_cls_nil, bt_cls_cons, clsTest]
  | cons a rest ih =>
    cases rest with
    | nil => simp only [ofAltList, List.findSome?_cons, List.findSome?_nil]; cases bt db a st k <;> rfl
    | cons b rest =>
      simp only [ofAltList, bt_alt_or, ih, List.findSome?_cons]
      cases bt db a st k <;> rfl

theorem bt_altList (r : Re) (st : St) (k : St → Option β) :
    (altList r).findSome? (fun a => bt db a st k) = bt db r st k := by
  induction r with
  | alt a b iha ihb => simp only [altList, List.findSome?_append, iha, ihb, bt_alt_or]
  | _ => simp only [altList, List.findSome?_cons, List.findSome?_nil]; cases bt db _ st k <;> rfl

theorem findSome_unique {α γ : Type} [DecidableEq α] (f : α → Option γ) (a : α) (l : List α) (h : ∀ b ∈ l, b ≠ a → f b = none) :
    l.findSome? f = if a ∈ l then f a else none := by
  induction l with
  | nil => simp
  | cons x xs ih =>
    have ih' := ih (fun b hb => h b (List.mem_cons_of_mem _ hb))
    simp only [List.findSome?_cons, List.mem_cons]
    by_cases hx : x = a
    · subst hx
      cases hfx : f x with
      | some v => simp
      | none => simp only [true_or, if_true]; rw [ih']; split <;> simp_all
    · rw [h x List.mem_cons_self hx, ih']
      have : (a = x ∨ a ∈ xs) ↔ a ∈ xs := ⟨fun h => h.resolve_left (fun e => hx e.symm), Or.inr⟩
      simp only [this]

theorem mem_insertA {a x : Re} {l : List Re} : x ∈ insertA a l ↔ x = a ∨ x ∈ l := by
  induction l with
  | nil => simp [insertA]
  | cons y ys ih =>
    simp only [insertA]
    split
    · simp
    · simp only [List.mem_cons, ih]
      constructor
      · rintro (h | h | h) <;> simp_all
      · rintro (h | h | h) <;> simp_all

theorem mem_sortAlts {x : Re} {l : List Re} : x ∈ sortAlts l ↔ x ∈ l := by
  induction l with
  | nil => simp [sortAlts]
  | cons a l ih =>
    have : sortAlts (a :: l) = insertA a (sortAlts l) := rfl
    rw [this, mem_insertA, ih]; simp

theorem sortable_unique {l : List Re} (h : sortableB l = true) (st : St) (k : St → Option β) :
    ∃ a, ∀ b ∈ l, b ≠ a → bt db b st k = none := by
  simp only [sortableB, Bool.and_eq_true, List.all_eq_true, Bool.or_eq_true, Bool.not_eq_true', beq_iff_eq] at h
  obtain ⟨hn, hd⟩ := h
  by_cases hex : ∃ a ∈ l, ∃ c r, st.rest = c :: r ∧ fsTest db (first a) c = true
  · obtain ⟨a, ha, c, r, hr, hc⟩ := hex
    refine ⟨a, fun b hb hne => ?_⟩
    have hdis : fsDisjointB (first a) (first b) = true := by
      rcases hd a ha b hb with e | e
      · exact absurd e.symm hne
      · exact e
    refine (bt_stuck db b st k ?_).1 (hn b hb)
    intro c' r' hr'
    rw [hr] at hr'
    cases hr'
    exact fsDisjointB_sound hdis db c hc
  · refine ⟨.eps, fun b hb _ => (bt_stuck db b st k ?_).1 (hn b hb)⟩
    intro c r hr
    by_cases hc : fsTest db (first b) c = true
    · exact absurd ⟨b, hb, c, r, hr, hc⟩ hex
    · simpa using hc

theorem mkAlt_sound (a b : Re) (st : St) (k : St → Option β) : bt db (mkAlt a b) st k = bt db (.alt a b) st k := by
  unfold mkAlt
  by_cases h : sortableB (altList a ++ altList b) = true
  · rw [if_pos h]
    obtain ⟨x, hx⟩ := sortable_unique db h st k
    rw [bt_ofAltList, findSome_unique _ x _ (fun b hb => hx b (mem_sortAlts.1 hb)), bt_alt_or, ← bt_altList db a, ← bt_altList db b,
      ← List.findSome?_append, findSome_unique _ x _ hx]
    simp only [mem_sortAlts]
  · rw [if_neg h]

theorem norm_sound (r : Re) : ∀ (st : St) (k : St → Option β), bt db (norm r) st k = bt db r st k := by
  induction r with
  | eps => intro st k; rfl
  | cls neg items => intro st k; exact normCls_sound db neg items st k
  | seq a b iha ihb =>
    intro st k
    simp only [norm, mkSeq_sound, bt_seq, iha]
    congr 1; funext st'; exact ihb st' k
  | alt a b iha ihb => intro st k; simp only [norm, mkAlt_sound, bt_alt_or, iha, ihb]
  | opt a iha => intro st k; simp only [norm, bt_opt_or, iha]
  | star a iha =>
    intro st k
    have : bt (β := β) db (norm a) = bt db a := by funext st' k'; exact iha st' k'
    simp only [norm, bt_star, this]
  | plus a iha =>
    intro st k
    have : bt (β := β) db (norm a) = bt db a := by funext st' k'; exact iha st' k'
    simp only [norm, mkSeq_sound, bt_plus, bt_seq, bt_star, this]
  | group g a iha => intro st k; simp only [norm, bt_group, iha]
  | bos => intro st k; rfl
  | eos => intro st k; rfl

theorem matchAt_norm (r : Re) (cs : List Char) (pos : Nat) : matchAt db (norm r) cs pos = matchAt db r cs pos :=
  norm_sound db r _ _

end sound

/-! ## what clients use to close a backtracking point: first sets, and finite word lists -/

section tools
variable {β : Type} (db : CharDB)

theorem failsOn_of_first (R : Re) (neg : Bool) (items : List ClsItem) (p : Char → Bool) (hp : ∀ c, clsTest db neg items c = p c)
    (hn : nullable R = false) (hd : fsDisjointB [(neg, items)] (first R) = true) (k : St → Option β) :
    FailsOn p (fun st => bt db R st k) := by
  intro c r pos caps hc
  have hcls : fsTest db [(neg, items)] c = true := by simp only [fsTest, List.any_cons, List.any_nil, Bool.or_false, hp, hc]
  have hout : HeadOut db (first R) (c :: r) := by
    rintro c' r' ⟨⟩
    exact fsDisjointB_sound hd db c hcls
  exact (bt_stuck db R ⟨c :: r, pos, caps⟩ k hout).1 hn

theorem fails_nil (R : Re) (hn : nullable R = false) (pos : Nat) (caps : Caps) (k : St → Option β) :
    bt db R ⟨[], pos, caps⟩ k = none :=
  (bt_stuck db R ⟨[], pos, caps⟩ k (by intro c' r' h; cases h)).1 hn

/-- `s` without the prefix spelt by the code points `w`, if it starts with it -/
def stripN : List Nat → List Char → Option (List Char)
  | [], s => some s
  | _ :: _, [] => none
  | w :: ws, c :: s => if c.toNat == w then stripN ws s else none

theorem stripN_append (u v : List Nat) (s : List Char) : stripN (u ++ v) s = (stripN u s).bind (stripN v) := by
  induction u generalizing s with
  | nil => rfl
  | cons w ws ih =>
    cases s with
    | nil => rfl
    | cons c s => simp only [List.cons_append, stripN]; split <;> simp [ih]

/-- the one word of a class that is a single code point -/
def clsWord : Bool → List ClsItem → Option (List (List Nat))
  | false, [.range a b] => if a = b then some [[a]] else none
  | _, _ => none

theorem clsWord_some {neg : Bool} {items : List ClsItem} {ws : List (List Nat)} (h : clsWord neg items = some ws) :
    ∃ a, neg = false ∧ items = [.range a a] ∧ ws = [[a]] := by
  unfold clsWord at h
  split at h
  next a b =>
    by_cases hab : a = b
    · subst hab; rw [if_pos rfl] at h; cases h; exact ⟨a, rfl, rfl, rfl⟩
    · rw [if_neg hab] at h; cases h
  next => cases h

theorem findSome_flatMap {α γ δ : Type} (f : γ → Option δ) (g : α → List γ) (l : List α) :
    (l.flatMap g).findSome? f = l.findSome? (fun a => (g a).findSome? f) := by
  induction l with
  | nil => rfl
  | cons a l ih =>
    simp only [List.flatMap_cons, List.findSome?_append, ih, List.findSome?_cons]
    cases (g a).findSome? f <;> rfl

/-- the words of a regex made of single-code-point classes, `seq`, `alt`, `opt`, in the order the matcher tries them -/
def words : Re → Option (List (List Nat))
  | .eps => some [[]]
  | .cls neg items => clsWord neg items
  | .seq a b =>
    match words a, words b with
    | some wa, some wb => some (wa.flatMap (fun u => wb.map (fun v => u ++ v)))
    | _, _ => none
  | .alt a b =>
    match words a, words b with
    | some wa, some wb => some (wa ++ wb)
    | _, _ => none
  | .opt a =>
    match words a with
    | some wa => some (wa ++ [[]])
    | none => none
  | _ => none

def tryWords (ws : List (List Nat)) (rest : List Char) (pos : Nat) (caps : Caps) (k : St → Option β) : Option β :=
  ws.findSome? (fun w => (stripN w rest).bind (fun r => k ⟨r, pos + w.length, caps⟩))

theorem bt_words (R : Re) : ∀ (ws : List (List Nat)), words R = some ws → ∀ (rest : List Char) (pos : Nat) (caps : Caps) (k : St → Option β),
    bt db R ⟨rest, pos, caps⟩ k = tryWords ws rest pos caps k := by
  induction R with
  | eps => intro ws h rest pos caps k; cases h; simp [tryWords, bt_eps, stripN]
  | cls neg items =>
    intro ws h rest pos caps k
    obtain ⟨a, rfl, rfl, rfl⟩ := clsWord_some (by simpa [words] using h)
    cases rest with
    | nil => simp [tryWords, bt_cls_nil, stripN]
    | cons c r =>
      rw [bt_cls_cons]
      simp only [tryWords, List.findSome?_cons, List.findSome?_nil, stripN, clsTest, ClsItem.test, List.any_cons, List.any_nil,
        Bool.or_false, List.length_cons, List.length_nil]
      by_cases e : c.toNat = a
      · simp [e]
        cases k ⟨r, pos + 1, caps⟩ <;> rfl
      · have : ¬ (a ≤ c.toNat ∧ c.toNat ≤ a) := fun ⟨p, q⟩ => e (Nat.le_antisymm q p)
        simp [e, this]
  | seq a b iha ihb =>
    intro ws h rest pos caps k
    simp only [words] at h
    cases ha : words a with
    | none => simp [ha] at h
    | some wa =>
      cases hb : words b with
      | none => simp [ha, hb] at h
      | some wb =>
        simp only [ha, hb, Option.some.injEq] at h
        subst h
        rw [bt_seq, iha wa ha]
        simp only [tryWords, findSome_flatMap, List.findSome?_map, Function.comp_def]
        congr 1; funext u
        cases hu : stripN u rest with
        | none =>
          simp only [stripN_append, hu, Option.bind_none]
          exact (List.findSome?_eq_none_iff.2 fun _ _ => rfl).symm
        | some r =>
          simp only [Option.bind_some, ihb wb hb, tryWords, stripN_append, hu, List.length_append, Nat.add_assoc]
  | alt a b iha ihb =>
    intro ws h rest pos caps k
    simp only [words] at h
    cases ha : words a with
    | none => simp [ha] at h
    | some wa =>
      cases hb : words b with
      | none => simp [ha, hb] at h
      | some wb =>
        simp only [ha, hb, Option.some.injEq] at h
        subst h
        rw [bt_alt_or, iha wa ha, ihb wb hb]
        simp only [tryWords, List.findSome?_append]
  | opt a iha =>
    intro ws h rest pos caps k
    simp only [words] at h
    cases ha : words a with
    | none => simp [ha] at h
    | some wa =>
      simp only [ha, Option.some.injEq] at h
      subst h
      rw [bt_opt_or, iha wa ha]
      simp [tryWords, stripN]
  | _ => intro ws h; simp [words] at h

theorem stripN_map_append (cs r : List Char) : stripN (cs.map Char.toNat) (cs ++ r) = some r := by
  induction cs with
  | nil => rfl
  | cons c cs ih => simp [stripN, ih]

theorem stripN_some {w : List Nat} {s r : List Char} (h : stripN w s = some r) : ∃ cs, cs.map Char.toNat = w ∧ s = cs ++ r := by
  induction w generalizing s with
  | nil => simp only [stripN, Option.some.injEq] at h; exact ⟨[], rfl, by simp [h]⟩
  | cons k ks ih =>
    cases s with
    | nil => simp [stripN] at h
    | cons c s =>
      simp only [stripN] at h
      by_cases hc : (c.toNat == k) = true
      · rw [if_pos hc] at h
        obtain ⟨cs, h1, h2⟩ := ih h
        exact ⟨c :: cs, by simp [h1, (beq_iff_eq.1 hc)], by simp [h2]⟩
      · rw [if_neg hc] at h; cases h

theorem stripN_comparable {w : List Nat} {u r r' : List Char} (h : stripN w (u ++ r) = some r') :
    w <+: u.map Char.toNat ∨ u.map Char.toNat <+: w := by
  induction w generalizing u with
  | nil => left; exact List.nil_prefix
  | cons k ks ih =>
    cases u with
    | nil => right; exact List.nil_prefix
    | cons c u =>
      simp only [List.cons_append, stripN] at h
      by_cases hc : (c.toNat == k) = true
      · rw [if_pos hc] at h
        have hc' := beq_iff_eq.1 hc
        rcases ih h with p | p
        · left; simp only [List.map_cons, hc']; exact (List.cons_prefix_cons).2 ⟨rfl, p⟩
        · right; simp only [List.map_cons, hc']; exact (List.cons_prefix_cons).2 ⟨rfl, p⟩
      · rw [if_neg hc] at h; cases h

end tools

end I18n.ReKit
