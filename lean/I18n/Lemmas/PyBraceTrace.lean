import I18n.Lemmas.PyBraceMarkup
import I18n.Spec.PyBraceArgs
/-
`Yields cs fs` is CPython's markup iteration over `cs` without the fuel, with the replacement fields `fs` it yields: it
determines the result of the markup iterator (`yields_markup`) and of `str.format` (`yields_format`: the fields are
rendered in order).  A successful run of the model's loop (`Run`, `loop_run`) is such an iteration (`run_yields`) whose
fields are scanned fields that `Field(...)` accepted, with the states threaded.
-/
namespace I18n.PyBrace
open I18n.BraceChars I18n.Spec.StrFormat

inductive Yields : List Char → List Field → Prop where
  | done : Yields [] []
  | step {cs rest : List Char} {ch : Chunk} {fs : List Field} : next cs [] = .ok (some (ch, rest)) → Yields rest fs →
      Yields cs (ch.field.toList ++ fs)

theorem yields_markupLoop {cs : List Char} {fs : List Field} (h : Yields cs fs) :
    ∀ fuel, cs.length < fuel → ∃ chunks, markupLoop fuel cs = .ok chunks ∧ fieldsOf chunks = fs := by
  induction h with
  | done =>
    rintro (_ | fuel) hf
    · omega
    · exact ⟨[], by simp [markupLoop, next], rfl⟩
  | @step cs rest ch fs hn _ ih =>
    rintro (_ | fuel) hfu
    · omega
    · have hl := next_rest_lt hn
      obtain ⟨chunks, hc, rfl⟩ := ih fuel (by omega)
      refine ⟨ch :: chunks, by simp [markupLoop, hn, hc], ?_⟩
      cases hf : ch.field <;> simp [fieldsOf, hf]

theorem yields_chr {c : Char} {r : List Char} {fs : List Field} (h1 : c ≠ '{') (h2 : c ≠ '}') (h : Yields r fs) : Yields (c :: r) fs := by
  have hn : next (c :: r) [] = next r [c] := next_chr h1 h2 r []
  cases h with
  | done => exact .step (ch := { literal := [c], field := none }) (rest := []) (by rw [hn]; simp [next]) .done
  | @step _ rest ch _ hr hrest =>
    exact .step (ch := { ch with literal := [c] ++ ch.literal }) (rest := rest) (by rw [hn, next_lit, hr]) hrest

theorem yields_literal {t : List Char} (ht : LiteralText t) {r : List Char} {fs : List Field} (h : Yields r fs) : Yields (t ++ r) fs := by
  induction ht with
  | nil => exact h
  | chr h1 h2 _ ih => exact yields_chr h1 h2 ih
  | open_ _ ih => exact .step (ch := { literal := ['{'], field := none }) (by simp [next]) ih
  | close _ ih => exact .step (ch := { literal := ['}'], field := none }) (by simp [next]) ih

theorem yields_field {r0 rest : List Char} {f : Field} {fs : List Field} (hpf : parseField r0 = .ok (f, rest)) (h : Yields rest fs) :
    Yields ('{' :: r0) (f :: fs) := by
  obtain ⟨c, r, rfl, hc⟩ := parseField_head hpf
  exact .step (ch := { literal := [], field := some f }) (rest := rest)
    (by simp only [next, show ¬ ('{' : Char) = '}' by decide, hc, if_false, if_true, hpf]) h

theorem yields_markup {s : List Char} {fs : List Field} (h : Yields s fs) : ∃ chunks, markup s = .ok chunks ∧ fieldsOf chunks = fs :=
  yields_markupLoop h (s.length + 1) (by omega)

theorem flat_of_markup {s : List Char} {chunks : List Chunk} (hm : markup s = .ok chunks)
    (h : (fieldsOf chunks).all Field.flat = true) : Flat s := by
  intro chunks' hm' f hf
  cases hm.symm.trans hm'
  exact List.all_eq_true.1 h f hf

theorem quirkFree_of_markup {s : List Char} {chunks : List Chunk} (hm : markup s = .ok chunks)
    (h : (fieldsOf chunks).all (fun f => (scanSpec f.spec).all fun sf => !sf.quirk) = true) : QuirkFree s := by
  intro chunks' hm' f hf sf hs
  cases hm.symm.trans hm'
  simpa [hs] using List.all_eq_true.1 h f hf

def renderAll (a : Args) : AutoNumber → List Field → Except FErr Unit
  | _, [] => .ok ()
  | an, f :: fs =>
    match renderField a an f with
    | .error e => .error e
    | .ok an' => renderAll a an' fs

theorem yields_formatLoop (a : Args) {cs : List Char} {fs : List Field} (h : Yields cs fs) :
    ∀ an fuel, cs.length < fuel → formatLoop a fuel cs an = renderAll a an fs := by
  induction h with
  | done =>
    rintro an (_ | fuel) hf
    · omega
    · simp [formatLoop, next, renderAll]
  | @step cs rest ch fs hn _ ih =>
    rintro an (_ | fuel) hfu
    · omega
    · have hl := next_rest_lt hn
      cases hf : ch.field with
      | none =>
        simp only [formatLoop, hn, hf]
        exact ih an fuel (by omega)
      | some f =>
        simp only [formatLoop, hn, hf, Option.toList_some, List.singleton_append, renderAll]
        cases renderField a an f with
        | error e => rfl
        | ok an' => exact ih an' fuel (by omega)

theorem yields_format (a : Args) {s : List Char} {fs : List Field} (h : Yields s fs) :
    format s a = renderAll a { state := .init, fieldNumber := 0 } fs :=
  yields_formatLoop a h _ _ (by omega)

theorem fieldInit_conv {cfg : Cfg} {st st' : State} {f : RawField} {tp : TySet} (h : fieldInit cfg st f = .ok (st', tp)) :
    ∀ c, f.conversion = some c → tp.str = true ∧ ∃ x, c = ['!', x] ∧ (x = 'r' ∨ x = 's' ∨ x = 'a') := by
  revert h
  fun_cases fieldInit cfg st f with
  | case1 | case2 | case5 | case6 => rintro ⟨⟩
  | case3 _ _ _ _ _ _ hnone =>
    intro _ c hc
    rw [hnone] at hc
    cases hc
  | case4 _ _ _ _ _ _ nm hsome hcc hstr =>
    rintro ⟨⟩ c hc
    obtain rfl : nm = c := Option.some.inj (hsome.symm.trans hc)
    simp only [Bool.or_eq_true, beq_iff_eq] at hcc
    rcases hcc with (rfl | rfl) | rfl
    · exact ⟨hstr, 's', rfl, .inr (.inl rfl)⟩
    · exact ⟨hstr, 'r', rfl, .inl rfl⟩
    · exact ⟨hstr, 'a', rfl, .inr (.inr rfl)⟩

/-- a successful run of the model's loop over `cs` from state `st` to state `stF`: literal text, and scanned fields that
    `Field(...)` accepted; `fs` are these fields as CPython reads them -/
inductive Run (cfg : Cfg) : State → List Char → List Field → State → Prop where
  | nil {st : State} : Run cfg st [] [] st
  | lit {st stF : State} {t r : List Char} {fs : List Field} : LiteralText t → Run cfg st r fs stF → Run cfg st (t ++ r) fs stF
  | field {st st' stF : State} {cs rest : List Char} {rf : RawField} {tp : TySet} {fs : List Field} : FieldShape cs rf rest →
      fieldInit cfg st rf = .ok (st', tp) → Run cfg st' rest fs stF → Run cfg st cs (cpField rf :: fs) stF

theorem loop_run (cfg : Cfg) : ∀ (fuel : Nat) (cs : List Char) (st : State) (items : List PreItem) (stF : State) (itemsF : List PreItem),
    loop cfg fuel cs st items = .ok (stF, itemsF) → ∃ fs, Run cfg st cs fs stF := by
  intro fuel cs st items
  fun_induction loop cfg fuel cs st items with
  | case1 =>
    rintro _ _ ⟨⟩
    exact ⟨[], .nil⟩
  | case2 | case4 | case5 => rintro _ _ ⟨⟩
  | case3 _ _ _ _ _ _ _ _ hlit ih =>
    intro stF itemsF h
    obtain ⟨fs, hr⟩ := ih stF itemsF h
    obtain ⟨hsplit, hlt⟩ := scanLiteral_spec _ _ _ _ hlit
    exact ⟨fs, hsplit ▸ .lit hlt hr⟩
  | case6 _ _ _ _ _ _ _ _ _ hsf _ _ hfi ih =>
    intro stF itemsF h
    obtain ⟨fs, hr⟩ := ih stF itemsF h
    exact ⟨_, .field (scanField_some hsf) hfi hr⟩

theorem run_yields {cfg : Cfg} {st stF : State} {cs : List Char} {fs : List Field} (h : Run cfg st cs fs stF) : Yields cs fs := by
  induction h with
  | nil => exact .done
  | lit hlt _ ih => exact yields_literal hlt ih
  | field hshape hfi _ ih =>
    obtain ⟨_, rfl, hpf⟩ := parseField_of_shape hshape fun c hc => (fieldInit_conv hfi c hc).2.imp fun _ => And.left
    exact yields_field hpf ih

theorem parseWith_run {cfg : Cfg} {s : List Char} {r : Result} (h : parseWith cfg s = .ok r) :
    ∃ stF fs, Run cfg { next := some 0, map := [] } s fs stF ∧ unify s stF.map = .ok r.argMap := by
  revert h
  fun_cases parseWith cfg s with
  | case1 | case2 => rintro ⟨⟩
  | case3 stF _ hl _ hu =>
    rintro ⟨⟩
    obtain ⟨fs, hr⟩ := loop_run cfg _ _ _ _ _ _ hl
    exact ⟨stF, fs, hr, hu⟩

/-- `brace_accept_parses`, for any constants -/
theorem parseWith_ok_parseOK (cfg : Cfg) (s : List Char) (r : Result) (h : parseWith cfg s = .ok r) : parseOK s := by
  obtain ⟨_, _, hr, _⟩ := parseWith_run h
  exact (yields_markup (run_yields hr)).imp fun _ => And.left

end I18n.PyBrace
