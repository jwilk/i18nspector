import I18n.Lemmas.DateTable
import I18n.Spec.TimezonesRef
/- The tool's abbreviation table (dumped from the live module) against the hand-maintained reference `Spec/TimezonesRef.lean`:
   kernel evaluation, one pass over the reference rows while the data file lists the abbreviations in the same order (it may be
   re-ordered: then a row is looked for from the start again). -/
namespace I18n.Date
open I18n.Spec.Date I18n.Generated

section
variable {α β : Type} [BEq α] [BEq β]

/-- every row of the second list is found in `live`, with all its offsets: each is looked for from where the previous one was
    found, and from the start of `live` again if it is not there (so tables in the same order are compared in one pass, and any
    order is accepted) -/
def keptFrom (live : List (α × List β)) : List (α × List β) → List (α × List β) → Bool
  | _, [] => true
  | cur, r :: rs =>
    match cur.dropWhile (fun e => e.1 != r.1) with
    | e :: rest => r.2.all e.2.contains && keptFrom live rest rs
    | [] =>
      match live.dropWhile (fun e => e.1 != r.1) with
      | e :: rest => r.2.all e.2.contains && keptFrom live rest rs
      | [] => false

variable [LawfulBEq α] [LawfulBEq β]

omit [BEq β] [LawfulBEq β] in
theorem dropWhile_key {l rest : List (α × List β)} {k : α} {e : α × List β} (h : l.dropWhile (fun e => e.1 != k) = e :: rest) :
    e.1 = k ∧ ∀ x ∈ e :: rest, x ∈ l := by
  refine ⟨?_, fun x hx => (List.dropWhile_sublist _).subset (h ▸ hx)⟩
  have := List.head_dropWhile_not (fun e => e.1 != k) (l := l) (by rw [h]; exact List.cons_ne_nil _ _)
  simpa [h] using this

theorem keptFrom_sound (live : List (α × List β)) :
    ∀ (rs cur : List (α × List β)), (∀ x ∈ cur, x ∈ live) → keptFrom live cur rs = true →
      ∀ r ∈ rs, ∃ e ∈ live, e.1 = r.1 ∧ ∀ o ∈ r.2, o ∈ e.2
  | [], _, _, _, r, hr => by cases hr
  | r :: rs, cur, hcur, h, r', hr' => by
    unfold keptFrom at h
    -- wherever the row was found, it was found in `live`, and the search goes on in a part of `live`
    have step : ∀ (l : List (α × List β)) e rest, (∀ x ∈ l, x ∈ live) → l.dropWhile (fun e => e.1 != r.1) = e :: rest →
        (r.2.all e.2.contains && keptFrom live rest rs) = true → ∃ e ∈ live, e.1 = r'.1 ∧ ∀ o ∈ r'.2, o ∈ e.2 := by
      intro l e rest hl hd hk
      obtain ⟨hkey, hsub⟩ := dropWhile_key hd
      rw [Bool.and_eq_true, List.all_eq_true] at hk
      rcases List.mem_cons.mp hr' with rfl | hr'
      · exact ⟨e, hl e (hsub e (List.mem_cons_self ..)), hkey, fun o ho => by simpa using hk.1 o ho⟩
      · exact keptFrom_sound live rs rest (fun x hx => hl x (hsub x (List.mem_cons_of_mem _ hx))) hk.2 r' hr'
    split at h
    · rename_i e rest hd; exact step cur e rest hcur hd h
    · split at h
      · rename_i e rest hd; exact step live e rest (fun _ hx => hx) hd h
      · cases h

end

/-- one statement for both facts, so that the kernel converts the reference rows from `String` only once -/
theorem ref_sweep : (Spec.TimezonesRef.table.all (fun r => entryOk r && !r.2.isEmpty)
    && keptFrom DateTables.timezones DateTables.timezones Spec.TimezonesRef.table) = true := by decide +kernel

theorem ref_rows_ok : Spec.TimezonesRef.table.all (fun r => entryOk r && !r.2.isEmpty) = true :=
  (Bool.and_eq_true_iff.mp ref_sweep).1

theorem ref_kept : Spec.TimezonesRef.keptBy DateTables.timezones = true := by
  unfold Spec.TimezonesRef.keptBy
  rw [List.all_eq_true]
  intro r hr
  obtain ⟨e, he, hk, ho⟩ := keptFrom_sound _ _ _ (fun _ hx => hx) (Bool.and_eq_true_iff.mp ref_sweep).2 r hr
  rw [← hk, Kit.find?_key_of_nodup table_nodup he, List.all_eq_true]
  exact fun o h => List.contains_iff_mem.mpr (ho o h)

theorem offsets_row {a o : List Char} (h : o ∈ Spec.TimezonesRef.offsets a) :
    ∃ r ∈ Spec.TimezonesRef.table, r.1 = a ∧ Spec.TimezonesRef.offsets a = r.2 := by
  unfold Spec.TimezonesRef.offsets at h ⊢
  cases hf : Spec.TimezonesRef.table.find? (fun e => e.1 == a) with
  | none => rw [hf] at h; cases h
  | some r => exact ⟨r, (Kit.find?_key_some hf).1, (Kit.find?_key_some hf).2, rfl⟩

theorem names_of_offsets {a o : List Char} (h : o ∈ Spec.TimezonesRef.offsets a) : a ∈ Spec.TimezonesRef.names := by
  obtain ⟨r, hr, rfl, _⟩ := offsets_row h
  exact List.mem_map_of_mem hr

theorem keptBy_spec {live : List (List Char × List (List Char))} (h : Spec.TimezonesRef.keptBy live = true)
    {a : List Char} (ha : a ∈ Spec.TimezonesRef.names) :
    ∃ e ∈ live, e.1 = a ∧ ∀ o ∈ Spec.TimezonesRef.offsets a, o ∈ e.2 := by
  simp only [Spec.TimezonesRef.names, List.mem_map] at ha
  obtain ⟨r0, hr0, rfl⟩ := ha
  -- any row with this key shows that `live` has the key; the offsets are those of the row `offsets` reads
  have hrow := List.all_eq_true.mp h r0 hr0
  cases hl : live.find? (fun e => e.1 == r0.1) with
  | none => simp [hl] at hrow
  | some e =>
    refine ⟨e, (Kit.find?_key_some hl).1, (Kit.find?_key_some hl).2, fun o ho => ?_⟩
    obtain ⟨r, hr, hk, ho'⟩ := offsets_row ho
    have hrow' := List.all_eq_true.mp h r hr
    rw [hk, hl] at hrow'
    simp only [List.all_eq_true, List.contains_iff_mem] at hrow'
    exact hrow' o (ho' ▸ ho)

/-- no hypothesis `a ∈ Spec.TimezonesRef.names`: the reference lists no offset for an abbreviation it does not know -/
theorem ref_offsets_kept {a : List Char} {os : List (List Char)} (h : OffsetsOf a os) :
    ∀ o ∈ Spec.TimezonesRef.offsets a, o ∈ os := by
  intro o ho
  obtain ⟨e, he, hkey, hsub⟩ := keptBy_spec ref_kept (names_of_offsets ho)
  -- `e` is the row `h` speaks of: the table has one row per abbreviation
  have hrow : some e.2 = some os := (lookupTz_iff.mpr ⟨e, he, hkey, rfl⟩).symm.trans (lookupTz_iff.mpr h)
  cases hrow
  exact hsub o ho

end I18n.Date
