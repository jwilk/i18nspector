import I18n.Lemmas.MetaReal
import I18n.Lemmas.PipelineBrace
import I18n.Lemmas.PoNoCrash
import I18n.Lemmas.HdrMime
import I18n.Lemmas.HdrEntry
import I18n.Lemmas.PluralRegistry
import I18n.Props.C07
import I18n.Props.C16
import I18n.Props.C18
import I18n.Props.C19
/-!
# No stage of the composed checker raises (for C01)

`Meta.Real.pipeline w` (C17's integration) is `Checker.check`'s ten statements after the load, each instantiated with the stage
model of the property that owns it.  Here: none of them raises, for every `ctx` — given only facts about the WORLD OUTSIDE THE
FILE (`WorldOk`): the plural registry is the shipped one, the codecs and expat keep to their documented exceptions, and the
format checkers are handed the message's own strings.
-/
namespace I18n.Meta.Real
open I18n I18n.Check I18n.Meta

/-- what is assumed of the world outside the checked file — nothing about any `check_*` method -/
structure WorldOk (w : World) : Prop where
  /-- `language.get_plural_forms()` is `None` or an entry of the registry dumped from data/languages (whose strings all parse:
      C07 `shipped_registry_clean`, kernel-evaluated) -/
  registry : ∀ lang, CheckPlurals.FromRegistry ⟨[], (w.pluralForms lang).1, [], [], false⟩
  /-- C20's charset fragment of `check_mime` returns (C20 `check_total`: true when the loaded tables are the generated ones and
      `str.encode` of the codec in question raises only `UnicodeError`) -/
  charset_total : ∀ tpl lang n, ∃ r, w.charset tpl lang n = .ok r
  /-- expat raises nothing but `ExpatError`, `get_character_name` is total on what `find_unusual_characters` reports, the
      format names hold no braces (C16 `live_env_sane` proves the last three for the generated environment) -/
  menv_sane : Spec.MessageRules.Sane w.menv
  /-- each format checker gets the message's own strings, parsed by the C11/C12/C13 parser models -/
  kmsg_real : ∃ reprs, w.kmsg = PipelineBrace.kmsgReal reprs

theorem messagesOut_total (w : World) (hw : WorldOk w) (fl : BinFlags) (k : RCtx) : (messagesOut w fl k).2 = false := by
  have hno := (Props.C16.msg_nocrash hw.menv_sane (msgCtx fl k) (k.entries.map toMsgEntry)).1
  obtain ⟨reprs, hk⟩ := hw.kmsg_real
  rw [messagesOut_eq]
  apply seqEmits_total
  intro p hp
  obtain ⟨e, hmem, ⟨o, rfl⟩ | rfl⟩ := mem_messagesOut_lines hp
  · cases e with
    | tag t ex => rfl
    | crash x => exact absurd hmem (hno x)
    | fmt name info =>
      simp only [expandEmit, hk]
      obtain ⟨ts, hts⟩ := PipelineBrace.kmsgReal_nocrash reprs o (name.map Char.ofNat) (fmtCtx k) ⟨info.fuzzy, info.rangeMin, info.rangeMax⟩
      rw [hts]
  · cases e with
    | tag t ex => rfl
    | crash x => exact absurd hmem (hno x)
    | fmt name info => rfl

/-- **no statement of `Checker.check` after the load raises**, whatever `ctx` -/
theorem pipeline_total (w : World) (hw : WorldOk w) : ∀ st ∈ pipeline w, ∀ s, (st s).2.2 = false := by
  intro st hst s
  simp only [pipeline, List.mem_cons, List.not_mem_nil, or_false] at hst
  rcases hst with rfl | rfl | rfl | rfl | rfl | rfl | rfl | rfl | rfl | rfl
  · rfl
  · -- check_headers: C15
    simp only [lift, headersStage]
    obtain ⟨out, h⟩ := Option.isSome_iff_exists.1 (Hdr.checkHeaders_isSome w.hx s.2.isTemplate (s.2.entries.map toHdrEntry))
    rw [h]
  · -- check_language: C19
    simp only [lift, languageStage]
    obtain ⟨out, h⟩ := Props.C19.check_language_nocrash w.munch (languageInput w s.2)
    rw [h]
  · -- check_plurals: C04–C07
    simp only [lift, pluralsStage]
    obtain ⟨out, h⟩ := Props.C07.checkPlurals_nocrash (pluralsInput w s.2) (hw.registry s.2.language)
    rw [h]
  · -- check_mime: C15 over C20's fragment
    simp only [lift, mimeStage]
    obtain ⟨out, h⟩ := Hdr.checkMime_ok w.hx.db (w.charset s.2.isTemplate s.2.language) (hw.charset_total _ _) s.2.metadata
    rw [h]
  · rfl
  · -- check_dates: C18
    simp only [datesStage]
    obtain ⟨out, h⟩ := Option.ne_none_iff_exists'.1 (Props.C18.NoCrash (Hdr.dateCtx ⟨s.2.isTemplate, s.1.isBinary⟩ s.2.metadata w.now))
    rw [h]
  · rfl
  · rfl
  · -- check_messages: C16 with C14's dispatch over C11/C12/C13's parsers
    simp only [messagesStage]
    exact messagesOut_total w hw s.1 s.2

/-! ## the loaders -/

/-- the PO loader as `Checker.check` sees it raises only what `check` handles: C10's model + `Po.CodecsBehave` -/
theorem poLoad_first (env : Po.Env) (hc : Po.CodecsBehave env) (file : Po.Bytes) (e : LoadErr) (h : poLoad env file false = .error e) :
    e.handledFirst = true := by
  revert h
  fun_cases poLoad env file false with
  | case1 => exact nofun  -- loaded
  | case2 | case3 =>  -- polib's syntax error, `UnicodeDecodeError`: both handled on the first attempt
    rintro ⟨⟩
    rfl
  | case4 hl =>  -- any other exception: C10 (`load_closed`) excludes it
    rcases Po.load_closed env hc file _ hl with hx | hx
    · cases hx
    · cases hx

theorem poLoad_retry (env : Po.Env) (hc : Po.CodecsBehave env) (file : Po.Bytes) (e : LoadErr) (h : poLoad env file true = .error e) :
    e.handledRetry = true := by
  revert h
  fun_cases poLoad env file true with
  | case1 => exact nofun  -- loaded
  | case2 =>  -- polib's syntax error
    rintro ⟨⟩
    rfl
  | case3 hl => cases Po.retry_closed env hc file _ hl  -- `UnicodeDecodeError`: not under ISO-8859-1
  | case4 hl => cases Po.retry_closed env hc file _ hl  -- any other exception

end I18n.Meta.Real
