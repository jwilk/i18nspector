import I18n.Model.PluralLR
/-! What one turn of rply's LR driver does, for any tables: the tables are consulted for one *decision* per state and
    lookahead column (`decision`, `step_eq`) and for the *transitions* of the automaton (`edges`); a stack the
    driver can reach is a path along them (`Path`); a run whose every turn keeps an invariant and lowers a measure ends
    in a tree or the syntax error (`run_total`).  Nothing here looks into a table. -/
namespace I18n.PluralLR
open I18n I18n.PluralParse

/-- what the tables tell the driver to do in state `s` in front of lookahead column `c` -/
inductive Decision where
  | shift (s' : Nat)
  | reduce (p : Nat)
  | accept
  | error
  | missing                -- no row for the state, or a lookahead outside the row
  deriving DecidableEq

def Decision.isShift : Decision → Bool
  | .shift _ => true
  | _ => false

def decision (T : Tables) (s c : Nat) : Decision :=
  match T.defaultRed s with
  | none => .missing
  | some d =>
    if d ≠ 0 then .reduce (-d).toNat
    else match T.actionAt s c with
      | none => .missing
      | some none => .error
      | some (some t) => if t > 0 then .shift t.toNat else if t < 0 then .reduce (-t).toNat else .accept

theorem step_eq (T : Tables) (s : Nat) (v : Val) (st : List (Nat × Val)) (rest : List Tok) :
    step T ⟨(s, v) :: st, rest⟩ =
      match decision T s (col rest.head?) with
      | .missing => .crash
      | .error => .parsingError
      | .accept => .accept v
      | .reduce p => reduce T p ⟨(s, v) :: st, rest⟩
      | .shift s' =>
        match rest with
        | [] => .crash
        | tok :: r => .next ⟨(s', .tok tok) :: (s, v) :: st, r⟩ := by
  unfold decision
  cases hd : T.defaultRed s with
  | none => simp only [step, hd]
  | some d =>
    by_cases hd0 : d ≠ 0
    · simp only [step, hd, if_pos hd0]
    · cases ha : T.actionAt s (col rest.head?) with
      | none => simp only [step, hd, if_neg hd0, ha]
      | some x =>
        cases x with
        | none => simp only [step, hd, if_neg hd0, ha]
        | some t =>
          by_cases ht : t > 0
          · simp only [step, hd, if_neg hd0, ha, if_pos ht]
            cases rest <;> rfl
          · by_cases ht' : t < 0
            · simp only [step, hd, if_neg hd0, ha, if_neg ht, if_pos ht']
            · simp only [step, hd, if_neg hd0, ha, if_neg ht, if_neg ht']

theorem decision_eq_shift {T : Tables} {s c s' : Nat} :
    decision T s c = .shift s' ↔
      T.defaultRed s = some 0 ∧ ∃ t, t > 0 ∧ T.actionAt s c = some (some t) ∧ s' = t.toNat := by
  constructor
  · intro h
    unfold decision at h
    cases hd : T.defaultRed s with
    | none => simp [hd] at h
    | some d =>
      by_cases hd0 : d ≠ 0
      · simp [hd, hd0] at h
      · obtain rfl : d = 0 := by omega
        cases ha : T.actionAt s c with
        | none => simp [hd, ha] at h
        | some x =>
          cases x with
          | none => simp [hd, ha] at h
          | some t =>
            by_cases ht : t > 0
            · simp [hd, ha, ht] at h
              cases h
              exact ⟨rfl, t, ht, rfl, rfl⟩
            · by_cases ht' : t < 0 <;> simp [hd, ha, ht, ht'] at h
  · rintro ⟨hd, t, ht, ha, rfl⟩
    simp [decision, hd, ha, ht]

theorem step_shift {T : Tables} {s s' : Nat} {v : Val} {st : List (Nat × Val)} {t : Tok} {rest : List Tok}
    (h : decision T s (col (some t)) = .shift s') :
    step T ⟨(s, v) :: st, t :: rest⟩ = .next ⟨(s', .tok t) :: (s, v) :: st, rest⟩ := by
  rw [step_eq, List.head?_cons, h]

theorem step_reduce {T : Tables} {s p : Nat} {v : Val} {st : List (Nat × Val)} {rest : List Tok}
    (h : decision T s (col rest.head?) = .reduce p) :
    step T ⟨(s, v) :: st, rest⟩ = reduce T p ⟨(s, v) :: st, rest⟩ := by
  rw [step_eq, h]

theorem reduce_eq {T : Tables} {p : Nat} {pr : Prod} {top : List (Nat × Val)} {v' u : Val} {s g : Nat}
    {st : List (Nat × Val)} {rest : List Tok} (hp : T.prods[p]? = some pr) (hlen : top.length = pr.len)
    (ha : applyAction pr.act (top.reverse.map (·.2)) = some v') (hg : T.gotoAt s pr.lhs = some g) :
    reduce T p ⟨top ++ (s, u) :: st, rest⟩ = .next ⟨(g, v') :: (s, u) :: st, rest⟩ := by
  have hnle : ¬ (top ++ (s, u) :: st).length ≤ pr.len := by simp [hlen]
  have htake : (top ++ (s, u) :: st).take pr.len = top := by simp [← hlen]
  have hdrop : (top ++ (s, u) :: st).drop pr.len = (s, u) :: st := by simp [← hlen]
  simp only [reduce, hp, if_neg hnle, htake, ha, hdrop, hg]

theorem reduce_next {T : Tables} {p : Nat} {c c' : Config} (h : reduce T p c = .next c') :
    ∃ pr v s u below s', T.prods[p]? = some pr ∧ pr.len < c.stack.length ∧
      applyAction pr.act ((c.stack.take pr.len).reverse.map (·.2)) = some v ∧ c.stack.drop pr.len = (s, u) :: below ∧
      T.gotoAt s pr.lhs = some s' ∧ c' = ⟨(s', v) :: (s, u) :: below, c.rest⟩ := by
  revert h
  fun_cases reduce T p c
  case case6 pr hp hlen v ha s u below hdrop s' hg =>
    -- the one equation of `reduce` that goes on
    rintro ⟨⟩
    exact ⟨pr, v, s, u, below, s', hp, by omega, ha, hdrop, hg, rfl⟩
  all_goals rintro ⟨⟩

theorem reduce_ne_accept (T : Tables) (p : Nat) (c : Config) (v : Val) : reduce T p c ≠ .accept v := by
  fun_cases reduce T p c
  all_goals rintro ⟨⟩

inductive Sym where
  | t (c : Nat)
  | nt (i : Nat)
  deriving DecidableEq, Repr

/-- the grammar symbol a stack value stands for: the column of a token, `exp` for a node, `start` for `ast.Expr` -/
def kind : Val → Option Sym
  | .bottom => none
  | .tok t => some (.t (col (some t)))
  | .node _ => some (.nt 0)
  | .expr _ => some (.nt 1)

/-- the entries `b` that `f` keeps of a table, read row by row with their coordinates -/
def entries {α β : Type} (tbl : List (List α)) (f : Nat → Nat → α → Option β) : List β :=
  tbl.zipIdx.flatMap fun r => r.1.zipIdx.filterMap fun x => f r.2 x.2 x.1

theorem mem_entries {α β : Type} {tbl : List (List α)} {f : Nat → Nat → α → Option β} {s c : Nat} {row : List α} {a : α}
    {b : β} (hr : tbl[s]? = some row) (ha : row[c]? = some a) (hb : f s c a = some b) : b ∈ entries tbl f :=
  List.mem_flatMap.2 ⟨(row, s), List.mem_zipIdx_iff_getElem?.2 hr,
    List.mem_filterMap.2 ⟨(a, c), List.mem_zipIdx_iff_getElem?.2 ha, hb⟩⟩

/-- all transitions: the shift entries of the action table, the entries of the goto table -/
def edges (T : Tables) : List (Nat × Sym × Nat) :=
  entries T.action (fun s c x => match x with
    | some t => if t > 0 then some (s, Sym.t c, t.toNat) else none
    | none => none) ++
  entries T.goto (fun s i x => x.map fun s' => (s, Sym.nt i, s'))

theorem goto_mem_edges {T : Tables} {s i s' : Nat} (h : T.gotoAt s i = some s') : (s, Sym.nt i, s') ∈ edges T := by
  unfold Tables.gotoAt at h
  cases hr : T.goto[s]? with
  | none => simp [hr] at h
  | some row =>
    simp only [hr] at h
    cases hx : row[i]? with
    | none => simp [hx] at h
    | some o =>
      rw [hx] at h
      exact List.mem_append_right _ (mem_entries hr hx (by simpa using h))

theorem shift_mem_edges {T : Tables} {s c s' : Nat} (h : decision T s c = .shift s') : (s, Sym.t c, s') ∈ edges T := by
  obtain ⟨_, t, ht, ha, rfl⟩ := decision_eq_shift.1 h
  unfold Tables.actionAt at ha
  cases hr : T.action[s]? with
  | none => simp [hr] at ha
  | some row =>
    rw [hr] at ha
    exact List.mem_append_left _ (mem_entries hr ha (by simp [ht]))

/-- the stack is a path of the automaton from the start state, labelled by the kinds of its symbols -/
def Path (T : Tables) : List (Nat × Val) → Prop
  | [] => False
  | [(s, v)] => s = 0 ∧ v = .bottom
  | (s', v) :: (s, u) :: st => (∃ x, kind v = some x ∧ (s, x, s') ∈ edges T) ∧ Path T ((s, u) :: st)

theorem Path.drop {T : Tables} : ∀ (st : List (Nat × Val)) (n : Nat), Path T st → n < st.length → Path T (st.drop n)
  | st, 0, h, _ => by simpa using h
  | [], _ + 1, h, _ => by cases h
  | [_], n + 1, _, hn => by simp at hn
  | _ :: (s, u) :: st, n + 1, h, hn => by
    simp only [List.drop_succ_cons]
    exact Path.drop ((s, u) :: st) n h.2 (by simpa using hn)

theorem Path.shift {T : Tables} {s s' : Nat} {v : Val} {st : List (Nat × Val)} {tok : Tok}
    (hp : Path T ((s, v) :: st)) (h : decision T s (col (some tok)) = .shift s') :
    Path T ((s', .tok tok) :: (s, v) :: st) :=
  ⟨⟨_, rfl, shift_mem_edges h⟩, hp⟩

theorem run_total {T : Tables} {I : Config → Prop} {μ : Config → Nat} {Q : Expr → Prop}
    (hstep : ∀ c, I c → match step T c with
      | .next c' => I c' ∧ μ c' < μ c
      | .accept v => ∃ e, v = .expr e ∧ Q e
      | .parsingError => True
      | .crash => False) :
    ∀ (f : Nat) (c : Config), I c → μ c < f → (∃ e, run T f c = .ok e ∧ Q e) ∨ run T f c = .syntaxError
  | 0, _, _, h => by omega
  | f + 1, c, hi, hf => by
    have h := hstep c hi
    simp only [run]
    cases hs : step T c with
    | next c' =>
      rw [hs] at h
      exact run_total hstep f c' h.1 (by omega)
    | accept v =>
      rw [hs] at h
      obtain ⟨e, rfl, hq⟩ := h
      exact .inl ⟨e, rfl, hq⟩
    | parsingError => exact .inr rfl
    | crash =>
      rw [hs] at h
      exact h.elim

end I18n.PluralLR
