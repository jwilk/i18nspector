import I18n.Model.Charset
import I18n.Spec.Charset
import I18n.Lemmas.Kit.Assoc
/-!
# C20: the two callees of the charset fragment of `check_headers` — what `propose_portable_encoding` answers
# (`propose_eq_ok_some`; it does not look at ASCII case: `isPortable_upper`) and what `get_unrepresentable_characters` returns
# for a codec that behaves (`EncodeOk`, `getUnrepresentable_spec`) —, with `assoc?` as `List.lookup` and the radix look-up
# `assocBits` that the kernel's passes over the tables evaluate in its place
-/
namespace I18n.Charset

theorem lowerCp_upperCp (c : Nat) : lowerCp (upperCp c) = lowerCp c := by
  unfold lowerCp upperCp
  by_cases hl : 97 ≤ c ∧ c ≤ 122
  · have h1 : 65 ≤ c - 32 ∧ c - 32 ≤ 90 := by omega
    have h2 : ¬ (65 ≤ c ∧ c ≤ 90) := by omega
    rw [if_pos hl, if_pos h1, if_neg h2]
    omega
  · rw [if_neg hl]

theorem lower_upper (s : Name) : lower (upper s) = lower s := by
  unfold lower upper
  rw [List.map_map]
  apply List.map_congr_left
  intro c _
  exact lowerCp_upperCp c

theorem normalise_upper (s : Name) : normalise (upper s) = normalise s := by
  unfold normalise; rw [lower_upper]

theorem isPortable_upper (tbl : List (Name × Bool)) (python : Bool) (s : Name) :
    isPortable tbl python (upper s) = isPortable tbl python s := by
  unfold isPortable; rw [normalise_upper]

theorem propose_eq_ok_some {tbl : List (Name × Bool)} {c2e : List (Name × Name)} {lookup : Name → Option Name} {name p : Name} :
    propose tbl c2e lookup name = .ok (some p) ↔
      ∃ codec e, lookup name = some codec ∧ assoc? codec c2e = some e ∧ isPortable tbl true e = true ∧ p = upper e := by
  constructor
  · intro h
    unfold propose at h
    split at h
    · cases h
    · next codec hcodec =>
      split at h
      · cases h
      · next e he =>
        split at h
        · next hp => cases h; exact ⟨codec, e, hcodec, he, hp, rfl⟩
        · cases h
  · rintro ⟨codec, e, hcodec, he, hp, rfl⟩
    simp only [propose, hcodec, he, hp, if_true]

theorem propose_portable (tbl : List (Name × Bool)) (c2e : List (Name × Name)) (lookup : Name → Option Name)
    (name p : Name) (h : propose tbl c2e lookup name = .ok (some p)) : isPortable tbl true p = true := by
  obtain ⟨_, e, _, _, hp, rfl⟩ := propose_eq_ok_some.1 h
  rwa [isPortable_upper]

theorem assoc?_eq {β : Type} (k : Name) (l : List (Name × β)) : assoc? k l = l.lookup k :=
  Kit.eq_lookup (g := fun l k => assoc? k l) (fun _ => rfl) (fun _ _ _ _ => rfl) l k

theorem assoc?_mem {β : Type} (k : Name) (l : List (Name × β)) (v : β) (h : assoc? k l = some v) : (k, v) ∈ l :=
  Kit.lookup_mem (assoc?_eq k l ▸ h)

theorem propose_same_codec (tbl : List (Name × Bool)) (c2e : List (Name × Name)) (lookup : Name → Option Name)
    (hclosed : ∀ kv ∈ c2e, lookup (upper kv.2) = some kv.1)
    (name p : Name) (h : propose tbl c2e lookup name = .ok (some p)) : lookup p = lookup name := by
  obtain ⟨codec, e, hcodec, he, _, rfl⟩ := propose_eq_ok_some.1 h
  rw [hcodec]
  exact hclosed (codec, e) (assoc?_mem codec c2e e he)

theorem propose_no_assert (tbl : List (Name × Bool)) (c2e : List (Name × Name)) (lookup : Name → Option Name)
    (hok : ∀ kv ∈ c2e, isPortable tbl true kv.2 = true) (name : Name) :
    propose tbl c2e lookup name ≠ .error () := by
  unfold propose
  split
  · simp
  · next codec _ =>
    split
    · simp
    · next e he =>
      -- the `assert` is on the portability of a value of `c2e`
      have := hok (codec, e) (assoc?_mem codec c2e e he)
      simp [this]

/-! ## dictionary look-up by radix, for the kernel's passes over the tables

`assoc?` walks a dictionary entry by entry and compares whole names, once per row of a pass.  `assocBits` first sifts the
entries by the low bits of a digest of their keys.  Every sieve is a closed term that does not mention the key asked for, so
the kernel evaluates it once and finds it again for the next row; what is left to search holds an entry or two.  The digest `d`
and the number of bits are free (`assocBits_eq` holds for all of them): the passes take `List.sum` and as many bits as leave
the tables at hand that short. -/

theorem assoc?_filter {β : Type} (k : Name) (p : Name × β → Bool) (hp : ∀ v, p (k, v) = true) :
    ∀ l : List (Name × β), assoc? k (l.filter p) = assoc? k l
  | [] => rfl
  | (k', v) :: rest => by
    by_cases hk : k' = k
    · subst hk
      simp only [List.filter_cons, hp, if_true, assoc?]
    · by_cases hq : p (k', v) = true
      · simp only [List.filter_cons, hq, if_true, assoc?, hk, if_false, assoc?_filter k p hp rest]
      · simp only [List.filter_cons, hq, assoc?, hk, if_false, assoc?_filter k p hp rest, Bool.false_eq_true]

def bitAt (h n : Nat) : Bool := Nat.beq ((h >>> n) % 2) 1

def assocBits {β : Type} (d : Name → Nat) (k : Name) : Nat → List (Name × β) → Option β
  | 0, l => assoc? k l
  | n + 1, l =>
    match bitAt (d k) n with
    | true => assocBits d k n (l.filter fun kv => bitAt (d kv.1) n)
    | false => assocBits d k n (l.filter fun kv => !bitAt (d kv.1) n)

theorem assocBits_eq {β : Type} (d : Name → Nat) (k : Name) :
    ∀ (n : Nat) (l : List (Name × β)), assocBits d k n l = assoc? k l
  | 0, _ => rfl
  | n + 1, l => by
    unfold assocBits
    split
    · next h => rw [assocBits_eq d k n, assoc?_filter k _ fun _ => h]
    · next h => rw [assocBits_eq d k n, assoc?_filter k _ fun _ => by rw [h]; rfl]

/-! ## `get_unrepresentable_characters` -/

/-- the codec behaves on the language's characters: Unicode errors only, not the iconv(1) fall-back, and a concatenation
    encodes only if every piece does -/
structure EncodeOk (encode : List Nat → Enc) (chars : List (List Nat)) : Prop where
  pieces : ∀ c ∈ chars, encode c = .ok ∨ encode c = .encodeError false
  joined : encode chars.flatten ≠ .crash
  prefixClosed : encode chars.flatten = .ok → ∀ c ∈ chars, encode c = .ok

theorem unrepLoop_spec (encode : List Nat → Enc) : ∀ (chars : List (List Nat)),
    (∀ c ∈ chars, encode c = .ok ∨ encode c = .encodeError false) →
    unrepLoop encode chars = .ok (chars.filter fun c => encode c != .ok) := by
  intro chars
  induction chars with
  | nil => intro _; rfl
  | cons c rest ih =>
    intro h
    have hc := h c (by simp)
    have hrest := ih (fun c' hc' => h c' (List.mem_cons_of_mem _ hc'))
    rcases hc with hc | hc
    · simp [unrepLoop, hc, hrest]
    · simp [unrepLoop, hc, hrest]

/-- **`get_unrepresentable_characters` returns exactly the listed characters that cannot be encoded**, for a codec that
    behaves on them -/
theorem getUnrepresentable_spec (encode : List Nat → Enc) (chars : List (List Nat)) (h : EncodeOk encode chars) :
    getUnrepresentable encode chars = .ok (chars.filter fun c => encode c != .ok) := by
  unfold getUnrepresentable
  cases hjo : encode chars.flatten with
  | ok =>
    -- the short cut `return []` of the code: every piece encodes, so the filter is empty as well
    have := h.prefixClosed hjo
    simp only
    congr 1
    symm
    rw [List.filter_eq_nil_iff]
    intro c hc
    simp [this c hc]
  | crash => exact (h.joined hjo).elim
  | encodeError b => simp only; exact unrepLoop_spec encode chars h.pieces

theorem filter_unencodable_ne_nil_iff (encode : List Nat → Enc) (chars : List (List Nat)) :
    (chars.filter fun c => encode c != .ok) ≠ [] ↔ ∃ c ∈ chars, encode c ≠ .ok := by
  rw [ne_eq, List.filter_eq_nil_iff]
  constructor
  · intro h
    simp only [Classical.not_forall] at h
    obtain ⟨c, hc, hne⟩ := h
    exact ⟨c, hc, by simpa using hne⟩
  · rintro ⟨c, hc, hne⟩ h
    have := h c hc
    simp at this
    exact hne this

theorem unrepresentable_iff (encode : List Nat → Enc) (chars : List (List Nat))
    (hno : ∀ c ∈ chars, encode c = .ok ∨ encode c = .encodeError false)
    (hj : encode chars.flatten ≠ .crash)
    (hpieces : encode chars.flatten = .ok → ∀ c ∈ chars, encode c = .ok) :
    ∃ r, getUnrepresentable encode chars = .ok r ∧ (r ≠ [] ↔ ∃ c ∈ chars, encode c ≠ .ok) :=
  ⟨_, getUnrepresentable_spec encode chars ⟨hno, hj, hpieces⟩, filter_unencodable_ne_nil_iff encode chars⟩

end I18n.Charset
