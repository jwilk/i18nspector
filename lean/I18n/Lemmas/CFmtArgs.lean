import I18n.Lemmas.CFmtConv
/-!
# `add_argument` from a reachable state

`addAll` iterates `add_argument` over a list of references; from a state reached by registering `pre` (`Reach`) one call is
an equation (`addArgument_eq`): the mixture of numbered and unnumbered references is noticed first, then the range, and the
log grows by the position `Spec.Printf.positions` gives the reference.
`add_argument` neither reads nor writes `len(self._items)` (`setN`, `addAll_ok_setN`, `addAll_from_setN`), which
is what lets `Stage.seq` run a second stage from a state it only knows up to that count.
-/
namespace I18n.CFmt
open I18n.Spec.Printf

theorem error_ne_ok {α : Type} {e : CErr} {a : α} : (Except.error e : Except CErr α) = .ok a ↔ False :=
  ⟨fun h => (by cases h), False.elim⟩

def addAll : St → List Ref → Except CErr St
  | st, [] => .ok st
  | st, r :: rs =>
    match addArgument st r.idx r.entry with
    | .error e => .error e
    | .ok st' => addAll st' rs

theorem addAll_single (st : St) (r : Ref) : addAll st [r] = addArgument st r.idx r.entry := by
  simp only [addAll]
  cases addArgument st r.idx r.entry <;> rfl

theorem addAll_append (st : St) (a b : List Ref) :
    addAll st (a ++ b) = match addAll st a with
      | .error e => .error e
      | .ok st' => addAll st' b := by
  induction a generalizing st with
  | nil => rfl
  | cons r rs ih =>
    simp only [List.cons_append, addAll]
    cases addArgument st r.idx r.entry with
    | error e => rfl
    | ok st' => exact ih st'

theorem addAll_nitems : ∀ {rs : List Ref} {st st' : St}, addAll st rs = .ok st' →
    st'.nitems = st.nitems ∧ st'.warnings = st.warnings
  | [], st, st', h => by cases h; exact ⟨rfl, rfl⟩
  | r :: rs, st, st', h => by
    simp only [addAll] at h
    cases h1 : addArgument st r.idx r.entry with
    | error e => rw [h1] at h; cases h
    | ok st1 =>
      rw [h1] at h
      have a := addArgument_nitems h1
      have b := addAll_nitems h
      exact ⟨b.1.trans a.1, b.2.trans a.2⟩

/-! ## `add_argument`'s state machine computes `positions` and enforces `Numbering` -/

theorem positionsFrom_append : ∀ (a b : List Ref) (k : Nat),
    positionsFrom k (a ++ b) = positionsFrom k a ++ positionsFrom (k + a.length) b
  | [], b, k => by simp [positionsFrom]
  | r :: a, b, k => by
    simp only [List.cons_append, positionsFrom, List.length_cons, positionsFrom_append a b (k + 1)]
    simp [Nat.add_assoc, Nat.add_comm 1]

/-- the argument a reference denotes when it comes after `pre` -/
def posOf (pre : List Ref) (r : Ref) : Nat :=
  match r.idx with
  | some i => i
  | none => pre.length + 1

theorem posOf_none {pre : List Ref} {r : Ref} (h : r.idx = none) : posOf pre r = pre.length + 1 := by rw [posOf, h]
theorem posOf_some {pre : List Ref} {r : Ref} {i : Nat} (h : r.idx = some i) : posOf pre r = i := by rw [posOf, h]

theorem positions_snoc (pre : List Ref) (r : Ref) :
    positionsFrom 1 (pre ++ [r]) = positionsFrom 1 pre ++ [(posOf pre r, r.entry)] := by
  rw [positionsFrom_append]
  simp only [positionsFrom, posOf, Nat.add_comm 1]
  cases r.idx <;> rfl

/-- the state after the references `pre` have been registered -/
structure Reach (pre : List Ref) (st : St) : Prop where
  map : st.map = positionsFrom 1 pre
  next : ((∀ r ∈ pre, r.idx = none) ∧ st.next = some (pre.length + 1)) ∨
         (pre ≠ [] ∧ (∀ r ∈ pre, r.idx ≠ none) ∧ st.next = none)

theorem Reach.init : Reach [] St.init := ⟨rfl, Or.inl ⟨by simp, rfl⟩⟩

theorem numbering_snoc {pre : List Ref} {r : Ref} :
    Numbering (pre ++ [r]) ↔ ((∀ x ∈ pre, x.idx = none) ∧ r.idx = none) ∨ ((∀ x ∈ pre, x.idx ≠ none) ∧ r.idx ≠ none) := by
  simp only [Numbering, List.forall_mem_append, List.forall_mem_singleton]

instance (rs : List Ref) : Decidable (Numbering rs) := by unfold Numbering; infer_instance

/-- the state `add_argument` leaves when it accepts `r` after the references `pre` -/
def pushRef (st : St) (pre : List Ref) (r : Ref) : St :=
  { st with next := if r.idx = none then some (pre.length + 1 + 1) else none, map := st.map ++ [(posOf pre r, r.entry)] }

theorem not_both {pre : List Ref} (hne : pre ≠ []) (h1 : ∀ x ∈ pre, x.idx = none) (h2 : ∀ x ∈ pre, x.idx ≠ none) : False := by
  cases pre with
  | nil => exact hne rfl
  | cons x xs => exact h2 x List.mem_cons_self (h1 x List.mem_cons_self)

/-- **one `add_argument` call from a reachable state**: the mixture of numbered and unnumbered references is noticed first, then
    the range; the `assert` cannot fire -/
theorem addArgument_eq {pre : List Ref} {st : St} (hR : Reach pre st) (r : Ref) :
    addArgument st r.idx r.entry =
      if ¬ Numbering (pre ++ [r]) then .error .ArgumentNumberingMixture
      else if posOf pre r > Spec.Printf.NL_ARGMAX then .error .ArgumentRangeError
      else .ok (pushRef st pre r) := by
  obtain ⟨hmap, hnext⟩ := hR
  cases hri : r.idx with
  | none =>
    have hpos := posOf_none (pre := pre) hri
    rcases hnext with ⟨hall, hn⟩ | ⟨hne, hall, hn⟩
    · -- unnumbered after unnumbered: the reference takes `_next_arg_index`, if that is in range
      have hnum : Numbering (pre ++ [r]) := numbering_snoc.2 (Or.inl ⟨hall, hri⟩)
      rw [if_neg (not_not_intro hnum), hpos]
      simp only [addArgument, hn, nl_argmax_pin, pushRef, hri, hpos, if_true]
    · -- unnumbered after numbered: `_next_arg_index` is `None`
      have hmix : ¬ Numbering (pre ++ [r]) := fun h => by
        rcases numbering_snoc.1 h with ⟨h', _⟩ | ⟨_, h'⟩
        · exact not_both hne h' hall
        · exact h' hri
      rw [if_pos hmix]
      simp only [addArgument, hn]
  | some i =>
    have hpos := posOf_some (pre := pre) hri
    have hri' : r.idx ≠ none := by rw [hri]; exact Option.some_ne_none i
    rcases hnext with ⟨hall, hn⟩ | ⟨hne, hall, hn⟩
    · by_cases hp : pre = []
      · -- the first reference is numbered: `_next_arg_index` is still 1, and the `assert` finds `_argument_map` empty
        subst hp
        have hm : st.map = [] := hmap
        have hnum : Numbering ([] ++ [r]) := numbering_snoc.2 (Or.inr ⟨nofun, hri'⟩)
        rw [if_neg (not_not_intro hnum), hpos]
        simp only [addArgument, hn, hm, nl_argmax_pin, pushRef, hri, hpos, List.length_nil, Nat.zero_add, beq_self_eq_true, if_true,
          List.isEmpty_nil, Bool.not_true, Bool.false_eq_true, if_false, reduceCtorEq]
      · -- numbered after unnumbered: `_next_arg_index` is `len(pre) + 1`, not 1
        have hk1 : (pre.length + 1 == 1) = false := by
          cases pre with
          | nil => exact absurd rfl hp
          | cons x xs => simp
        have hmix : ¬ Numbering (pre ++ [r]) := fun h => by
          rcases numbering_snoc.1 h with ⟨_, h'⟩ | ⟨h', _⟩
          · exact hri' h'
          · exact not_both hp hall h'
        rw [if_pos hmix]
        simp only [addArgument, hn, hk1, Bool.false_eq_true, if_false]
    · -- numbered after numbered: only the range is tested
      have hnum : Numbering (pre ++ [r]) := numbering_snoc.2 (Or.inr ⟨hall, hri'⟩)
      rw [if_neg (not_not_intro hnum), hpos]
      simp only [addArgument, hn, nl_argmax_pin, pushRef, hri, hpos, reduceCtorEq, if_false]

theorem Reach.push {pre : List Ref} {st : St} (hR : Reach pre st) {r : Ref} (hn : Numbering (pre ++ [r])) :
    Reach (pre ++ [r]) (pushRef st pre r) := by
  refine ⟨by simp only [pushRef, hR.map, positions_snoc], ?_⟩
  have hlen : (pre ++ [r]).length = pre.length + 1 := List.length_append
  rcases numbering_snoc.1 hn with ⟨h1, h2⟩ | ⟨h1, h2⟩
  · exact Or.inl ⟨List.forall_mem_append.2 ⟨h1, List.forall_mem_singleton.2 h2⟩, by simp only [pushRef, h2, if_true, hlen]⟩
  · exact Or.inr ⟨List.append_ne_nil_of_right_ne_nil _ (List.cons_ne_nil r []),
      List.forall_mem_append.2 ⟨h1, List.forall_mem_singleton.2 h2⟩, by simp only [pushRef, h2, if_false]⟩

theorem numbering_prefix {a b : List Ref} (h : Numbering (a ++ b)) : Numbering a := by
  rcases h with h | h
  · exact Or.inl fun r hr => h r (by simp [hr])
  · exact Or.inr fun r hr => h r (by simp [hr])

theorem positionsFrom_cons_key (pre : List Ref) (r : Ref) (rs : List Ref) :
    positionsFrom (pre.length + 1) (r :: rs) = (posOf pre r, r.entry) :: positionsFrom (pre.length + 1 + 1) rs := by
  simp only [positionsFrom, posOf]
  cases r.idx <;> rfl

theorem addAll_reach : ∀ (rs pre : List Ref) (st : St), Reach pre st →
    (∀ st', addAll st rs = .ok st' → Reach (pre ++ rs) st') ∧
    ((∃ st', addAll st rs = .ok st') ↔
      Numbering (pre ++ rs) ∧ ∀ p ∈ positionsFrom (pre.length + 1) rs, p.1 ≤ Spec.Printf.NL_ARGMAX) ∧
    (∀ e, addAll st rs = .error e → e = .ArgumentNumberingMixture ∨ e = .ArgumentRangeError)
  | [], pre, st, hR => by
    simp only [addAll, Except.ok.injEq, List.append_nil, positionsFrom, List.not_mem_nil, false_imp_iff, implies_true,
      and_true]
    refine ⟨fun st' h => h ▸ hR, ⟨fun _ => ?_, fun _ => ⟨st, rfl⟩⟩, fun e he => by cases he⟩
    rcases hR.next with ⟨h, _⟩ | ⟨_, h, _⟩
    · exact Or.inl h
    · exact Or.inr h
  | r :: rs, pre, st, hR => by
    have happ : pre ++ r :: rs = (pre ++ [r]) ++ rs := by simp
    have hlen : (pre ++ [r]).length + 1 = pre.length + 1 + 1 := by simp
    simp only [addAll, addArgument_eq hR r, happ, positionsFrom_cons_key, List.mem_cons, forall_eq_or_imp]
    by_cases hn : Numbering (pre ++ [r])
    · by_cases hp : posOf pre r > Spec.Printf.NL_ARGMAX
      · simp only [hn, not_true_eq_false, if_false, hp, if_true, error_ne_ok, false_imp_iff, implies_true, exists_false, false_iff,
          true_and, Except.error.injEq]
        exact ⟨fun h => absurd h.2.1 (Nat.not_le.2 hp), fun e he => Or.inr he.symm⟩
      · obtain ⟨i1, i2, i3⟩ := addAll_reach rs (pre ++ [r]) _ (hR.push hn)
        simp only [hn, not_true_eq_false, if_false, hp, i2, hlen, Nat.not_lt.1 hp, true_and]
        exact ⟨i1, i3⟩
    · simp only [hn, not_false_eq_true, if_true, error_ne_ok, false_imp_iff, implies_true, exists_false, false_iff, true_and,
        Except.error.injEq]
      exact ⟨fun h => hn (numbering_prefix h.1), fun e he => Or.inl he.symm⟩

theorem addAll_init (rs : List Ref) :
    (∀ st', addAll St.init rs = .ok st' → st'.map = positions rs) ∧
    ((∃ st', addAll St.init rs = .ok st') ↔ Numbering rs ∧ ∀ p ∈ positions rs, p.1 ≤ Spec.Printf.NL_ARGMAX) ∧
    (∀ e, addAll St.init rs = .error e → e = .ArgumentNumberingMixture ∨ e = .ArgumentRangeError) := by
  obtain ⟨h1, h2, h3⟩ := addAll_reach rs [] St.init Reach.init
  refine ⟨fun st' h => ?_, by simpa [positions] using h2, h3⟩
  simpa [positions] using (h1 st' h).map

theorem addArgument_error_own {pre : List Ref} {st : St} (hR : Reach pre st) {n : Option Nat} {v : Entry} {e : CErr}
    (h : addArgument st n v = .error e) : e.own = true := by
  rw [addArgument_eq hR ⟨n, v⟩] at h
  split at h
  · cases h; rfl
  · split at h <;> cases h
    rfl

/-! ## `len(self._items)` commutes with `add_argument` -/

/-- `st` with `len(self._items) = k` -/
def setN (k : Nat) (st : St) : St := { st with nitems := k }

@[simp] theorem setN_next (k : Nat) (st : St) : (setN k st).next = st.next := rfl
@[simp] theorem setN_map (k : Nat) (st : St) : (setN k st).map = st.map := rfl
@[simp] theorem setN_nitems (k : Nat) (st : St) : (setN k st).nitems = k := rfl
@[simp] theorem setN_setN (a b : Nat) (st : St) : setN a (setN b st) = setN a st := rfl
theorem setN_self (st : St) : setN st.nitems st = st := rfl

theorem addArgument_setN (k : Nat) (st : St) (n : Option Nat) (v : Entry) :
    addArgument (setN k st) n v = (addArgument st n v).map (setN k) := by
  rw [addArgument_core st, addArgument_core (setN k st)]
  show (addArgument ⟨st.next, st.map, 0, []⟩ n v).map _ = (Except.map _ (addArgument ⟨st.next, st.map, 0, []⟩ n v)).map _
  cases addArgument ⟨st.next, st.map, 0, []⟩ n v <;> rfl

theorem addAll_setN (k : Nat) : ∀ (rs : List Ref) (st : St),
    addAll (setN k st) rs = (addAll st rs).map (setN k)
  | [], st => rfl
  | r :: rs, st => by
    simp only [addAll, addArgument_setN]
    cases addArgument st r.idx r.entry with
    | error e => rfl
    | ok st1 => simp only [map_ok]; exact addAll_setN k rs st1

theorem Reach.setN {pre : List Ref} {st : St} (h : Reach pre st) (k : Nat) : Reach pre (setN k st) := ⟨h.map, h.next⟩

/-- `add_argument` leaves `len(self._items)` alone: setting it to what it is changes nothing -/
theorem addAll_ok_setN {st st' : St} {rs : List Ref} :
    (∃ s, addAll st rs = .ok s ∧ st' = setN st.nitems s) ↔ addAll st rs = .ok st' := by
  constructor
  · rintro ⟨s, h, rfl⟩
    rw [← (addAll_nitems h).1]
    exact h
  · intro h
    exact ⟨st', h, by rw [← (addAll_nitems h).1]; rfl⟩

/-- nor does it read it: from another item count the same references are registered, so once the count is set afterwards the
    two runs cannot be told apart -/
theorem addAll_from_setN {k n : Nat} {st st' : St} {rs : List Ref} :
    (∃ s, addAll (setN k st) rs = .ok s ∧ st' = setN n s) ↔ ∃ s, addAll st rs = .ok s ∧ st' = setN n s := by
  rw [addAll_setN]
  cases addAll st rs with
  | error e => exact ⟨fun ⟨_, h, _⟩ => (nomatch h), fun ⟨_, h, _⟩ => (nomatch h)⟩
  | ok s0 =>
    constructor
    · rintro ⟨_, ⟨⟩, rfl⟩
      exact ⟨s0, rfl, setN_setN n k s0⟩
    · rintro ⟨_, ⟨⟩, rfl⟩
      exact ⟨setN k s0, rfl, (setN_setN n k s0).symm⟩

end I18n.CFmt
