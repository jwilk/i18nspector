import I18n.Lemmas.CheckPluralsRegistry
/-!
The SHIPPED registry (data/languages as `lib.ling` has loaded it, dumped into `Generated.PluralForms` on every run):
every declaration parses strictly in the model, is total on the 200-window, in range and onto — by kernel evaluation of
the model's own reader and of the evaluator generated from lib/intexpr.py.
-/
namespace I18n.CheckPlurals
open I18n I18n.Py I18n.Plural I18n.PluralParse I18n.Generated.PluralForms

def cleanOnWindowB (n : Nat) (e : Expr) : Bool :=
  ((List.range codomainLimit).all fun i => match evalAt 32 i e with | .ok v => decide (v < n) | .error _ => false) &&
  ((List.range n).all fun k => (List.range codomainLimit).any fun i => match evalAt 32 i e with | .ok v => v == (k : Int) | .error _ => false)

theorem cleanOnWindowB_sound {n : Nat} {e : Expr} (h : cleanOnWindowB n e = true) : CleanOnWindow n e := by
  simp only [cleanOnWindowB, Bool.and_eq_true, List.all_eq_true, List.mem_range, List.any_eq_true] at h
  constructor
  · intro i hi
    have := h.1 i hi
    cases hev : evalAt 32 i e with
    | error ex => rw [hev] at this; cases this
    | ok v => rw [hev] at this; exact ⟨v, rfl, by simpa using this⟩
  · intro k hk
    obtain ⟨i, hi, hv⟩ := h.2 k hk
    cases hev : evalAt 32 i e with
    | error ex => rw [hev] at hv; cases hv
    | ok v =>
      rw [hev] at hv
      have : v = (k : Int) := by simpa using hv
      exact ⟨i, hi, by rw [hev, this]⟩

def registryOk (c : List Char) : Bool :=
  match parsePluralFormsStrict c with
  | .ok n e _ _ => cleanOnWindowB n e
  | _ => false

/-- every distinct declaration of the shipped registry is fine (kernel evaluation: 10 strings × 200 evaluations) -/
theorem registry_all_ok : registryStrings.all registryOk = true := by decide +kernel

theorem registry_string_clean (c : List Char) (hc : c ∈ registryStrings) :
    ∃ n e, parsePluralFormsStrict c = .ok n e [] [] ∧ CleanOnWindow n e := by
  have hok := List.all_eq_true.1 registry_all_ok c hc
  unfold registryOk at hok
  cases hs : parsePluralFormsStrict c with
  | ok n e lj rj =>
    rw [hs] at hok
    obtain ⟨_, rfl, rfl⟩ := strict_iff.1 hs
    exact ⟨n, e, rfl, cleanOnWindowB_sound hok⟩
  | syntaxError => rw [hs] at hok; cases hok
  | valueError => rw [hs] at hok; cases hok

/-- the declarations of one registry entry -/
def entryStrings (ixs : List Nat) : List (List Char) := ixs.filterMap (registryStrings[·]?)

/-- the indices of the dump are in range, so `entryStrings` loses nothing -/
theorem registry_indices_valid : registry.all (fun en => en.2.all (fun i => decide (i < registryStrings.length))) = true := by decide +kernel

/-- nplurals of a registry string (0 if it did not parse — never, by `registry_all_ok`) -/
def npluralsOf (c : List Char) : Nat :=
  match parsePluralFormsStrict c with
  | .ok n _ _ _ => n
  | _ => 0

/-- no language of the shipped registry has two declarations with the same nplurals: `locally_correct_plural_forms` has at
    most one element -/
theorem registry_nplurals_distinct : registry.all (fun en => ((entryStrings en.2).map npluralsOf).Nodup) = true := by decide +kernel

theorem mem_entryStrings {ixs : List Nat} {c : List Char} (h : c ∈ entryStrings ixs) : c ∈ registryStrings := by
  simp only [entryStrings, List.mem_filterMap] at h
  obtain ⟨i, _, hi⟩ := h
  exact List.mem_of_getElem? hi

/-- the language of the checked file is unknown, or one of the shipped registry -/
def FromRegistry (inp : Input) : Prop :=
  inp.correct = none ∨ ∃ en ∈ registry, inp.correct = some (entryStrings en.2)

theorem FromRegistry.clean {inp : Input} (h : FromRegistry inp) : RegistryClean inp := by
  intro cs hcs c hc
  rcases h with h | ⟨en, _, h⟩
  · rw [h] at hcs; cases hcs
  · rw [h] at hcs; cases hcs
    obtain ⟨n, e, hs, hclean⟩ := registry_string_clean c (mem_entryStrings hc)
    exact ⟨n, e, hs, fun i hi => by obtain ⟨v, hv, _⟩ := hclean.total i hi; exact ⟨v, hv⟩⟩

end I18n.CheckPlurals
