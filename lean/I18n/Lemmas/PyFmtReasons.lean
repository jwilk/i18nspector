import I18n.Lemmas.PyFmtLoop
import I18n.Lemmas.PyFmtGroups
/-!
# Why `FormatString(s)` rejects

Which classes a rejection can have and what each says against CPython (`parse_error_classes`, `parse_reject_reasons`);
then, for each of the four documented classes, that the corresponding fact holds of the specifications the scanner reads
(`directives s`): `width_reason`, `precision_reason`, `mixture_reason`, `mismatch_reason`.
-/
namespace I18n.PyFmt
open I18n.Spec.CPyPercent I18n.Spec.PyFmtArgs
open I18n.Generated.PyFormatTables (intCvt SSIZE_MAX typeTable)

/-- **Every rejection, classified** (every string, no hypothesis): `Error` is raised only where CPython rejects the
    string whatever the arguments; `ForbiddenArgumentKey` only for a key attached to a `%` conversion, which puts the
    string outside the domain; what remains are the four documented classes. -/
theorem parse_error_classes {s : List Char} {e : PErr} (h : parse s = .error e) :
    (e = .Error ∧ ∀ a, format s a ≠ .ok ()) ∨ (e = .ForbiddenArgumentKey ∧ ¬ PlainPercent s) ∨
    e = .ArgumentIndexingMixture ∨ e = .ArgumentTypeMismatch ∨ e = .WidthRangeError ∨ e = .PrecisionRangeError := by
  rcases parse_error_adds h with ⟨he, hstop⟩ | ⟨he, _⟩ | ⟨pre, d, post, S, M, st1, hd, _, _, _, hcv⟩
  · -- where the parser's scanner stops CPython raises too, before it looks at an argument
    refine Or.inl ⟨he, fun a ha => ?_⟩
    rw [(run_ok ha).1] at hstop
    cases hstop
  · exact Or.inr (Or.inr (Or.inr (Or.inl he)))
  · -- `Conversion.__init__` raised on the specification `d`
    have hmem : d ∈ directives s := hd ▸ List.mem_append_cons_self
    obtain ⟨hflags, hconv⟩ := directivesAux_wf _ s d hmem
    rcases conversion_error hcv hflags hconv with he | he | he | ⟨he, hkey, hpercent⟩
    · exact Or.inr (Or.inr (Or.inl he))
    · exact Or.inr (Or.inr (Or.inr (Or.inr (Or.inl he))))
    · exact Or.inr (Or.inr (Or.inr (Or.inr (Or.inr he))))
    · -- in the domain `d` would be `%%`, which has no key
      refine Or.inr (Or.inl ⟨he, fun hp => ?_⟩)
      rw [plain_percent ((plainPercent_iff _ _).1 hp d hmem) hpercent] at hkey
      cases hkey

theorem parse_reject_reasons {s : List Char} {e : PErr} {a : Args} (h : parse s = .error e) (hf : format s a = .ok ()) :
    e = .ArgumentIndexingMixture ∨ e = .ArgumentTypeMismatch ∨ e = .WidthRangeError ∨ e = .PrecisionRangeError := by
  rcases parse_error_classes h with ⟨_, hrej⟩ | ⟨_, hdom⟩ | hdoc
  · exact absurd hf (hrej a)
  · exact absurd (plainPercent_of_format_ok hf) hdom
  · exact hdoc

/-! ## the documented reason is true of the string -/

theorem width_reason {s : List Char} (h : parse s = .error .WidthRangeError) :
    ∃ d ∈ directives s, ∃ n, d.width = .num n ∧ n > SSIZE_MAX := by
  obtain ⟨pre, d, post, st1, a, _, b⟩ := parse_error_conversion h nofun nofun
  exact ⟨d, a ▸ List.mem_append_cons_self, conversion_width_error b⟩

theorem precision_reason {s : List Char} (h : parse s = .error .PrecisionRangeError) :
    ∃ d ∈ directives s, ∃ n, d.prec = some (.num n) ∧ (n > SSIZE_MAX ∨ (intCvt.contains d.conv = true ∧ n > SSIZE_MAX - 3)) := by
  obtain ⟨pre, d, post, st1, a, _, b⟩ := parse_error_conversion h nofun nofun
  exact ⟨d, a ▸ List.mem_append_cons_self, conversion_precision_error b⟩

theorem mixture_reason {s : List Char} (h : parse s = .error .ArgumentIndexingMixture) :
    (∃ d ∈ directives s, d.named) ∧ (∃ d ∈ directives s, d.unnamed) := by
  obtain ⟨pre, d, post, st1, a, t, b⟩ := parse_error_conversion h nofun nofun
  have hd : d ∈ directives s := a ▸ List.mem_append_cons_self
  have hpre : ∀ x ∈ pre, x ∈ directives s := fun x hx => a ▸ List.mem_append_left _ hx
  -- a list that `Conversion.__init__` found non-empty was filled by an earlier specification of that kind
  have c1 : st1.map ≠ [] → ∃ x ∈ directives s, x.named := fun hm => by
    obtain ⟨⟨k, e⟩, hke⟩ := List.exists_mem_of_ne_nil _ hm
    obtain ⟨x, hx, r, _⟩ := t.origin.1 k e hke
    exact ⟨x, hpre x hx, r⟩
  have c2 : st1.seq ≠ [] → ∃ x ∈ directives s, x.unnamed := fun hm => by
    obtain ⟨x, hx, r⟩ := t.origin.2 hm
    exact ⟨x, hpre x hx, r⟩
  rcases conversion_mixture_error b with ⟨hm, hu⟩ | ⟨hk, hc, hs | hw | hp⟩
  -- an unnamed argument of `d` met named ones registered before
  · exact ⟨c1 hm, d, hd, Directive.unnamed_iff.2 hu⟩
  -- the named value of `d` met unnamed ones: registered before, or `d`'s own `*`
  · exact ⟨⟨d, hd, Directive.named_iff.2 ⟨hk, hc⟩⟩, c2 hs⟩
  · exact ⟨⟨d, hd, Directive.named_iff.2 ⟨hk, hc⟩⟩, d, hd, Directive.unnamed_of_star_width hw⟩
  · exact ⟨⟨d, hd, Directive.named_iff.2 ⟨hk, hc⟩⟩, d, hd, Directive.unnamed_of_star_prec hp⟩

theorem mismatch_reason {s : List Char} (h : parse s = .error .ArgumentTypeMismatch) :
    ∃ d1 ∈ directives s, ∃ d2 ∈ directives s, ∃ k, d1.key = some k ∧ d2.key = some k ∧
      typeTable.lookup d1.conv ≠ typeTable.lookup d2.conv := by
  -- `Error` is another class; the test after the loop fails; `Conversion.__init__` raises
  rcases parse_error_adds h with ⟨⟨⟩, _⟩ | ⟨_, S, M, t, hall⟩ | ⟨pre, d, post, S, M, st1, _, _, _, _, b⟩
  · -- under some key two entries differ in type, and each entry comes from a specification with that key and its type
    have : ¬ ∀ g ∈ groups M, sameType g.2 = true := fun hh => by rw [List.all_eq_true.2 hh] at hall; cases hall
    simp only [Classical.not_forall] at this
    obtain ⟨⟨k, es⟩, hg, hns⟩ := this
    obtain ⟨e1, he1, e2, he2, hne⟩ := sameType_false (by simpa using hns)
    obtain ⟨hes, _⟩ := groups_spec hg
    have origin : ∀ e ∈ es, ∃ d ∈ directives s, d.key = some k ∧ typeTable.lookup d.conv = some e.type := by
      intro e he
      rw [hes] at he
      obtain ⟨p, hp, rfl⟩ := List.mem_map.1 he
      obtain ⟨hp1, hp2⟩ := List.mem_filter.1 hp
      obtain rfl : p.1 = k := by simpa using hp2
      obtain ⟨d, hd, _, r⟩ := t.origin.1 p.1 p.2 hp1
      exact ⟨d, hd, r⟩
    obtain ⟨d1, hd1, hk1, ht1⟩ := origin e1 he1
    obtain ⟨d2, hd2, hk2, ht2⟩ := origin e2 he2
    exact ⟨d1, hd1, d2, hd2, k, hk1, hk2, by rw [ht1, ht2]; exact fun hh => hne (Option.some.inj hh)⟩
  · exact absurd b conversion_not_mismatch

end I18n.PyFmt
