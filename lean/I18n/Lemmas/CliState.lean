import I18n.Model.CliState
/-!
Lemmas about the state-threading model of the per-file path (C03): a cache whose key determines its value cannot be
observed; the invariant "patched ∧ cache consistent" is preserved by every `check_file`; sequential and parallel
`check_all` deliver the per-file outputs in argument order.
-/
namespace I18n.CliState
variable {K K' V : Type} [DecidableEq K']

/-- `proj` is a sound cache key for `f`: the key determines the value -/
def KeyDetermines (proj : K → K') (f : K → V) : Prop := ∀ k1 k2, proj k1 = proj k2 → f k1 = f k2

theorem consistent_nil (proj : K → K') (f : K → V) : Consistent proj f [] := by
  intro k v h; simp [cacheGet] at h

theorem consistent_insert {proj : K → K'} {f : K → V} (hkey : KeyDetermines proj f) {c : List (K' × V)}
    (hc : Consistent proj f c) (k : K) : Consistent proj f ((proj k, f k) :: c) := by
  intro k2 v h
  rw [cacheGet] at h
  by_cases hk : proj k = proj k2
  · simp only [hk, if_true] at h
    cases h
    exact hkey k k2 hk
  · simp only [hk, if_false] at h
    exact hc k2 v h

theorem run_consistent {proj : K → K'} {f : K → V} (hkey : KeyDetermines proj f) :
    ∀ (p : Prog K V) (c : List (K' × V)), Consistent proj f c →
      (p.run proj f c).2 = p.pure f ∧ Consistent proj f (p.run proj f c).1 := by
  intro p
  induction p with
  | done out => intro c hc; exact ⟨rfl, hc⟩
  | ask k cont ih =>
    intro c hc
    simp only [Prog.run, Prog.pure]
    cases hget : cacheGet c (proj k) with
    | some v =>
      have hv : v = f k := hc k v hget
      subst hv
      exact ih (f k) c hc
    | none =>
      exact ih (f k) _ (consistent_insert hkey hc k)

section Path
variable {O F : Type}
variable (proj : K → K') (f : K → V) (unpackDeb : O → Bool)
variable (checkRegular : O → F → Prog K V) (checkDeb : O → F → Option (Prog K V))
variable (colourOf : Bool → Bool → Bool) (render : Bool → String → String)

def Inv (t : Bool) (g : G K' V) : Prop := g.patched = true ∧ Consistent proj f g.cache ∧ g.terminal = t

def IgnoresRedirect (colourOf : Bool → Bool → Bool) : Prop := ∀ t c, colourOf t c = colourOf t false

/-- the output of a file in a process of its own (no cache at all) -/
def out (t : Bool) (o : O) (file : F) : List String :=
  ((checkFileProg unpackDeb checkRegular checkDeb o file).pure f).map (render (colourOf t false))

variable {proj f}

theorem step_inv {t : Bool} (hkey : KeyDetermines proj f) (hcol : IgnoresRedirect colourOf) (o : O) (g : G K' V) (file : F) (hg : Inv proj f t g) :
    (step proj f unpackDeb checkRegular checkDeb colourOf render o g file).2 = .ok (out f unpackDeb checkRegular checkDeb colourOf render t o file)
    ∧ Inv proj f t (step proj f unpackDeb checkRegular checkDeb colourOf render o g file).1 := by
  obtain ⟨hp, hc, ht⟩ := hg
  have h := run_consistent hkey (checkFileProg unpackDeb checkRegular checkDeb o file) g.cache hc
  simp only [step, hp, if_true]
  refine ⟨?_, rfl, h.2, ht⟩
  rw [h.1, ht, hcol t g.captured]
  rfl

theorem checkFileS_inv {t : Bool} (hkey : KeyDetermines proj f) (hcol : IgnoresRedirect colourOf) (o : O) (g : G K' V) (file : F) (hg : Inv proj f t g) :
    (checkFileS proj f unpackDeb checkRegular checkDeb colourOf render o g file).2 = .ok (out f unpackDeb checkRegular checkDeb colourOf render t o file)
    ∧ Inv proj f t (checkFileS proj f unpackDeb checkRegular checkDeb colourOf render o g file).1 := by
  -- `Inv` does not mention `captured`: the redirect of `sys.stdout` around the call is invisible to it
  have hg1 : Inv proj f t ({ g with captured := true } : G K' V) := hg
  have hs := step_inv unpackDeb checkRegular checkDeb colourOf render hkey hcol o _ file hg1
  exact ⟨hs.1, hs.2⟩

theorem checkFileS_restores_stdout (o : O) (g : G K' V) (file : F) :
    (checkFileS proj f unpackDeb checkRegular checkDeb colourOf render o g file).1.captured = g.captured := rfl

theorem seqRun_inv {t : Bool} (hkey : KeyDetermines proj f) (hcol : IgnoresRedirect colourOf) (o : O) :
    ∀ (files : List F) (g : G K' V), Inv proj f t g →
      (seqRun proj f unpackDeb checkRegular checkDeb colourOf render o g files).2
        = .ok ((files.map (out f unpackDeb checkRegular checkDeb colourOf render t o)).flatten)
      ∧ Inv proj f t (seqRun proj f unpackDeb checkRegular checkDeb colourOf render o g files).1 := by
  intro files
  induction files with
  | nil => intro g hg; exact ⟨rfl, hg⟩
  | cons file rest ih =>
    intro g hg
    have hs := step_inv unpackDeb checkRegular checkDeb colourOf render hkey hcol o g file hg
    rcases hstep : step proj f unpackDeb checkRegular checkDeb colourOf render o g file with ⟨g1, r1⟩
    rw [hstep] at hs
    simp only at hs
    obtain ⟨hr, hg1⟩ := hs
    subst hr
    have ih1 := ih g1 hg1
    rcases hrest : seqRun proj f unpackDeb checkRegular checkDeb colourOf render o g1 rest with ⟨g2, r2⟩
    rw [hrest] at ih1
    simp only at ih1
    obtain ⟨hr2, hg2⟩ := ih1
    subst hr2
    simp only [seqRun, hstep, hrest, List.map_cons, List.flatten_cons]
    exact ⟨trivial, hg2⟩

theorem setWorker_inv {t : Bool} (W : Nat → G K' V) (w : Nat) (g : G K' V) (hW : ∀ n, Inv proj f t (W n)) (hg : Inv proj f t g) :
    ∀ n, Inv proj f t (setWorker W w g n) := by
  intro n
  unfold setWorker
  split
  · exact hg
  · exact hW n

/-- under the invariant the pool computes what a stateless `executor.map` over the pure per-file function `out` computes (the
    `done` list of `Cli.executorMap`): each task's output under its index, in execution order, whichever worker ran it -/
theorem parExec_eq {t : Bool} (hkey : KeyDetermines proj f) (hcol : IgnoresRedirect colourOf) (o : O) (paths : List F) :
    ∀ (sched : List (Nat × Nat)) (W : Nat → G K' V), (∀ n, Inv proj f t (W n)) →
      parExec proj f unpackDeb checkRegular checkDeb colourOf render o paths sched W
        = (sched.map (·.1)).filterMap fun i =>
            paths[i]?.map fun p => (i, Except.ok (out f unpackDeb checkRegular checkDeb colourOf render t o p)) := by
  intro sched
  induction sched with
  | nil => intro _ _; rfl
  | cons jw rest ih =>
    intro W hW
    obtain ⟨j, w⟩ := jw
    simp only [parExec, List.map_cons, List.filterMap_cons]
    cases paths[j]? with
    | none => exact ih W hW
    | some q =>
      have hs := checkFileS_inv unpackDeb checkRegular checkDeb colourOf render hkey hcol o (W w) q (hW w)
      simp only [Option.map_some, hs.1, ih _ (setWorker_inv W w _ hW hs.2)]

theorem collect_all_ok (outs : List (List String)) :
    collect (outs.map (fun x => some (Except.ok x))) = .ok outs.flatten := by
  induction outs with
  | nil => rfl
  | cons x xs ih => simp only [List.map_cons, collect, ih, List.flatten_cons]

end Path
end I18n.CliState
