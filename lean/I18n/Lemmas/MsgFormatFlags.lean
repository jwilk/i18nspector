import I18n.Lemmas.MsgFlagsLoop
/-
Format flags: what `classifyFormat` accepts, and what the dictionary of format flags contains.
-/
namespace I18n.Msg
open I18n.Tags (Str lit Extra)
open I18n.Spec.MessageRules

theorem classifyFormat_eq_findSome? (env : FlagEnv) (flag : Str) (ps : List Str) :
    classifyFormat env flag ps = ps.findSome? fun p =>
      if startsWith p flag && env.isFormat (sliceTo flag p.length 7)
      then some (rstrip [45] p, sliceTo flag p.length 7) else none := by
  induction ps with
  | nil => rfl
  | cons p rest ih =>
    rw [classifyFormat, List.findSome?_cons, ih]
    dsimp only
    cases startsWith p flag <;> cases env.isFormat (sliceTo flag p.length 7) <;> rfl

theorem classifyFormat_some {env : FlagEnv} {flag : Str} {ps : List Str} {tp fmt : Str}
    (h : classifyFormat env flag ps = some (tp, fmt)) :
    ∃ p ∈ ps, startsWith p flag = true ∧ fmt = sliceTo flag p.length 7 ∧ env.isFormat fmt = true ∧ tp = rstrip [45] p := by
  rw [classifyFormat_eq_findSome?] at h
  obtain ⟨p, hp, hfound⟩ := List.exists_of_findSome?_eq_some h
  simp only [Option.ite_none_right_eq_some, Option.some.injEq, Prod.mk.injEq, Bool.and_eq_true] at hfound
  obtain ⟨⟨hstarts, hformat⟩, rfl, rfl⟩ := hfound
  exact ⟨p, hp, hstarts, rfl, hformat, rfl⟩

theorem mem_of_prefix_suffix {flag p suf : Str} (hp : startsWith p flag = true) (hs : endsWith suf flag = true) {c : Nat}
    (hc : c ∈ flag) : c ∈ p ∨ c ∈ sliceTo flag p.length suf.length ∨ c ∈ suf := by
  obtain ⟨t, rfl⟩ := List.isPrefixOf_iff_prefix.mp hp
  rcases List.mem_append.mp hc with h | h
  · exact Or.inl h
  -- the suffix fits into what follows the prefix, or covers it
  rcases List.suffix_or_suffix_of_suffix (List.isSuffixOf_iff_suffix.mp hs) (List.suffix_append p t) with ⟨m, rfl⟩ | hts
  · rw [← List.append_assoc, sliceTo_mid]
    exact Or.inr (List.mem_append.mp h)
  · exact Or.inr (Or.inr (hts.subset h))

theorem formatSuffix_length : formatSuffix.length = 7 := by decide

theorem flagKind_format {env : FlagEnv} {f tp fmt : Str} (h : flagKind env f = .format tp fmt) :
    endsWith formatSuffix f = true ∧ classifyFormat env f env.prefixes = some (tp, fmt) := by
  have := flagKind_inv env f
  rwa [h] at this

theorem format_flag_shape {env : FlagEnv} (hempty : env.isFormat [] = false) {f tp fmt : Str}
    (h : flagKind env f = .format tp fmt) :
    ∃ p ∈ env.prefixes, f = p ++ fmt ++ formatSuffix ∧ env.isFormat fmt = true ∧ tp = rstrip [45] p := by
  obtain ⟨hsuf, hcl⟩ := flagKind_format h
  obtain ⟨p, hp, hst, hfmt, hisf, htp⟩ := classifyFormat_some hcl
  refine ⟨p, hp, ?_, hisf, htp⟩
  -- the format name is not empty, so prefix and suffix do not overlap
  have hl : p.length + formatSuffix.length ≤ f.length := by
    apply Decidable.byContradiction
    intro hlt
    rw [hfmt, sliceTo, List.drop_eq_nil_of_le (by simp [formatSuffix_length] at hlt ⊢; omega), hempty] at hisf
    cases hisf
  obtain ⟨m, rfl⟩ := exists_mid hst hsuf hl
  rw [hfmt, ← formatSuffix_length, sliceTo_mid]

theorem format_flag_chars {env : FlagEnv} {f tp fmt : Str} (h : flagKind env f = .format tp fmt) {c : Nat} (hc : c ∈ f) :
    (∃ p ∈ env.prefixes, c ∈ p) ∨ (∃ n ∈ env.formats, c ∈ n.1) ∨ c ∈ formatSuffix := by
  obtain ⟨h5, hcl⟩ := flagKind_format h
  obtain ⟨p, hp, hst, hfmt, hisf, _⟩ := classifyFormat_some hcl
  rcases mem_of_prefix_suffix hst h5 hc with hc | hc | hc
  · exact Or.inl ⟨p, hp, hc⟩
  · rw [formatSuffix_length, ← hfmt] at hc
    simp only [FlagEnv.isFormat, List.any_eq_true, decide_eq_true_eq] at hisf
    obtain ⟨n, hn, hne⟩ := hisf
    exact Or.inr (Or.inl ⟨n, hn, by rw [hne]; exact hc⟩)
  · exact Or.inr (Or.inr hc)

theorem assocGet_formatStep (env : FlagEnv) (k : Str × Str) (d : List ((Str × Str) × Str)) (f : Str) :
    assocGet k (formatStep env d f) = if flagKind env f = .format k.1 k.2 then some f else assocGet k d := by
  unfold formatStep
  split
  · next tp fmt h =>
    by_cases hk : k = (tp, fmt)
    · subst hk; simp [h, assocGet_assocSet_self]
    · have : ¬(tp = k.1 ∧ fmt = k.2) := fun ⟨a, b⟩ => hk (Prod.ext a.symm b.symm)
      simp [h, assocGet_assocSet_ne hk, this]
  · next h => rw [if_neg]; intro h'; exact h _ _ h'

theorem foldl_last_eq_find? {ι : Type} (p : ι → Bool) (l : List ι) (o : Option ι) :
    l.foldl (fun o i => if p i then some i else o) o = (l.reverse.find? p).or o := by
  induction l generalizing o with
  | nil => simp
  | cons i l ih =>
    rw [List.foldl_cons, ih, List.reverse_cons, List.find?_append]
    cases l.reverse.find? p <;> by_cases h : p i <;> simp [h]

theorem assocGet_formatDict (env : FlagEnv) (k : Str × Str) (fs : List Str) :
    assocGet k (formatDict env fs) = fs.reverse.find? fun f => flagKind env f = .format k.1 k.2 := by
  have := List.foldl_hom (assocGet k) (g₁ := formatStep env) (l := fs) (init := [])
    (g₂ := fun o f => if decide (flagKind env f = .format k.1 k.2) then some f else o) (by simp [assocGet_formatStep])
  rw [formatDict, ← this]
  exact (foldl_last_eq_find? _ fs none).trans (by simp)

theorem mem_keysOf_formatDict (env : FlagEnv) (fs : List Str) (tp fmt : Str) :
    (tp, fmt) ∈ keysOf (formatDict env fs) ↔ ∃ f ∈ fs, flagKind env f = .format tp fmt := by
  rw [← assocGet_isSome_iff, assocGet_formatDict]
  simp only [List.find?_isSome, List.mem_reverse, decide_eq_true_eq]

theorem kind_of_assocGet_formatDict {env : FlagEnv} {k : Str × Str} {v : Str} {fs : List Str}
    (h : assocGet k (formatDict env fs) = some v) : v ∈ fs ∧ flagKind env v = .format k.1 k.2 := by
  rw [assocGet_formatDict] at h
  exact ⟨by simpa using List.mem_of_find?_eq_some h, by simpa using List.find?_some h⟩

theorem mem_formatDict (env : FlagEnv) (p : (Str × Str) × Str) : ∀ (fs : List Str) (acc : List ((Str × Str) × Str)),
    p ∈ fs.foldl (formatStep env) acc → p ∈ acc ∨ flagKind env p.2 = .format p.1.1 p.1.2
  | [], _, h => Or.inl h
  | f :: fs, acc, h => by
    rcases mem_formatDict env p fs _ h with h | h
    · unfold formatStep at h
      split at h
      · next hk =>
        rcases mem_assocSet h with rfl | h
        · exact Or.inr hk
        · exact Or.inl h
      · exact Or.inl h
    · exact Or.inr h

theorem assocGet_formatFlagsOf (ff : List ((Str × Str) × Str)) (tp f : Str) :
    assocGet f (formatFlagsOf ff tp) = assocGet (tp, f) ff := by
  induction ff with
  | nil => simp [formatFlagsOf, assocGet]
  | cons x xs ih =>
    obtain ⟨⟨tp', f'⟩, v⟩ := x
    simp only [formatFlagsOf] at ih
    by_cases h1 : tp' = tp
    · subst h1
      by_cases h2 : f' = f
      · subst h2; simp [formatFlagsOf, assocGet]
      · simp [formatFlagsOf, assocGet, h2, ih]
    · have : ¬ ((tp', f') = (tp, f)) := by intro h; exact h1 (Prod.ext_iff.mp h).1
      simp [formatFlagsOf, assocGet, h1, this, ih]

theorem mem_keysOf_formatFlagsOf (ff : List ((Str × Str) × Str)) (tp f : Str) :
    f ∈ keysOf (formatFlagsOf ff tp) ↔ (tp, f) ∈ keysOf ff := by
  rw [← assocGet_isSome_iff, ← assocGet_isSome_iff, assocGet_formatFlagsOf]

theorem mem_commonKeys (a b : List (Str × Str)) (f : Str) : f ∈ commonKeys a b ↔ f ∈ keysOf a ∧ f ∈ keysOf b := by
  simp [commonKeys]

end I18n.Msg
