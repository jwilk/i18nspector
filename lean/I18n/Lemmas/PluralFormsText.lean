import I18n.Lemmas.PluralFormsRe
/-!
The header scanner read without a pattern: `OccursAt` spells the declaration syntax of `gettext._parse_plural_forms` out
as an equation between lists, `matchHere_iff` says that the anchored matcher succeeds exactly on the strings that start
with it, and `search_text`, `search_none_iff` that `search` returns the occurrence with the leftmost start, or none where
there is no occurrence.
-/
namespace I18n.CheckPlurals
open I18n I18n.PluralParse

/-- a positive decimal numeral without leading zero -/
def PosNumeral (ds : List Char) : Prop := ∃ d r, ds = d :: r ∧ ('1' ≤ d ∧ d ≤ '9') ∧ ∀ c ∈ r, isDigit c = true

/-- `s` STARTS with `nplurals=<ds>;<blanks>plural=<ex>[;]` — `ds` a positive numeral, blanks are spaces and tabs, `ex` the
    non-empty text up to the first `;` or the end of the string — and `rest` is what follows. -/
def OccursAt (s ds ex rest : List Char) : Prop :=
  ∃ bl semi, s = "nplurals=".toList ++ ds ++ [';'] ++ bl ++ "plural=".toList ++ ex ++ semi ++ rest ∧
    PosNumeral ds ∧ (∀ c ∈ bl, c = ' ' ∨ c = '\t') ∧ ex ≠ [] ∧ (∀ c ∈ ex, c ≠ ';') ∧
    (semi = [';'] ∨ (semi = [] ∧ rest = []))

theorem stripPrefix_iff {p s r : List Char} : stripPrefix p s = some r ↔ s = p ++ r :=
  Kit.stripPrefix_iff (f := stripPrefix) (fun _ => rfl) (fun _ _ => rfl) stripPrefix_cons_cons

theorem spanLen_split_iff (p : Char → Bool) (s a b : List Char) :
    (s.take (Spec.PluralFormsRe.spanLen p s), s.drop (Spec.PluralFormsRe.spanLen p s)) = (a, b) ↔
      s = a ++ b ∧ (∀ c ∈ a, p c = true) ∧ ∀ c ∈ b.head?, p c = false := by
  rw [spanLen_eq, Kit.take_length_takeWhile, Kit.drop_length_takeWhile, Prod.mk.injEq]
  exact Kit.span_iff

theorem spanDigits_iff (s a b : List Char) :
    spanDigits s = (a, b) ↔ s = a ++ b ∧ (∀ c ∈ a, isDigit c = true) ∧ ∀ c ∈ b.head?, isDigit c = false := by
  rw [spanDigits_eq]
  exact spanLen_split_iff isDigit s a b

theorem dropBlanks_iff (s b : List Char) :
    dropBlanks s = b ↔ ∃ a, s = a ++ b ∧ (∀ c ∈ a, c = ' ' ∨ c = '\t') ∧ ∀ c ∈ b.head?, ¬ (c = ' ' ∨ c = '\t') := by
  have hp : ∀ c : Char, (isBlank c = true ↔ c = ' ' ∨ c = '\t') ∧ (isBlank c = false ↔ ¬ (c = ' ' ∨ c = '\t')) := by
    intro c
    simp [isBlank]
  rw [dropBlanks_eq]
  constructor
  · rintro rfl
    obtain ⟨e, ha, hb⟩ := (spanLen_split_iff isBlank s _ _).1 rfl
    exact ⟨_, e, fun c hc => (hp c).1.1 (ha c hc), fun c hc => (hp c).2.1 (hb c hc)⟩
  · rintro ⟨a, e, ha, hb⟩
    exact (Prod.mk.inj ((spanLen_split_iff isBlank s a b).2 ⟨e, fun c hc => (hp c).1.2 (ha c hc), fun c hc => (hp c).2.2 (hb c hc)⟩)).2

theorem spanNotSemi_iff (s a b : List Char) :
    spanNotSemi s = (a, b) ↔ s = a ++ b ∧ (∀ c ∈ a, c ≠ ';') ∧ ∀ c ∈ b.head?, c = ';' := by
  rw [spanNotSemi_eq]
  simpa using spanLen_split_iff (fun c => !(c == ';')) s a b

/-- What the successful branches of `matchHere` have in common: the pieces the scanner cut off, put together again. -/
theorem occursAt_of_parts {s r ds s3 s4 ex semi rest : List Char} {d : Char}
    (h1 : stripPrefix "nplurals=".toList s = some (d :: r)) (hd : '1' ≤ d ∧ d ≤ '9')
    (h2 : spanDigits (d :: r) = (ds, ';' :: s3)) (h4 : stripPrefix "plural=".toList (dropBlanks s3) = some s4)
    (h5 : spanNotSemi s4 = (ex, semi ++ rest)) (hne : ex ≠ []) (hsemi : semi = [';'] ∨ (semi = [] ∧ rest = [])) :
    OccursAt s ds ex rest := by
  obtain ⟨e2, hds, -⟩ := (spanDigits_iff _ _ _).1 h2
  obtain ⟨bl, e3, hbl, -⟩ := (dropBlanks_iff s3 _).1 rfl
  obtain ⟨e5, hex, -⟩ := (spanNotSemi_iff _ _ _).1 h5
  refine ⟨bl, semi, ?_, ?_, hbl, hne, hex, hsemi⟩
  · rw [stripPrefix_iff.1 h1, e2, e3, stripPrefix_iff.1 h4, e5]
    simp only [List.append_assoc, List.cons_append, List.nil_append]
  · -- `ds` is not empty, because `d` is not `';'`
    cases ds with
    | nil =>
      cases e2
      exact absurd hd (by decide)
    | cons d' r' =>
      cases e2
      exact ⟨d, r', rfl, hd, fun c hc => hds c (List.mem_cons_of_mem _ hc)⟩

theorem matchHere_eq_some {s ds ex rest : List Char} (h : matchHere s = some (ds, ex, rest)) :
    ∃ d r s3 s4 semi, stripPrefix "nplurals=".toList s = some (d :: r) ∧ ('1' ≤ d ∧ d ≤ '9') ∧
      spanDigits (d :: r) = (ds, ';' :: s3) ∧ stripPrefix "plural=".toList (dropBlanks s3) = some s4 ∧
      spanNotSemi s4 = (ex, semi ++ rest) ∧ ex ≠ [] ∧ (semi = [';'] ∨ (semi = [] ∧ rest = [])) := by
  unfold matchHere at h
  -- one `split` per level of the scanner; the other arm of each level returns `none`
  split at h
  next => cases h
  next s1 h1 =>                       -- `nplurals=` stripped, `s1` follows
    split at h
    next d r =>                       -- its first character `d` …
      split at h
      next hd =>                      -- … is in `1..9`
        split at h
        next ds' s2 h2 =>             -- the digits, and what follows them …
          split at h
          next s3 =>                  -- … which starts with `;`
            split at h
            next => cases h
            next s4 h4 =>             -- blanks and `plural=` stripped, `s4` follows
              split at h
              next ex' s5 h5 =>       -- the expression text, and what follows it
                split at h
                next => cases h
                next hne =>           -- … it is not empty
                  have hne' : ex' ≠ [] := by simpa using hne
                  split at h
                  next s6 =>          -- a `;` after it is consumed
                    cases h
                    exact ⟨d, r, s3, s4, [';'], h1, hd, h2, h4, h5, hne', Or.inl rfl⟩
                  next hns =>         -- otherwise what follows starts with `;` or is empty, and it is not the former
                    cases h
                    have hrest : rest = [] := by
                      cases rest with
                      | nil => rfl
                      | cons c t =>
                        cases ((spanNotSemi_iff _ _ _).1 h5).2.2 c rfl
                        exact (hns t rfl).elim
                    subst hrest
                    exact ⟨d, r, s3, s4, [], h1, hd, h2, h4, h5, hne', Or.inr ⟨rfl, rfl⟩⟩
          next => cases h
      next => cases h
    next => cases h

theorem matchHere_occurs {s ds ex rest : List Char} (h : matchHere s = some (ds, ex, rest)) : OccursAt s ds ex rest := by
  obtain ⟨d, r, s3, s4, semi, h1, hd, h2, h4, h5, hne, hsemi⟩ := matchHere_eq_some h
  exact occursAt_of_parts h1 hd h2 h4 h5 hne hsemi

theorem matchHere_of_parts {s r ds s3 s4 ex semi rest : List Char} {d : Char}
    (h1 : stripPrefix "nplurals=".toList s = some (d :: r)) (hd : '1' ≤ d ∧ d ≤ '9')
    (h2 : spanDigits (d :: r) = (ds, ';' :: s3)) (h4 : stripPrefix "plural=".toList (dropBlanks s3) = some s4)
    (h5 : spanNotSemi s4 = (ex, semi ++ rest)) (hne : ex ≠ []) (hsemi : semi = [';'] ∨ (semi = [] ∧ rest = [])) :
    matchHere s = some (ds, ex, rest) := by
  have hne : ex.isEmpty = false := by simpa using hne
  simp only [matchHere, h1, hd, and_self, if_true, h2, h4, h5, hne, Bool.false_eq_true, if_false]
  rcases hsemi with rfl | ⟨rfl, rfl⟩
  · rfl
  · rfl

theorem occurs_matchHere {s ds ex rest : List Char} (h : OccursAt s ds ex rest) : matchHere s = some (ds, ex, rest) := by
  obtain ⟨bl, semi, rfl, ⟨d, r, rfl, hd, hr⟩, hbl, hexne, hex, hsemi⟩ := h
  have e0 : "nplurals=".toList ++ (d :: r) ++ [';'] ++ bl ++ "plural=".toList ++ ex ++ semi ++ rest =
      "nplurals=".toList ++ (d :: (r ++ (';' :: (bl ++ ("plural=".toList ++ (ex ++ (semi ++ rest))))))) := by
    simp only [List.append_assoc, List.cons_append, List.nil_append]
  have hdig : isDigit d = true := digit19_digit09 d ((digit19_has d).2 hd)
  have h2 : spanDigits (d :: (r ++ ';' :: (bl ++ ("plural=".toList ++ (ex ++ (semi ++ rest)))))) = (d :: r, ';' :: _) :=
    (spanDigits_iff _ _ _).2 ⟨rfl, List.forall_mem_cons.2 ⟨hdig, hr⟩, fun c hc => by cases hc; decide⟩
  have h3 : dropBlanks (bl ++ ("plural=".toList ++ (ex ++ (semi ++ rest)))) = "plural=".toList ++ _ :=
    (dropBlanks_iff _ _).2 ⟨bl, rfl, hbl, fun c hc => by cases hc; decide⟩
  have h5 : spanNotSemi (ex ++ (semi ++ rest)) = (ex, semi ++ rest) :=
    (spanNotSemi_iff _ _ _).2 ⟨rfl, hex, fun c hc => by
      rcases hsemi with rfl | ⟨rfl, rfl⟩
      · cases hc; rfl
      · cases hc⟩
  rw [e0]
  exact matchHere_of_parts (stripPrefix_iff.2 rfl) hd h2 (by rw [h3]; exact stripPrefix_iff.2 rfl) h5 hexne hsemi

/-- **The anchored matcher, as plain text**: it succeeds exactly on the strings that start with the declaration syntax. -/
theorem matchHere_iff (s ds ex rest : List Char) : matchHere s = some (ds, ex, rest) ↔ OccursAt s ds ex rest :=
  ⟨matchHere_occurs, occurs_matchHere⟩

theorem matchHere_eq_none (q : List Char) : matchHere q = none ↔ ∀ ds ex rj, ¬ OccursAt q ds ex rj := by
  simp only [← matchHere_iff]
  cases matchHere q with
  | none => simp
  | some y => obtain ⟨a, b, c⟩ := y; simp

/-- no occurrence of the declaration syntax starts before position `len` of `v` -/
def NoneBefore (v : List Char) (len : Nat) : Prop :=
  ∀ p' q', v = p' ++ q' → p'.length < len → ∀ ds' ex' rj', ¬ OccursAt q' ds' ex' rj'

theorem search_text (v lj ds ex rj : List Char) :
    CheckPlurals.search [] v = some (lj, ds, ex, rj) ↔ ∃ q, v = lj ++ q ∧ OccursAt q ds ex rj ∧ NoneBefore v lj.length := by
  rw [search_eq_firstAt, firstAt_eq_some]
  simp only [List.reverse_nil, List.nil_append, matchHere_iff, matchHere_eq_none, NoneBefore]
  constructor
  · rintro ⟨p, q, hv, rfl, hocc, hleft⟩
    exact ⟨q, hv, hocc, hleft⟩
  · rintro ⟨q, hv, hocc, hleft⟩
    exact ⟨lj, q, hv, rfl, hocc, hleft⟩

theorem search_none_iff (s skipped : List Char) : CheckPlurals.search skipped s = none ↔
    ∀ p q, s = p ++ q → ∀ ds ex rj, ¬ OccursAt q ds ex rj := by
  rw [search_eq_firstAt, firstAt_eq_none]
  simp only [matchHere_eq_none]

end I18n.CheckPlurals
