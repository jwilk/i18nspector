import I18n.Generated.Ling
import I18n.Lemmas.LocaleParse
import I18n.Lemmas.LocaleFixCodes
/-!
# `lib/ling.py` regenerated from the source equals the hand-written model (`Model/Locale.lean`)

The constructor upper-cases the encoding and `clone()` goes through the constructor; the model has no `clone()`.  An equality that passes
through `clone()` is therefore stated with the encoding upper-cased once more, and `EncUpper` (the encoding is upper-case already) is shown of
everything the constructor, the parser and the mutating methods produce (`…_encUpper`): on such objects `clone()` is the identity.
-/
-- some simp lemmas below fire only on another spelling of the same source (a comparison turned round, a literal set in another order)
set_option linter.unusedSimpArgs false
namespace I18n.Locale.Gen
open I18n I18n.Locale I18n.Locale.Py I18n.Generated

theorem upper_idem (s : List Char) : upper (upper s) = upper s := by
  simp [upper, List.map_map, Function.comp_def, asciiUpper_idem]

theorem init_eq (a : List Char) (b c d : Option (List Char)) :
    Ling.Language.__init__ a b c d = .ok ⟨a, b, c.map upper, d⟩ := by
  cases c <;> rfl

theorem init_encUpper (a : List Char) (b c d : Option (List Char)) : EncUpper ⟨a, b, c.map upper, d⟩ := by
  cases c <;> simp [EncUpper, upper_idem]

theorem get_tuple_eq (l : Language) : Ling.Language._get_tuple l = .ok (l.ll, l.cc, l.enc, l.mod) := rfl

/-- `clone()` goes through the constructor: the encoding is upper-cased once more -/
theorem clone_eq (l : Language) : Ling.Language.clone l = .ok { l with enc := l.enc.map upper } := by
  simp only [Ling.Language.clone, get_tuple_eq, init_eq]

theorem eq_eq (a b : Language) : Ling.Language.__eq__ a b = .ok (a == b) := by
  simp only [Ling.Language.__eq__, get_tuple_eq]
  congr 1
  obtain ⟨a1, a2, a3, a4⟩ := a
  obtain ⟨b1, b2, b3, b4⟩ := b
  simp only [beq_iff_eq, Language.mk.injEq, Prod.mk.injEq, decide_eq_decide, BEq.beq]

theorem ne_eq (a b : Language) : Ling.Language.__ne__ a b = .ok (a != b) := by
  simp only [Ling.Language.__ne__, eq_eq]; rfl

theorem get_principal_eq (l : Language) : Ling.Language.get_principal_territory_code l = .ok (principalTerritory l.ll) := rfl

theorem remove_principal_eq (l : Language) :
    Ling.Language.remove_principal_territory_code l =
      .ok (noneOrTrue (decide (removePrincipalTerritory l ≠ l)), removePrincipalTerritory l) := by
  obtain ⟨ll, cc, enc, mod⟩ := l
  cases cc with
  | none => simp [Ling.Language.remove_principal_territory_code, removePrincipalTerritory, noneOrTrue]
  | some c =>
    simp only [Ling.Language.remove_principal_territory_code, get_principal_eq, removePrincipalTerritory]
    -- `cc == default_cc` may be written `default_cc == cc` in the source: both orientations go into the `simp` set
    have e1 : (some c = principalTerritory ll) = (principalTerritory ll = some c) := propext eq_comm
    by_cases h : principalTerritory ll = some c <;> simp [h, e1, noneOrTrue]

theorem remove_principal_encUpper (l : Language) (h : EncUpper l) : EncUpper (removePrincipalTerritory l) := by
  unfold removePrincipalTerritory
  cases l.cc with
  | none => exact h
  | some c => by_cases hp : principalTerritory l.ll = some c <;> simp [hp] <;> exact h

theorem remove_encoding_encUpper (l : Language) (h : EncUpper l) : EncUpper (removeEncoding l).1 := by
  unfold removeEncoding
  cases he : l.enc with
  | none => exact h
  | some enc => rfl

theorem remove_nonlinguistic_modifier_encUpper (l : Language) (h : EncUpper l) : EncUpper (removeNonlinguisticModifier l).1 := by
  unfold removeNonlinguisticModifier
  split <;> exact h

/-- `is_almost_equal` in general: both operands pass through `clone()` first -/
theorem is_almost_equal_eq_general (a b : Language) :
    Ling.Language.is_almost_equal a b =
      .ok (isAlmostEqual { a with enc := a.enc.map upper } { b with enc := b.enc.map upper }) := by
  simp only [Ling.Language.is_almost_equal, clone_eq, remove_principal_eq, eq_eq, isAlmostEqual]

theorem lookup_language_eq (k : List Char) : Ling._lookup_language_code k = .ok (lookupLanguage k) := rfl

theorem lookup_territory_eq (c : List Char) : Ling.lookup_territory_code c = .ok (lookupTerritory c) := by
  have e : Generated.Locale.iso3166.contains c = iso3166Has c := rfl
  simp only [Ling.lookup_territory_code, lookupTerritory, e]
  cases iso3166Has c <;> rfl

theorem fix_codes_eq (l : Language) :
    Ling.Language.fix_codes l = (fixCodes l).map (fun r => (noneOrTrue r.2, r.1)) := by
  obtain ⟨ll, cc, enc, mod⟩ := l
  simp only [Ling.Language.fix_codes, lookup_language_eq, lookup_territory_eq, fixCodes]
  cases lookupLanguage ll with
  | none => rfl
  | some ll' =>
    simp only []
    -- both orientations of every comparison, so that `a != b` may also be written `b != a` in the source
    have e1 : (ll = ll') = (ll' = ll) := propext eq_comm
    cases cc with
    | none =>
      by_cases h : ll' = ll <;> simp [h, e1, Except.map, noneOrTrue]
    | some c =>
      simp only []
      cases hc : lookupTerritory c with
      | none => by_cases h : ll' = ll <;> simp [h, e1, Except.map]
      | some c' =>
        have e2 : (c = c') = (c' = c) := propext eq_comm
        by_cases h : ll' = ll <;> by_cases h2 : c' = c <;> simp [h, h2, e1, e2, Except.map, noneOrTrue]

theorem fix_codes_encUpper (l l' : Language) (f : Bool) (h : EncUpper l) (hf : fixCodes l = .ok (l', f)) : EncUpper l' := by
  obtain ⟨v, -, -, rfl, -⟩ := (fixCodes_ok_iff ..).1 hf
  exact h

theorem remove_encoding_eq (l : Language) :
    Ling.Language.remove_encoding l = .ok (noneOrTrue (removeEncoding l).2, (removeEncoding l).1) := by
  obtain ⟨ll, cc, enc, mod⟩ := l
  cases enc <;> rfl

theorem remove_nonlinguistic_modifier_eq (l : Language) :
    Ling.Language.remove_nonlinguistic_modifier l =
      .ok (noneOrTrue (removeNonlinguisticModifier l).2, (removeNonlinguisticModifier l).1) := by
  simp only [Ling.Language.remove_nonlinguistic_modifier, removeNonlinguisticModifier]
  generalize "euro".toList = e
  have e1 : (some e = l.mod) = (l.mod = some e) := propext eq_comm
  by_cases h : l.mod = some e <;> simp [h, e1, noneOrTrue]

theorem parse_language_eq (s : List Char) : Ling.parse_language s = parseLanguageE s := by
  simp only [Ling.parse_language, parseLanguageE, parseLanguage_eq_match]
  cases languageMatch s with
  | none => rfl
  | some g => simp [init_eq]

theorem parse_language_encUpper (s : List Char) (l : Language) (h : parseLanguageE s = .ok l) : EncUpper l := by
  simp only [parseLanguageE, parseLanguage_eq_match] at h
  cases hm : languageMatch s with
  | none => simp [hm] at h
  | some g =>
    simp [hm] at h
    rw [← h]
    exact init_encUpper _ _ _ _

end I18n.Locale.Gen
