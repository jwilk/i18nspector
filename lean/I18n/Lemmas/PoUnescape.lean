import I18n.Spec.PoSpelling
import I18n.Lemmas.Kit.List
/-! Lemmas for C10 `unescape_spelling`: the escape scanner of `Po.unescape` inverts `Spec.PoSpelling.render`. -/
namespace I18n.Spec.PoSpelling

theorem rawOk.ne_quote {c : Char} (h : rawOk c) : c ≠ '"' := h.2.1
theorem rawOk.ne_backslash {c : Char} (h : rawOk c) : c ≠ '\\' := h.2.2

end I18n.Spec.PoSpelling

namespace I18n.Lemmas.PoUnescape
open I18n I18n.Po I18n.Spec.PoSpelling

theorem isOct_octChar : ∀ a : Fin 8, isOct (octChar a) = true := by decide +kernel
theorem simpleByte_octChar : ∀ a : Fin 8, simpleByte (octChar a) = none := by decide +kernel
theorem octChar_ne_x : ∀ a : Fin 8, octChar a ≠ 'x' := by decide +kernel
theorem octVal_octChar : ∀ a : Fin 8, octVal (octChar a) = a.val := by decide +kernel
theorem isHex_hexChar : ∀ h : HexDigit, isHex h.char = true := by
  rintro ⟨v, u⟩; revert v u; decide +kernel
theorem hexVal_hexChar : ∀ h : HexDigit, hexVal h.char = h.val.val := by
  rintro ⟨v, u⟩; revert v u; decide +kernel
theorem simpleByte_letter : ∀ i : Fin 9, simpleByte (simpleLetter i) = some (UInt8.ofNat (simpleChar i).toNat) := by decide +kernel
theorem simpleChar_lt : ∀ i : Fin 9, (simpleChar i).toNat < 128 := by decide +kernel

/-- the character after the escape `f`, if there is one, is not read as one more digit of it -/
def NextOk (f : EscForm) (r : Text) : Prop := ∀ c r', r = c :: r' → swallows f c = false

theorem escapeBody_form (f : EscForm) (r : Text) (h : NextOk f r) : escapeBody (f.body ++ r) = some (f.body, r) := by
  have hx : simpleByte 'x' = none ∧ isOct 'x' = false := by decide
  rcases r with _ | ⟨c, r'⟩
  · cases f <;> simp [EscForm.body, escapeBody, simpleByte_octChar, isOct_octChar, isHex_hexChar, hx]
  · -- a short form stops because the next character is no digit of its base (`hc`); a full form looks no further
    have hc := h c r' rfl
    cases f with
    | oct1 a =>
      have hc : isOct c = false := hc
      simp [EscForm.body, escapeBody, simpleByte_octChar, isOct_octChar, hc]
    | oct2 a b =>
      have hc : isOct c = false := hc
      simp [EscForm.body, escapeBody, simpleByte_octChar, isOct_octChar, hc]
    | oct3 a b d => simp [EscForm.body, escapeBody, simpleByte_octChar, isOct_octChar]
    | hex1 a =>
      have hc : isHex c = false := hc
      simp [EscForm.body, escapeBody, isHex_hexChar, hx, hc]
    | hex2 a b => simp [EscForm.body, escapeBody, isHex_hexChar, hx]

/-- one backslash escape of the rendered text: a letter escape or a numeric escape (a `Choice` is a raw character or one or more of these) -/
inductive EUnit where
  | simple (i : Fin 9)
  | form (f : EscForm)

def EUnit.body : EUnit → Text
  | .simple i => [simpleLetter i]
  | .form f => f.body

def EUnit.byte : EUnit → UInt8
  | .simple i => UInt8.ofNat (simpleChar i).toNat
  | .form f => UInt8.ofNat f.value

/-- what follows the escape does not continue it (`okAdj` of the spelling, per escape; a letter escape is never continued) -/
def EUnit.NextOk : EUnit → Text → Prop
  | .simple _, _ => True
  | .form f, r => PoUnescape.NextOk f r

/-- a run of escapes as text: what `escapeRun` scans in one go and `decodeRun` decodes as one byte string -/
def renderUnits (us : List EUnit) : Text := us.flatMap fun u => '\\' :: u.body

theorem renderUnits_cons (u : EUnit) (us : List EUnit) (r : Text) :
    renderUnits (u :: us) ++ r = '\\' :: (u.body ++ (renderUnits us ++ r)) := by
  simp [renderUnits]

theorem escapeBody_unit (u : EUnit) (r : Text) (h : u.NextOk r) : escapeBody (u.body ++ r) = some (u.body, r) := by
  cases u with
  | simple i => simp [EUnit.body, escapeBody, simpleByte_letter]
  | form f => exact escapeBody_form f r h

theorem swallows_backslash (f : EscForm) : swallows f '\\' = false := by
  cases f <;> simp [swallows] <;> decide

theorem escapeRun_units (us : List EUnit) (r : Text) (fuel : Nat) (hf : us.length ≤ fuel)
    (hr : ∀ c r', r = c :: r' → c ≠ '\\') (hlast : ∀ u, us.getLast? = some u → u.NextOk r) :
    escapeRun fuel (renderUnits us ++ r) = (us.map EUnit.body, r) := by
  induction us generalizing fuel with
  | nil =>
    show escapeRun fuel r = ([], r)
    cases fuel with
    | zero => rfl
    | succ n =>
      unfold escapeRun
      split
      · exact absurd rfl (hr _ _ rfl)
      · rfl
  | cons u us ih =>
    cases fuel with
    | zero => simp at hf
    | succ n =>
      have hn : u.NextOk (renderUnits us ++ r) := by
        cases us with
        | nil => simpa [renderUnits] using hlast u (by simp)
        | cons v vs =>
          cases u with
          | simple i => trivial
          | form f =>
            intro c r' hc
            simp [renderUnits] at hc
            rw [← hc.1]; exact swallows_backslash f
      have ih' := ih n (by simpa using hf) (by
        intro v hv; apply hlast v
        cases us with
        | nil => simp at hv
        | cons w ws => simpa [List.getLast?_cons_cons] using hv)
      rw [renderUnits_cons]
      simp only [escapeRun, escapeBody_unit u _ hn, ih', List.map_cons]

theorem hexChar_ne_backslash : ∀ h : HexDigit, h.char ≠ '\\' := by
  rintro ⟨v, u⟩; revert v u; decide +kernel

theorem escapeByte_unit (u : EUnit) : escapeByte (fixShortX u.body) = u.byte := by
  have h0 : hexVal '0' = 0 := by decide
  rcases u with i | f
  · simp [EUnit.body, EUnit.byte, fixShortX, escapeByte, simpleByte_letter]
  · cases f with
    | oct3 a b c =>
      have : a.val * 64 + b.val * 8 + c.val < 256 := by omega
      simp [EUnit.body, EUnit.byte, EscForm.body, EscForm.value, fixShortX, escapeByte, octChar_ne_x, octVal_octChar, Nat.mod_eq_of_lt this]
    | _ =>
      simp [EUnit.body, EUnit.byte, EscForm.body, EscForm.value, fixShortX, escapeByte, simpleByte_octChar, octChar_ne_x,
        octVal_octChar, hexVal_hexChar, h0]

/-- the escapes a choice is rendered as (none for a raw character) -/
def cunits : Choice → List EUnit
  | .raw _ => []
  | .simple i => [.simple i]
  | .bytes _ forms => forms.map .form

/-- the choice is rendered with backslashes: `render` of a run of such choices is one `renderUnits` -/
def cisEsc : Choice → Bool
  | .raw _ => false
  | _ => true

theorem render_esc (x : Choice) (h : cisEsc x = true) : x.render = renderUnits (cunits x) := by
  cases x with
  | raw c => simp [cisEsc] at h
  | simple i => simp [Choice.render, renderUnits, cunits, EUnit.body]
  | bytes c forms => simp [Choice.render, renderUnits, cunits, EUnit.body, List.flatMap_map]

theorem renderUnits_append (a b : List EUnit) : renderUnits (a ++ b) = renderUnits a ++ renderUnits b := by
  simp [renderUnits]

theorem render_run (run : List Choice) (h : ∀ x ∈ run, cisEsc x = true) : render run = renderUnits (run.flatMap cunits) := by
  induction run with
  | nil => simp [render, renderUnits]
  | cons x xs ih =>
    have := ih (fun y hy => h y (by simp [hy]))
    simp only [render, List.flatMap_cons] at this ⊢
    rw [this, render_esc x (h x (by simp)), renderUnits_append]

variable {env : Env} {enc : Bytes} {E : Codec}

theorem encode_choice (hE : CodecOk env enc E) (x : Choice) (he : cisEsc x = true) (hv : x.Valid E) :
    E.encode x.char = some ((cunits x).map EUnit.byte) := by
  cases x with
  | raw c => simp [cisEsc] at he
  | simple i => simpa [cunits, EUnit.byte, Choice.char] using hE.ascii (simpleChar i) (simpleChar_lt i)
  | bytes c forms => simpa [cunits, EUnit.byte, Choice.char, Choice.Valid, Function.comp_def] using hv.2

theorem ascii_pairs (hascii : ∀ c : Char, c.toNat < 128 → E.encode c = some [UInt8.ofNat c.toNat])
    (hnon : ∀ (c : Char) (bs : Bytes), 128 ≤ c.toNat → E.encode c = some bs → ∃ b ∈ bs, 128 ≤ b.toNat)
    (pairs : List (Char × Bytes)) (hp : ∀ p ∈ pairs, E.encode p.1 = some p.2)
    (hall : ∀ b ∈ (pairs.map (·.2)).flatten, b.toNat < 128) :
    (pairs.map (·.2)).flatten.map (fun b => Char.ofNat b.toNat) = pairs.map (·.1) := by
  induction pairs with
  | nil => rfl
  | cons p ps ih =>
    obtain ⟨c, bs⟩ := p
    have henc : E.encode c = some bs := hp (c, bs) List.mem_cons_self
    rw [List.map_cons, List.flatten_cons] at hall
    -- a character outside ASCII would put a byte ≥ 0x80 into `bs`
    have hc : c.toNat < 128 := Nat.lt_of_not_le fun hge => by
      obtain ⟨b, hb, hb128⟩ := hnon c bs hge henc
      exact absurd (hall b (List.mem_append_left _ hb)) (Nat.not_lt.mpr hb128)
    obtain rfl : [UInt8.ofNat c.toNat] = bs := Option.some.inj ((hascii c hc).symm.trans henc)
    have hb : Char.ofNat (UInt8.ofNat c.toNat).toNat = c := by
      rw [UInt8.toNat_ofNat', Nat.mod_eq_of_lt (by omega), Char.ofNat_toNat]
    rw [List.map_cons, List.flatten_cons, List.map_append, List.map_cons, List.map_nil, hb,
      ih (fun p h => hp p (List.mem_cons_of_mem _ h)) (fun b hb => hall b (List.mem_append_right _ hb))]
    rfl

theorem decodeAscii_eq (bs : Bytes) :
    decodeAscii bs = if (∀ b ∈ bs, b.toNat < 128) then some (bs.map fun b => Char.ofNat b.toNat) else none := by
  simp [decodeAscii, UInt8.lt_iff_toNat_lt]

theorem decodeRun_run (hE : CodecOk env enc E) (run : List Choice) (he : ∀ x ∈ run, cisEsc x = true)
    (hv : ∀ x ∈ run, x.Valid E) :
    decodeRun env enc ((run.flatMap cunits).map EUnit.body) = some (text run) := by
  let pairs : List (Char × Bytes) := run.map fun x => (x.char, (cunits x).map EUnit.byte)
  have hp : ∀ p ∈ pairs, E.encode p.1 = some p.2 := by
    intro p hp
    simp only [pairs, List.mem_map] at hp
    obtain ⟨x, hx, rfl⟩ := hp
    exact encode_choice hE x (he x hx) (hv x hx)
  have hbytes : ((run.flatMap cunits).map EUnit.body).map (fun b => escapeByte (fixShortX b)) = (pairs.map (·.2)).flatten := by
    simp [pairs, escapeByte_unit, List.flatMap_def, Function.comp_def]
  have htext : pairs.map (·.1) = text run := by simp [pairs, text, Function.comp_def]
  simp only [decodeRun, hbytes, decodeAscii_eq]
  by_cases hall : ∀ b ∈ (pairs.map (·.2)).flatten, b.toNat < 128
  · rw [if_pos hall, ascii_pairs hE.ascii hE.nonascii pairs hp hall, htext]
  · rw [if_neg hall, hE.decode pairs hp, htext]

theorem okSeq_tail (x : Choice) (xs : List Choice) (h : okSeq (x :: xs) = true) : okSeq xs = true := by
  cases xs with
  | nil => rfl
  | cons y ys => simp [okSeq] at h; exact h.2

theorem okSeq_drop (a b : List Choice) (h : okSeq (a ++ b) = true) : okSeq b = true := by
  induction a with
  | nil => simpa using h
  | cons x xs ih => exact ih (okSeq_tail x _ h)

theorem okSeq_adj (a : List Choice) (x y : Choice) (b : List Choice) (h : okSeq (a ++ x :: y :: b) = true) : okAdj x y = true := by
  have := okSeq_drop a _ h
  simp [okSeq] at this; exact this.1

theorem last_unit_next (run : List Choice) (x : Choice) (c : Char) (r : Text)
    (hx : cisEsc x = true) (hvx : x.Valid E) (hadj : okAdj x (.raw c) = true) :
    ∀ u, ((run ++ [x]).flatMap cunits).getLast? = some u → u.NextOk (c :: r) := by
  intro u hu
  cases x with
  | raw d => simp [cisEsc] at hx
  | simple i =>
    simp [cunits, List.flatMap_append] at hu
    subst hu; trivial
  | bytes d forms =>
    have hne : forms ≠ [] := hvx.1
    simp only [List.flatMap_append, List.flatMap_cons, List.flatMap_nil, List.append_nil, cunits] at hu
    rw [List.getLast?_append, List.getLast?_map] at hu
    have hf := List.getLast?_eq_some_getLast hne
    simp [hf] at hu; subst hu
    intro c' r' hc
    simp at hc
    simp [okAdj, hf] at hadj
    rw [← hc.1]; exact hadj

theorem renderUnits_length (us : List EUnit) : us.length ≤ (renderUnits us).length := by
  induction us with
  | nil => simp [renderUnits]
  | cons u us ih => simp [renderUnits] at ih ⊢; omega

theorem cunits_ne_nil (x : Choice) (hx : cisEsc x = true) (hv : x.Valid E) : cunits x ≠ [] := by
  cases x with
  | raw c => simp [cisEsc] at hx
  | simple i => simp [cunits]
  | bytes c forms => simpa [cunits] using hv.1

theorem units_ne_nil (run : List Choice) (hne : run ≠ []) (he : ∀ x ∈ run, cisEsc x = true) (hv : ∀ x ∈ run, x.Valid E) :
    run.flatMap cunits ≠ [] := by
  obtain ⟨x, xs, rfl⟩ := List.exists_cons_of_ne_nil hne
  simp [cunits_ne_nil (E := E) x (he x (by simp)) (hv x (by simp))]

theorem unescapeAux_units (us : List EUnit) (hne : us ≠ []) (r : Text) (hr : ∀ c r', r = c :: r' → c ≠ '\\')
    (hlast : ∀ u, us.getLast? = some u → u.NextOk r) (t : Text) (hdec : decodeRun env enc (us.map EUnit.body) = some t)
    (fuel : Nat) :
    unescapeAux env enc (fuel + 1) (renderUnits us ++ r) = (t ++ ·) <$> unescapeAux env enc fuel r := by
  have hER := escapeRun_units us r (renderUnits us ++ r).length
    (by have := renderUnits_length us; rw [List.length_append]; omega) hr hlast
  obtain ⟨u, us', rfl⟩ := List.exists_cons_of_ne_nil hne
  rw [renderUnits_cons] at hER ⊢
  rw [List.map_cons] at hER hdec
  simp only [unescapeAux, hER, hdec]

theorem render_append (a b : List Choice) : render (a ++ b) = render a ++ render b := by simp [render]
theorem text_append (a b : List Choice) : text (a ++ b) = text a ++ text b := by simp [text]

theorem unescapeAux_raw (c : Char) (hc : c ≠ '\\') (cs : Text) (fuel : Nat) :
    unescapeAux env enc (fuel + 1) (c :: cs) = (c :: ·) <$> unescapeAux env enc fuel cs := by
  have := escapeRun_units [] (c :: cs) (c :: cs).length (by simp) (by intro c' r' h; simp at h; rw [← h.1]; exact hc) (by simp)
  simp only [renderUnits, List.flatMap_nil, List.nil_append, List.map_nil] at this
  simp only [unescapeAux, this]

theorem render_run_pos (run : List Choice) (hne : run ≠ []) (he : ∀ x ∈ run, cisEsc x = true) (hv : ∀ x ∈ run, x.Valid E) :
    0 < (render run).length := by
  have := List.length_pos_iff.mpr (units_ne_nil run hne he hv)
  have := renderUnits_length (run.flatMap cunits)
  rw [render_run run he]
  omega

theorem esc_span (p : List Choice) :
    ∃ run rest, p = run ++ rest ∧ (∀ x ∈ run, cisEsc x = true) ∧ ∀ y rest', rest = y :: rest' → ∃ c, y = .raw c := by
  refine ⟨p.takeWhile cisEsc, p.dropWhile cisEsc, List.takeWhile_append_dropWhile.symm, Kit.takeWhile_all _ _, fun y rest' h => ?_⟩
  have := Kit.dropWhile_head cisEsc p y (by rw [h]; rfl)
  cases y with
  | raw c => exact ⟨c, rfl⟩
  | _ => simp [cisEsc] at this

/-- one step of `unescapeAux` consumes either one raw character or the whole run of escapes in front, so the fuel outlasts the text -/
theorem unescapeAux_spelling (hE : CodecOk env enc E) (fuel : Nat) :
    ∀ p : List Choice, (∀ x ∈ p, x.Valid E) → okSeq p = true → (render p).length < fuel →
    unescapeAux env enc fuel (render p) = some (text p) := by
  induction fuel with
  | zero => intro p _ _ hf; cases hf
  | succ n ih =>
    intro p hv hok hf
    obtain ⟨run, rest, rfl, he, hrest⟩ := esc_span p
    have hvrest : ∀ x ∈ rest, x.Valid E := fun x hx => hv x (by simp [hx])
    rw [render_append] at hf ⊢
    rw [text_append]
    by_cases hne : run = []
    · subst hne
      cases rest with
      | nil => rfl
      | cons y rest' =>
        obtain ⟨c, rfl⟩ := hrest y rest' rfl
        have hc : rawOk c := hv (.raw c) (by simp)
        have hrec := ih rest' (fun x hx => hvrest x (by simp [hx])) (okSeq_tail _ _ hok)
          (by simpa [render, Choice.render] using hf)
        show unescapeAux env enc (n + 1) (c :: render rest') = some (c :: text rest')
        rw [unescapeAux_raw c hc.ne_backslash, hrec]
        rfl
    · have hvrun : ∀ x ∈ run, x.Valid E := fun x hx => hv x (by simp [hx])
      have hnext : (∀ c r', render rest = c :: r' → c ≠ '\\') ∧
          ∀ u, (run.flatMap cunits).getLast? = some u → u.NextOk (render rest) := by
        cases rest with
        | nil => exact ⟨by simp [render], by intro u _; cases u <;> simp [render, EUnit.NextOk, NextOk]⟩
        | cons y rest' =>
          obtain ⟨c, rfl⟩ := hrest y rest' rfl
          have hc : rawOk c := hv (.raw c) (by simp)
          obtain ⟨x, run', rfl⟩ : ∃ x run', run = run' ++ [x] :=
            ⟨run.getLast hne, run.dropLast, (List.dropLast_concat_getLast hne).symm⟩
          have hadj : okAdj x (.raw c) = true := okSeq_adj run' x (.raw c) rest' (by simpa using hok)
          refine ⟨?_, last_unit_next run' x c (render rest') (he x (by simp)) (hvrun x (by simp)) hadj⟩
          intro c' r' h
          rw [← (List.cons.inj h).1]
          exact hc.ne_backslash
      have hpos := render_run_pos run hne he hvrun
      rw [render_run run he, unescapeAux_units _ (units_ne_nil run hne he hvrun) _ hnext.1 hnext.2 _ (decodeRun_run hE run he hvrun) n,
        ih rest hvrest (okSeq_drop run rest hok) (by rw [List.length_append] at hf; omega)]
      rfl

theorem unescape_spelling (hE : CodecOk env enc E) (p : List Choice) (hv : ∀ x ∈ p, x.Valid E) (hs : okSeq p = true) :
    unescape env enc (render p) = some (text p) := by
  exact unescapeAux_spelling hE _ p hv hs (Nat.lt_succ_self _)

end I18n.Lemmas.PoUnescape
