import I18n.Lemmas.DateBoiler
import I18n.Spec.DateRe
/- The two date regexes, as `sre_parse` trees dumped from the live module (`Generated.DateTables.parseDateRe`,
   `boilerplateRe`), mean what the specification says: `Written` and `HasBoilerplate`. -/
namespace I18n.Date
open I18n.Spec.Date I18n.Spec.DateRe I18n.Generated

def D (n : Nat) : Re := .rep [.range '0' '9'] n (some n)
def reDate : Re := .group 1 (.seq (D 4) (.seq (.lit '-') (.seq (D 2) (.seq (.lit '-') (D 2)))))
def reSep : Re := .alt (.rep [.space] 1 none) (.lit 'T')
def reTime : Re := .group 2 (.seq (D 2) (.seq (.lit ':') (D 2)))
def reSecs : Re := .opt (.seq (.lit ':') (D 2))
def reGap : Re := .rep [.space] 0 none
def reNum : Re :=
  .seq (.opt (.words [['G','M','T'], ['U','T','C']]))
    (.seq (.group 3 (.seq (.set [.chr '+', .chr '-']) (D 2))) (.seq (.opt (.lit ':')) (.group 4 (D 2))))
def reAbbr : Re := .seq (.opt (.lit '+')) (.group 5 (.words (DateTables.timezones.map Prod.fst)))
def reZone : Re := .opt (.alt reNum reAbbr)
def dateRe : Re := .seq .bol (.seq reDate (.seq reSep (.seq reTime (.seq reSecs (.seq reGap (.seq reZone .eol))))))

theorem parseDateRe_eq : DateTables.parseDateRe = dateRe := rfl

theorem inCls_digit (c : Char) : inCls White [.range '0' '9'] c ↔ AsciiDigit c := by
  simp [inCls, ClsItem.has, AsciiDigit]

theorem inCls_space (c : Char) : inCls White [.space] c ↔ White c := by
  simp [inCls, ClsItem.has]

theorem inCls_sign (c : Char) : inCls White [.chr '+', .chr '-'] c ↔ c = '+' ∨ c = '-' := by
  simp [inCls, ClsItem.has]

theorem M_D (n : Nat) (pre s post : List Char) (caps : Caps) :
    (D n).M White pre s post caps ↔ Digits n s ∧ caps = [] := by
  simp only [D, Re.M, inCls_digit, Digits, Option.some.injEq, forall_eq']
  constructor
  · rintro ⟨h1, h2, h3, h4⟩; exact ⟨⟨by omega, h3⟩, h4⟩
  · rintro ⟨⟨h1, h3⟩, h4⟩; exact ⟨by omega, by omega, h3, h4⟩

/-! Peeling a sequence from the left: once the head piece is known to derive the strings `P`, capturing `C s` (nothing,
    or its own group), the sequence derives `s1 ++ s2` with `P s1` and the rest deriving `s2` behind `s1`.  The pieces of the
    two regexes are read off one at a time this way. -/

theorem M_seq_head {a : Re} {P : List Char → Prop} {C : List Char → Caps}
    (ha : ∀ pre s post caps, a.M White pre s post caps ↔ P s ∧ caps = C s) (r : Re) (pre s post : List Char) (caps : Caps) :
    (Re.seq a r).M White pre s post caps ↔
      ∃ s1 s2 c2, s = s1 ++ s2 ∧ P s1 ∧ r.M White (pre ++ s1) s2 post c2 ∧ caps = C s1 ++ c2 := by
  simp only [Re.M, ha]
  constructor
  · rintro ⟨s1, s2, _, c2, rfl, rfl, ⟨h1, rfl⟩, h2⟩; exact ⟨s1, s2, c2, rfl, h1, h2, rfl⟩
  · rintro ⟨s1, s2, c2, rfl, h1, h2, rfl⟩; exact ⟨s1, s2, _, c2, rfl, rfl, ⟨h1, rfl⟩, h2⟩

theorem M_seq_lit (c : Char) (r : Re) (pre s post : List Char) (caps : Caps) :
    (Re.seq (.lit c) r).M White pre s post caps ↔ ∃ s', s = c :: s' ∧ r.M White (pre ++ [c]) s' post caps := by
  rw [M_seq_head (P := (· = [c])) (C := fun _ => []) fun _ _ _ _ => Iff.rfl]
  constructor
  · rintro ⟨_, s', _, rfl, rfl, h, rfl⟩; exact ⟨s', rfl, h⟩
  · rintro ⟨s', rfl, h⟩; exact ⟨[c], s', caps, rfl, rfl, h, rfl⟩

theorem M_seq_D (n : Nat) (r : Re) (pre s post : List Char) (caps : Caps) :
    (Re.seq (D n) r).M White pre s post caps ↔ ∃ d s', s = d ++ s' ∧ Digits n d ∧ r.M White (pre ++ d) s' post caps := by
  rw [M_seq_head (M_D n)]
  constructor
  · rintro ⟨d, s', _, rfl, hd, h, rfl⟩; exact ⟨d, s', rfl, hd, h⟩
  · rintro ⟨d, s', rfl, hd, h⟩; exact ⟨d, s', caps, rfl, hd, h, rfl⟩

theorem M_group (n : Nat) (r : Re) (pre s post : List Char) (caps : Caps) :
    (Re.group n r).M White pre s post caps ↔ ∃ c, r.M White pre s post c ∧ caps = (n, s) :: c := Iff.rfl

theorem M_date (pre s post : List Char) (caps : Caps) :
    reDate.M White pre s post caps ↔ IsDate s ∧ caps = [(1, s)] := by
  simp only [reDate, M_group, M_seq_D, M_seq_lit, M_D]
  constructor
  · rintro ⟨_, ⟨y, _, rfl, hy, _, rfl, m, _, rfl, hm, dd, rfl, hd, rfl⟩, rfl⟩
    exact ⟨⟨y, m, dd, by simp, hy, hm, hd⟩, rfl⟩
  · rintro ⟨⟨y, m, dd, rfl, hy, hm, hd⟩, rfl⟩
    exact ⟨[], ⟨y, _, by simp, hy, _, rfl, m, _, rfl, hm, dd, rfl, hd, rfl⟩, rfl⟩

theorem M_time (pre s post : List Char) (caps : Caps) :
    reTime.M White pre s post caps ↔ IsTime s ∧ caps = [(2, s)] := by
  simp only [reTime, M_group, M_seq_D, M_seq_lit, M_D]
  constructor
  · rintro ⟨_, ⟨h, _, rfl, hh, m, rfl, hm, rfl⟩, rfl⟩
    exact ⟨⟨h, m, by simp, hh, hm⟩, rfl⟩
  · rintro ⟨⟨h, m, rfl, hh, hm⟩, rfl⟩
    exact ⟨[], ⟨h, _, by simp, hh, m, rfl, hm, rfl⟩, rfl⟩

theorem M_sep (pre s post : List Char) (caps : Caps) :
    reSep.M White pre s post caps ↔ IsSep s ∧ caps = [] := by
  simp only [reSep, Re.M, inCls_space, IsSep]
  constructor
  · rintro (⟨h1, _, h3, rfl⟩ | ⟨rfl, rfl⟩)
    · refine ⟨Or.inr ⟨?_, h3⟩, rfl⟩
      intro e; rw [e] at h1; simp at h1
    · exact ⟨Or.inl rfl, rfl⟩
  · rintro ⟨rfl | ⟨h1, h2⟩, rfl⟩
    · exact Or.inr ⟨rfl, rfl⟩
    · refine Or.inl ⟨?_, by simp, h2, rfl⟩
      cases s with
      | nil => exact absurd rfl h1
      | cons a s => simp

theorem M_secs (pre s post : List Char) (caps : Caps) :
    reSecs.M White pre s post caps ↔ IsSecs s ∧ caps = [] := by
  simp only [reSecs, Re.M, M_D, IsSecs]
  constructor
  · rintro (⟨rfl, rfl⟩ | ⟨l, d, c1, c2, rfl, rfl, ⟨rfl, rfl⟩, hd, rfl⟩)
    · exact ⟨Or.inl rfl, rfl⟩
    · exact ⟨Or.inr ⟨d, rfl, hd⟩, rfl⟩
  · rintro ⟨rfl | ⟨d, rfl, hd⟩, rfl⟩
    · exact Or.inl ⟨rfl, rfl⟩
    · exact Or.inr ⟨[':'], d, [], [], rfl, rfl, ⟨rfl, rfl⟩, hd, rfl⟩

theorem M_gap (pre s post : List Char) (caps : Caps) :
    reGap.M White pre s post caps ↔ IsGap s ∧ caps = [] := by
  simp [reGap, Re.M, inCls_space, IsGap]

def zoneCaps : ZoneSpec → Caps
  | .numeric sg hh mm => [(3, sg :: hh), (4, mm)]
  | .abbr a => [(5, a)]
  | .absent => []

theorem M_num (pre s post : List Char) (caps : Caps) :
    reNum.M White pre s post caps ↔ ∃ sg hh mm, ZoneWritten s (.numeric sg hh mm) ∧ caps = zoneCaps (.numeric sg hh mm) := by
  -- the four pieces: an optional GMT / UTC, group 3 = sign and hours, an optional colon, group 4 = minutes
  have pfx : ∀ pre s post caps, (Re.opt (.words [['G','M','T'], ['U','T','C']])).M White pre s post caps ↔
      (s = [] ∨ s = ['G','M','T'] ∨ s = ['U','T','C']) ∧ caps = [] := fun _ _ _ _ => by
    simp only [Re.M, List.mem_cons, List.not_mem_nil, or_false, ← or_and_right]
  have hrs : ∀ pre s post caps, (Re.group 3 (.seq (.set [.chr '+', .chr '-']) (D 2))).M White pre s post caps ↔
      (∃ sg hh, s = sg :: hh ∧ (sg = '+' ∨ sg = '-') ∧ Digits 2 hh) ∧ caps = [(3, s)] := fun _ s _ caps => by
    have sgn : ∀ pre s post caps, (Re.set [.chr '+', .chr '-']).M White pre s post caps ↔
        (∃ sg, s = [sg] ∧ (sg = '+' ∨ sg = '-')) ∧ caps = [] := fun _ _ _ _ => by simp only [Re.M, inCls_sign]
    simp only [M_group, M_seq_head sgn, M_D]
    constructor
    · rintro ⟨_, ⟨_, hh, _, rfl, ⟨sg, rfl, hsg⟩, ⟨hhh, rfl⟩, rfl⟩, rfl⟩; exact ⟨⟨sg, hh, rfl, hsg, hhh⟩, rfl⟩
    · rintro ⟨⟨sg, hh, rfl, hsg, hhh⟩, rfl⟩; exact ⟨[], ⟨[sg], hh, [], rfl, ⟨sg, rfl, hsg⟩, ⟨hhh, rfl⟩, rfl⟩, rfl⟩
  have col : ∀ pre s post caps, (Re.opt (.lit ':')).M White pre s post caps ↔ (s = [] ∨ s = [':']) ∧ caps = [] :=
    fun _ _ _ _ => by simp only [Re.M, ← or_and_right]
  simp only [reNum, M_seq_head pfx, M_seq_head hrs, M_seq_head col, M_group, M_D, ZoneWritten, zoneCaps]
  constructor
  · rintro ⟨p, _, _, rfl, hp, ⟨_, _, _, rfl, ⟨sg, hh, rfl, hsg, hhh⟩, ⟨colon, mm, _, rfl, hcol, ⟨_, ⟨hmm, rfl⟩, rfl⟩, rfl⟩, rfl⟩, rfl⟩
    exact ⟨sg, hh, mm, ⟨p, colon, by simp, hp, hcol, hsg, hhh, hmm⟩, rfl⟩
  · rintro ⟨sg, hh, mm, ⟨p, colon, rfl, hp, hcol, hsg, hhh, hmm⟩, rfl⟩
    exact ⟨p, _, _, by simp, hp, ⟨sg :: hh, _, _, rfl, ⟨sg, hh, rfl, hsg, hhh⟩, ⟨colon, mm, _, rfl, hcol, ⟨_, ⟨hmm, rfl⟩, rfl⟩, rfl⟩, rfl⟩, rfl⟩

theorem known_mem (a : List Char) : a ∈ DateTables.timezones.map Prod.fst ↔ KnownAbbr a := by
  simp only [List.mem_map, KnownAbbr]

theorem M_abbr (pre s post : List Char) (caps : Caps) :
    reAbbr.M White pre s post caps ↔ ∃ a, ZoneWritten s (.abbr a) ∧ caps = zoneCaps (.abbr a) := by
  simp only [reAbbr, Re.M, ZoneWritten, zoneCaps, known_mem]
  constructor
  · rintro ⟨p, a, c1, c2, rfl, rfl, hp, c3, ⟨hk, rfl⟩, rfl⟩
    rcases hp with ⟨rfl, rfl⟩ | ⟨rfl, rfl⟩
    · exact ⟨a, ⟨Or.inl rfl, hk⟩, rfl⟩
    · exact ⟨a, ⟨Or.inr rfl, hk⟩, rfl⟩
  · rintro ⟨a, ⟨hs | hs, hk⟩, rfl⟩
    · rw [hs]; exact ⟨[], a, [], [(5, a)], rfl, rfl, Or.inl ⟨rfl, rfl⟩, [], ⟨hk, rfl⟩, rfl⟩
    · rw [hs]; exact ⟨['+'], a, [], [(5, a)], rfl, rfl, Or.inr ⟨rfl, rfl⟩, [], ⟨hk, rfl⟩, rfl⟩

theorem M_zone (pre s post : List Char) (caps : Caps) :
    reZone.M White pre s post caps ↔ ∃ z, ZoneWritten s z ∧ caps = zoneCaps z := by
  simp only [reZone, Re.M, M_num, M_abbr]
  constructor
  · rintro (⟨rfl, rfl⟩ | ⟨sg, hh, mm, h⟩ | ⟨a, h⟩)
    · exact ⟨.absent, rfl, rfl⟩
    · exact ⟨_, h⟩
    · exact ⟨_, h⟩
  · rintro ⟨z, hz, hc⟩
    cases z with
    | numeric sg hh mm => exact Or.inr (Or.inl ⟨sg, hh, mm, hz, hc⟩)
    | abbr a => exact Or.inr (Or.inr ⟨a, hz, hc⟩)
    | absent => exact Or.inl ⟨hz, hc⟩

def dateCaps (d t : List Char) (z : ZoneSpec) : Caps := (1, d) :: (2, t) :: zoneCaps z

theorem zoneCaps_inj {z z' : ZoneSpec} (h : zoneCaps z = zoneCaps z') : z = z' := by
  cases z <;> cases z' <;> simp_all [zoneCaps]

theorem dateCaps_inj {d t d' t' : List Char} {z z' : ZoneSpec} (h : dateCaps d t z = dateCaps d' t' z') :
    d = d' ∧ t = t' ∧ z = z' := by
  simp only [dateCaps, List.cons.injEq, Prod.mk.injEq, true_and] at h
  exact ⟨h.1, h.2.1, zoneCaps_inj h.2.2⟩

theorem match_dateRe (s : List Char) (caps : Caps) :
    Match White dateRe s caps ↔
      ∃ body post, s = body ++ post ∧ (post = [] ∨ post = ['\n']) ∧ ∃ d t z, Written body d t z ∧ caps = dateCaps d t z := by
  have bol : ∀ r m post caps, (Re.seq .bol r).M White [] m post caps ↔ r.M White [] m post caps := fun r m post caps => by
    simp only [Re.M]
    constructor
    · rintro ⟨_, _, _, _, rfl, rfl, ⟨rfl, -, rfl⟩, h⟩; exact h
    · exact fun h => ⟨[], m, [], caps, rfl, rfl, ⟨rfl, trivial, rfl⟩, h⟩
  have zone : ∀ pre m post caps, (Re.seq reZone .eol).M White pre m post caps ↔
      ∃ z, ZoneWritten m z ∧ (post = [] ∨ post = ['\n']) ∧ caps = zoneCaps z := fun pre m post caps => by
    simp only [Re.M, M_zone]
    constructor
    · rintro ⟨_, _, _, _, rfl, rfl, ⟨z, hz, rfl⟩, rfl, hpost, rfl⟩; exact ⟨z, by simpa using hz, hpost, by simp⟩
    · rintro ⟨z, hz, hpost, rfl⟩; exact ⟨m, [], _, [], by simp, by simp, ⟨z, hz, rfl⟩, rfl, hpost, rfl⟩
  simp only [Match, dateRe, bol, M_seq_head M_date, M_seq_head M_sep, M_seq_head M_time, M_seq_head M_secs, M_seq_head M_gap,
    zone, Written, dateCaps]
  constructor
  · rintro ⟨_, post, rfl, d, _, _, rfl, hd, ⟨sep, _, _, rfl, hsep, ⟨t, _, _, rfl, ht, ⟨secs, _, _, rfl, hsecs,
      ⟨gap, ztxt, _, rfl, hgap, ⟨z, hz, hpost, rfl⟩, rfl⟩, rfl⟩, rfl⟩, rfl⟩, rfl⟩
    exact ⟨_, post, rfl, hpost, d, t, z, ⟨sep, secs, gap, ztxt, by simp, hd, hsep, ht, hsecs, hgap, hz⟩, by simp⟩
  · rintro ⟨_, post, rfl, hpost, d, t, z, ⟨sep, secs, gap, ztxt, rfl, hd, hsep, ht, hsecs, hgap, hz⟩, rfl⟩
    exact ⟨_, post, rfl, d, _, _, by simp, hd, ⟨sep, _, _, rfl, hsep, ⟨t, _, _, rfl, ht, ⟨secs, _, _, rfl, hsecs,
      ⟨gap, ztxt, _, rfl, hgap, ⟨z, hz, hpost, rfl⟩, rfl⟩, rfl⟩, rfl⟩, rfl⟩, by simp⟩

theorem white_nl : White '\n' := (isSpace_iff '\n').mp (by decide)

theorem match_dateRe_stripped {s : List Char} (hlast : ∀ c, s.getLast? = some c → ¬ White c) (caps : Caps) :
    Match White dateRe s caps ↔ ∃ d t z, Written s d t z ∧ caps = dateCaps d t z := by
  rw [match_dateRe]
  constructor
  · rintro ⟨body, post, rfl, hpost | hpost, h⟩
    · subst hpost; simpa using h
    · subst hpost
      exact absurd white_nl (hlast '\n' (by simp))
  · rintro h
    exact ⟨s, [], by simp, Or.inl rfl, h⟩

/-- the model's scanner is the regex of `_parse_date`: on a string that does not end in white space it matches iff the regex
    does, with the regex's groups (before a final newline Python's `$` matches and the grammar does not: `match_dateRe`) -/
theorem parseDate_regex {s : List Char} (hlast : ∀ c, s.getLast? = some c → ¬ White c) (g : Groups) :
    parseDate s = some g ↔
      (Match White DateTables.parseDateRe s (dateCaps g.date g.time g.zone.spec) ∧ g.zone = zoneOfSpec g.zone.spec) := by
  rw [parseDateRe_eq, match_dateRe_stripped hlast, parseDate_iff]
  refine and_congr_left fun _ => ⟨fun hw => ⟨_, _, _, hw, rfl⟩, ?_⟩
  rintro ⟨d, t, z, hw, hc⟩
  obtain ⟨rfl, rfl, rfl⟩ := dateCaps_inj hc
  exact hw

def litsThen : List Char → Re → Re
  | [], r => r
  | c :: cs, r => .seq (.lit c) (litsThen cs r)

theorem M_litsThen (w : List Char) (r : Re) (pre s post : List Char) (caps : Caps) :
    (litsThen w r).M White pre s post caps ↔ ∃ s2, s = w ++ s2 ∧ r.M White (pre ++ w) s2 post caps := by
  induction w generalizing pre s caps with
  | nil => simp [litsThen]
  | cons c cs ih =>
    simp only [litsThen, M_seq_lit, ih]
    constructor
    · rintro ⟨_, rfl, s2, rfl, h⟩; exact ⟨s2, rfl, by simpa using h⟩
    · rintro ⟨s2, rfl, h⟩; exact ⟨_, rfl, s2, rfl, by simpa using h⟩

def boilRe : Re :=
  .alt (.seq .bol (litsThen ['Y','E','A','R'] (.lit '-')))
  (.alt (litsThen ['-','M','O'] (.lit '-'))
  (.alt (litsThen ['-','D','A'] (.set [.space]))
  (.alt (.seq (.set [.space]) (litsThen ['H','O'] (.lit ':')))
  (.alt (litsThen [':','M','I'] (.alt (.lit '+') .eol))
        (litsThen ['+','Z','O','N','E'] .eol)))))

theorem boilerplateRe_eq : DateTables.boilerplateRe = boilRe := rfl

/-- the placeholder test with Python's `$` (end of string, or before a final newline) -/
def HasBoilerplateNl (s : List Char) : Prop :=
  HasBoilerplate s ∨ (∃ l, s = l ++ [':','M','I','\n']) ∨ (∃ l, s = l ++ ['+','Z','O','N','E','\n'])

theorem search_boilRe (s : List Char) : Search White boilRe s ↔ HasBoilerplateNl s := by
  simp only [Search, boilRe, Re.M, M_litsThen, inCls_space, HasBoilerplateNl, HasBoilerplate]
  constructor
  · rintro ⟨pre, m, post, caps, rfl, h⟩
    rcases h with ⟨s1, s2, c1, c2, rfl, rfl, ⟨rfl, rfl, rfl⟩, s3, rfl, rfl, rfl⟩
      | ⟨s3, rfl, rfl, rfl⟩
      | ⟨s3, rfl, ⟨c, rfl, hc⟩, rfl⟩
      | ⟨s1, s2, c1, c2, rfl, rfl, ⟨⟨c, rfl, hc⟩, rfl⟩, s3, rfl, rfl, rfl⟩
      | ⟨s3, rfl, (⟨rfl, rfl⟩ | ⟨rfl, hp, rfl⟩)⟩
      | ⟨s3, rfl, rfl, hp, rfl⟩
    · exact Or.inl (Or.inl ⟨post, by simp⟩)
    · exact Or.inl (Or.inr (Or.inl ⟨pre, post, by simp⟩))
    · exact Or.inl (Or.inr (Or.inr (Or.inl ⟨pre, c, post, by simp, hc⟩)))
    · exact Or.inl (Or.inr (Or.inr (Or.inr (Or.inl ⟨pre, c, post, by simp, hc⟩))))
    · exact Or.inl (Or.inr (Or.inr (Or.inr (Or.inr (Or.inr (Or.inl ⟨pre, post, by simp⟩))))))
    · rcases hp with rfl | rfl
      · exact Or.inl (Or.inr (Or.inr (Or.inr (Or.inr (Or.inl ⟨pre, by simp⟩)))))
      · exact Or.inr (Or.inl ⟨pre, by simp⟩)
    · rcases hp with rfl | rfl
      · exact Or.inl (Or.inr (Or.inr (Or.inr (Or.inr (Or.inr (Or.inr ⟨pre, by simp⟩))))))
      · exact Or.inr (Or.inr ⟨pre, by simp⟩)
  · rintro ((⟨r, rfl⟩ | ⟨l, r, rfl⟩ | ⟨l, c, r, rfl, hc⟩ | ⟨l, c, r, rfl, hc⟩ | ⟨l, rfl⟩ | ⟨l, r, rfl⟩ | ⟨l, rfl⟩) | ⟨l, rfl⟩ | ⟨l, rfl⟩)
    · exact ⟨[], ['Y','E','A','R','-'], r, [], by simp, Or.inl ⟨[], _, [], [], rfl, rfl, ⟨rfl, rfl, rfl⟩, ['-'], rfl, rfl, rfl⟩⟩
    · exact ⟨l, ['-','M','O','-'], r, [], by simp, Or.inr (Or.inl ⟨['-'], rfl, rfl, rfl⟩)⟩
    · exact ⟨l, ['-','D','A', c], r, [], by simp, Or.inr (Or.inr (Or.inl ⟨[c], rfl, ⟨c, rfl, hc⟩, rfl⟩))⟩
    · exact ⟨l, [c, 'H','O',':'], r, [], by simp,
        Or.inr (Or.inr (Or.inr (Or.inl ⟨[c], ['H','O',':'], [], [], rfl, rfl, ⟨⟨c, rfl, hc⟩, rfl⟩, [':'], rfl, rfl, rfl⟩)))⟩
    · exact ⟨l, [':','M','I'], [], [], by simp, Or.inr (Or.inr (Or.inr (Or.inr (Or.inl ⟨[], rfl, Or.inr ⟨rfl, Or.inl rfl, rfl⟩⟩))))⟩
    · exact ⟨l, [':','M','I','+'], r, [], by simp, Or.inr (Or.inr (Or.inr (Or.inr (Or.inl ⟨['+'], rfl, Or.inl ⟨rfl, rfl⟩⟩))))⟩
    · exact ⟨l, ['+','Z','O','N','E'], [], [], by simp, Or.inr (Or.inr (Or.inr (Or.inr (Or.inr ⟨[], rfl, rfl, Or.inl rfl, rfl⟩))))⟩
    · exact ⟨l, [':','M','I'], ['\n'], [], by simp, Or.inr (Or.inr (Or.inr (Or.inr (Or.inl ⟨[], rfl, Or.inr ⟨rfl, Or.inr rfl, rfl⟩⟩))))⟩
    · exact ⟨l, ['+','Z','O','N','E'], ['\n'], [], by simp, Or.inr (Or.inr (Or.inr (Or.inr (Or.inr ⟨[], rfl, rfl, Or.inr rfl, rfl⟩))))⟩

theorem search_boilRe_stripped {s : List Char} (hlast : ∀ c, s.getLast? = some c → ¬ White c) :
    Search White boilRe s ↔ HasBoilerplate s := by
  rw [search_boilRe]
  constructor
  · rintro (h | ⟨l, rfl⟩ | ⟨l, rfl⟩)
    · exact h
    · exact absurd white_nl (hlast '\n' (by simp))
    · exact absurd white_nl (hlast '\n' (by simp))
  · exact Or.inl

/-- likewise the model's placeholder test is the regex of `_search_for_date_boilerplate` -/
theorem hasBoilerplate_regex {s : List Char} (hlast : ∀ c, s.getLast? = some c → ¬ White c) :
    hasBoilerplate s = true ↔ Search White DateTables.boilerplateRe s := by
  rw [boilerplateRe_eq, search_boilRe_stripped hlast, hasBoilerplate_iff]

end I18n.Date
