import I18n.Lemmas.PyFmtTables
/-!
# Recording warnings is inert

`parseW w` is the model with `parent.warn` recording (`w = true`, the real code) or not (`w = false`).  Dropping the
recorded warnings from the result of either run gives the run without recording (`parseW_strip`): acceptance, the error class, the
argument lists and the items do not depend on warnings.
-/
namespace I18n.PyFmt

def St.strip (st : St) : St := { st with warnings := [] }

@[simp] theorem warn_strip (w : Bool) (st : St) (x : Warn) : (warn w st x).strip = st.strip := by
  unfold warn; split <;> rfl
@[simp] theorem warn_false (st : St) (x : Warn) : warn false st x = st := rfl
@[simp] theorem strip_strip (st : St) : st.strip.strip = st.strip := rfl
@[simp] theorem strip_seq (st : St) : st.strip.seq = st.seq := rfl
@[simp] theorem strip_map (st : St) : st.strip.map = st.map := rfl
@[simp] theorem strip_items (st : St) : st.strip.items = st.items := rfl

theorem flagLoop_false (flags : List Char) (conv : Char) : ∀ (l : List Char) (st : St),
    flagLoop false flags conv l st =
      if l.all I18n.Generated.PyFormatTables.flagChars.contains then .ok st else .error (.crash .AssertionError) := by
  intro l
  induction l with
  | nil => intro st; rfl
  | cons f more ih =>
    intro st
    simp only [flagLoop, warn_false, ite_self, ih, List.all_cons, flagChars_contains]
    cases f == '#' <;> cases f == '-' <;> cases (f == '0' || f == ' ' || f == '+') <;> rfl

theorem flagLoop_strip (w : Bool) (flags : List Char) (conv : Char) : ∀ (l : List Char) (st : St),
    (flagLoop w flags conv l st).map St.strip = flagLoop false flags conv l st.strip := by
  intro l
  induction l with
  | nil => intro st; rfl
  | cons f more ih =>
    intro st
    simp only [flagLoop, warn_false, ite_self, apply_ite (Except.map St.strip), ih, apply_ite St.strip, warn_strip]
    rfl

theorem checkFlags_false (st : St) (flags : List Char) (conv : Char) :
    checkFlags false st flags conv =
      if (distinct flags).all I18n.Generated.PyFormatTables.flagChars.contains then .ok st
      else .error (.crash .AssertionError) := by
  rw [checkFlags, flagLoop_false]
  by_cases h : (distinct flags).all I18n.Generated.PyFormatTables.flagChars.contains = true
  · simp only [if_pos h, warn_false, ite_self]
  · simp only [if_neg h]

theorem checkFlags_strip (w : Bool) (st : St) (flags : List Char) (conv : Char) :
    (checkFlags w st flags conv).map St.strip = checkFlags false st.strip flags conv := by
  rw [checkFlags, checkFlags, ← flagLoop_strip w]
  cases flagLoop w flags conv (distinct flags) st with
  | error e => rfl
  | ok st1 => simp only [Except.map, warn_false, ite_self, apply_ite St.strip, warn_strip]

theorem addArgument_strip (st : St) (key : Option (List Char)) (e : Entry) :
    (addArgument st key e).map St.strip = addArgument st.strip key e := by
  unfold addArgument
  cases key with
  | none => by_cases h : st.map.isEmpty = true <;> simp [h, Except.map, St.strip]
  | some k => by_cases h : st.seq.isEmpty = true <;> simp [h, Except.map, St.strip]

theorem doWidth_strip (st : St) (width : Num) (parent : Nat) :
    (doWidth st width parent).map St.strip = doWidth st.strip width parent := by
  unfold doWidth
  cases width with
  | star => exact addArgument_strip _ _ _
  | num n =>
    simp only []
    split <;> rfl

theorem doPrec_strip (st : St) (prec : Option Num) (conv : Char) (parent : Nat) :
    (doPrec st prec conv parent).map St.strip = doPrec st.strip prec conv parent := by
  unfold doPrec
  cases prec with
  | none => rfl
  | some p =>
    cases p with
    | star => exact addArgument_strip _ _ _
    | num n =>
      simp only []
      split
      · rfl
      · split <;> rfl

@[simp] theorem lateWarnings_strip (w : Bool) (st : St) (d : Directive) : (lateWarnings w st d).strip = st.strip := by
  simp only [lateWarnings, apply_ite St.strip, warn_strip, ite_self]

@[simp] theorem lateWarnings_false (st : St) (d : Directive) : lateWarnings false st d = st := by
  simp only [lateWarnings, warn_false, ite_self]

theorem conversion_strip (w : Bool) (st : St) (d : Directive) :
    (conversion w st d).map (fun p => (p.1.strip, p.2)) = conversion false st.strip d := by
  unfold conversion
  simp only [strip_items, lateWarnings_false]
  -- stage by stage: the right side is rewritten to the stripped result of the stage on the left
  rw [← checkFlags_strip w]
  cases checkFlags w st d.flags d.conv with
  | error e => rfl
  | ok st1 =>
    simp only [Except.map]
    rw [← doWidth_strip]
    cases doWidth st1 d.width st.items.length with
    | error e => rfl
    | ok st2 =>
      simp only [Except.map]
      rw [← doPrec_strip]
      cases doPrec st2 d.prec d.conv st.items.length with
      | error e => rfl
      | ok st3 =>
        simp only [Except.map]
        rw [← lateWarnings_strip w st3 d]
        cases I18n.Generated.PyFormatTables.typeTable.lookup d.conv with
        | none => rfl
        | some tp =>
          simp only []
          rw [← addArgument_strip]
          cases tp == "None"
          · cases addArgument (lateWarnings w st3 d) d.key ⟨.conv, tp, st.items.length⟩ <;> rfl
          · cases d.key.isSome <;> rfl

@[simp] theorem flush_strip (text : List Char) (st : St) : (flush text st).strip = flush text st.strip := by
  unfold flush; split <;> rfl
@[simp] theorem flush_seq (text : List Char) (st : St) : (flush text st).seq = st.seq := by
  unfold flush; split <;> rfl
@[simp] theorem flush_map (text : List Char) (st : St) : (flush text st).map = st.map := by
  unfold flush; split <;> rfl

theorem loop_strip (w : Bool) : ∀ (fuel : Nat) (s text : List Char) (st : St),
    (loop w fuel s text st).map St.strip = loop false fuel s text st.strip := by
  intro fuel
  induction fuel with
  | zero => intro s text st; rfl
  | succ fuel ih =>
    intro s text st
    cases s with
    | nil => simp [loop, Except.map]
    | cons c cs =>
      simp only [loop]
      split
      · exact ih _ _ _
      · cases hs : scanDirective cs with
        | none => rfl
        | some p =>
          obtain ⟨d, rest⟩ := p
          simp only []
          have h := conversion_strip w (flush text st) d
          rw [flush_strip] at h
          rw [← h]
          cases conversion w (flush text st) d with
          | error e => rfl
          | ok q =>
            obtain ⟨st1, tp⟩ := q
            simp only [Except.map]
            exact ih _ _ _

/-- (occurs in `Props.C12.warnings_inert`) -/
def Result.strip (r : Result) : Result := { r with warnings := [] }

theorem parseW_strip (w : Bool) (s : List Char) : (parseW w s).map Result.strip = parseW false s := by
  unfold parseW
  have h := loop_strip w (s.length + 1) s [] St.init
  have hi : St.init.strip = St.init := rfl
  rw [hi] at h
  rw [← h]
  cases loop w (s.length + 1) s [] St.init with
  | error e => rfl
  | ok st =>
    simp only [Except.map, strip_map, strip_seq, strip_items]
    by_cases hall : ((groups st.map).all fun g => sameType g.2) = true
    · simp only [hall, if_true]; rfl
    · simp only [hall, Bool.false_eq_true, if_false]

end I18n.PyFmt
