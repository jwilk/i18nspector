import I18n.Lemmas.CharsetCheckTags
/-!
# C20: the finite facts about the generated tables.  A law of the classification is a Boolean on a `Row`; the kernel decides
# it chunk by chunk over `codecFactsChunks` (the dictionary look-ups first rewritten to `assocBits`), `all_rows` turns the
# `true` into `∀ r ∈ codecFacts`, and a lemma beside each law says what `law r = true` gives.  Also the facts other properties
# cite about the shipped tables (`portable_read`, `c2e_rows_closed`, `checkCharset_total_shipped`), and the ASCII-compatibility
# test: which bytes it does not look at (`untested_pin`), the codecs a different test set would judge differently
# (`expectedDrop`, `expectedAdd`, `sensLaw`, `readingsLaw`), and its verdict on a byte-wise codec (`isAsciiCompatible_bytewise`).
-/
namespace I18n.Charset.Tables
open I18n.Generated.Charset
open I18n.Spec.Charset (gettextCharsets asciiRepertoire gettextLists canonical fold)


theorem repertoire_pin : interestingBytes = asciiRepertoire ∧ interestingStr = asciiRepertoire := by
  constructor <;> decide +kernel

theorem gettext_list_pin : dataPortable.map (·.1) = gettextCharsets := by decide +kernel

def rowOf (n : Name) : Option Row := codecFacts.find? (·.name == n)

/-- `rowOf` again, under the name `c2e_rows_closed` and C01 are stated with -/
def rowOf' (n : Name) : Option Row := codecFacts.find? (·.name == n)

/-- `codecs.lookup(n).name` of the vanilla interpreter, as far as CodecFacts knows -/
def vanillaLookup (n : Name) : Option Name :=
  match rowOf n with
  | some r => if r.pyShips then r.codec else none
  | none => none

theorem rowOf_some {n : Name} {r : Row} (h : rowOf n = some r) : r ∈ codecFacts ∧ r.name = n := by
  unfold rowOf at h
  have hname : (r.name == n) = true := List.find?_some (p := fun x : Row => x.name == n) h
  exact ⟨List.mem_of_find?_eq_some h, beq_iff_eq.1 hname⟩

theorem all_rows {f : Row → Bool} (h : (codecFactsChunks.all fun ch => ch.all f) = true) :
    ∀ r ∈ codecFacts, f r = true := by
  intro r hr
  simp only [codecFacts, List.mem_flatten] at hr
  obtain ⟨ch, hch, hr⟩ := hr
  rw [List.all_eq_true] at h
  have := h ch hch
  rw [List.all_eq_true] at this
  exact this r hr

/-! ## the model reproduces every answer the tool gave -/

def exceptEq (a : Except Unit Bool) (b : Option Bool) : Bool :=
  match a, b with
  | .ok x, some y => x == y
  | .error (), none => true
  | _, _ => false

def proposeEq (a : Except Unit (Option Name)) (b : Option Name) : Bool :=
  match a with
  | .ok x => x == b
  | .error () => false

theorem exceptEq_some {a : Except Unit Bool} {b : Bool} : exceptEq a (some b) = true ↔ a = .ok b := by
  cases a <;> simp [exceptEq]

def rowModelOk (r : Row) : Bool :=
  isPortable portableEncodings true r.name == r.tPortPy
  && isPortable portableEncodings false r.name == r.tPortAny
  && proposeEq (propose portableEncodings pycodecToEncoding (fun _ => r.codec) r.name) r.tProposal
  && exceptEq (isAsciiCompatible interestingStr r.decI true) (some r.tAscii)
  && exceptEq (isAsciiCompatible interestingStr r.decI false) (if r.tUnknown then none else some r.tAscii)

theorem proposeEq_iff {a : Except Unit (Option Name)} {b : Option Name} : proposeEq a b = true ↔ a = .ok b := by
  rcases a with ⟨⟨⟩⟩ | x <;> simp [proposeEq]

theorem rowModelOk_iff (r : Row) : rowModelOk r = true ↔
    isPortable portableEncodings true r.name = r.tPortPy ∧
    isPortable portableEncodings false r.name = r.tPortAny ∧
    propose portableEncodings pycodecToEncoding (fun _ => r.codec) r.name = .ok r.tProposal ∧
    isAsciiCompatible interestingStr r.decI true = .ok r.tAscii ∧
    exceptEq (isAsciiCompatible interestingStr r.decI false) (if r.tUnknown then none else some r.tAscii) = true := by
  simp only [rowModelOk, Bool.and_eq_true, beq_iff_eq, proposeEq_iff, exceptEq_some, and_assoc]

theorem model_rows : (codecFactsChunks.all fun ch => ch.all rowModelOk) = true := by
  unfold rowModelOk
  -- look-ups by radix (`assocBits_eq`): six bits of the digest leave an entry or two of the forty-odd in either table
  simp only [isPortable, propose, ← assocBits_eq List.sum _ 6]
  decide +kernel

theorem normalise_eq_canonical (e : Name) : normalise e = canonical e := by
  have hl : lower e = fold e := rfl
  unfold normalise canonical
  rw [hl]
  split
  · next heq =>
    rw [heq]
    rfl
  · next h =>
    show (if _ then _ else _) = _
    rw [if_neg]
    intro hp
    obtain ⟨r, hr⟩ := List.isPrefixOf_iff_prefix.1 hp
    exact h r hr.symm

theorem isSome_assoc? {β : Type} (k : Name) (l : List (Name × β)) : (assoc? k l).isSome = (l.map (·.1)).contains k := by
  rw [assoc?_eq, Bool.eq_iff_iff, Kit.isSome_lookup, List.contains_iff_mem]

theorem portable_keys_pin : portableEncodings.map (·.1) = gettextCharsets.map fold := by
  rw [← gettext_list_pin]
  decide +kernel

theorem isPortable_any (name : Name) : isPortable portableEncodings false name = gettextLists name := by
  simp only [isPortable, Bool.false_eq_true, if_false, isSome_assoc?, portable_keys_pin, normalise_eq_canonical, gettextLists]

def isTextOrUde : Dec → Bool
  | .text _ => true
  | .ude => true
  | _ => false

def usable (r : Row) : Bool := r.codec.isSome && r.isText && isTextOrUde r.decI

def unknownLaw (r : Row) : Bool := r.tUnknown == !usable r
def portableLaw (r : Row) : Bool := r.tPortPy == (gettextLists r.name && r.pyShips)
def proposalLaw (r : Row) : Bool :=
  match r.tProposal with
  | none => true
  | some p => match rowOf p with
    | none => false
    | some r' => r'.tPortPy && r.codec.isSome && r'.codec == r.codec && r'.isText

theorem unknownLaw_iff {r : Row} : unknownLaw r = true ↔ r.tUnknown = !usable r := beq_iff_eq

theorem unknown_rows : (codecFactsChunks.all fun ch => ch.all unknownLaw) = true := by decide +kernel

theorem proposalLaw_some {r : Row} {p : Name} (h : proposalLaw r = true) (hp : r.tProposal = some p) :
    ∃ r', rowOf p = some r' ∧ r'.tPortPy = true ∧ r.codec.isSome = true ∧ r'.codec = r.codec ∧ r'.isText = true := by
  simp only [proposalLaw, hp] at h
  cases hrow : rowOf p with
  | none => rw [hrow] at h; cases h
  | some r' =>
    simp only [hrow, Bool.and_eq_true, beq_iff_eq, and_assoc] at h
    exact ⟨r', rfl, h⟩

theorem proposal_rows : (codecFactsChunks.all fun ch => ch.all proposalLaw) = true := by decide +kernel

/-- `"koi8-t"` -/
def koi8t : Name := [107, 111, 105, 56, 45, 116]

theorem portable_rows_partial :
    (codecFactsChunks.all fun ch => ch.all fun r => I18n.Spec.Charset.canonical r.name == koi8t || portableLaw r) = true := by
  simp only [portableLaw, ← isPortable_any, isPortable, ← assocBits_eq List.sum _ 6]
  decide +kernel
theorem portable_rows_refuted : (codecFacts.any fun r => !portableLaw r) = true := by
  simp only [portableLaw, ← isPortable_any, isPortable, ← assocBits_eq List.sum _ 6]
  decide +kernel

/-- every value of `_pycodec_to_encoding` is portable (so the `assert` never fires) -/
theorem c2e_portable : (pycodecToEncoding.all fun kv => isPortable portableEncodings true kv.2) = true := by
  simp only [isPortable, ← assocBits_eq List.sum _ 6]
  decide +kernel

/-- the model of `_read_encodings`, run on the data file and on the interpreter's own look-ups, yields the tables the tool holds -/
theorem portable_read :
    readPortable vanillaLookup dataPortable ([], []) = some (portableEncodings, pycodecToEncoding) := by decide +kernel

/-- the running registry resolves every value of `_pycodec_to_encoding`, upper-cased as a proposal is, to its key -/
theorem c2e_rows_closed :
    (pycodecToEncoding.all fun kv => (rowOf' (upper kv.2)).map (·.codec) == some (some kv.1)) = true := by
  decide +kernel

/-- with the shipped tables the `assert` of the proposal cannot fire, so the fragment is total whenever the codec behaves -/
theorem checkCharset_total_shipped (env : Env) (encoding : Name) (isTemplate : Bool)
    (characters : Option (Option (List (List Nat))))
    (htbl : env.tbl = portableEncodings) (hc2e : env.c2e = pycodecToEncoding)
    (henc : ∀ enc chars, characters = some (some chars) → EncodeOk (env.encode enc) chars) :
    ∃ r, checkCharset env encoding isTemplate characters = .ok r :=
  checkCharset_total env encoding isTemplate characters (by rw [htbl, hc2e]; exact List.all_eq_true.1 c2e_portable) henc

def nm (s : String) : Name := s.toList.map Char.toNat

def untestedBytes : List Nat := [1, 2, 3, 5, 6, 14, 15, 16, 17, 18, 19, 20, 21, 22, 23, 24, 25, 26, 28, 29, 30, 31, 127]

theorem untested_pin : ((List.range 128).filter fun b => !interestingBytes.contains b) = untestedBytes := by decide +kernel

/-- the codecs whose verdict changes when ONE tested byte is no longer tested (narrowing), and that byte -/
def expectedDrop (codec : Option Name) : List Nat :=
  if codec = some (nm "hz") then [0x7E] else if codec = some (nm "cp864") then [0x25] else if codec = some (nm "utf-7") then [0x2B] else []

/-- the codecs whose verdict changes when ONE untested byte is tested as well (widening), and those bytes -/
def expectedAdd (codec : Option Name) : List Nat :=
  if codec = some (nm "viscii") then [0x02, 0x05, 0x06, 0x14, 0x19, 0x1E] else if codec = some (nm "iso2022_kr") then [0x0E, 0x0F] else []

def sensLaw (r : Row) : Bool := r.dropSens == expectedDrop r.codec && r.addSens == expectedAdd r.codec
/-- testing all 128 bytes is the stronger test; the two readings differ exactly on the rows some single added byte flips; a
    narrowing can only turn a "no" into a "yes" -/
def readingsLaw (r : Row) : Bool :=
  (!r.fullAsciiId || r.tAscii) && ((r.tAscii && !r.fullAsciiId) == !r.addSens.isEmpty) && (r.dropSens.isEmpty || !r.tAscii)
    && r.dropSens.all (fun b => interestingBytes.contains b) && r.addSens.all (fun b => untestedBytes.contains b)

theorem sens_rows : (codecFactsChunks.all fun ch => ch.all sensLaw) = true := by decide +kernel

theorem readings_rows : (codecFactsChunks.all fun ch => ch.all readingsLaw) = true := by decide +kernel

theorem sensLaw_iff {r : Row} : sensLaw r = true ↔ r.dropSens = expectedDrop r.codec ∧ r.addSens = expectedAdd r.codec := by
  simp only [sensLaw, Bool.and_eq_true, beq_iff_eq]

theorem readingsLaw_spec {r : Row} (h : readingsLaw r = true) :
    (r.fullAsciiId = true → r.tAscii = true) ∧
    ((r.tAscii = true ∧ r.fullAsciiId = false) ↔ r.addSens ≠ []) ∧
    (r.dropSens ≠ [] → r.tAscii = false) ∧
    (∀ b ∈ r.dropSens, b ∈ interestingBytes) ∧ (∀ b ∈ r.addSens, b ∉ interestingBytes ∧ b < 128) := by
  simp only [readingsLaw, Bool.and_eq_true, Bool.or_eq_true, Bool.not_eq_true', beq_iff_eq, List.all_eq_true,
    List.contains_iff_mem, List.isEmpty_iff] at h
  obtain ⟨⟨⟨⟨hfull, hdiffer⟩, hdrop⟩, hdropMem⟩, haddMem⟩ := h
  refine ⟨fun hf => ?_, ?_, fun hd => hdrop.resolve_left hd, hdropMem, fun b hb => ?_⟩
  · exact hfull.resolve_left (by rw [hf]; exact Bool.noConfusion)
  · rw [← Bool.not_eq_true' (b := r.fullAsciiId), ← Bool.and_eq_true, hdiffer, Bool.not_eq_true', List.isEmpty_eq_false_iff]
  · -- an untested byte is one below 128 that the test does not look at
    have hm := haddMem b hb
    rw [← untested_pin] at hm
    simp only [List.mem_filter, List.mem_range, Bool.not_eq_true', List.contains_eq_mem, decide_eq_false_iff_not] at hm
    exact ⟨hm.2, hm.1⟩

theorem isAsciiCompatible_true_iff (s : List Nat) (d : Dec) (mo : Bool) :
    isAsciiCompatible s d mo = .ok true ↔ d = .text s := by
  cases d with
  | text cs => simp only [isAsciiCompatible, Except.ok.injEq, beq_iff_eq, Dec.text.injEq]
  | ude | notstr | lookup | other => cases mo <;> simp [isAsciiCompatible]

theorem map_beq_self (f : Nat → Nat) : ∀ l : List Nat, (l.map f == l) = decide (∀ b ∈ l, f b = b)
  | [] => by simp
  | x :: xs => by
    have e : (List.map f (x :: xs) == x :: xs) = ((f x == x) && (List.map f xs == xs)) := rfl
    rw [e, map_beq_self f xs]
    simp only [List.mem_cons, forall_eq_or_imp]
    by_cases h1 : f x = x <;> by_cases h2 : (∀ b ∈ xs, f b = b) <;> simp [h1, h2]

theorem isAsciiCompatible_bytewise (f : Nat → Nat) (mo : Bool) :
    isAsciiCompatible interestingStr (.text (interestingBytes.map f)) mo = .ok (decide (∀ b ∈ interestingBytes, f b = b)) := by
  have hpin : interestingStr = interestingBytes := by rw [repertoire_pin.1, repertoire_pin.2]
  simp only [isAsciiCompatible, hpin]
  exact congrArg Except.ok (map_beq_self f interestingBytes)

end I18n.Charset.Tables
