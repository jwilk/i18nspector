import I18n.Model.Po
/-! What can leave the PO loader (for C01).  `Po.loadWith` / `Po.load` end in a file, in `Err.syntax` (EVERY failure of the line
loop: they all happen inside polib's `try`; `Checker.check` reports `syntax-error-in-po-file`), in `Err.decode` (the one decode
at the top of `Codecs.open`), or in `Err.crash`, and that only if the codec of an encoding the tool classified as
ASCII-compatible raises something that is not a `UnicodeError`.  `dispatch_cases`, what one iteration can do whatever the line
is, serves this outcome set and `tokens[0]` after a line (for `finish`). -/
namespace I18n.Po

def Err.isSyntax : Err → Bool
  | .syntax _ _ => true
  | _ => false

def SynOnly (r : Except Err α) : Prop := ∀ e, r = .error e → e.isSyntax = true

theorem SynOnly.ok (a : α) : SynOnly (.ok a : Except Err α) := fun _ h => nomatch h

theorem SynOnly.syn (n : Nat) (m : SynMsg) : SynOnly (.error (.syntax n m) : Except Err α) := fun _ h => by
  cases h
  rfl

theorem SynOnly.ite {c : Prop} {_ : Decidable c} {a b : Except Err α} (ha : SynOnly a) (hb : SynOnly b) :
    SynOnly (if c then a else b) := by
  split
  · exact ha
  · exact hb

theorem process_syn (env : Env) (enc : Bytes) (n : Nat) (sym : Generated.PolibFsm.Sym) (tok : Text) (s : PState) :
    SynOnly (process env enc n sym tok s) := by
  unfold process
  split
  · exact .syn _ _
  · split
    · exact .syn _ _
    · split
      · split <;> exact .ok _
      · exact .ok _

theorem dispatch_cases {env : Env} {enc : Bytes} {n : Nat} {line t0 : Text} {trest : List Text} {s : PState}
    (P : Except Err PState → Prop) (hok : P (.ok { s with lastTok := some t0 })) (herr : ∀ m, P (.error (.syntax n m)))
    (hp : ∀ sym tok, P (process env enc n sym tok { s with lastTok := some t0 })) : P (dispatch env enc n line t0 trest s) := by
  have ite : ∀ {c : Prop} [Decidable c] {a b : Except Err PState}, P a → P b → P (if c then a else b) := by
    intro c _ a b ha hb; split <;> assumption
  unfold dispatch
  simp only
  split
  · exact ite (herr _) (hp _ _)
  · -- one `ite` per branch of the `if` chain of `dispatch`, in its order
    refine
      ite (ite hok (hp _ _)) <|          -- `#:`
      ite (ite (herr _) (hp _ _)) <|     -- `"…"`
      ite (hp _ _) <|                    -- `msgstr[`
      ite (ite hok (hp _ _)) <|          -- `#,`
      ite (hp _ _) <|                    -- `#`, `##…`
      ite (ite hok (hp _ _)) <|          -- `#.`
      ite ?_ (herr _)                    -- `#|`
    cases trest with
    | nil => exact herr _
    | cons t1 _ =>
      refine ite (hp _ _) (ite (herr _) ?_)
      split
      · exact herr _
      · exact hp _ _

theorem dispatch_syn (env : Env) (enc : Bytes) (n : Nat) (line t0 : Text) (trest : List Text) (s : PState) :
    SynOnly (dispatch env enc n line t0 trest s) :=
  dispatch_cases SynOnly (.ok _) (fun _ => .syn _ _) fun _ _ => process_syn _ _ _ _ _ _

theorem stepLine_syn (env : Env) (enc : Bytes) (n : Nat) (raw : Text) (s : PState) : SynOnly (stepLine env enc n raw s) := by
  unfold stepLine
  simp only
  refine .ite (.ok _) ?_
  split
  · exact .ok _
  · refine .ite (.ok _) ?_
    split
    · exact dispatch_syn _ _ _ _ _ _ _
    · exact dispatch_syn _ _ _ _ _ _ _

theorem parseLoop_syn (env : Env) (enc : Bytes) : ∀ (ls : List Text) (n : Nat) (s : PState), SynOnly (parseLoop env enc n ls s)
  | [], _, _ => .ok _
  | l :: ls, n, s => by
    unfold parseLoop
    split
    · next e he =>
      intro e' h
      cases h
      exact stepLine_syn _ _ _ _ _ _ he
    · exact parseLoop_syn env enc ls _ _

theorem parseLines_syn (env : Env) (enc : Bytes) (ls : List Text) : SynOnly (parseLines env enc ls) := by
  unfold parseLines
  split
  · next e he =>
    intro e' h
    cases h
    exact parseLoop_syn _ _ _ _ _ _ he
  · exact .ok _

/-- **the closed outcome set of `polib.pofile(path, encoding=enc)`** -/
theorem loadWith_err (env : Env) (enc file : Bytes) (e : Err) (h : loadWith env enc file = .error e) :
    e.isSyntax = true ∨ e = .decode ∨ (e = .crash ∧ env.asciiCompatible enc = true ∧ env.decode enc file = .other) := by
  unfold loadWith at h
  split at h
  · next e' he =>
    cases h
    -- the decode failed: the codec of an ASCII-compatible encoding raised, or the file, read as ASCII, does not decode
    unfold decodeFile at he
    by_cases hc : env.asciiCompatible enc = true
    · rw [if_pos hc] at he
      cases hd : env.decode enc file with
      | text t => rw [hd] at he; cases he
      | ude => rw [hd] at he; cases he; exact .inr (.inl rfl)
      | other => rw [hd] at he; cases he; exact .inr (.inr ⟨rfl, hc, rfl⟩)
    · rw [if_neg hc] at he
      cases hd : decodeAscii file with
      | some t => rw [hd] at he; cases he
      | none => rw [hd] at he; cases he; exact .inr (.inl rfl)
  · exact .inl (parseLines_syn _ _ _ _ h)

/-- the codec contract the tool relies on: decoding with an encoding `is_ascii_compatible_encoding` accepted gives text or a
    `UnicodeError` (`lib.encodings.decode` turns the bare ones of idna/punycode into `UnicodeDecodeError`, fix ded8ac2), and
    ISO-8859-1 — the encoding of the retry — is ASCII-compatible and decodes every byte string -/
structure CodecsBehave (env : Env) : Prop where
  unicode_errors_only : ∀ enc bs, env.asciiCompatible enc = true → env.decode enc bs ≠ .other
  latin1_compatible : env.asciiCompatible latin1Name = true
  latin1_total : ∀ bs, ∃ t, env.decode latin1Name bs = .text t

/-- first call: a syntax error or a decode error, nothing else -/
theorem load_closed (env : Env) (hc : CodecsBehave env) (file : Bytes) (e : Err) (h : load env file = .error e) :
    e.isSyntax = true ∨ e = .decode := by
  rcases loadWith_err env _ file e h with h1 | h1 | ⟨_, h2, h3⟩
  · exact .inl h1
  · exact .inr h1
  · exact absurd h3 (hc.unicode_errors_only _ _ h2)

/-- the ISO-8859-1 retry: a syntax error, nothing else -/
theorem retry_closed (env : Env) (hc : CodecsBehave env) (file : Bytes) (e : Err) (h : loadWith env latin1Name file = .error e) :
    e.isSyntax = true := by
  obtain ⟨t, ht⟩ := hc.latin1_total file
  rw [loadWith, decodeFile, if_pos hc.latin1_compatible, ht] at h
  exact parseLines_syn _ _ _ _ h

/-! ## `tokens[0]` after a line (what `finish` looks at) -/

theorem flushIfDone_lastTok (n : Nat) (s : PState) : (flushIfDone n s).lastTok = s.lastTok := by
  unfold flushIfDone; split <;> rfl

/-- what a handler writes: it closes a finished entry or not (`s0`), then sets `cur`, `header`, `msgstrIndex` and nothing else -/
theorem handle_frame {env : Env} {enc : Bytes} {n : Nat} {hd : Generated.PolibFsm.Handler} {tok : Text} {s s' : PState} {ch : Bool}
    (h : handle env enc n hd tok s = some (s', ch)) :
    ∃ s0, (s0 = s ∨ s0 = flushIfDone n s) ∧ s' = { s0 with cur := s'.cur, header := s'.header, msgstrIndex := s'.msgstrIndex } := by
  cases hd with
  | he => cases h; exact ⟨s, .inl rfl, rfl⟩
  | tc | gc | oc | fl => cases h; exact ⟨_, .inr rfl, rfl⟩
  | pp | pm | pc | ct | mi =>
    obtain ⟨v, _, e⟩ := Option.map_eq_some_iff.1 h
    cases e; exact ⟨_, .inr rfl, rfl⟩
  | mp | ms =>
    obtain ⟨v, _, e⟩ := Option.map_eq_some_iff.1 h
    cases e; exact ⟨s, .inl rfl, rfl⟩
  | mx =>
    -- `token[7]`, the unescape, `int(index)`: each fails or goes on
    simp only [handle] at h
    split at h
    · cases h
    · split at h
      · cases h
      · split at h <;> cases h
        exact ⟨s, .inl rfl, rfl⟩
  | mc =>
    simp only [handle] at h
    split at h
    · cases h
    · obtain ⟨es, hdr, cur, st, mi, eo, lt⟩ := s
      cases st <;> dsimp only at h
      case mx =>
        -- the index is looked up first (KeyError)
        split at h <;> cases h
        exact ⟨_, .inl rfl, rfl⟩
      case ct | mp | ms | pp | pm | pc =>
        -- appended to a field that may be `None` (TypeError)
        obtain ⟨v, _, e⟩ := Option.map_eq_some_iff.1 h
        cases e; exact ⟨_, .inl rfl, rfl⟩
      case mi | st | he | tc | gc | oc | fl => cases h; exact ⟨_, .inl rfl, rfl⟩

theorem handle_lastTok {env : Env} {enc : Bytes} {n : Nat} {hd : Generated.PolibFsm.Handler} {tok : Text} {s s' : PState} {ch : Bool}
    (h : handle env enc n hd tok s = some (s', ch)) : s'.lastTok = s.lastTok := by
  obtain ⟨s0, h0, e⟩ := handle_frame h
  rw [e]
  rcases h0 with rfl | rfl
  · rfl
  · exact flushIfDone_lastTok n s

theorem process_lastTok {env : Env} {enc : Bytes} {n : Nat} {sym : Generated.PolibFsm.Sym} {tok : Text} {s s' : PState}
    (h : process env enc n sym tok s = .ok s') : s'.lastTok = s.lastTok := by
  unfold process at h
  split at h
  · cases h
  · split at h
    · cases h
    · next hh =>
      have := handle_lastTok hh
      split at h
      · split at h <;> cases h <;> exact this
      · cases h; exact this

theorem dispatch_lastTok {env : Env} {enc : Bytes} {n : Nat} {line t0 : Text} {trest : List Text} {s s' : PState}
    (h : dispatch env enc n line t0 trest s = .ok s') : s'.lastTok = some t0 :=
  dispatch_cases (fun r => ∀ s', r = .ok s' → s'.lastTok = some t0) (fun _ h => by cases h; rfl) (fun _ _ h => nomatch h)
    (fun _ _ _ h => process_lastTok h) s' h

end I18n.Po
