import I18n.Generated.TagsFmt
/-!
# The functions regenerated from `lib/tags.py` equal the hand-written model of C02

`I18n.Generated.TagsFmt` is rewritten by `tools/translate/tagsfmt2lean.py` from the current source on every run; this file proves,
for all inputs, that `_escape` and `Tag.get_priority` as regenerated compute the model functions the theorems of `Props/C02.lean` are
about; `safe_format` and `Tag.format`, which call them, follow in `Props/C02Tie.lean`.
-/
-- some simp lemmas below fire only on another spelling of the same source (a comparison turned round, a literal set in another order)
set_option linter.unusedSimpArgs false
namespace I18n.Tags.Gen
open I18n I18n.Tags I18n.Generated

theorem lit_empty : lit "" = [] := rfl

theorem escape_eq (db : UnicodeDB) (s : Extra) : TagsFmt._escape db s = .ok (escape db s) := by
  cases s with
  | safe v => rfl
  | bytes b => rfl
  | str v =>
    simp only [TagsFmt._escape, escape, escapeStr, Py.pyStr, lit_empty, decide_eq_true_eq]
    by_cases h1 : v = []
    · simp [h1]
    · by_cases h2 : isSafe v = true <;> simp [h1, h2]
  | int n =>
    simp only [TagsFmt._escape, escape, escapeStr, Py.pyStr, lit_empty, decide_eq_true_eq]
    by_cases h1 : strInt n = []
    · simp [h1]
    · by_cases h2 : isSafe (strInt n) = true <;> simp [h1, h2]

theorem get_priority_eq (db : UnicodeDB) (t : Tag) :
    TagsFmt.Tag.get_priority db t = .ok [(priority t.severity t.certainty).code] := by
  obtain ⟨name, sev, cert⟩ := t
  cases sev <;> cases cert <;> rfl

end I18n.Tags.Gen
