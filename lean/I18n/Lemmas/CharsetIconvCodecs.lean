import I18n.Lemmas.CharsetIconvRef
import I18n.Lemmas.CharsetEucTw
import I18n.Lemmas.CharsetCodec
/-!
# C20: the two iconv-backed codecs of the tool as instances of the reference iconv: EUC-TW (any CNS tables), and a single-byte
# table (KOI8-T)
-/
namespace I18n.Charset

theorem eucUnitFn_char {cns : CnsTable} {bs : List UInt8} {len ch : Nat} (h : eucUnitFn cns bs = .char len ch) :
    (eucTwUnit cns bs).char? = some ch ∧ (eucTwUnit cns bs).len = len := by
  unfold eucUnitFn at h
  cases hu : eucTwUnit cns bs with
  | done | illegal | incomplete => rw [hu] at h; cases h
  | ascii _ | two _ _ _ | four _ _ _ _ => rw [hu] at h; cases h; exact ⟨rfl, rfl⟩

theorem eucUnitFn_wf (cns : CnsTable) : (eucUnitFn cns).WF where
  done_iff := by
    intro bs
    refine ⟨fun h => ?_, by rintro rfl; rfl⟩
    unfold eucUnitFn at h
    cases hu : eucTwUnit cns bs with
    | done => exact eucTwUnit_done cns bs hu
    | _ => rw [hu] at h; cases h
  char_len := by
    intro bs len ch h
    obtain ⟨hc, rfl⟩ := eucUnitFn_char h
    have := eucTwUnit_length cns bs
    exact ⟨EucUnit.len_pos hc, by omega⟩

theorem eucTwDecodeLoop_eq (cns : CnsTable) : ∀ (fuel i : Nat) (bs : List UInt8),
    eucTwDecodeLoop cns fuel i bs = unitDecodeLoop (eucUnitFn cns) fuel i bs := by
  intro fuel
  induction fuel with
  | zero => intro i bs; rfl
  | succ fuel ih =>
    intro i bs
    simp only [eucTwDecodeLoop, unitDecodeLoop, eucUnitFn]
    cases eucTwUnit cns bs <;> simp only [ih]

theorem eucTwEncodeFrom_eq (inv : CnsInverse) : ∀ (cs : List Nat) (i : Nat),
    eucTwEncodeFrom inv i cs = encodeAllFrom (eucTwEncodeChar inv) i cs := by
  intro cs
  induction cs with
  | nil => intro i; rfl
  | cons c cs ih =>
    intro i
    simp only [eucTwEncodeFrom, encodeAllFrom, ih]
    cases eucTwEncodeChar inv c <;> rfl

/-- one byte (ASCII), none (a TAG character), or the two or four of `eucTwEncodeChar_of_inv` -/
theorem eucTwEncodeChar_max (inv : CnsInverse) (c : Nat) (u : List UInt8) (h : eucTwEncodeChar inv c = some u) : u.length ≤ 4 := by
  by_cases hle : c ≤ 0x7F
  · simp only [eucTwEncodeChar, hle, if_true, Option.some.injEq] at h
    subst h; simp
  · cases hpos : inv c with
    | none =>
      simp only [eucTwEncodeChar, hle, if_false, hpos] at h
      split at h
      · cases h; decide
      · cases h
    | some pos =>
      obtain ⟨p, r, k⟩ := pos
      rw [eucTwEncodeChar_of_inv (Nat.lt_of_not_le hle) hpos] at h
      cases h
      split <;> simp

theorem eucTwEncode_error_lt (inv : CnsInverse) (cs : List Nat) (i : Nat) (h : eucTwEncode inv cs = .error i) :
    i < cs.length := by
  have hbound := encodeAllFrom_bound _ (eucTwEncodeChar_max inv) cs 0
  rw [← eucTwEncodeFrom_eq, ← eucTwEncode, h] at hbound
  omega

/-! ## the tool's EUC-TW codec (loop ∘ reference iconv) is the model's codec over the same tables, whatever they are, but for
the end of an error span -/

theorem eucDl_decode (cns : CnsTable) (hmax : ∀ p r c ch, cns p r c = some ch → ch ≤ 0x10FFFF)
    (bs : List UInt8) (fuel : Nat) (hfuel : 3 ≤ fuel) :
    (decodeDl (refDecStep (eucUnitFn cns) bs) bs fuel).1 =
      match eucTwDecode cns bs with
      | .ok cs => .ok cs
      | .error (s, _) => .unicodeError s (syncEnd bs s) := by
  have h := eucTwDecodeLoop_eq cns bs.length 0 bs
  rw [← eucTwDecode] at h
  cases hd : eucTwDecode cns bs with
  | ok cs =>
    rw [hd] at h
    refine decodeDl_ref_ok _ (eucUnitFn_wf cns) bs cs fuel h.symm (fun ch hch => ?_) hfuel
    rcases eucTwDecodeLoop_mem _ _ _ _ hd ch hch with hascii | ⟨p, r, c, hc⟩
    · omega
    · exact hmax p r c ch hc
  | error e => rw [hd] at h; exact (decodeDl_ref_err _ (eucUnitFn_wf cns) bs e.1 e.2 fuel h.symm hfuel).1

theorem eucDl_encode (inv : CnsInverse) (cs : List Nat) (fuel : Nat) (hfuel : 3 ≤ fuel) :
    (encodeDl (refEncStep (eucTwEncodeChar inv) cs) cs.length fuel).1 =
      match eucTwEncode inv cs with
      | .ok bs => .ok bs
      | .error i => .unicodeError i (i + 1) := by
  have h := eucTwEncodeFrom_eq inv cs 0
  rw [← eucTwEncode] at h
  cases hd : eucTwEncode inv cs with
  | ok bs => rw [hd] at h; exact encodeDl_ref_ok _ (eucTwEncodeChar_max inv) cs bs fuel h.symm hfuel
  | error i => rw [hd] at h; exact (encodeDl_ref_err _ (eucTwEncodeChar_max inv) cs i fuel h.symm hfuel).1

/-! ## a single-byte table behind iconv (glibc's KOI8-T) -/

theorem tableUnitFn_cons (table : List Nat) (b : UInt8) (rest : List UInt8) :
    tableUnitFn table (b :: rest) = if definedAt table b then .char 1 ((table[b.toNat]?).getD 0) else .illegal := by
  cases hd : definedAt table b with
  | true =>
    obtain ⟨c, hb, hc⟩ := definedAt_iff.1 hd
    simp [tableUnitFn, hb, hc]
  | false =>
    unfold definedAt at hd
    simp only [tableUnitFn]
    cases h : table[b.toNat]? with
    | none => rfl
    | some c => rw [h, bne_eq_false_iff_eq] at hd; simp [hd]

theorem tableUnitFn_wf (table : List Nat) : (tableUnitFn table).WF where
  done_iff bs := by
    cases bs with
    | nil => exact ⟨fun _ => rfl, fun _ => rfl⟩
    | cons b rest => rw [tableUnitFn_cons]; split <;> simp
  char_len bs len ch h := by
    cases bs with
    | nil => cases h
    | cons b rest =>
      rw [tableUnitFn_cons] at h
      split at h
      · cases h; exact ⟨Nat.le_refl 1, Nat.le_add_left 1 _⟩
      · cases h

/-- unit by unit = `charmap_decode`, but for the end of the error span (iconv reports an offset only) -/
theorem tableDecode_eq (table : List Nat) : ∀ (bs : List UInt8) (fuel i : Nat), bs.length ≤ fuel →
    unitDecodeLoop (tableUnitFn table) fuel i bs =
      match charmapDecodeFrom table i bs with
      | .ok cs => .ok cs
      | .error (s, _) => .error (s, false) := by
  intro bs
  induction bs with
  | nil => intro fuel i _; cases fuel <;> rfl
  | cons b rest ih =>
    intro fuel i hf
    cases fuel with
    | zero => exact absurd hf (Nat.not_succ_le_zero _)
    | succ fuel =>
      have hf' : rest.length ≤ fuel := Nat.le_of_succ_le_succ hf
      rw [unitDecodeLoop, tableUnitFn_cons]
      cases hd : definedAt table b with
      | false => rw [charmapDecodeFrom_cons_undefined hd]; rfl
      | true =>
        obtain ⟨c, hb, hc⟩ := definedAt_iff.1 hd
        rw [charmapDecodeFrom_cons_defined hb hc, hb]
        simp only [if_true, List.drop_succ_cons, List.drop_zero, Option.getD_some, ih fuel (i + 1) hf']
        cases charmapDecodeFrom table (i + 1) rest <;> rfl

theorem sbEncodeChar_max (table : List Nat) (c : Nat) (u : List UInt8) (h : sbEncodeChar table c = some u) : u.length ≤ 1 := by
  unfold sbEncodeChar at h
  split at h
  · cases h; simp
  · split at h
    · cases h; simp
    · cases h

theorem sbEncode_eq (table : List Nat) : ∀ (cs : List Nat) (i : Nat), (∀ c ∈ cs, isTag c = false) →
    encodeAllFrom (sbEncodeChar table) i cs =
      match charmapEncodeFrom (encLookup table) i cs with
      | .ok bs => .ok bs
      | .error (s, _) => .error s := by
  intro cs
  induction cs with
  | nil => intro i _; rfl
  | cons c cs ih =>
    intro i ht
    have htc := ht c (by simp)
    simp only [encodeAllFrom, sbEncodeChar, charmapEncodeFrom]
    cases hc : encLookup table c with
    | none => simp [htc]
    | some b =>
      simp only [ih (i + 1) (fun x hx => ht x (List.mem_cons_of_mem _ hx))]
      cases charmapEncodeFrom (encLookup table) (i + 1) cs <;> simp [Except.map]

/-! ## the tool's codec for a single-byte table behind iconv (loop ∘ reference iconv) is the table's charmap codec, but for
the end of an error span -/

theorem tableDl_decode (table : List Nat) (hmax : ∀ c ∈ table, c ≤ 0x10FFFF) (bs : List UInt8) (fuel : Nat) (hfuel : 3 ≤ fuel) :
    (decodeDl (refDecStep (tableUnitFn table) bs) bs fuel).1 =
      match charmapDecode table bs with
      | .ok t => .ok t
      | .error (s, _) => .unicodeError s (syncEnd bs s) := by
  have h := tableDecode_eq table bs bs.length 0 (Nat.le_refl _)
  rw [← charmapDecode] at h
  cases hd : charmapDecode table bs with
  | ok t =>
    rw [hd] at h
    exact decodeDl_ref_ok _ (tableUnitFn_wf table) bs t fuel h (fun c hc => hmax c (charmapDecodeFrom_mem table 0 bs t hd c hc)) hfuel
  | error e => rw [hd] at h; exact (decodeDl_ref_err _ (tableUnitFn_wf table) bs e.1 false fuel h hfuel).1

theorem tableDl_encode (table : List Nat) (cs : List Nat) (ht : ∀ c ∈ cs, isTag c = false) (fuel : Nat) (hfuel : 3 ≤ fuel) :
    (encodeDl (refEncStep (sbEncodeChar table) cs) cs.length fuel).1 =
      match charmapEncode table cs with
      | .ok b => .ok b
      | .error (s, _) => .unicodeError s (s + 1) := by
  have h := sbEncode_eq table cs 0 ht
  rw [← charmapEncode] at h
  have hmax : ∀ c u, sbEncodeChar table c = some u → u.length ≤ 4 :=
    fun c u hu => Nat.le_trans (sbEncodeChar_max table c u hu) (by decide)
  cases hd : charmapEncode table cs with
  | ok b => rw [hd] at h; exact encodeDl_ref_ok _ hmax cs b fuel h hfuel
  | error e => rw [hd] at h; exact (encodeDl_ref_err _ hmax cs e.1 fuel h hfuel).1

end I18n.Charset
