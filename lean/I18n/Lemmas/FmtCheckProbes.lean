import I18n.Model.FmtCheck
import I18n.Generated.FmtCheckTables
/-!
# Running the model on the probes of the live checkers

What is evaluated on a row of `Generated.FmtCheckTables`, and how its result is reduced to what the translator dumps (tag names
with their integer extras).  No lemmas: the definitions are evaluated by the kernel in the sweeps `Props.C14.probes_pin` and
`string_probes_pin`.
-/
namespace I18n.FmtCheck
open I18n I18n.FmtSig I18n.Generated

def tagSummary (t : TagCall) : String × List Int :=
  (t.name, t.extras.filterMap fun x => match x with | .int n => some n | _ => none)

def summarize : Except Py.Exc (List TagCall) → Option (List (String × List Int))
  | .ok ts => some (ts.map tagSummary)
  | .error _ => none

def probePfx : Extra := .safe "msgid x:".toList

def lastIntProbe (s : String) (n : Nat) : Int :=
  match cParse s.toList with
  | .ok f =>
    match getLastIntConv f n with
    | .ok (some c) => c
    | .ok none => -1
    | .error _ => -2
  | _ => -3

def cArgsProbe (a b : String) (ok : Bool) : Option (List (String × List Int)) :=
  match cParse a.toList, cParse b.toList with
  | .ok x, .ok y => summarize (checkArgsC probePfx "msgid".toList x "msgstr".toList y ok)
  | _, _ => none

def pyArgsProbe (a b : String) (ok : Bool) : Option (List (String × List Int)) :=
  match pyParse a.toList, pyParse b.toList with
  | .ok x, .ok y => summarize (checkArgsPython probePfx "msgid".toList x "msgstr".toList y ok)
  | _, _ => none

def sigArgsOf : ParseOutcome PyBraceSig → Option (List (BKey × List TySet) × Nat)
  | .ok f => some (f.args, f.nitems)
  | _ => none

def perlArgsOf : ParseOutcome PerlBraceSig → Option (List (List Char) × Nat)
  | .ok f => some (sortBy strLt f.args, f.nitems)
  | _ => none

/-- every second row (the two tolerance settings share the signatures) -/
def evens {α : Type} : List α → List α
  | a :: _ :: rest => a :: evens rest
  | l => l

end I18n.FmtCheck
