import I18n.Model.Locale
/-
`fix_codes` as one equation and its two readings (when it returns, when it raises), in terms of the look-ups in the loaded ISO
tables.  The tables stay closed here: these facts hold whatever they contain.  What they contain is `Lemmas/LocaleLoad`.
-/
namespace I18n.Locale

theorem lookupTerritory_some (cc c : List Char) (h : lookupTerritory cc = some c) :
    c = cc ∧ cc ∈ Generated.Locale.iso3166 := by
  unfold lookupTerritory at h
  by_cases hc : Generated.Locale.iso3166.contains cc = true
  · rw [if_pos hc] at h; cases h; exact ⟨rfl, by simpa using hc⟩
  · rw [if_neg hc] at h; cases h

theorem lookupTerritory_none (cc : List Char) (h : lookupTerritory cc = none) : cc ∉ Generated.Locale.iso3166 := by
  unfold lookupTerritory at h
  by_cases hc : Generated.Locale.iso3166.contains cc = true
  · rw [if_pos hc] at h; cases h
  · simpa using hc

theorem fixCodes_eq (l : Language) :
    fixCodes l =
      match lookupLanguage l.ll with
      | none => .error .fixingCodes
      | some v =>
        if (∀ c, l.cc = some c → c ∈ Generated.Locale.iso3166) then .ok ({ l with ll := v }, v != l.ll)
        else .error .fixingCodes := by
  obtain ⟨ll, cc, enc, mod⟩ := l
  unfold fixCodes
  cases h : lookupLanguage ll with
  | none => rfl
  | some v =>
    cases cc with
    | none => simp
    | some c =>
      -- `lookup_territory_code` returns its argument or `None`, so the bare `raise ValueError` for a changed territory code
      -- is dead: the right-hand side has no `.valueError`
      cases ht : lookupTerritory c with
      | none => simp [ht, lookupTerritory_none c ht]
      | some c' =>
        obtain ⟨rfl, hc⟩ := lookupTerritory_some c c' ht
        simp [ht, hc]

theorem fixCodes_ok_iff (l l' : Language) (f : Bool) :
    fixCodes l = .ok (l', f) ↔ ∃ v, lookupLanguage l.ll = some v ∧ (∀ c, l.cc = some c → c ∈ Generated.Locale.iso3166)
      ∧ { l with ll := v } = l' ∧ (v != l.ll) = f := by
  rw [fixCodes_eq]
  cases lookupLanguage l.ll with
  | none => simp
  | some v =>
    dsimp only
    by_cases hc : ∀ c, l.cc = some c → c ∈ Generated.Locale.iso3166
    · rw [if_pos hc]
      constructor
      · intro h; cases h; exact ⟨v, rfl, hc, rfl, rfl⟩
      · rintro ⟨v', hv, -, rfl, rfl⟩; cases hv; rfl
    · rw [if_neg hc]
      constructor
      · intro h; cases h
      · rintro ⟨-, -, hc', -⟩; exact absurd hc' hc

theorem fixCodes_error_iff (l : Language) (e : LErr) :
    fixCodes l = .error e ↔ e = .fixingCodes ∧ (lookupLanguage l.ll = none ∨ ∃ c, l.cc = some c ∧ c ∉ Generated.Locale.iso3166) := by
  rw [fixCodes_eq]
  cases lookupLanguage l.ll with
  | none => simp [eq_comm]
  | some v =>
    dsimp only
    by_cases hc : ∀ c, l.cc = some c → c ∈ Generated.Locale.iso3166
    · rw [if_pos hc]
      constructor
      · intro h; cases h
      · rintro ⟨-, h | ⟨c, hcc, hnot⟩⟩
        · cases h
        · exact absurd (hc c hcc) hnot
    · rw [if_neg hc]
      refine ⟨fun h => ⟨(Except.error.inj h).symm, .inr ?_⟩, fun h => by rw [h.1]⟩
      obtain ⟨c, hnot⟩ := Classical.not_forall.1 hc
      exact ⟨c, Classical.not_imp.1 hnot⟩

theorem fixCodes_err (l : Language) (e : LErr) (h : fixCodes l = .error e) : e = .fixingCodes :=
  ((fixCodes_error_iff l e).1 h).1

theorem fixCodes_cases (l : Language) : (∃ l' f, fixCodes l = .ok (l', f)) ∨ fixCodes l = .error .fixingCodes := by
  cases hf : fixCodes l with
  | ok r => exact .inl ⟨r.1, r.2, rfl⟩
  | error e => rw [fixCodes_err l e hf]; exact .inr rfl

theorem fixCodes_enc (l l' : Language) (f : Bool) (h : fixCodes l = .ok (l', f)) : l'.enc = l.enc := by
  obtain ⟨v, -, -, rfl, -⟩ := (fixCodes_ok_iff ..).1 h
  rfl

end I18n.Locale
