import I18n.Model.FmtCheckGen
import I18n.Lemmas.PyKitLemmas
import I18n.Lemmas.Kit.Basic
import I18n.Lemmas.FmtCheckNamed
/-!
# The `check_args` regenerated from `lib/check/msgformat/*.py` equal the hand-written comparators of C14

`I18n.Generated.FmtArgs` is rewritten by `tools/translate/fmtargs2lean.py` from the current source on every run.  This file
proves, for all inputs, that each regenerated function computes the model function the theorems of `Props/C14.lean` are about.
The proofs never name a bound variable of the generated text.
-/
-- Some simp sets name lemmas for spellings of the source other than the present one (the other orientation of a test, another
-- way to write an update), so that the proofs survive such edits; on the present text the linter would report them.
set_option linter.unusedSimpArgs false
namespace I18n.FmtCheck.Gen
open I18n I18n.FmtSig I18n.FmtCheck I18n.Generated

/-! ### loops that append tag calls -/

def appendTags (out : List TagCall) (r : Except Py.Exc (List TagCall)) : Except Py.Exc (List TagCall) :=
  match r with
  | .error e => .error e
  | .ok ts => .ok (out ++ ts)

@[simp] theorem appendTags_error (out : List TagCall) (e : Py.Exc) : appendTags out (.error e) = .error e := rfl
@[simp] theorem appendTags_ok (out ts : List TagCall) : appendTags out (.ok ts) = .ok (out ++ ts) := rfl

theorem appendTags_nil (r : Except Py.Exc (List TagCall)) : appendTags [] r = r := by
  cases r <;> rfl

theorem appendTags_eq_map (out : List TagCall) (r : Except Py.Exc (List TagCall)) : appendTags out r = (out ++ ·) <$> r := by
  cases r <;> rfl

/-- what a loop over `xs` emits when one iteration emits `step x` -/
def collect {α : Type} (step : α → Except Py.Exc (List TagCall)) : List α → Except Py.Exc (List TagCall)
  | [] => .ok []
  | x :: xs =>
    match step x with
    | .error e => .error e
    | .ok t =>
      match collect step xs with
      | .error e => .error e
      | .ok ts => .ok (t ++ ts)

theorem forEach_appendTags {α : Type} (step : α → Except Py.Exc (List TagCall))
    (body : α → List TagCall → Except Py.Exc (List TagCall))
    (hb : ∀ x out, body x out = appendTags out (step x)) (xs : List α) :
    ∀ out, PyKit.forEach xs body out = appendTags out (collect step xs) := by
  intro out
  rw [appendTags_eq_map]
  refine PyKit.forEach_collect step (collect step) rfl (fun x xs => ?_) body (fun x out => by rw [hb, appendTags_eq_map]) xs out
  rw [collect]
  cases step x with
  | error e => rfl
  | ok t => cases collect step xs <;> rfl

theorem collect_pure {α : Type} (f : α → List TagCall) (xs : List α) :
    collect (fun x => .ok (f x)) xs = .ok (xs.map f).flatten := by
  induction xs with
  | nil => rfl
  | cons x xs ih => simp [collect, ih]


theorem forEach_one {α : Type} (f : α → TagCall) (body : α → List TagCall → Except Py.Exc (List TagCall))
    (hb : ∀ x out, body x out = .ok (out ++ [f x])) (xs : List α) (out : List TagCall) :
    PyKit.forEach xs body out = .ok (out ++ xs.map f) := by
  rw [PyKit.forEach_emit (fun x => [f x]) body xs (fun x _ => hb x), ← List.map_eq_flatMap]

/-- `lib/check/msgformat/perlbrace.py` `check_args` as regenerated = `checkArgsPerlBrace` -/
theorem perl_check_args_eq (out : List TagCall) (pfx : Extra) (srcLoc : List Char) (src : PerlBraceSig) (dstLoc : List Char)
    (dst : PerlBraceSig) (ok : Bool) :
    FmtArgs.PerlBrace.check_args out pfx () srcLoc src dstLoc dst ok =
      appendTags out (checkArgsPerlBrace pfx srcLoc src dstLoc dst ok) := by
  simp only [FmtArgs.PerlBrace.check_args, checkArgsPerlBrace, PyKit.setDiff]
  rw [forEach_one (fun k => tagUnknown "perl-brace-format-string-unknown-argument" pfx (.str k) srcLoc dstLoc) _ (fun _ _ => by rfl)]
  -- `and_comm`: the source may test `omitted_int_conv_ok` before `len(missing_keys) == 1`
  simp only [Kit.natCast_eq_ofNat, decide_eq_true_eq, Bool.and_eq_true, beq_iff_eq, and_comm (a := ok = true)]
  generalize List.filter (fun k => !dst.args.contains k) src.args = missing
  generalize hblk : (if missing.length = 1 ∧ ok = true then _ else _ : Except Py.Exc (List (List Char))) = blk
  have : blk = .ok (if missing.length = 1 ∧ ok = true then [] else missing) := by
    subst hblk
    split <;> rfl
  subst this
  simp only []
  rw [forEach_one (fun k => tagMissing "perl-brace-format-string-missing-argument" pfx (.str k) srcLoc dstLoc) _ (fun _ _ => by rfl)]
  simp [List.append_assoc]

/-! ### the loop over the common keys and the missing keys, shared by the python-brace and python comparators -/

theorem dictGet_eq {κ ν : Type} [DecidableEq κ] (d : List (κ × ν)) (k : κ) :
    PyKit.dictGet d k = match lookupKey k d with | none => .error .KeyError | some v => .ok v := by
  rw [PyKit.dictGet_eq_lookup, lookupKey_eq_lookup]
  cases d.lookup k <;> rfl

/-- one iteration of the loop over the common keys, as the model has it -/
def mapStep {κ ν : Type} [DecidableEq κ] (clash : ν → ν → Option TagCall) (src dst : List (κ × List ν)) (k : κ) :
    Except Py.Exc (List TagCall) :=
  match lookupKey k src, lookupKey k dst with
  | some (s0 :: _), some (d0 :: _) => .ok (clash s0 d0).toList
  | some [], _ => .error .IndexError
  | some (_ :: _), some [] => .error .IndexError
  | none, _ => .error .KeyError
  | some (_ :: _), none => .error .KeyError

/-- The two lookups of one iteration, split as `mapStep` splits them: which of `src[k]`, `src[k][0]`, `dst[k]`, `dst[k][0]`
    raises first, or none does. -/
theorem lookups_cases {ν : Type} {motive : Option (List ν) → Option (List ν) → Prop}
    (srcMissing : ∀ d, motive none d) (srcEmpty : ∀ d, motive (some []) d)
    (dstMissing : ∀ s0 ss, motive (some (s0 :: ss)) none) (dstEmpty : ∀ s0 ss, motive (some (s0 :: ss)) (some []))
    (both : ∀ s0 ss d0 ds, motive (some (s0 :: ss)) (some (d0 :: ds))) : ∀ s d, motive s d
  | none, d => srcMissing d
  | some [], d => srcEmpty d
  | some (s0 :: ss), none => dstMissing s0 ss
  | some (s0 :: ss), some [] => dstEmpty s0 ss
  | some (s0 :: ss), some (d0 :: ds) => both s0 ss d0 ds

theorem collect_mapStep {κ ν : Type} [DecidableEq κ] (clash : ν → ν → Option TagCall) (src dst : List (κ × List ν)) (ks : List κ) :
    collect (mapStep clash src dst) ks = mapTypeTags clash src dst ks := by
  induction ks with
  | nil => rfl
  | cons k ks ih =>
    simp only [collect, mapTypeTags, mapStep, ih]
    cases lookupKey k src, lookupKey k dst using lookups_cases <;> rfl

/-- The body of the loop over the common keys: two lookups, two `[0]`, the clash test.  It cannot be applied to the regenerated text:
    the `match`es of this statement are constants of this theorem, the regenerated definitions have their own.
    `pybrace_check_args_eq` and `python_check_args_eq` therefore make these cases in place (steps `hb1`, `hb3`). -/
theorem mapBody_eq {κ ν : Type} [DecidableEq κ] (clash : ν → ν → Option TagCall) (src dst : List (κ × List ν)) (k : κ)
    (out : List TagCall) (K : ν → ν → Except Py.Exc (List TagCall))
    (hK : ∀ s0 d0, K s0 d0 = .ok (out ++ (clash s0 d0).toList)) :
    (match PyKit.dictGet src k with
      | .error e => .error e
      | .ok us =>
        match PyKit.listGet us 0 with
        | .error e => .error e
        | .ok s0 =>
          match PyKit.dictGet dst k with
          | .error e => .error e
          | .ok vs =>
            match PyKit.listGet vs 0 with
            | .error e => .error e
            | .ok d0 => K s0 d0) = appendTags out (mapStep clash src dst k) := by
  simp only [dictGet_eq, mapStep, PyKit.listGet]
  cases lookupKey k src, lookupKey k dst using lookups_cases with
  | srcMissing | srcEmpty | dstMissing | dstEmpty => rfl
  | both s0 _ d0 _ => simp only [List.getElem?_cons_zero, hK, appendTags_ok]


/-- `missing_keys = …; if len(missing_keys) == 1 and omitted_int_conv_ok: [missing_key] = missing_keys; if all(…): missing_keys = set()`.
    Like `mapBody_eq` it cannot be applied to the regenerated text (its `match` on `[k]` is another constant, and `exact` does not unify the two on an open list); the two comparators repeat
    its proof at `have : blk = missingKeys …`. -/
theorem missing_eq {κ ν : Type} [DecidableEq κ] (isInt : ν → Bool) (src : List (κ × List ν)) (missing : List κ) (ok : Bool) :
    (if missing.length = 1 ∧ ok = true then
        match missing with
        | [k] =>
          match PyKit.dictGet src k with
          | .error e => .error e
          | .ok uses => if uses.all isInt = true then .ok [] else .ok missing
        | _ => .error .ValueError
      else .ok missing) = missingKeys isInt src missing ok := by
  simp only [dictGet_eq, missingKeys]
  rcases missing with _ | ⟨k, _ | ⟨k2, t⟩⟩
  · simp
  · cases ok
    · simp
    · simp only [List.length_singleton, and_self, if_true]
      cases lookupKey k src <;> simp
  · simp

theorem pybrace_check_args_eq (out : List TagCall) (pfx : Extra) (srcLoc : List Char) (src : PyBraceSig) (dstLoc : List Char)
    (dst : PyBraceSig) (ok : Bool) :
    FmtArgs.PyBrace.check_args out pfx () srcLoc src dstLoc dst ok =
      appendTags out (checkArgsPyBrace pfx srcLoc src dstLoc dst ok) := by
  simp only [FmtArgs.PyBrace.check_args, checkArgsPyBrace, PyKit.setDiff, PyKit.setInter, PyKit.keys]
  rw [forEach_appendTags (mapStep (braceClash pfx srcLoc dstLoc) src.args dst.args) _ ?hb1, collect_mapStep]
  case hb1 =>
    -- the cases of `mapBody_eq`, which does not apply (see there)
    intro k out
    simp only [dictGet_eq, mapStep, PyKit.listGet]
    cases lookupKey k src.args, lookupKey k dst.args using lookups_cases with
    | srcMissing | srcEmpty | dstMissing | dstEmpty => rfl
    | both s0 _ d0 _ =>
      simp only [List.getElem?_cons_zero, appendTags_ok, braceClash]
      cases (s0.inter d0).nonempty <;> simp [tagTypeMismatch, locExtra]
  cases mapTypeTags (braceClash pfx srcLoc dstLoc) src.args dst.args _ with
  | error e => rfl
  | ok t1 =>
    simp only [appendTags_ok]
    rw [forEach_one (fun k => tagUnknown "python-brace-format-string-unknown-argument" pfx k.extra srcLoc dstLoc) _ (fun _ _ => by rfl)]
    simp only [Kit.natCast_eq_ofNat, decide_eq_true_eq, Bool.and_eq_true]
    generalize List.filter (fun k => !(List.map (fun x => x.fst) dst.args).contains k) (List.map (fun x => x.fst) src.args) = missing
    generalize hblk : (if missing.length = 1 ∧ ok = true then _ else _ : Except Py.Exc (List BKey)) = blk
    have : blk = missingKeys (fun a => a.int) src.args missing ok := by  -- the proof of `missing_eq`
      subst hblk
      simp only [dictGet_eq, missingKeys]
      rcases missing with _ | ⟨k, _ | ⟨k2, t⟩⟩
      · simp
      · cases ok
        · simp
        · simp only [List.length_singleton, and_self, if_true]
          cases lookupKey k src.args <;> simp
      · simp
    subst this
    cases missingKeys (fun a : TySet => a.int) src.args missing ok with
    | error e => rfl
    | ok m =>
      simp only []
      rw [forEach_one (fun k => tagMissing "python-brace-format-string-missing-argument" pfx k.extra srcLoc dstLoc) _ (fun _ _ => by rfl)]
      simp [List.append_assoc]

theorem pySeq_eq (pfx : Extra) (srcLoc dstLoc : List Char) (ss ds : List PEntry) :
    ((List.zip ss ds).map (fun p => if p.1.type != p.2.type then
        [tagTypeMismatch "python-format-string-argument-type-mismatch" pfx p.2.type.toList dstLoc p.1.type.toList srcLoc] else [])).flatten =
      pySeqTypeTags pfx srcLoc dstLoc ss ds := by
  induction ss generalizing ds with
  | nil => simp [pySeqTypeTags]
  | cons s ss ih =>
    cases ds with
    | nil => simp [pySeqTypeTags]
    | cons d ds => simp [pySeqTypeTags, ← ih]

theorem python_check_args_eq (out : List TagCall) (pfx : Extra) (srcLoc : List Char) (src : PyFmt.Result) (dstLoc : List Char)
    (dst : PyFmt.Result) (ok : Bool) :
    FmtArgs.Python.check_args out pfx () srcLoc src dstLoc dst ok =
      appendTags out (checkArgsPython pfx srcLoc src dstLoc dst ok) := by
  simp only [FmtArgs.Python.check_args, checkArgsPython, PyKit.setDiff, PyKit.setInter, PyKit.keys, Int.natCast_inj, decide_eq_true_eq,
    bne_iff_ne, ne_eq]
  -- the count tag: the regenerated block (found first) and the model's list
  generalize hblk : (if ¬dst.seq.length = src.seq.length then _ else _ : Except Py.Exc (List TagCall)) = blk
  generalize ht1 : (if ¬dst.seq.length = src.seq.length then _ else _ : List TagCall) = t1
  have : blk = .ok (out ++ t1) := by
    subst hblk ht1
    split <;> simp [tagExcessOrMissing, locExtra]
  subst this
  clear ht1
  simp only []
  rw [forEach_appendTags (fun p : PEntry × PEntry => .ok (if p.1.type != p.2.type then
        [tagTypeMismatch "python-format-string-argument-type-mismatch" pfx p.2.type.toList dstLoc p.1.type.toList srcLoc] else [])) _ ?hb2,
      collect_pure, pySeq_eq]
  case hb2 =>
    intro p out
    by_cases h : p.1.type = p.2.type <;> simp [h, tagTypeMismatch, locExtra]
  simp only [appendTags_ok]
  rw [forEach_appendTags (mapStep (pyClash pfx srcLoc dstLoc) src.map dst.map) _ ?hb3, collect_mapStep]
  case hb3 =>  -- the cases of `mapBody_eq`, as at `hb1` of `pybrace_check_args_eq`
    intro k out
    simp only [dictGet_eq, mapStep, PyKit.listGet]
    cases lookupKey k src.map, lookupKey k dst.map using lookups_cases with
    | srcMissing | srcEmpty | dstMissing | dstEmpty => rfl
    | both s0 _ d0 _ =>
      simp only [List.getElem?_cons_zero, appendTags_ok, pyClash]
      by_cases h : s0.type = d0.type <;> simp [h, tagTypeMismatch, locExtra]
  cases mapTypeTags (pyClash pfx srcLoc dstLoc) src.map dst.map _ with
  | error e => rfl
  | ok t3 =>
    simp only [appendTags_ok]
    rw [forEach_one (fun k => tagUnknown "python-format-string-unknown-argument" pfx (.str k) srcLoc dstLoc) _ (fun _ _ => by rfl)]
    simp only []
    simp only [Kit.natCast_eq_ofNat, decide_eq_true_eq, Bool.and_eq_true]
    generalize List.filter (fun k => !(List.map (fun x => x.fst) dst.map).contains k) (List.map (fun x => x.fst) src.map) = missing
    generalize hblk : (if missing.length = 1 ∧ ok = true then _ else _ : Except Py.Exc (List (List Char))) = blk
    have : blk = missingKeys (fun a => a.type == "int") src.map missing ok := by  -- the proof of `missing_eq`
      subst hblk
      simp only [dictGet_eq, missingKeys]
      rcases missing with _ | ⟨k, _ | ⟨k2, t⟩⟩
      · simp
      · cases ok
        · simp
        · simp only [List.length_singleton, and_self, if_true]
          cases lookupKey k src.map <;> simp
      · simp
    subst this
    cases missingKeys (fun a : PyFmt.Entry => a.type == "int") src.map missing ok with
    | error e => rfl
    | ok m =>
      simp only []
      rw [forEach_one (fun k => tagMissing "python-format-string-missing-argument" pfx (.str k) srcLoc dstLoc) _ (fun _ _ => by rfl)]
      simp [List.append_assoc]

/-! ### `get_last_integer_conversion` -/

/-- the outcome of scanning the uses `L` from the state `(vconv, conv)`, in the shape the regenerated loops deliver it:
    `.inl none` = `return` (of `None`) inside the loop, `.inr (conv, vconv)` = fell through -/
def scanRes (L : List CEntry) (v c : Option Nat) : Except Py.Exc (Option Nat ⊕ (Option Nat × Option Nat)) :=
  match lastIntScan L v c with
  | none => .ok (.inl none)
  | some (v', c') => .ok (.inr (c', v'))

theorem lastIntScan_cons (e : CEntry) (es : List CEntry) (v c : Option Nat) :
    lastIntScan (e :: es) v c =
      match lastIntScan [e] v c with
      | none => none
      | some (v', c') => lastIntScan es v' c' := by
  simp only [lastIntScan]
  by_cases h1 : (e.kind != .conv) = true
  · simp only [h1, if_true]
    by_cases h2 : (v.getD e.parent != e.parent) = true
    · simp [h2]
    · simp [h2]
  · simp only [h1, if_false]
    generalize (if (c.isNone && v.getD e.parent == e.parent) = true then some e.parent else c) = c2
    by_cases h3 : (c2 != some e.parent) = true
    · simp [h3]
    · simp [h3]

theorem lastIntScan_append (a b : List CEntry) (v c : Option Nat) :
    lastIntScan (a ++ b) v c =
      match lastIntScan a v c with
      | none => none
      | some (v', c') => lastIntScan b v' c' := by
  induction a generalizing v c with
  | nil => rfl
  | cons e es ih =>
    rw [List.cons_append, lastIntScan_cons, lastIntScan_cons e es]
    cases lastIntScan [e] v c with
    | none => rfl
    | some p => obtain ⟨v', c'⟩ := p; exact ih v' c'

/-- a loop whose body scans the uses `uses x` of its element: over the uses of one argument (`uses e = [e]`), over the arguments -/
theorem forEachRet_scan {α : Type} (uses : α → List CEntry)
    (body : α → Option Nat × Option Nat → Except Py.Exc (Option Nat ⊕ (Option Nat × Option Nat)))
    (hb : ∀ x c v, body x (c, v) = scanRes (uses x) v c) (xs : List α) :
    ∀ c v, PyKit.forEachRet xs body (c, v) = scanRes (xs.flatMap uses) v c := by
  induction xs with
  | nil => intro c v; rfl
  | cons x xs ih =>
    intro c v
    simp only [PyKit.forEachRet, hb, scanRes, List.flatMap_cons]
    rw [lastIntScan_append]
    cases lastIntScan (uses x) v c with
    | none => rfl
    | some p => obtain ⟨v', c'⟩ := p; exact ih c' v'


/-- `FormatString.get_last_integer_conversion(n=n)` as regenerated = `getLastIntConv` -/
theorem glic_eq (f : CFmtX) (n : Nat) : FmtArgs.get_last_integer_conversion f ↑n = getLastIntConv f n := by
  simp only [FmtArgs.get_last_integer_conversion, getLastIntConv, decide_eq_true_eq]
  by_cases h1 : n > f.arguments.length
  · have : (n : Int) > (f.arguments.length : Int) := by omega
    simp [h1, this]
  · have h1' : ¬ ((n : Int) > (f.arguments.length : Int)) := by omega
    simp only [h1, h1', if_false]
    by_cases h2 : n = 0
    · subst h2; simp
    · have h2' : ¬ ((n : Int) ≤ 0) := by omega
      simp only [h2, h2', if_false]
      have hsub : ((f.arguments.length : Int) - (n : Int)) = ((f.arguments.length - n : Nat) : Int) := by omega
      rw [hsub, PyKit.forEachRet_range f.arguments _ (fun us s => scanRes us s.2 s.1) ?h n (f.arguments.length - n) (by omega),
        forEachRet_scan id _ (fun _ _ _ => rfl), List.flatMap_id]
      case h =>
        intro k hk s
        obtain ⟨c, v⟩ := s
        have hk0 : ((k : Int) ≥ 0) := by omega
        simp only [hk0, if_true, PyKit.listGetInt, PyKit.listGet, Int.toNat_natCast, List.getElem?_eq_getElem hk]
        rw [forEachRet_scan (fun e => [e]) _ ?hb, List.flatMap_singleton']
        case hb =>
          intro e c v
          simp only [scanRes, lastIntScan]
          obtain ⟨kind, ty, parent⟩ := e
          -- the rule is in the comments of `lastIntScan`: a `*` width or precision fixes `vconv` or must belong to it; the conversion
          -- itself must in addition be `conv`, which it becomes if `conv` is unset and it is `vconv`
          cases kind with
          | width | prec =>
            cases v with
            | none => simp
            | some vv => by_cases h : vv = parent <;> simp [h]
          | conv =>
            cases v with
            | none =>
              cases c with
              | none => simp
              | some cc => by_cases h : cc = parent <;> simp [h]
            | some vv =>
              by_cases hv : vv = parent <;> cases c with
              | none => simp [hv]
              | some cc => by_cases h : cc = parent <;> simp [hv, h]
        simp only [scanRes]
        cases lastIntScan f.arguments[k] v c with
        | none => rfl
        | some p => rfl
      simp only [scanRes]
      cases lastIntScan (List.drop (f.arguments.length - n) f.arguments).flatten none none with
      | none => rfl
      | some p =>
        obtain ⟨v, c⟩ := p
        cases c with
        | none => rfl
        | some c => cases hI : f.integer.getD c false <;> simp [← List.getD_eq_getElem?_getD, hI]

/-! ### the C comparator -/

/-- one iteration of `for src_arg, dst_arg in zip(src_args, dst_args)` of the C checker, as the model has it -/
def cStep (pfx : Extra) (srcLoc dstLoc : List Char) (p : List CEntry × List CEntry) : Except Py.Exc (List TagCall) :=
  match p.1, p.2 with
  | s0 :: _, d0 :: _ =>
    .ok (if s0.type != d0.type then
      [tagTypeMismatch "c-format-string-argument-type-mismatch" pfx d0.type.toList dstLoc s0.type.toList srcLoc] else [])
  | _, _ => .error .IndexError

theorem collect_cStep (pfx : Extra) (srcLoc dstLoc : List Char) (ss ds : List (List CEntry)) :
    collect (cStep pfx srcLoc dstLoc) (List.zip ss ds) = cTypeTags pfx srcLoc dstLoc ss ds := by
  induction ss generalizing ds with
  | nil => cases ds <;> rfl
  | cons s ss ih =>
    cases ds with
    | nil => cases s <;> rfl
    | cons d ds =>
      cases s with
      | nil => rfl
      | cons s0 _ =>
        cases d with
        | nil => rfl
        | cons d0 _ =>
          simp only [List.zip_cons_cons, collect, cStep, cTypeTags, ih]
          cases cTypeTags pfx srcLoc dstLoc ss ds <;> rfl

/-- `lib/check/msgformat/c.py` `check_args` as regenerated = `checkArgsC` -/
theorem c_check_args_eq (out : List TagCall) (pfx : Extra) (srcLoc : List Char) (src : CFmtX) (dstLoc : List Char)
    (dst : CFmtX) (ok : Bool) :
    FmtArgs.C.check_args out pfx () srcLoc src dstLoc dst ok = appendTags out (checkArgsC pfx srcLoc src dstLoc dst ok) := by
  simp only [FmtArgs.C.check_args, checkArgsC, gt_iff_lt, Int.ofNat_lt, decide_eq_true_eq]
  -- both sides begin with a block `if #dst > #src then … else …`: the regenerated one (found first) and the model's
  generalize hblk : (if dst.arguments.length > src.arguments.length then _ else _ : Except Py.Exc (List TagCall)) = blk
  generalize hcount : (if dst.arguments.length > src.arguments.length then _ else _ : Except Py.Exc (List TagCall)) = count
  have : blk = appendTags out count := by
    subst hblk hcount
    by_cases hgt : dst.arguments.length > src.arguments.length
    · simp [hgt, tagExcessOrMissing, locExtra]
    · by_cases hlt : dst.arguments.length < src.arguments.length
      · have hsub : ((src.arguments.length : Int) - (dst.arguments.length : Int)) =
            ((src.arguments.length - dst.arguments.length : Nat) : Int) := by omega
        simp only [hgt, hlt, if_false, if_true, hsub, glic_eq]
        cases ok
        · simp [tagExcessOrMissing, locExtra]
        · cases getLastIntConv src (src.arguments.length - dst.arguments.length) with
          | error e => rfl
          | ok r => cases r <;> simp [tagExcessOrMissing, locExtra]
      · simp [hgt, hlt]
  subst this
  clear hcount
  cases count with
  | error e => rfl
  | ok t1 =>
    simp only [appendTags_ok]
    -- the loop over `zip(src_args, dst_args)` = `cTypeTags`
    rw [forEach_appendTags (cStep pfx srcLoc dstLoc) _ ?hb, collect_cStep]
    case hb =>
      intro p o
      obtain ⟨s, d⟩ := p
      simp only [PyKit.listGet, cStep]
      cases s with
      | nil => rfl
      | cons s0 _ =>
        cases d with
        | nil => rfl
        | cons d0 _ =>
          by_cases h : s0.type = d0.type <;> simp [h, tagTypeMismatch, locExtra]
    cases cTypeTags pfx srcLoc dstLoc src.arguments dst.arguments <;> simp [List.append_assoc]

end I18n.FmtCheck.Gen
