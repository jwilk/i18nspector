import I18n.Model.Locale
import I18n.Spec.Locale
import I18n.Lemmas.Kit.Basic
import I18n.Lemmas.Kit.List
/-
The scanner `parseLanguage` against the locale grammar on records (`Spec.Locale.Parts`): `parse_sound`, `parse_complete`, up to the
upper-casing of the encoding by `Language.__init__` (`ofParts`); from these, the `Language` objects that parse back from their
printed form, which are all that `parse_language` produces (`parse_str_iff`, `parse_range`).
-/
namespace I18n.Locale
open I18n.Spec.LocaleRe I18n.Spec.Locale

/-! The model and the specification each declare `lowerR`, `upperR`, `encR` (and `optPart`), with the same values.  In this
namespace a bare `lowerR` is the model's; the grammar (`Parts.WF`) speaks of `Spec.Locale.lowerR`.  Where a fact about one is
handed over as a fact about the other, it goes through these three. -/

theorem isLower_eq : isLower = inRanges Spec.Locale.lowerR := rfl
theorem isUpper_eq : isUpper = inRanges Spec.Locale.upperR := rfl
theorem isEncChar_eq : isEncChar = inRanges Spec.Locale.encR := rfl

theorem parseLanguageE_ok {s : List Char} {l : Language} : parseLanguageE s = .ok l ↔ parseLanguage s = some l := by
  unfold parseLanguageE
  cases parseLanguage s <;> simp

theorem optGroup_some (sep : Char) (cls : Char → Bool) (min : Nat) (x rest : List Char)
    (hx : ∀ c ∈ x, cls c = true) (hmin : min ≤ x.length) (hr : ∀ c, rest.head? = some c → cls c = false) :
    optGroup sep cls min (sep :: (x ++ rest)) = (some x, rest) := by
  have h := Kit.span_append hx hr
  simp [optGroup, h.1, h.2, hmin]

theorem optGroup_none (sep : Char) (cls : Char → Bool) (min : Nat) (s : List Char)
    (hs : s.head? ≠ some sep) : optGroup sep cls min s = (none, s) := by
  cases s with
  | nil => rfl
  | cons c t =>
    have : c ≠ sep := by intro h; apply hs; simp [h]
    simp [optGroup, this]

theorem optRunOf_iff (rs : List (Nat × Nat)) (min : Nat) (o : Option (List Char)) :
    optRunOf rs min o ↔ ∀ x, o = some x → min ≤ x.length ∧ ∀ c ∈ x, inRanges rs c = true := by
  cases o <;> simp [optRunOf, runOf]

theorem optGroup_render (sep : Char) (cls : Char → Bool) (min : Nat) (o : Option (List Char)) (rest : List Char)
    (ho : ∀ x, o = some x → min ≤ x.length ∧ ∀ c ∈ x, cls c = true)
    (hr : ∀ c, rest.head? = some c → cls c = false ∧ c ≠ sep) :
    optGroup sep cls min (Spec.Locale.optPart sep o ++ rest) = (o, rest) := by
  cases o with
  | none =>
    simp only [Spec.Locale.optPart, List.nil_append]
    apply optGroup_none
    intro h
    exact (hr sep h).2 rfl
  | some x =>
    have := ho x rfl
    simp only [Spec.Locale.optPart, List.cons_append]
    exact optGroup_some sep cls min x rest this.2 this.1 (fun c hc => (hr c hc).1)

def toParts (l : Language) : Parts := ⟨l.ll, l.cc, l.enc, l.mod⟩

/-- what `Language.__init__` stores: the encoding upper-cased -/
def ofParts (p : Parts) : Language := ⟨p.ll, p.cc, p.enc.map (·.map asciiUpper), p.mod⟩

theorem ofParts_enc (p : Parts) : (ofParts p).enc = p.enc.map (·.map asciiUpper) := rfl

theorem toParts_ofParts (p : Parts) : toParts (ofParts p) = { p with enc := p.enc.map (List.map asciiUpper) } := rfl

theorem ofParts_eq_iff {p q : Parts} :
    ofParts p = ofParts q ↔
      p.ll = q.ll ∧ p.cc = q.cc ∧ p.enc.map (·.map asciiUpper) = q.enc.map (·.map asciiUpper) ∧ p.mod = q.mod := by
  simp only [ofParts, Language.mk.injEq]

theorem optPart_inj {sep : Char} {o o' : Option (List Char)} (h : Spec.Locale.optPart sep o = Spec.Locale.optPart sep o') :
    o = o' := by
  cases o <;> cases o'
  · rfl
  · cases h
  · cases h
  · exact congrArg some (List.cons.inj h).2

theorem str_eq_render (l : Language) : l.str = (toParts l).render := by
  cases l with
  | mk ll cc enc mod =>
    cases cc <;> cases enc <;> cases mod <;> rfl

theorem head_optPart (sep : Char) (o : Option (List Char)) (rest : List Char) (c : Char)
    (h : (Spec.Locale.optPart sep o ++ rest).head? = some c) : c = sep ∨ rest.head? = some c := by
  cases o with
  | none => exact .inr h
  | some x => exact .inl (Option.some.inj h).symm

/-- completeness of the scanner: every rendering of well-formed parts is accepted, with exactly those parts -/
theorem parse_complete (p : Parts) (hp : p.WF) : parseLanguage p.render = some (ofParts p) := by
  obtain ⟨ll, cc, enc, mod⟩ := p
  obtain ⟨hll, hcc, henc, hmod⟩ := hp
  simp only [Parts.render]
  -- after each group comes `_`, `.`, `@` or the end, and none of these continues the group
  have sep4 (c) (h : (Spec.Locale.optPart '@' mod).head? = some c) : c = '@' := by
    rw [← List.append_nil (Spec.Locale.optPart '@' mod)] at h
    exact (head_optPart _ _ _ _ h).resolve_right nofun
  have sep3 (c) (h : (Spec.Locale.optPart '.' enc ++ Spec.Locale.optPart '@' mod).head? = some c) : c = '.' ∨ c = '@' :=
    (head_optPart _ _ _ _ h).imp_right (sep4 c)
  have sep2 (c) (h : (Spec.Locale.optPart '_' cc ++ (Spec.Locale.optPart '.' enc ++ Spec.Locale.optPart '@' mod)).head? = some c) :
      c = '_' ∨ c = '.' ∨ c = '@' := (head_optPart _ _ _ _ h).imp_right (sep3 c)
  have h1 := Kit.span_append (p := isLower) (isLower_eq ▸ hll.2) (fun c hc => by rcases sep2 c hc with rfl | rfl | rfl <;> decide)
  have h2 := optGroup_render '_' isUpper 2 cc _ (isUpper_eq ▸ (optRunOf_iff _ _ _).1 hcc)
    (fun c hc => by rcases sep3 c hc with rfl | rfl <;> decide)
  have h3 := optGroup_render '.' isEncChar 1 enc _ (isEncChar_eq ▸ (optRunOf_iff _ _ _).1 henc)
    (fun c hc => by cases sep4 c hc; decide)
  have h4 := optGroup_render '@' isLower 1 mod [] (isLower_eq ▸ (optRunOf_iff _ _ _).1 hmod) (by intro c hc; simp at hc)
  simp only [List.append_nil] at h4
  have hlen : ¬ ll.length < 2 := by have : 2 ≤ ll.length := hll.1; omega
  simp [parseLanguage, h1.1, h1.2, h2, h3, h4, hlen, ofParts]

theorem optGroup_parts (sep : Char) (cls : Char → Bool) (min : Nat) (s : List Char) :
    s = Spec.Locale.optPart sep (optGroup sep cls min s).1 ++ (optGroup sep cls min s).2
    ∧ ∀ x, (optGroup sep cls min s).1 = some x → min ≤ x.length ∧ ∀ c ∈ x, cls c = true := by
  cases s with
  | nil => exact ⟨rfl, nofun⟩
  | cons c t =>
    by_cases h : c = sep ∧ min ≤ (t.takeWhile cls).length
    · simp only [optGroup, h, and_self, if_true, Spec.Locale.optPart, List.cons_append, List.takeWhile_append_dropWhile,
        Option.some.injEq, true_and]
      rintro x rfl
      exact ⟨h.2, Kit.takeWhile_all cls t⟩
    · simp only [optGroup, h, if_false, Spec.Locale.optPart, List.nil_append, true_and]
      nofun

/-- soundness of the scanner: an accepted string is the rendering of well-formed parts, and the result holds those parts
    (encoding upper-cased) -/
theorem parse_sound (s : List Char) (l : Language) (h : parseLanguage s = some l) :
    ∃ p : Parts, p.WF ∧ s = p.render ∧ l = ofParts p := by
  revert h
  fun_cases parseLanguage s <;> intro h
  case case2 ll r1 hlen g2 g3 g4 hend => -- the accepting arm: `ll` long enough, nothing left after the `@` group
    cases h
    have e2 := optGroup_parts '_' isUpper 2 r1
    have e3 := optGroup_parts '.' isEncChar 1 g2.2
    have e4 := optGroup_parts '@' isLower 1 g3.2
    rw [show (optGroup '@' isLower 1 g3.2).2 = [] from hend, List.append_nil] at e4
    refine ⟨⟨ll, g2.1, g3.1, g4.1⟩, ⟨⟨Nat.le_of_not_lt hlen, isLower_eq ▸ Kit.takeWhile_all isLower s⟩, ?_, ?_, ?_⟩, ?_, rfl⟩
    · exact (optRunOf_iff _ _ _).2 (isUpper_eq ▸ e2.2)
    · exact (optRunOf_iff _ _ _).2 (isEncChar_eq ▸ e3.2)
    · exact (optRunOf_iff _ _ _).2 (isLower_eq ▸ e4.2)
    · simp only [Parts.render]
      rw [← e4.1, ← e3.1, ← e2.1]
      exact List.takeWhile_append_dropWhile.symm
  all_goals cases h

theorem isSome_parse_iff (s : List Char) : (parseLanguage s).isSome ↔ IsLocaleName s := by
  constructor
  · intro h
    obtain ⟨l, hl⟩ := Option.isSome_iff_exists.1 h
    obtain ⟨p, hp, hs, _⟩ := parse_sound s l hl
    exact ⟨p, hp, hs⟩
  · rintro ⟨p, hp, rfl⟩
    rw [parse_complete p hp]; rfl

theorem asciiUpper_toNat (c : Char) :
    (asciiUpper c).toNat = if 97 ≤ c.toNat ∧ c.toNat ≤ 122 then c.toNat - 32 else c.toNat := by
  unfold asciiUpper
  by_cases h : 97 ≤ c.toNat ∧ c.toNat ≤ 122
  · rw [if_pos h, if_pos h]
    exact Kit.Char.toNat_ofNat (by omega)
  · rw [if_neg h, if_neg h]

theorem asciiUpper_idem (c : Char) : asciiUpper (asciiUpper c) = asciiUpper c := by
  have h := asciiUpper_toNat c
  have h2 : ¬ (97 ≤ (asciiUpper c).toNat ∧ (asciiUpper c).toNat ≤ 122) := by
    rw [h]; split <;> omega
  generalize asciiUpper c = d at h2
  unfold asciiUpper
  simp [h2]

theorem asciiUpper_enc (c : Char) (h : inRanges Spec.Locale.encR c = true) : inRanges Spec.Locale.encR (asciiUpper c) = true := by
  simp only [inRanges, Spec.Locale.encR, List.any_cons, List.any_nil, Bool.or_false, Bool.or_eq_true, Bool.and_eq_true,
    decide_eq_true_eq] at h ⊢
  rw [asciiUpper_toNat c]
  split <;> omega

theorem ofParts_wf (p : Parts) (hp : p.WF) : (toParts (ofParts p)).WF := by
  obtain ⟨ll, cc, enc, mod⟩ := p
  obtain ⟨hll, hcc, henc, hmod⟩ := hp
  refine ⟨hll, hcc, ?_, hmod⟩
  cases enc with
  | none => trivial
  | some e =>
    refine ⟨by simpa [ofParts, toParts] using henc.1, ?_⟩
    intro c hc
    simp only [List.mem_map] at hc
    obtain ⟨d, hd, rfl⟩ := hc
    exact asciiUpper_enc d (henc.2 d hd)

theorem ofParts_toParts (l : Language) (hup : ∀ e, l.enc = some e → e.map asciiUpper = e) : ofParts (toParts l) = l := by
  obtain ⟨a, b, c, d⟩ := l
  cases c with
  | none => rfl
  | some e => simp [ofParts, toParts, hup e rfl]

theorem toParts_ofParts_of_upper (p : Parts) (hup : ∀ e, p.enc = some e → e.map asciiUpper = e) : toParts (ofParts p) = p := by
  obtain ⟨a, b, c, d⟩ := p
  cases c with
  | none => rfl
  | some e => simp [ofParts, toParts, hup e rfl]

theorem ofParts_enc_upper (p : Parts) : ∀ e, (ofParts p).enc = some e → e.map asciiUpper = e := by
  obtain ⟨a, b, c, d⟩ := p
  cases c with
  | none => nofun
  | some e => rintro _ ⟨rfl⟩; simp [asciiUpper_idem]

theorem parse_wf_upper (s : List Char) (l : Language) (h : parseLanguage s = some l) :
    (toParts l).WF ∧ ∀ e, l.enc = some e → e.map asciiUpper = e := by
  obtain ⟨p, hp, -, rfl⟩ := parse_sound s l h
  exact ⟨ofParts_wf p hp, ofParts_enc_upper p⟩

theorem parse_str_iff (l : Language) :
    parseLanguage l.str = some l ↔ (toParts l).WF ∧ ∀ e, l.enc = some e → e.map asciiUpper = e := by
  refine ⟨parse_wf_upper _ l, fun ⟨hwf, hup⟩ => ?_⟩
  rw [str_eq_render, parse_complete _ hwf, ofParts_toParts l hup]

theorem parse_range (l : Language) :
    (∃ s, parseLanguage s = some l) ↔ (toParts l).WF ∧ ∀ e, l.enc = some e → e.map asciiUpper = e :=
  ⟨fun ⟨s, h⟩ => parse_wf_upper s l h, fun h => ⟨l.str, (parse_str_iff l).2 h⟩⟩

end I18n.Locale
