import I18n.Lemmas.MoEntry
/-! Each defect named in C09's statement excludes `Spec.WellFormedFile` (`defect_not_wf`).  A defect names the words it
reads itself; they are the words of the `Encodes` witness, because the byte order follows from the magic and a word at
an offset is unique (`magicOf_inj`, `WordAt.unique`; for the rows of the tables `Encodes_entry`). -/
namespace I18n.Mo
open I18n.Mo.Spec

theorem magicOf_inj {b : Bytes} {be be' : Bool} (h : Slice b 0 (magicOf be)) (h' : Slice b 0 (magicOf be')) : be = be' := by
  have e := Spec.Slice.unique h h' (by cases be <;> cases be' <;> rfl)
  have hne : leMagic ≠ beMagic := by decide
  cases be <;> cases be'
  · rfl
  · exact absurd e hne
  · exact absurd e.symm hne
  · rfl

theorem Sorted_get : ∀ (l : List Bytes), Sorted l → ∀ i (h : i + 1 < l.length), ¬ (l[i + 1] < l[i]) := by
  intro l
  induction l with
  | nil => intro _ i h; simp at h
  | cons a r ih =>
    intro hs i h
    cases r with
    | nil => simp at h
    | cons c r' =>
      obtain ⟨h1, h2⟩ := hs
      cases i with
      | zero => exact h1
      | succ i => exact ih h2 i (by simpa using h)

theorem Encodes_entry {b : Bytes} {cat : List CatEntry} {hidden : Bool} (h : Encodes b cat hidden)
    {be : Bool} {n ko to : Nat} (hw : HeaderWords b be n ko to) :
    n = cat.length ∧ ∀ i (hi : i < cat.length),
      StringAt be b (ko + 8 * i) cat[i].key ∧ StringAt be b (to + 8 * i) cat[i].value := by
  obtain ⟨be', ko', to', hw', hent⟩ := h.tables
  have hbe := magicOf_inj hw.magic hw'.magic
  subst hbe
  have h1 := Spec.WordAt.unique hw.count hw'.count
  have h2 := Spec.WordAt.unique hw.keys hw'.keys
  have h3 := Spec.WordAt.unique hw.values hw'.values
  subst h2; subst h3
  exact ⟨h1, hent⟩

theorem StringAt_desc {be : Bool} {b : Bytes} {tab i : Nat} {s : Bytes} (h : StringAt be b (tab + 8 * i) s) :
    ∃ off, DescAt be b tab i s.length off ∧ Slice b off (s ++ [0]) := by
  obtain ⟨off, hl, ho, hs⟩ := h
  exact ⟨off, ⟨hl, ho⟩, hs⟩

theorem DescAt_unique {be : Bool} {b : Bytes} {tab i l o l' o' : Nat} (h : DescAt be b tab i l o) (h' : DescAt be b tab i l' o') :
    l = l' ∧ o = o' :=
  ⟨Spec.WordAt.unique h.1 h'.1, Spec.WordAt.unique h.2 h'.2⟩

theorem not_wf_of_BadMagic {b : Bytes} (h : BadMagic b) : ¬ WellFormedFile b := by
  rintro ⟨cat, hidden, henc, _⟩
  obtain ⟨be, _, hm, _⟩ := henc.revision
  cases be
  · exact h.1 hm
  · exact h.2 hm

theorem not_wf_of_BadMajor {b : Bytes} (h : BadMajor b) : ¬ WellFormedFile b := by
  obtain ⟨be, rev, hm, hrev, hgt⟩ := h
  rintro ⟨cat, hidden, henc, _⟩
  obtain ⟨be', rev', hm', hrev', hmaj, _⟩ := henc.revision
  have := magicOf_inj hm hm'; subst this
  have := Spec.WordAt.unique hrev hrev'; subst this
  omega

theorem not_wf_of_HeaderBeyondEnd {b : Bytes} (h : HeaderBeyondEnd b) : ¬ WellFormedFile b := by
  rintro ⟨cat, hidden, henc, _⟩
  rcases h with h | ⟨be, rev, hm, hrev, hmin1, hlen⟩
  · obtain ⟨_, _, _, hw, _⟩ := henc.tables
    have := hw.values.length_le; omega
  · obtain ⟨be', rev', hm', hrev', _, hh⟩ := henc.revision
    have := magicOf_inj hm hm'; subst this
    have := Spec.WordAt.unique hrev hrev'; subst this
    -- minor revision 1: the flag is read from word 36
    rw [hmin1] at hh
    unfold HiddenFlag at hh
    simp at hh
    obtain ⟨ns, hns, _⟩ := hh
    have := hns.length_le; omega

theorem not_wf_of_TableBeyondEnd {b : Bytes} (h : TableBeyondEnd b) : ¬ WellFormedFile b := by
  obtain ⟨be, n, ko, to, i, hw, hi, hlen⟩ := h
  rintro ⟨cat, hidden, henc, _⟩
  obtain ⟨hn, hent⟩ := Encodes_entry henc hw
  subst hn
  -- the second word of row `i` of either table ends 8 bytes after the row begins
  obtain ⟨_, hk, _⟩ := StringAt_desc (hent i hi).1
  obtain ⟨_, hv, _⟩ := StringAt_desc (hent i hi).2
  have h1 := hk.2.length_le
  have h2 := hv.2.length_le
  omega

theorem desc_in_bounds {b : Bytes} {cat : List CatEntry} {hidden : Bool} (henc : Encodes b cat hidden)
    {be : Bool} {n ko to i len off : Nat} (hw : HeaderWords b be n ko to) (hi : i < n)
    (hd : DescAt be b ko i len off ∨ DescAt be b to i len off) :
    off + len < b.length ∧ b[off + len]? = some 0 := by
  obtain ⟨hn, hent⟩ := Encodes_entry henc hw
  subst hn
  have key : ∀ tab s, StringAt be b (tab + 8 * i) s → DescAt be b tab i len off →
      off + len < b.length ∧ b[off + len]? = some 0 := by
    intro tab s hs hd
    obtain ⟨off', hd', hsl⟩ := StringAt_desc hs
    obtain ⟨rfl, rfl⟩ := DescAt_unique hd hd'
    have := hsl.length_le
    simp at this
    exact ⟨by omega, by rw [Spec.Slice.getElem? hsl s.length (by simp)]; simp⟩
  rcases hd with hd | hd
  · exact key _ _ (hent i hi).1 hd
  · exact key _ _ (hent i hi).2 hd

theorem not_wf_of_StringBeyondEnd {b : Bytes} (h : StringBeyondEnd b) : ¬ WellFormedFile b := by
  obtain ⟨be, n, ko, to, i, len, off, hw, hi, hd, hlen⟩ := h
  rintro ⟨cat, hidden, henc, _⟩
  have := (desc_in_bounds henc hw hi hd).1
  omega

theorem not_wf_of_MissingTerminator {b : Bytes} (h : MissingTerminator b) : ¬ WellFormedFile b := by
  obtain ⟨be, n, ko, to, i, len, off, c, hw, hi, hd, hc, hne⟩ := h
  rintro ⟨cat, hidden, henc, _⟩
  have := (desc_in_bounds henc hw hi hd).2
  rw [hc] at this
  cases this
  exact hne rfl

theorem not_wf_of_BadNulStructure {b : Bytes} (h : BadNulStructure b) : ¬ WellFormedFile b := by
  obtain ⟨be, n, ko, to, i, K, V, hw, hi, hK, hV, hbad⟩ := h
  rintro ⟨cat, hidden, henc, hwf⟩
  obtain ⟨hn, hent⟩ := Encodes_entry henc hw
  subst hn
  obtain ⟨hk, hv⟩ := hent i hi
  have eK := Spec.StringAt.unique hK hk
  have eV := Spec.StringAt.unique hV hv
  subst eK; subst eV
  obtain ⟨h1, h2⟩ := key_nul_structure (hwf cat[i] (List.getElem_mem hi))
  rcases hbad with hbad | ⟨hb1, hb2⟩
  · exact h1 hbad
  · exact h2 hb1 hb2

theorem not_wf_of_KeysOutOfOrder {b : Bytes} (h : KeysOutOfOrder b) : ¬ WellFormedFile b := by
  obtain ⟨be, n, ko, to, i, K, K', hw, hi, hK, hK', hlt⟩ := h
  rintro ⟨cat, hidden, henc, hwf⟩
  obtain ⟨hn, hent⟩ := Encodes_entry henc hw
  subst hn
  have eK := Spec.StringAt.unique hK (hent i (by omega)).1
  have eK' := Spec.StringAt.unique hK' (hent (i + 1) hi).1
  subst eK; subst eK'
  rw [takeWhile_key (hwf _ (List.getElem_mem _)), takeWhile_key (hwf _ (List.getElem_mem _))] at hlt
  have := Sorted_get _ henc.sorted i (by simpa using hi)
  simp at this
  exact this hlt

theorem defect_not_wf {b : Bytes}
    (h : BadMagic b ∨ BadMajor b ∨ HeaderBeyondEnd b ∨ TableBeyondEnd b ∨ StringBeyondEnd b ∨ MissingTerminator b ∨
      BadNulStructure b ∨ KeysOutOfOrder b) : ¬ WellFormedFile b := by
  rcases h with h | h | h | h | h | h | h | h
  · exact not_wf_of_BadMagic h
  · exact not_wf_of_BadMajor h
  · exact not_wf_of_HeaderBeyondEnd h
  · exact not_wf_of_TableBeyondEnd h
  · exact not_wf_of_StringBeyondEnd h
  · exact not_wf_of_MissingTerminator h
  · exact not_wf_of_BadNulStructure h
  · exact not_wf_of_KeysOutOfOrder h

end I18n.Mo
