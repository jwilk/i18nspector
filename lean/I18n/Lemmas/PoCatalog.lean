import I18n.Lemmas.PoRun
/-! The message lines of one entry: `msgctxt`? `msgid` (`msgstr` | `msgid_plural` `msgstr[0]` …) complete the entry under
construction (`run_msg`).  The comment lines, the entries one after the other and the catalog are in `PoComments`. -/
namespace I18n.Lemmas.PoCatalog
open I18n I18n.Po I18n.Spec.PoSpelling I18n.Lemmas.PoKit I18n.Lemmas.PoLines I18n.Lemmas.PoFsm
open I18n.Generated.PolibFsm (St Sym Handler)

/-- the order of the message lines: `msgid` after `msgctxt`; `msgstr` or `msgid_plural` after `msgid`; `msgstr[N]` after
    `msgid_plural` and after `msgstr[N]` -/
theorem transition_msg : transition .mi .ct = some .mi ∧ transition .ms .mi = some .ms ∧ transition .mp .mi = some .mp ∧
    transition .mx .mp = some .mx ∧ transition .mx .mx = some .mx := by
  decide +kernel

variable (E : Codec) in
theorem msgPrefix_of_valid (m : MsgSp) (hm : m.Valid E) : MsgPrefix m.pre := hm.pre

/-- what the message lines need from the state the comment lines leave: `msgctxt` and `msgid` are both accepted -/
def MsgReady (st : St) : Prop := transition .ct st = some .ct ∧ transition .mi st = some .mi

theorem MsgReady.of_done {a : PState} (h : Done a) : MsgReady a.state := by
  rcases h with h | h <;> rw [h] <;> exact ⟨by decide +kernel, by decide +kernel⟩

theorem MsgReady.of_fresh {a : PState} (h : Fresh a) : MsgReady a.state := by
  rcases h.state with h | h <;> rw [h] <;> exact ⟨by decide +kernel, by decide +kernel⟩

open I18n.Lemmas.PoRun

variable {env : Env} {enc : Bytes} {E : Codec}

/-- the lines `msgstr[j]`, `msgstr[j+1]`, …: the keys so far are below `j` (`hD`), so every index is new to the dictionary,
    `dictSet` appends (`dictSet_fresh`), and the dictionary grows as `formsDict` -/
theorem run_forms (hsp : env.isSpace = pyIsSpace) (hE : CodecOk env enc E) (hdec : env.decimal = pyDecimal) (pre : Prefix) (hpre : MsgPrefix pre)
    (x : StrSp) (xs : List StrSp) (hv : ∀ y ∈ x :: xs, y.Valid E) (j : Nat) (hj : j + xs.length < 10) (a : PState)
    (htr : transition .mx a.state = some .mx) (hD : ∀ kv ∈ a.cur.msgstrPlural, kv.1 < j) :
    Run env enc (formsLines pre j (x :: xs)) a
      { a with cur := { a.cur with msgstrPlural := a.cur.msgstrPlural ++ formsDict j (x :: xs) }, state := .mx, msgstrIndex := j + xs.length } := by
  obtain ⟨-, -, -, -, t_mx_mx⟩ := transition_msg
  induction xs generalizing j a x with
  | nil =>
    simpa [formsLines, formsDict, Fld.set, dictSet_fresh j x.text _ hD] using
      run_mx hsp hE hdec pre hpre ⟨j, by omega⟩ x (hv x (by simp)) a htr
  | cons y ys ih =>
    have hfresh := dictSet_fresh j x.text _ hD
    have := Run.append (run_mx hsp hE hdec pre hpre ⟨j, by omega⟩ x (hv x (by simp)) a htr)
      (ih y (fun z hz => hv z (by simp [hz])) (j + 1) (by simp at hj; omega)
        (Fld.mx.set { a with state := .mx, msgstrIndex := j } x.text) t_mx_mx (by
        intro kv hkv
        simp only [Fld.set, hfresh, List.mem_append, List.mem_singleton] at hkv
        rcases hkv with h | rfl
        · exact Nat.lt_succ_of_lt (hD kv h)
        · exact Nat.lt_succ_self j))
    simpa [formsLines, formsDict, Fld.set, hfresh, Nat.add_assoc, Nat.add_comm 1] using this

/-- no message line has written to the entry yet (comment lines keep it so: `PoComments.apply_keeps`) -/
structure NoMsgField (c : Entry) : Prop where
  msgctxt : c.msgctxt = none
  msgidPlural : c.msgidPlural = none
  msgstr : c.msgstr = none
  msgstrPlural : c.msgstrPlural = []

theorem NoMsgField.empty : NoMsgField {} := ⟨rfl, rfl, rfl, rfl⟩

theorem run_msg (hsp : env.isSpace = pyIsSpace) (hE : CodecOk env enc E) (hdec : env.decimal = pyDecimal) (m : MsgSp) (hm : m.Valid E)
    (a : PState) (htr : MsgReady a.state) (hc : NoMsgField (flush a).cur) :
    ∃ b, Run env enc m.lines a b ∧ b.entries = (flush a).entries ∧ b.header = a.header ∧ b.cur = m.entry (flush a).cur ∧ Done b := by
  have hpre : MsgPrefix m.pre := hm.pre
  obtain ⟨mpre, mctxt, mid, mbody⟩ := m
  obtain ⟨-, hvc, hvi, hvb⟩ := hm
  obtain ⟨c_ctxt, c_pl, c_str, c_forms⟩ := hc
  obtain ⟨t_mi, t_ms, t_mp, t_mx, -⟩ := transition_msg
  -- `sA`, after `msgctxt` if there is one: it closes the previous entry; `msgid` does otherwise
  obtain ⟨sA, rA, trA, eA, hdA, cA⟩ : ∃ sA, Run env enc (ctxtLines mpre mctxt) a sA ∧ transition .mi sA.state = some .mi ∧
      (flush sA).entries = (flush a).entries ∧ sA.header = a.header ∧
      (flush sA).cur = { (flush a).cur with msgctxt := mctxt.map StrSp.text } := by
    cases mctxt with
    | none =>
      refine ⟨a, Run.nil a, htr.2, rfl, rfl, ?_⟩
      rw [Option.map_none, ← c_ctxt]  -- leaves structure eta
    | some cx =>
      have rC := run_field hsp hE .ct nofun mpre hpre _ isKw_msgctxt cx (hvc cx rfl) a htr.1
      have stC := set_start_state .ct mpre.isObsolete a cx.text
      have nd := flush_of_not_done _ (not_done_of_state stC (by decide))
      refine ⟨_, rC, by rw [stC]; exact t_mi, ?_, set_start_header .ct _ a _, ?_⟩
      · rw [nd]; exact set_start_entries .ct _ a _
      · rw [nd]; exact set_start_cur .ct _ a _
  -- `sI`, after `msgid`
  have rI := run_field hsp hE .mi nofun mpre hpre _ isKw_msgid mid hvi sA trA
  generalize hsI : Fld.mi.set (Fld.mi.start mpre.isObsolete sA) mid.text = sI at rI
  have stI : sI.state = .mi := hsI ▸ set_start_state .mi _ sA _
  have eI : sI.entries = (flush a).entries := hsI ▸ (set_start_entries .mi _ sA _).trans eA
  have hdI : sI.header = a.header := hsI ▸ (set_start_header .mi _ sA _).trans hdA
  have cI : sI.cur = { (flush a).cur with msgctxt := mctxt.map StrSp.text, obsolete := mpre.isObsolete, msgid := mid.text } := by
    rw [← hsI, set_start_cur]
    show { (flush sA).cur with obsolete := mpre.isObsolete, msgid := mid.text } = _
    rw [cA]
  cases mbody with
  | singular x =>
    have rS := run_field hsp hE .ms nofun mpre hpre _ isKw_msgstr x hvb sI (by rw [stI]; exact t_ms)
    refine ⟨_, Run.append rA (Run.append rI rS), (set_start_entries .ms _ sI _).trans eI, (set_start_header .ms _ sI _).trans hdI, ?_,
      Or.inl (set_start_state .ms _ sI _)⟩
    rw [set_start_cur]
    show { sI.cur with msgstr := some x.text } = _
    rw [cI]
    simp [MsgSp.entry, c_pl, c_forms]
  | plural p forms =>
    obtain ⟨hp, hne, hlen, hfv⟩ := hvb
    obtain ⟨x, xs, rfl⟩ := List.exists_cons_of_ne_nil hne
    -- `sP`, after `msgid_plural`
    have rP := run_field hsp hE .mp nofun mpre hpre _ isKw_msgid_plural p hp sI (by rw [stI]; exact t_mp)
    generalize hsP : Fld.mp.set (Fld.mp.start mpre.isObsolete sI) p.text = sP at rP
    have stP : sP.state = .mp := hsP ▸ set_start_state .mp _ sI _
    have eP : sP.entries = (flush a).entries := hsP ▸ (set_start_entries .mp _ sI _).trans eI
    have hdP : sP.header = a.header := hsP ▸ (set_start_header .mp _ sI _).trans hdI
    have cP : sP.cur = { (flush a).cur with
        msgctxt := mctxt.map StrSp.text, obsolete := mpre.isObsolete, msgid := mid.text, msgidPlural := some p.text } := by
      rw [← hsP, set_start_cur]
      show { sI.cur with msgidPlural := some p.text } = _
      rw [cI]
    have rF := run_forms hsp hE hdec mpre hpre x xs hfv 0 (by simp at hlen; omega) sP (by rw [stP]; exact t_mx)
      (by rw [cP]; show ∀ kv ∈ (flush a).cur.msgstrPlural, _; rw [c_forms]; nofun)
    refine ⟨_, Run.append rA (Run.append rI (Run.append rP rF)), eP, hdP, ?_, Or.inr rfl⟩
    show { sP.cur with msgstrPlural := sP.cur.msgstrPlural ++ formsDict 0 (x :: xs) } = _
    rw [cP]
    simp [MsgSp.entry, c_str, c_forms]

end I18n.Lemmas.PoCatalog
