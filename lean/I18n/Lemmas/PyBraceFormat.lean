import I18n.Lemmas.PyBraceTrace
import I18n.Lemmas.PyBraceTyping
/-
python-brace: for flat fields `str.format` succeeds with arguments of the reported positions, names and types
(except for the two typing gaps `Spec.quirk`): the model's loop and CPython's rendering run in lock step.
-/
namespace I18n.PyBrace
open I18n.BraceChars I18n.Spec.StrFormat

/-! ### the argument map only grows -/

def Filed (m : List (Key × List Arg)) (k : Key) (x : Arg) : Prop := ∃ as, (k, as) ∈ m ∧ x ∈ as

theorem mapAdd_filed (m : List (Key × List Arg)) (k : Key) (x : Arg) : Filed (mapAdd m k x) k x := by
  fun_induction mapAdd m k x with
  | case1 => exact ⟨[x], by simp, by simp⟩
  | case2 as rest => exact ⟨as ++ [x], by simp, by simp⟩
  | case3 _ _ _ _ ih =>
    obtain ⟨as', h1, h2⟩ := ih
    exact ⟨as', by simp [h1], h2⟩

theorem mapAdd_mono {k' : Key} {x' : Arg} (m : List (Key × List Arg)) (k : Key) (x : Arg) (h : Filed m k' x') :
    Filed (mapAdd m k x) k' x' := by
  obtain ⟨as, h1, h2⟩ := h
  fun_induction mapAdd m k x with
  | case1 => cases h1
  | case2 as0 rest =>
    rcases List.mem_cons.mp h1 with h1 | h1
    · cases h1
      exact ⟨as ++ [x], by simp, by simp [h2]⟩
    · exact ⟨as, by simp [h1], h2⟩
  | case3 _ _ _ _ ih =>
    rcases List.mem_cons.mp h1 with h1 | h1
    · cases h1
      exact ⟨as, by simp, h2⟩
    · obtain ⟨as', h3, h4⟩ := ih h1
      exact ⟨as', by simp [h3], h4⟩

theorem addArgument_ok {cfg : Cfg} {st st' : State} {name : Option (List Char)} {x : Arg} (h : addArgument cfg st name x = .ok st') :
    st'.map = mapAdd st.map (keyOf st name) x ∧
    (name = none → ∃ n, st.next = some n ∧ st'.next = some (n + 1)) ∧
    (∀ nm, name = some nm → isDecimalStr nm = true →
       digitsVal nm ≤ cfg.ssizeMax ∧ st'.next = none ∧ (st.next = none ∨ st.next = some 0)) ∧
    (∀ nm, name = some nm → isDecimalStr nm = false → st'.next = st.next) := by
  revert h
  fun_cases addArgument cfg st name x with
  | case1 | case2 | case4 | case5 | case8 => rintro ⟨⟩
  | case3 n hn =>
    rintro ⟨⟩
    exact ⟨by simp [keyOf, hn], fun _ => ⟨n, hn, rfl⟩, nofun, nofun⟩
  | case6 nm hd n hn hle hnx | case7 nm hd n hn hle hnx =>
    rintro ⟨⟩
    cases pyInt_val hn
    refine ⟨by simp [keyOf, hd], nofun, ?_, ?_⟩
    · rintro _ ⟨⟩ _
      exact ⟨Nat.le_of_not_gt hle, by simp [hnx], by simp [hnx]⟩
    · rintro _ ⟨⟩ hd'
      exact absurd (hd.symm.trans hd') nofun
  | case9 nm hd =>
    rintro ⟨⟩
    refine ⟨by simp [keyOf, hd], nofun, ?_, ?_⟩
    · rintro _ ⟨⟩ hd'
      exact absurd hd' hd
    · rintro _ ⟨⟩ _
      rfl

theorem liftAdd_ok {text : List Char} {b : Bool} {r : Except AddErr State} {st' : State} (h : liftAdd text b r = .ok st') : r = .ok st' := by
  cases r with
  | ok s => simpa [liftAdd] using h
  | error e => cases e <;> simp [liftAdd] at h

theorem fieldInit_ok {cfg : Cfg} {st st' : State} {f : RawField} {tp : TySet} (h : fieldInit cfg st f = .ok (st', tp)) :
    ∃ st1, addArgument cfg st f.name { nested := false, types := ownTypes cfg f } = .ok st1 ∧
      match f.format with
      | none => st' = st1 ∧ tp = TySet.all
      | some fm =>
        if hasNested fm = true then nestedAdds cfg f.text f.nested st1 = .ok st' ∧ tp = TySet.all
        else st' = st1 ∧ specTypes cfg fm = .ok tp := by
  revert h
  fun_cases fieldInit cfg st f with
  | case1 | case2 | case5 | case6 => rintro ⟨⟩
  | case3 st1 hl step2 _ _ hs | case4 st1 hl step2 _ _ hs =>
    rintro ⟨⟩
    refine ⟨st1, liftAdd_ok hl, ?_⟩
    cases hf : f.format with
    | none =>
      simp only [step2, hf] at hs
      cases hs
      exact ⟨rfl, rfl⟩
    | some fm =>
      simp only [step2, hf] at hs ⊢
      by_cases hn : hasNested fm = true
      · rw [if_pos hn] at hs ⊢
        cases hna : nestedAdds cfg f.text f.nested st1 with
        | error e => rw [hna] at hs; cases hs
        | ok st2 =>
          rw [hna] at hs
          cases hs
          exact ⟨rfl, rfl⟩
      · rw [if_neg hn] at hs ⊢
        cases hsp : specTypes cfg fm with
        | error x => rw [hsp] at hs; cases x <;> cases hs
        | ok tp' =>
          rw [hsp] at hs
          cases hs
          exact ⟨rfl, rfl⟩

/-! ### what every `add_argument` preserves, the whole run preserves -/

section
variable {P : List (Key × List Arg) → Prop} (hP : ∀ m k x, P m → P (mapAdd m k x))
include hP

theorem nestedAdds_inv {cfg : Cfg} {text : List Char} : ∀ (ns : List (List Char)) (st st' : State),
    nestedAdds cfg text ns st = .ok st' → P st.map → P st'.map := by
  intro ns st
  fun_induction nestedAdds cfg text ns st with
  | case1 =>
    rintro _ ⟨⟩ hp
    exact hp
  | case2 => rintro _ ⟨⟩
  | case3 _ _ _ _ hl ih =>
    intro st' h hp
    exact ih st' h (by rw [(addArgument_ok (liftAdd_ok hl)).1]; exact hP _ _ _ hp)

theorem fieldInit_inv {cfg : Cfg} {st st' : State} {f : RawField} {tp : TySet} (h : fieldInit cfg st f = .ok (st', tp))
    (hp : P (mapAdd st.map (keyOf st f.name) { nested := false, types := ownTypes cfg f })) : P st'.map := by
  obtain ⟨st1, hadd, hst⟩ := fieldInit_ok h
  rw [← (addArgument_ok hadd).1] at hp
  split at hst
  · exact hst.1 ▸ hp
  · split at hst
    · exact nestedAdds_inv hP _ _ _ hst.1 hp
    · exact hst.1 ▸ hp

theorem run_inv {cfg : Cfg} {st stF : State} {cs : List Char} {fs : List Field} (h : Run cfg st cs fs stF) : P st.map → P stF.map := by
  induction h with
  | nil => exact id
  | lit _ _ ih => exact ih
  | field _ hfi _ ih => exact fun hp => ih (fieldInit_inv hP hfi (hP _ _ _ hp))

end

/-! ### arguments of the reported positions, names and types -/

def Avail (a : Args) (k : Key) (x : Arg) : Prop := ∃ v, lookupArg a k = some v ∧ hasType x.types v = true ∧ chrOK v

/-- the tool's `_next_arg_index` and CPython's `AutoNumber` describe the same numbering state -/
def NumberingRel (st : State) (an : AutoNumber) : Prop :=
  match st.next with
  | some 0 => an = { state := .init, fieldNumber := 0 }
  | some (n + 1) => an = { state := .auto, fieldNumber := n + 1 }
  | none => an.state = .manual

theorem flat_name {nm : List Char} (h : NameText topBr nm) (hf : ∀ c ∈ nm, c ≠ '.' ∧ c ≠ '[') : DigitsText nm ∨ IdentText nm := by
  obtain ⟨hd, tl, rfl, hh, ht⟩ := h
  cases ht with
  | nil => simpa using hh
  | attr _ _ => exact absurd rfl (hf '.' (by simp)).1
  | index _ _ _ => exact absurd rfl (hf '[' (by simp)).2

theorem firstIndex_digits {nm : List Char} (h : DigitsText nm) (hb : digitsVal nm ≤ PY_SSIZE_T_MAX) :
    firstIndex nm = .ok (some (digitsVal nm)) := by
  have hne : nm.isEmpty = false := by
    cases nm with
    | nil => exact absurd rfl h.1
    | cons c r => rfl
  have := accumulate_run nm [] 0 0 h.2 (by intro d r hr; cases hr) hb
  simp only [List.append_nil] at this
  simp [firstIndex, hne, this, digitsVal_eq]

theorem firstIndex_ident {nm : List Char} (h : IdentText nm) : firstIndex nm = .ok none := by
  obtain ⟨c, t, rfl, hc, _⟩ := h
  simp [firstIndex, accumulate, toDecimal_eq, idStart_not_digit hc]

theorem isDecimalStr_digits {nm : List Char} (h : DigitsText nm) : isDecimalStr nm = true := by
  cases nm with
  | nil => exact absurd rfl h.1
  | cons c r => simp only [isDecimalStr, List.isEmpty_cons, Bool.not_false, Bool.true_and, List.all_eq_true]; exact h.2

theorem isDecimalStr_ident {nm : List Char} (h : IdentText nm) : isDecimalStr nm = false := by
  obtain ⟨c, t, rfl, hc, _⟩ := h
  simp [isDecimalStr, idStart_not_digit hc]

theorem splitName_flat {nm : List Char} (h : ∀ c ∈ nm, c ≠ '.' ∧ c ≠ '[') : splitName nm = (nm, []) := by
  have hp : ∀ c ∈ nm, (fun c : Char => c ≠ '.' && c ≠ '[') c = true := by
    intro c hc; simpa using h c hc
  have h1 := Kit.span_append (b := []) hp nofun
  simp only [List.append_nil] at h1
  simp only [splitName, h1.1, h1.2]

theorem flat_chars {nm : List Char} (h : (splitName nm).2.isEmpty = true) : ∀ c ∈ nm, c ≠ '.' ∧ c ≠ '[' := by
  intro c hc
  simp only [splitName, List.isEmpty_iff] at h
  have hs : nm = _ := (List.takeWhile_append_dropWhile (p := fun c : Char => c ≠ '.' && c ≠ '[')).symm
  rw [h, List.append_nil] at hs
  rw [hs] at hc
  have := Kit.takeWhile_all _ nm c hc
  simpa using this

theorem formatBody_no_close {t : List Char} {ns : List (List Char)} (h : FormatBody t ns) (ho : t.contains '{' = false) : '}' ∉ t := by
  induction h with
  | nil => simp
  | @chr c t ns h1 h2 _ ih =>
    simp only [List.contains_cons, Bool.or_eq_false_iff] at ho
    exact List.not_mem_cons_of_ne_of_not_mem (Ne.symm h2) (ih ho.2)
  | simple _ _ _ => simp at ho

theorem fieldInit_flat {cfg : Cfg} {cs rest : List Char} {rf : RawField} {st st' : State} {tp : TySet}
    (hshape : FieldShape cs rf rest) (hfi : fieldInit cfg st rf = .ok (st', tp)) (hne : (cpField rf).needsExpanding = false) :
    addArgument cfg st rf.name { nested := false, types := ownTypes cfg rf } = .ok st' ∧ ownTypes cfg rf = tp ∧
      ((cpField rf).spec = [] ∨
        ∃ sf, '}' ∉ (cpField rf).spec ∧ scanSpec (cpField rf).spec = some sf ∧ specCheck cfg sf = .ok tp) := by
  obtain ⟨st1, hadd, hst⟩ := fieldInit_ok hfi
  cases hf : rf.format with
  | none =>
    rw [hf] at hst
    obtain ⟨rfl, rfl⟩ := hst
    exact ⟨hadd, by simp only [ownTypes, hf], .inl (cpField_spec_none hf)⟩
  | some fm =>
    obtain ⟨t, rfl, hb⟩ := hshape.format fm hf
    have hnn : hasNested (':' :: t) = false := by simpa only [cpField_needsExpanding, hf, Option.getD_some, hasNested] using hne
    simp only [hf, hnn, Bool.false_eq_true, if_false] at hst
    obtain ⟨rfl, hs⟩ := hst
    have hno : t.contains '{' = false := by simpa [hasNested, List.contains_cons] using hnn
    rw [cpField_spec_some hf]
    refine ⟨hadd, by simp [ownTypes, hf, hnn, hs], .inr ?_⟩
    simp only [specTypes] at hs
    split at hs
    · cases hs
    · rename_i sf hscan
      exact ⟨sf, formatBody_no_close hb hno, hscan, hs⟩

theorem renderField_auto (a : Args) (an : AutoNumber) (F : Field) (v w : Val) (hname : F.name = [])
    (hst : an.state ≠ .manual) (hlook : a.pos[an.fieldNumber]? = some v) (hconv : convert F v = .ok w)
    (hexp : F.needsExpanding = false) (hfmt : formatValue w F.spec = .ok ()) :
    renderField a an F = .ok { state := .auto, fieldNumber := an.fieldNumber + 1 } := by
  have hsplit : splitName F.name = ([], []) := by simp [hname, splitName]
  simp only [renderField, hsplit, firstIndex, List.isEmpty_nil, if_true, lookupObj, hlook, hexp, hconv, hfmt]
  cases h : an.state <;> simp [h] at hst ⊢

theorem renderField_manual (a : Args) (an : AutoNumber) (F : Field) (nm : List Char) (i : Nat) (v w : Val)
    (hsplit : splitName F.name = (nm, [])) (hne : nm.isEmpty = false) (hidx : firstIndex nm = .ok (some i))
    (hst : an.state ≠ .auto) (hlook : a.pos[i]? = some v) (hconv : convert F v = .ok w)
    (hexp : F.needsExpanding = false) (hfmt : formatValue w F.spec = .ok ()) :
    renderField a an F = .ok { state := .manual, fieldNumber := an.fieldNumber } := by
  simp only [renderField, hsplit, hidx, hne, lookupObj, hexp]
  cases h : an.state <;> simp [h, hlook, hconv, hfmt] at hst ⊢

theorem renderField_kw (a : Args) (an : AutoNumber) (F : Field) (nm : List Char) (k : List Char) (v w : Val)
    (hsplit : splitName F.name = (nm, [])) (hne : nm.isEmpty = false) (hidx : firstIndex nm = .ok none)
    (hlook : a.kw.find? (·.1 == nm) = some (k, v)) (hconv : convert F v = .ok w)
    (hexp : F.needsExpanding = false) (hfmt : formatValue w F.spec = .ok ()) :
    renderField a an F = .ok an := by
  simp only [renderField, hsplit, hidx, hne, lookupObj, hlook, hexp]
  simp [hconv, hfmt]

/-- the heart: CPython renders a flat field the tool accepted, given a value of one of the field's own types; the numbering
    states stay related -/
theorem renderField_of_init {cfg : Cfg} (hcfg : cfg.ssizeMax ≤ 2 ^ 31 - 1) (a : Args) {cs rest : List Char} {rf : RawField}
    {st st' : State} {tp : TySet} {an : AutoNumber}
    (hshape : FieldShape cs rf rest) (hfi : fieldInit cfg st rf = .ok (st', tp)) (hinv : NumberingRel st an)
    (hflat : (cpField rf).flat = true) (hnq : NoQuirk (cpField rf))
    (hav : Avail a (keyOf st rf.name) { nested := false, types := ownTypes cfg rf }) :
    ∃ an', renderField a an (cpField rf) = .ok an' ∧ NumberingRel st' an' := by
  simp only [Field.flat, Bool.and_eq_true, Bool.not_eq_true'] at hflat
  obtain ⟨hflatname, hnoexp⟩ := hflat
  obtain ⟨hadd, rfl, hsp⟩ := fieldInit_flat hshape hfi hnoexp
  obtain ⟨_, hnext0, hnextd, hnexti⟩ := addArgument_ok hadd
  obtain ⟨v, hlook, htype, hchr⟩ := hav
  have hvalue : ∃ w, convert (cpField rf) v = .ok w ∧ hasType (ownTypes cfg rf) w = true ∧ chrOK w := by
    cases hc : rf.conversion with
    | none => exact ⟨v, by simp [convert, cpField_conversion_none hc], htype, hchr⟩
    | some c =>
      obtain ⟨hs, x, rfl, hx⟩ := fieldInit_conv hfi c hc
      exact ⟨.str, by simp [convert, cpField_conversion_some hc, hx], hs, trivial⟩
  obtain ⟨w, hw, hwt, hwc⟩ := hvalue
  have hspec : formatValue w (cpField rf).spec = .ok () := by
    rcases hsp with h0 | ⟨sf, hcl, hscan, hchk⟩
    · simp [formatValue, h0]
    · exact formatValue_sound hcfg hcl hscan hchk (hnq sf hscan) w hwt (by
        rintro n rfl _
        exact hwc)
  cases hn : rf.name with
  | none =>
    obtain ⟨n, hsn, hsn'⟩ := hnext0 hn
    simp only [keyOf, hn, hsn, Option.getD_some, lookupArg] at hlook
    have hfn : an.fieldNumber = n ∧ an.state ≠ .manual := by
      simp only [NumberingRel, hsn] at hinv
      cases n with
      | zero | succ k =>
        cases hinv
        simp
    obtain ⟨rfl, hstate⟩ := hfn
    exact ⟨_, renderField_auto a an (cpField rf) v w (by rw [cpField_name, hn]; rfl) hstate hlook hw hnoexp hspec, by simp [NumberingRel, hsn']⟩
  | some nm =>
    have hnt := hshape.name nm hn
    have hnm : (cpField rf).name = nm := by rw [cpField_name, hn]; rfl
    rw [hnm] at hflatname
    have hch := flat_chars hflatname
    have hsplit : splitName (cpField rf).name = (nm, []) := by
      rw [hnm]
      exact splitName_flat hch
    rcases flat_name hnt hch with hd | hid
    · have hnm_ne : nm.isEmpty = false := by simpa using hd.1
      have hdec := isDecimalStr_digits hd
      obtain ⟨hle, hsn', hsn⟩ := hnextd nm hn hdec
      simp only [keyOf, hn, hdec, if_true, lookupArg] at hlook
      have hidx := firstIndex_digits hd (by simp only [PY_SSIZE_T_MAX]; omega)
      have hstate : an.state ≠ .auto := by
        rcases hsn with h | h
        all_goals
          simp only [NumberingRel, h] at hinv
          simp [hinv]
      exact ⟨{ state := .manual, fieldNumber := an.fieldNumber },
        renderField_manual a an (cpField rf) nm _ v w hsplit hnm_ne hidx hstate hlook hw hnoexp hspec, by simp [NumberingRel, hsn']⟩
    · have hnm_ne : nm.isEmpty = false := by
        obtain ⟨_, _, rfl, _⟩ := hid
        rfl
      have hdec := isDecimalStr_ident hid
      have hnext := hnexti nm hn hdec
      simp only [keyOf, hn, hdec, Bool.false_eq_true, if_false, lookupArg] at hlook
      obtain ⟨⟨k', v'⟩, hfind, rfl⟩ := Option.map_eq_some_iff.mp hlook
      have hidx := firstIndex_ident hid
      exact ⟨an, renderField_kw a an (cpField rf) nm k' _ w hsplit hnm_ne hidx hfind hw hnoexp hspec,
        by simpa [NumberingRel, hnext] using hinv⟩

theorem run_format {cfg : Cfg} (hcfg : cfg.ssizeMax ≤ 2 ^ 31 - 1) (a : Args) {st stF : State} {cs : List Char} {fs : List Field}
    (h : Run cfg st cs fs stF) (hav : ∀ k x, Filed stF.map k x → Avail a k x) :
    ∀ an, NumberingRel st an → (∀ f ∈ fs, f.flat = true ∧ NoQuirk f) → renderAll a an fs = .ok () := by
  induction h with
  | nil => exact fun _ _ _ => rfl
  | lit _ _ ih => exact ih hav
  | field hshape hfi hr ih =>
    intro an hinv hall
    have hfiled := run_inv mapAdd_mono hr (fieldInit_inv mapAdd_mono hfi (mapAdd_filed _ _ _))
    obtain ⟨an', hren, hinv'⟩ := renderField_of_init hcfg a hshape hfi hinv (hall _ (by simp)).1 (hall _ (by simp)).2
      (hav _ _ hfiled)
    simp only [renderAll, hren]
    exact ih hav an' hinv' (fun f hf => hall f (by simp [hf]))

theorem hasType_inter {a b : TySet} {v : Val} (h : hasType (a.inter b) v = true) : hasType a v = true ∧ hasType b v = true := by
  cases v <;> simpa [hasType, TySet.inter] using h

theorem foldl_inter_le (as : List Arg) : ∀ (acc : TySet) (v : Val), hasType (as.foldl (fun acc a => acc.inter a.types) acc) v = true →
    hasType acc v = true ∧ ∀ x ∈ as, hasType x.types v = true := by
  induction as with
  | nil => exact fun acc v h => ⟨h, by simp⟩
  | cons y as ih =>
    intro acc v h
    obtain ⟨h1, h2⟩ := ih _ v h
    obtain ⟨h3, h4⟩ := hasType_inter h1
    exact ⟨h3, List.forall_mem_cons.2 ⟨h4, h2⟩⟩

theorem hasType_commonTypes {as : List Arg} {v : Val} (h : hasType (commonTypes as) v = true) :
    ∀ x ∈ as, hasType x.types v = true :=
  (foldl_inter_le as _ v h).2

theorem unify_ok (s : List Char) : ∀ (m0 m : List (Key × List Arg)), unify s m0 = .ok m →
    m = m0.map (fun p => (p.1, p.2.map fun a => { a with types := commonTypes p.2 })) ∧
      ∀ p ∈ m0, (commonTypes p.2).isEmpty = false := by
  intro m0
  fun_induction unify s m0 with
  | case1 =>
    rintro _ ⟨⟩
    exact ⟨rfl, nofun⟩
  | case2 | case3 => rintro _ ⟨⟩
  | case4 _ _ _ _ hne _ hu ih =>
    rintro _ ⟨⟩
    obtain ⟨rfl, h2⟩ := ih _ hu
    exact ⟨rfl, List.forall_mem_cons.mpr ⟨Bool.eq_false_iff.mpr hne, h2⟩⟩

/-- `flat_formats_partial`, for any `SSIZE_MAX` up to 2^31-1 -/
theorem parseWith_flat_formats {cfg : Cfg} (hcfg : cfg.ssizeMax ≤ 2 ^ 31 - 1) (s : List Char) (r : Result) (a : Args)
    (h : parseWith cfg s = .ok r)
    (hflat : Flat s) (hnq : QuirkFree s) (hm : Matches r a) : format s a = .ok () := by
  obtain ⟨stF, fs, hr, hu⟩ := parseWith_run h
  obtain ⟨hmap, _⟩ := unify_ok s _ _ hu
  obtain ⟨chunks, hmk, hfs⟩ := yields_markup (run_yields hr)
  rw [yields_format a (run_yields hr)]
  apply run_format hcfg a hr ?_ _ (by simp [NumberingRel])
  · intro f hf
    exact ⟨hflat chunks hmk f (by rw [hfs]; exact hf), hnq chunks hmk f (by rw [hfs]; exact hf)⟩
  · intro k x ⟨as, hmem, hx⟩
    obtain ⟨v, hlook, htypes, hchr⟩ := hm k _ (hmap ▸ List.mem_map.mpr ⟨(k, as), hmem, rfl⟩)
    refine ⟨v, hlook, ?_, hchr⟩
    have hc : hasType (commonTypes as) v = true := by
      apply htypes { x with types := commonTypes as }
      simp only [List.mem_map]
      exact ⟨x, hx, rfl⟩
    exact hasType_commonTypes hc x hx

end I18n.PyBrace
