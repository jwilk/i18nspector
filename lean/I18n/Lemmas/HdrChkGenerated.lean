import I18n.Generated.HdrChk
import I18n.Lemmas.DomainsGenerated
import I18n.Lemmas.PyKitLemmas
/-!
# The header checks of `lib/check/__init__.py` regenerated = `Model/Hdr.lean`

`I18n.Generated.HdrChk` is rewritten by `tools/translate/hdrchk2lean.py` from the current source on every run.  The proofs unfold the
generated definitions through the macro the translator emits and never name a bound variable of the generated text.  Where a `simp only`
is followed by `rfl`, what is left is the model's vocabulary (`tag`, `sx`, the constants of `HeaderFields`) against the literals of the
generated text; `simp only []` reduces the `match … with | .ok x => …` whose scrutinee the rewrite before it has made an `.ok`.
-/
-- some simp lemmas below fire only on another spelling of the same source (a comparison turned round, a literal set in another order)
set_option linter.unusedSimpArgs false
namespace I18n.Hdr.Gen
open I18n I18n.Hdr I18n.Generated

theorem cast_gt_one (n : Nat) : ((n : Int) > (1 : Int)) ↔ n > 1 := by omega
theorem cast_eq_zero (n : Nat) : ((n : Int) = (0 : Int)) ↔ n = 0 := by omega
theorem cast_eq_one (n : Nat) : ((n : Int) = (1 : Int)) ↔ n = 1 := by omega

/-- `PyKit.forEach_emit` for a body known on every element, not only on those of the list (the header ties use this one unqualified,
    `check_headers_eq` the kit's, with the membership, qualified) -/
theorem forEach_emit {α : Type} (f : α → List TagCall) (body : α → List TagCall → Except Py.Exc (List TagCall))
    (hb : ∀ x out, body x out = .ok (out ++ f x)) (xs : List α) (out : List TagCall) :
    PyKit.forEach xs body out = .ok (out ++ xs.flatMap f) :=
  PyKit.forEach_emit f body xs (fun x _ => hb x) out

theorem special_eq (x : Ext) (a : Str) (h : a.contains '@' = true) :
    Generated.Domains.is_email_in_special_domain x.db.lower a = .ok (I18n.Domains.isEmailInSpecialDomain x.db.lower a) := by
  rw [I18n.Domains.Gen.is_email_in_special_domain_eq, if_pos (by simpa using h)]

theorem dotless_eq (a : Str) (h : a.contains '@' = true) :
    Generated.Domains.is_email_in_dotless_domain a = .ok (I18n.Domains.isEmailInDotlessDomain a) := by
  rw [I18n.Domains.Gen.is_email_in_dotless_domain_eq, if_pos (by simpa using h)]

/- `ite_ok`, `ite_fst`, `ite_snd`, `ite_append_tail` are the kit's lemmas of the same names (`ite_ok` at `Py.Exc`): the simp sets of the
   header ties name them unqualified. -/
theorem ite_ok {α : Type} (c : Prop) [Decidable c] (a b : α) :
    (if c then (Except.ok a : Except Py.Exc α) else .ok b) = .ok (if c then a else b) :=
  PyKit.ite_ok c a b

theorem ite_fst {α β : Type} (c : Prop) [Decidable c] (a b : α × β) : (if c then a else b).fst = if c then a.fst else b.fst :=
  PyKit.ite_fst c a b
theorem ite_snd {α β : Type} (c : Prop) [Decidable c] (a b : α × β) : (if c then a else b).snd = if c then a.snd else b.snd :=
  PyKit.ite_snd c a b

theorem ite_append_tail {α : Type} (c : Prop) [Decidable c] (a t : List α) : (if c then a ++ t else a) = a ++ (if c then t else []) :=
  PyKit.ite_append_tail c a t

theorem ite_sortedSet (vs : List Str) : (if vs.length > 1 then HdrPy.sortedSet vs else vs) = dedup vs := rfl

/-- `try: uri_scheme = urllib.parse.urlparse(v).scheme` / `except ValueError: uri_scheme = ''` in the Report-Msgid-Bugs-To loop -/
theorem tryExcept_urlScheme (x : Ext) (v : Str) :
    PyKit.tryExcept (HdrPy.urlScheme x v) (fun e => decide (e = Py.Exc.ValueError)) (Except.ok []) = .ok ((x.urlScheme v).getD []) := by
  unfold HdrPy.urlScheme
  cases x.urlScheme v <;> simp [PyKit.tryExcept_ok, PyKit.tryExcept_error]

/- The generated text threads `out__` through every statement; `ite_ok`, `ite_append_tail`, `PyKit.append_ite` turn each conditional `self.tag`
   into `out ++ (if … then [tag] else [])`, so that the whole is `out ++ …` with the model's pieces in order. -/
theorem check_project_eq (x : Ext) (m : Meta) (out : List TagCall) :
    HdrChk.check_project x m out = .ok (out ++ checkProject x m) := by
  unfold_generated_hdrchk
  -- the Project-Id-Version loop calls nothing that can fail: once its body is `.ok` of an expression it is a `flatMap`
  simp only [ddGet_getS, cast_gt_one, cast_eq_zero, decide_eq_true_eq, ite_ok, ite_append_tail, List.append_assoc, PyKit.append_ite,
    PyKit.forEach_ok, PyKit.foldl_append_flatMap]
  rw [forEach_emit (reportOne x) _ ?hb2]
  case hb2 =>
    intro v out
    simp only [tryExcept_urlScheme, reportOne, hasAt]
    by_cases h : (x.parseaddr v).contains '@' = true
    · simp only [h, special_eq x _ h, dotless_eq _ h, Bool.not_true, Bool.false_eq_true, if_false, ite_ok, decide_eq_true_eq, ite_append_tail, PyKit.append_ite]
      have e : List.map String.toList HeaderFields.reportBoilerplate = ["EMAIL@ADDRESS".toList] := rfl
      rw [e]
      simp only [List.contains_cons, List.contains_nil, Bool.or_false, beq_iff_eq]
      rfl
    · simp only [h, Bool.not_false, if_true, ite_ok, decide_eq_true_eq, ite_append_tail]
      rfl
  simp only [ite_fst, ite_snd, ite_append_tail, PyKit.append_ite, ite_sortedSet]
  -- a set literal of the source (`in {'PACKAGE VERSION', 'PROJECT VERSION'}`) is listed in whatever order it is written there: membership
  -- is read as a disjunction on both sides, which `Bool.or_comm` (an ordered rewrite) brings into one order
  have e : List.map String.toList HeaderFields.projectBoilerplate = ["PACKAGE VERSION".toList, "PROJECT VERSION".toList] := rfl
  simp only [checkProject, projectIdTags, reportTags, List.append_assoc]
  unfold projectOne
  simp only [e, List.contains_cons, List.contains_nil, Bool.or_false, Bool.false_or, Bool.or_comm]
  rfl

theorem forEach_emit_state {α σ : Type} (f : α → List TagCall) (g : α → σ → σ)
    (body : α → List TagCall × σ → Except Py.Exc (List TagCall × σ))
    (hb : ∀ x out s, body x (out, s) = .ok (out ++ f x, g x s)) (xs : List α) (out : List TagCall) (s : σ) :
    PyKit.forEach xs body (out, s) = .ok (out ++ xs.flatMap f, xs.foldl (fun s x => g x s) s) := by
  induction xs generalizing out s with
  | nil => simp [PyKit.forEach]
  | cons x xs ih => simp [PyKit.forEach, hb, ih, List.append_assoc]

theorem check_translator_eq (x : Ext) (m : Meta) (tmpl : Bool) (out : List TagCall) :
    HdrChk.check_translator x m tmpl out = .ok (out ++ checkTranslator x tmpl m) := by
  unfold_generated_hdrchk
  simp only [ddGet_getS, cast_gt_one, cast_eq_zero, decide_eq_true_eq, ite_ok]
  rw [forEach_emit_state (translatorOne x tmpl) (fun v d => Hdr.dictSet (x.parseaddr v) v d) _ ?hb1]
  case hb1 =>
    intro v out d
    simp only [translatorOne, hasAt, dictSet_eq]
    by_cases h : (x.parseaddr v).contains '@' = true
    · simp only [h, special_eq x _ h, dotless_eq _ h, Bool.not_true, Bool.false_eq_true, if_false, ite_ok, decide_eq_true_eq, ite_append_tail, PyKit.append_ite]
      have e : List.map String.toList HeaderFields.translatorBoilerplate = ["EMAIL@ADDRESS".toList] := rfl
      rw [e]
      simp only [List.contains_cons, List.contains_nil, Bool.or_false, beq_iff_eq]
      cases tmpl <;> rfl
    · simp only [h, Bool.not_false, if_true, ite_ok]
      rfl
  simp only []
  rw [forEach_emit (teamOne x tmpl (translatorEmails x (dedup (m.getS "Last-Translator")) [])) _ ?hb2]
  case hb2 =>
    intro v out
    simp only [teamOne, hasAt, dictGet?_eq, translatorEmails_foldl, ite_fst, ite_snd, ite_sortedSet]
    by_cases h : (x.parseaddr v).contains '@' = true
    · simp only [h, special_eq x _ h, dotless_eq _ h, Bool.not_true, Bool.false_eq_true, if_false, ite_ok, decide_eq_true_eq, ite_append_tail, PyKit.append_ite]
      have e : List.map String.toList HeaderFields.teamBoilerplate = ["EMAIL@ADDRESS".toList, "LL@li.org".toList] := rfl
      rw [e]
      -- `Bool.or_comm` at the `LL@li.org` test fires only when the source lists the set literal `{'EMAIL@ADDRESS', 'LL@li.org'}` the other way round
      simp only [List.contains_cons, List.contains_nil, Bool.or_false, Bool.or_comm (x.parseaddr v == "LL@li.org".toList)]
      generalize dictGet _ _ = o
      cases o <;> cases tmpl <;>
        simp only [ite_ok, ite_append_tail, PyKit.append_ite, Bool.not_true, Bool.not_false, if_true, if_false, Bool.false_eq_true] <;> rfl
    · simp only [h, Bool.not_false, if_true, List.append_nil]
  simp only [ite_fst, ite_snd, ite_append_tail, PyKit.append_ite, ite_sortedSet]
  simp only [checkTranslator, List.append_assoc]
  rfl

/-- `patternAt` on each of the pattern literals of `check_comments`: the model's matcher for it -/
theorem patternAt_lits (db : UDB) (prev : Option Char) (rest : Str) :
    HdrPy.patternAt db "\\bPACKAGE package\\b".toList prev rest = wordLit db "PACKAGE package".toList prev rest ∧
    HdrPy.patternAt db "\\bCopyright \\S+ YEAR\\b".toList prev rest = copyrightYear db prev rest ∧
    HdrPy.patternAt db "\\bTHE PACKAGE'S COPYRIGHT HOLDER\\b".toList prev rest = wordLit db "THE PACKAGE'S COPYRIGHT HOLDER".toList prev rest ∧
    HdrPy.patternAt db "\\bFIRST AUTHOR\\b".toList prev rest = wordLit db "FIRST AUTHOR".toList prev rest ∧
    HdrPy.patternAt db "<EMAIL@ADDRESS>".toList prev rest = plainLit "<EMAIL@ADDRESS>".toList prev rest ∧
    HdrPy.patternAt db "(?<=>), YEAR\\b".toList prev rest = commaYear db prev rest := by
  unfold HdrPy.patternAt
  repeat rw [String.toList_ofList]
  simp +decide only [if_true, if_false, and_self]

theorem commentLineHit_eta (db : UDB) (tmpl : Bool) (line : Str) :
    commentLineHit db tmpl line = anyPos (fun p r => commentHit db tmpl p r) none line := rfl

theorem check_comments_eq (x : Ext) (tmpl : Bool) (header : Str) (out : List TagCall) :
    HdrChk.check_comments x tmpl header out = .ok (out ++ checkComments x.db tmpl header) := by
  unfold_generated_hdrchk
  simp only [ite_ok, ite_append_tail, checkComments, HdrPy.splitlines]
  -- at one position the alternation of the pattern literals is the model's `commentHit`.  The literals stand in the order in which the
  -- source lists them, so the two disjunctions are compared up to order: `Bool.or_comm`, `Bool.or_left_comm` (ordered rewrites)
  generalize hL : (_ ++ (if (!tmpl) = true then _ else []) : List Str) = L
  have hit : ∀ prev rest, L.any (fun p => HdrPy.patternAt x.db p prev rest) = commentHit x.db tmpl prev rest := by
    subst hL
    intro prev rest
    cases tmpl <;>
      simp only [commentHit, patternAt_lits, Bool.not_false, Bool.not_true, Bool.false_eq_true, if_true, if_false, List.cons_append,
        List.nil_append, List.append_nil, List.any_cons, List.any_nil, Bool.or_false, Bool.false_or, Bool.true_and, Bool.false_and, Bool.or_assoc,
        Bool.or_comm, Bool.or_left_comm]
  refine PyKit.forEach_filterMap _ _ (fun line out => ?_) _ _
  simp only [HdrPy.searchAlt, hit, ← commentLineHit_eta]
  cases commentLineHit x.db tmpl line
  · exact congrArg Except.ok (List.append_nil out).symm
  · rfl

end I18n.Hdr.Gen
