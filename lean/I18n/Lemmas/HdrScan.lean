import I18n.Lemmas.HdrCType
import I18n.Lemmas.Kit.List
import I18n.Lemmas.Kit.Sorted
/-
C15 lemmas: declarative readings of two scanners — `find_unusual_characters` (which characters of a
text are unusual, that they are reported once each in code-point order, and that graphic ASCII and line feeds are passed
over: `unusualAux_graphic`, `unusualAux_newline`) and the regex search of `check_comments`
(a line is boilerplate iff at some position one of the patterns matches; of the four shapes of pattern, `\b<literal>\b` and
`\bCopyright \S+ YEAR\b` are spelled out: `wordLit_iff`, `copyrightYear_iff`).
-/
namespace I18n.Hdr
open I18n.Spec.HeaderRules I18n.Generated

/-- the character `c`, standing between `pre` and `post`, is unusual: in the regenerated ranges `unusualAlways` (by
    `Props.C15.source_pins` a C0 control other than TAB, LF, ESC / DEL / a C1 control / U+FEFF / U+FFFD / U+FFFE / U+FFFF), an ESC
    that does not start a CSI sequence, or an inverted question mark directly after a word character -/
def UnusualAt (db : UDB) (prev : Option Char) (pre : Str) (c : Char) (post : Str) : Prop :=
  inRanges HeaderFields.unusualAlways c = true
  ∨ (c.toNat = HeaderFields.unusualUnlessBracket ∧ post.head? ≠ some '[')
  ∨ (c.toNat = HeaderFields.unusualAfterWord ∧ ∃ p, lastOr prev pre = some p ∧ db.isWord p = true)

/-- whether `find_unusual_characters` matches at a character, given its neighbours -/
def hitAt (db : UDB) (prev : Option Char) (c : Char) (next : Option Char) : Bool :=
  inRanges Generated.HeaderFields.unusualAlways c
  || (c.toNat = Generated.HeaderFields.unusualUnlessBracket && next != some '[')
  || (c.toNat = Generated.HeaderFields.unusualAfterWord && (match prev with | some p => db.isWord p | none => false))

theorem unusualAux_cons (db : UDB) (prev : Option Char) (c : Char) (cs : Str) :
    unusualAux db prev (c :: cs) = (if hitAt db prev c cs.head? then [c] else []) ++ unusualAux db (some c) cs := by
  -- `unusualAux` on a cons is by definition `if hit then c :: … else …`, and `hitAt` names that `hit`: hence the second `if_pos`/`if_neg`
  by_cases hc : hitAt db prev c cs.head? = true
  · rw [if_pos hc]
    exact if_pos hc
  · rw [if_neg hc]
    exact if_neg hc

theorem graphic_no_hit (db : UDB) (prev next : Option Char) (c : Char) (h : 0x21 ≤ c.toNat ∧ c.toNat ≤ 0x7E) :
    hitAt db prev c next = false := by
  have h1 : inRanges Generated.HeaderFields.unusualAlways c = false := by
    simp only [inRanges, Generated.HeaderFields.unusualAlways, List.any_cons, List.any_nil, Bool.or_false, Bool.or_eq_false_iff,
      Bool.and_eq_false_iff, decide_eq_false_iff_not]
    omega
  have h2 : ¬ c.toNat = Generated.HeaderFields.unusualUnlessBracket := by simp only [Generated.HeaderFields.unusualUnlessBracket]; omega
  have h3 : ¬ c.toNat = Generated.HeaderFields.unusualAfterWord := by simp only [Generated.HeaderFields.unusualAfterWord]; omega
  simp [hitAt, h1, h2, h3]

theorem unusualAux_graphic (db : UDB) (n : Str) (hn : ∀ c ∈ n, 0x21 ≤ c.toNat ∧ c.toNat ≤ 0x7E) (hne : n ≠ []) (prev : Option Char) (y : Str) :
    unusualAux db prev (n ++ y) = unusualAux db n.getLast? y := by
  induction n generalizing prev with
  | nil => contradiction
  | cons c cs ih =>
    rw [List.cons_append, unusualAux_cons, graphic_no_hit db _ _ c (hn c (by simp))]
    cases cs with
    | nil => simp
    | cons d ds =>
      rw [ih (fun x hx => hn x (List.mem_cons_of_mem _ hx)) (by simp)]
      simp [List.getLast?_cons_cons]

theorem unusualAux_newline (db : UDB) (p q : Option Char) (y : Str) : unusualAux db p ('\n' :: y) = unusualAux db q ('\n' :: y) := by
  have h : ∀ r, hitAt db r '\n' y.head? = false := by
    intro r
    simp [hitAt, inRanges, Generated.HeaderFields.unusualAlways, Generated.HeaderFields.unusualUnlessBracket,
      Generated.HeaderFields.unusualAfterWord]
  rw [unusualAux_cons, unusualAux_cons, h p, h q]

theorem unusualAt_iff (db : UDB) (prev : Option Char) (pre : Str) (c : Char) (post : Str) :
    UnusualAt db prev pre c post ↔ hitAt db (lastOr prev pre) c post.head? = true := by
  unfold UnusualAt hitAt
  cases lastOr prev pre <;> simp [or_assoc]

theorem mem_unusualAux (db : UDB) (prev : Option Char) (s : Str) (c : Char) :
    c ∈ unusualAux db prev s ↔ ∃ pre post, s = pre ++ c :: post ∧ UnusualAt db prev pre c post := by
  induction s generalizing prev with
  | nil => simp [unusualAux]
  | cons a rest ih =>
    rw [unusualAux_cons, List.mem_append, Kit.exists_split_cons_at]
    simp only [ih, unusualAt_iff, lastOr_cons, lastOr_nil, List.mem_ite_nil_right, List.mem_singleton]
    constructor
    · rintro (⟨h, rfl⟩ | h)
      · exact Or.inl ⟨rfl, h⟩
      · exact Or.inr h
    · rintro (⟨rfl, h⟩ | h)
      · exact Or.inl ⟨h, rfl⟩
      · exact Or.inr h

/-- which characters `find_unusual_characters` reports -/
def Unusual (db : UDB) (text : Str) (c : Char) : Prop :=
  ∃ pre post, text = pre ++ c :: post ∧ UnusualAt db none pre c post

theorem mem_unusualChars (db : UDB) (text : Str) (c : Char) : c ∈ unusualChars db text ↔ Unusual db text c :=
  mem_unusualAux db none text c

/-- code-point order on characters, as the Boolean test `insertC` uses -/
def ltC (a b : Char) : Bool := decide (a.toNat < b.toNat)

theorem ltC_strictTotal : Kit.StrictTotal ltC where
  irrefl a := by simp [ltC]
  trans a b c := by simp only [ltC, decide_eq_true_eq]; omega
  tri a b h hne := by
    have : a.toNat ≠ b.toNat := fun e => hne (Char.toNat_inj.1 e)
    simp only [ltC, decide_eq_false_iff_not, decide_eq_true_eq] at h ⊢; omega

theorem insertC_eq (x : Char) (l : List Char) : insertC x l = Kit.insertBy ltC x l := by
  induction l with
  | nil => rfl
  | cons y ys ih => simp only [insertC, Kit.insertBy, ltC, decide_eq_true_eq, ih]

theorem sortedChars_eq (l : List Char) : sortedChars l = Kit.sortedSet ltC l := by
  simp only [sortedChars, Kit.sortedSet, funext fun x => funext (insertC_eq x)]

theorem mem_insertC (x y : Char) (l : List Char) : y ∈ insertC x l ↔ y = x ∨ y ∈ l :=
  insertC_eq x l ▸ Kit.mem_insertBy ltC

theorem mem_sortedChars (y : Char) (l : List Char) : y ∈ sortedChars l ↔ y ∈ l := by
  rw [sortedChars_eq, Kit.mem_sortedSet]

theorem sortedChars_sorted (l : List Char) : (sortedChars l).Pairwise (fun a b => a.toNat < b.toNat) :=
  (sortedChars_eq l ▸ Kit.pairwise_sortedSet ltC_strictTotal l).imp fun h => of_decide_eq_true h

theorem insertC_ne_nil (c : Char) (l : List Char) : insertC c l ≠ [] := by
  fun_cases insertC c l
  all_goals exact List.cons_ne_nil _ _

theorem sortedChars_isEmpty (l : List Char) : (sortedChars l).isEmpty = l.isEmpty := by
  cases l with
  | nil => rfl
  | cons c cs =>
    simp only [sortedChars, List.foldr_cons, List.isEmpty_cons]
    cases h : insertC c (List.foldr insertC [] cs) with
    | nil => exact absurd h (insertC_ne_nil _ _)
    | cons _ _ => rfl

theorem anyPos_iff (p : Option Char → Str → Bool) (prev : Option Char) (s : Str) :
    anyPos p prev s = true ↔ ∃ pre rest, s = pre ++ rest ∧ p (lastOr prev pre) rest = true := by
  induction s generalizing prev with
  | nil =>
    rw [anyPos]
    constructor
    · intro h
      refine ⟨[], [], rfl, ?_⟩
      rwa [lastOr_nil]
    · rintro ⟨pre, rest, e, h⟩
      obtain ⟨rfl, rfl⟩ := List.append_eq_nil_iff.1 e.symm
      rwa [lastOr_nil] at h
  | cons c cs ih =>
    rw [anyPos, Bool.or_eq_true, ih, Kit.exists_split_append]
    simp only [lastOr_cons, lastOr_nil]

theorem anyPos_or (p q : Option Char → Str → Bool) (prev : Option Char) (s : Str) :
    anyPos (fun a r => p a r || q a r) prev s = (anyPos p prev s || anyPos q prev s) := by
  induction s generalizing prev with
  | nil => rfl
  | cons c cs ih => simp only [anyPos, ih, Bool.or_assoc, Bool.or_left_comm]

theorem litThenBoundary_iff (db : UDB) (l : Str) (rest : Str) :
    litThenBoundary db l rest = true ↔ ∃ after, rest = l ++ after ∧ boundary db l.getLast? after.head? = true := by
  unfold litThenBoundary
  rcases stripPrefix_cases l rest with ⟨after, hs, rfl⟩ | ⟨hs, hno⟩ <;> rw [hs]
  · simp only [List.append_cancel_left_eq, exists_eq_left']
  · exact iff_of_false nofun fun ⟨after, e, _⟩ => hno after e

theorem wordLit_iff (db : UDB) (l : Str) (prev : Option Char) (rest : Str) :
    wordLit db l prev rest = true ↔
      ∃ after, rest = l ++ after ∧ boundary db prev l.head? = true ∧ boundary db l.getLast? after.head? = true := by
  have e : wordLit db l prev rest = (boundary db prev l.head? && litThenBoundary db l rest) := by
    unfold wordLit litThenBoundary
    cases stripPrefix l rest <;> simp
  rw [e, Bool.and_eq_true, litThenBoundary_iff]
  exact ⟨fun ⟨h1, after, e, h2⟩ => ⟨after, e, h1, h2⟩, fun ⟨after, e, h1, h2⟩ => ⟨h1, after, e, h2⟩⟩

theorem copyrightTail_iff (db : UDB) (s : Str) :
    copyrightTail db s = true ↔
      ∃ run after, s = run ++ " YEAR".toList ++ after ∧ (∀ c ∈ run, db.isSpace c = false) ∧
        boundary db (some 'R') after.head? = true := by
  induction s with
  | nil =>
    simp only [copyrightTail, Bool.false_eq_true, false_iff]
    rintro ⟨run, after, e, _⟩
    have := congrArg List.length e
    simp at this
  | cons c cs ih =>
    unfold copyrightTail
    rw [Bool.or_eq_true, Bool.and_eq_true, litThenBoundary_iff, ih]
    have hlast : (" YEAR".toList).getLast? = some 'R' := by decide
    constructor
    · rintro (⟨after, e, hb⟩ | ⟨hc, run, after, e, hr, hb⟩)
      · exact ⟨[], after, e, by simp, by rw [hlast] at hb; exact hb⟩
      · refine ⟨c :: run, after, by rw [e]; rfl, ?_, hb⟩
        intro d hd
        rcases List.mem_cons.1 hd with rfl | hd
        · simpa using hc
        · exact hr d hd
    · rintro ⟨run, after, e, hr, hb⟩
      cases run with
      | nil => exact Or.inl ⟨after, e, by rw [hlast]; exact hb⟩
      | cons d run' =>
        obtain ⟨rfl, e2⟩ := List.cons.inj e
        exact Or.inr ⟨by simpa using hr c (by simp), run', after, e2, fun x hx => hr x (by simp [hx]), hb⟩

theorem copyrightYear_iff (db : UDB) (prev : Option Char) (rest : Str) :
    copyrightYear db prev rest = true ↔
      ∃ run after, rest = "Copyright ".toList ++ run ++ " YEAR".toList ++ after ∧ run ≠ [] ∧ (∀ c ∈ run, db.isSpace c = false) ∧
        boundary db prev (some 'C') = true ∧ boundary db (some 'R') after.head? = true := by
  unfold copyrightYear
  generalize "Copyright ".toList = lit
  rcases stripPrefix_cases lit rest with ⟨r, hs, rfl⟩ | ⟨hs, hno⟩ <;> rw [hs]
  · -- the first character of the run is the `\S` the scanner consumes itself
    simp only [List.append_assoc, List.append_cancel_left_eq]
    cases r with
    | nil => exact iff_of_false nofun fun ⟨run, after, e, hne, _⟩ => hne (List.nil_eq_append_iff.1 e).1
    | cons c cs =>
      simp only [Bool.and_eq_true, Bool.not_eq_true', copyrightTail_iff, List.append_assoc]
      constructor
      · rintro ⟨⟨hb, hc⟩, run, after, rfl, hr, hb2⟩
        exact ⟨c :: run, after, rfl, List.cons_ne_nil _ _, List.forall_mem_cons.2 ⟨hc, hr⟩, hb, hb2⟩
      · rintro ⟨run, after, e, hne, hr, hb, hb2⟩
        cases run with
        | nil => exact absurd rfl hne
        | cons d run' =>
          obtain ⟨rfl, rfl⟩ := List.cons.inj e
          exact ⟨⟨hb, hr c (by simp)⟩, run', after, rfl, fun x hx => hr x (by simp [hx]), hb2⟩
  · exact iff_of_false nofun fun ⟨run, after, e, _⟩ => hno _ (by rw [e, List.append_assoc, List.append_assoc])

theorem commentLineHit_false (db : UDB) (line : Str) :
    commentLineHit db false line =
      (commentLineHit db true line
        || anyPos (wordLit db "FIRST AUTHOR".toList) none line
        || anyPos (plainLit "<EMAIL@ADDRESS>".toList) none line
        || anyPos (commaYear db) none line) := by
  unfold commentLineHit
  rw [← anyPos_or, ← anyPos_or, ← anyPos_or]
  congr 1
  funext prev rest
  simp only [commentHit, Bool.not_false, Bool.true_and, Bool.not_true, Bool.false_and, Bool.or_false, Bool.or_assoc]

theorem mem_checkComments (x : Ext) (f : File) (t : TagCall) :
    t ∈ checkComments x.db f.kind.isTemplate f.comments ↔ CommentRule x f t := by
  unfold checkComments CommentRule
  simp only [List.mem_filterMap, Option.ite_none_right_eq_some, Option.some.injEq, eq_comm (b := t), tag, sx]

theorem commentRule_kinds (x : Ext) (b : Bool) (comments : Str) (entries : List Entry) (t : TagCall) :
    CommentRule x ⟨⟨false, b⟩, comments, entries⟩ t ↔
      CommentRule x ⟨⟨true, b⟩, comments, entries⟩ t
      ∨ ∃ line ∈ splitlines comments,
          (anyPos (wordLit x.db "FIRST AUTHOR".toList) none line
            || anyPos (plainLit "<EMAIL@ADDRESS>".toList) none line
            || anyPos (commaYear x.db) none line) = true
          ∧ t = ⟨"boilerplate-in-initial-comments", [.str line]⟩ := by
  unfold CommentRule
  simp only [commentLineHit_false, Bool.or_assoc, Bool.or_eq_true (commentLineHit x.db true _)]
  constructor
  · rintro ⟨line, hl, hit | hit, rfl⟩
    · exact .inl ⟨line, hl, hit, rfl⟩
    · exact .inr ⟨line, hl, hit, rfl⟩
  · rintro (⟨line, hl, hit, rfl⟩ | ⟨line, hl, hit, rfl⟩)
    · exact ⟨line, hl, .inl hit, rfl⟩
    · exact ⟨line, hl, .inr hit, rfl⟩

end I18n.Hdr
