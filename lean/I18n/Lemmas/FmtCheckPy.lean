import I18n.Lemmas.FmtCheckKinds
import I18n.Lemmas.PyFmtGroups
/-!
# The Python-% comparator in closed form; well-formedness of what the parser (C12's model) reports

`check_args` is the number tag, `typeDiffs` of the unnamed types, then `namedTags` on `map_arguments` (`checkArgsPython_named`).
For C14's clause `reorder_silent` (`Props.C14.python_reorder_silent`): the named signature of an accepted string is the set of
(key, type) pairs of the `%(key)…` specifications read, in whatever order and however often (`pyNamed_iff_log`; one type per key
is what the parser has checked).
-/
namespace I18n.FmtCheck
open I18n I18n.FmtSig I18n.Spec.FmtCompare

theorem groups_wf (log : List (List Char × PEntry)) : MapWf (PyFmt.groups log) := by
  constructor
  · have : (PyFmt.groups log).map (·.1) = PyFmt.distinctKeys (log.map (·.1)) := by
      simp [PyFmt.groups, Function.comp_def]
    rw [this]
    exact Kit.nodup_distinct (f := PyFmt.distinctKeys) rfl (fun _ _ => rfl) _
  · intro p hp
    obtain ⟨k, es⟩ := p
    obtain ⟨hes, e, he⟩ := PyFmt.groups_spec hp
    intro hnil
    simp only at hnil
    have : e ∈ (log.filter (fun p => p.1 == k)).map (·.2) :=
      List.mem_map.2 ⟨(k, e), List.mem_filter.2 ⟨he, by simp⟩, rfl⟩
    rw [← hes, hnil] at this
    cases this

theorem pyParse_eq_ok_iff {s : List Char} {r : PyFmt.Result} : pyParse s = .ok r ↔ PyFmt.parse s = .ok r := by
  unfold pyParse
  cases PyFmt.parse s with
  | ok r' => simp
  | error e => cases e <;> simp

theorem pyParse_wf {s : List Char} {r : PyFmt.Result} (h : pyParse s = .ok r) : MapWf r.map := by
  obtain ⟨st, _, _, hm, _⟩ := PyFmt.parse_loop (pyParse_eq_ok_iff.1 h)
  rw [hm]
  exact groups_wf _

theorem pyParse_nocrash (s : List Char) (e : Py.Exc) : pyParse s ≠ .crash e := by
  unfold pyParse
  cases hp : PyFmt.parse s with
  | ok r => simp
  | error err =>
    cases err with
    | crash x => exact absurd (PyFmt.parse_error_own hp) Bool.false_ne_true
    | _ => exact nofun

/-- positional signature: the type of each unnamed argument (`*` widths and precisions are `int`s) -/
def pySeq (r : PyFmt.Result) : List String := r.seq.map (·.type)

def pyHeadType : List PEntry → String
  | e :: _ => e.type
  | [] => ""

/-- named signature: key ↦ type -/
def pyNamed (r : PyFmt.Result) : Named (List Char) String := viewOf pyHeadType r.map

def pyNumberTag (pfx : Extra) (srcLoc : List Char) (src : PyFmt.Result) (dstLoc : List Char) (dst : PyFmt.Result) : TagCall :=
  tagExcessOrMissing "python-format-string-argument-number-mismatch" pfx dst.seq.length dstLoc "!=" src.seq.length srcLoc

def pyTypeTag (pfx : Extra) (srcLoc dstLoc : List Char) (p : String × String) : TagCall :=
  tagTypeMismatch "python-format-string-argument-type-mismatch" pfx p.2.toList dstLoc p.1.toList srcLoc

def pyUnknownTag (pfx : Extra) (srcLoc dstLoc : List Char) (k : List Char) : TagCall :=
  tagUnknown "python-format-string-unknown-argument" pfx (.str k) srcLoc dstLoc

def pyMissingTag (pfx : Extra) (srcLoc dstLoc : List Char) (k : List Char) : TagCall :=
  tagMissing "python-format-string-missing-argument" pfx (.str k) srcLoc dstLoc

def pyMissing (src dst : PyFmt.Result) : List (List Char) :=
  (src.map.map (·.1)).filter fun k => !(dst.map.map (·.1)).contains k

def pyTolerated (src dst : PyFmt.Result) (omittedOk : Bool) : Bool :=
  mapTolerated (fun a : PEntry => a.type == "int") src.map (pyMissing src dst) omittedOk

theorem pySeqTypeTags_eq (pfx : Extra) (srcLoc dstLoc : List Char) : ∀ (src dst : List PEntry),
    pySeqTypeTags pfx srcLoc dstLoc src dst =
      (typeDiffs (src.map (·.type)) (dst.map (·.type))).map (pyTypeTag pfx srcLoc dstLoc) := by
  intro src
  induction src with
  | nil => intro dst; simp [pySeqTypeTags, typeDiffs]
  | cons s ss ih =>
    intro dst
    cases dst with
    | nil => simp [pySeqTypeTags, typeDiffs]
    | cons d ds =>
      simp only [pySeqTypeTags, ih, List.map_cons, typeDiffs]
      by_cases h : s.type = d.type
      · simp [h]
      · simp [h, pyTypeTag]

theorem checkArgsPython_named (pfx : Extra) (srcLoc : List Char) (src : PyFmt.Result) (dstLoc : List Char) (dst : PyFmt.Result)
    (omittedOk : Bool) :
    checkArgsPython pfx srcLoc src dstLoc dst omittedOk =
      match namedTags strLt (pyClash pfx srcLoc dstLoc) (fun a => a.type == "int")
          (pyUnknownTag pfx srcLoc dstLoc) (pyMissingTag pfx srcLoc dstLoc)
          src.map dst.map omittedOk with
      | .error e => .error e
      | .ok t =>
        .ok ((if dst.seq.length != src.seq.length then [pyNumberTag pfx srcLoc src dstLoc dst] else []) ++
          pySeqTypeTags pfx srcLoc dstLoc src.seq dst.seq ++ t) := by
  simp only [checkArgsPython, namedTags]
  cases mapTypeTags (pyClash pfx srcLoc dstLoc) src.map dst.map _ with
  | error e => rfl
  | ok t3 =>
    cases missingKeys (fun a : PEntry => a.type == "int") src.map _ omittedOk with
    | error e => rfl
    | ok m =>
      simp only [List.append_assoc]
      rfl

theorem checkArgsPython_eq (pfx : Extra) (srcLoc : List Char) (src : PyFmt.Result) (dstLoc : List Char) (dst : PyFmt.Result)
    (omittedOk : Bool) (hs : MapWf src.map) (hd : MapWf dst.map) :
    checkArgsPython pfx srcLoc src dstLoc dst omittedOk = .ok (
      (if dst.seq.length != src.seq.length then [pyNumberTag pfx srcLoc src dstLoc dst] else []) ++
      (typeDiffs (pySeq src) (pySeq dst)).map (pyTypeTag pfx srcLoc dstLoc) ++
      (sortBy strLt ((dst.map.map (·.1)).filter fun k => (src.map.map (·.1)).contains k)).flatMap
          (clashAt (pyClash pfx srcLoc dstLoc) src.map dst.map) ++
      (sortBy strLt ((dst.map.map (·.1)).filter fun k => !(src.map.map (·.1)).contains k)).map (pyUnknownTag pfx srcLoc dstLoc) ++
      (sortBy strLt (if pyTolerated src dst omittedOk then [] else pyMissing src dst)).map (pyMissingTag pfx srcLoc dstLoc)) := by
  rw [checkArgsPython_named, namedTags_eq _ _ _ _ _ _ _ _ hs.2 hd.2, pySeqTypeTags_eq]
  simp only [List.append_assoc]
  rfl

theorem pyClash_eq_some (pfx : Extra) (srcLoc dstLoc : List Char) (s0 d0 : PEntry) (t : TagCall) :
    pyClash pfx srcLoc dstLoc s0 d0 = some t ↔ ¬ s0.type = d0.type ∧ t = pyTypeTag pfx srcLoc dstLoc (s0.type, d0.type) := by
  unfold pyClash pyTypeTag
  by_cases h : s0.type = d0.type
  · simp [h]
  · simp only [bne_iff_ne, ne_eq, h, not_false_eq_true, ↓reduceIte, Option.some.injEq, true_and]
    exact eq_comm

theorem pyClash_spec (pfx : Extra) (srcLoc dstLoc : List Char) :
    ClashSpec (pyClash pfx srcLoc dstLoc) pyHeadType (· = ·) fun a b => pyTypeTag pfx srcLoc dstLoc (a, b) :=
  fun s0 _ d0 _ => pyClash_eq_some pfx srcLoc dstLoc s0 d0

theorem pyNamed_iff_log {s : List Char} {r : PyFmt.Result} (h : PyFmt.parse s = .ok r) :
    ∃ st, PyFmt.loop true (s.length + 1) s [] PyFmt.St.init = .ok st ∧
      ∀ k t, valueAt (pyNamed r) k = some t ↔ ∃ e, (k, e) ∈ st.map ∧ e.type = t := by
  obtain ⟨st, hl, _, hm, hall⟩ := PyFmt.parse_loop h
  refine ⟨st, hl, fun k t => ?_⟩
  unfold pyNamed
  rw [valueAt_viewOf, hm]
  have hwf := groups_wf st.map
  constructor
  · -- the type recorded for `k` is that of the first record of its group, and the group is the records of the log under `k`
    intro hv
    cases hg : valueAt (PyFmt.groups st.map) k with
    | none => rw [hg] at hv; cases hv
    | some es =>
      rw [hg] at hv
      simp only [Option.map_some, Option.some.injEq] at hv
      have hmem := mem_of_valueAt hg
      obtain ⟨hes, _⟩ := PyFmt.groups_spec hmem
      cases es with
      | nil => exact absurd rfl (hwf.2 _ hmem)
      | cons e0 rest =>
        have he0 : e0 ∈ (st.map.filter (fun p => p.1 == k)).map (·.2) := by rw [← hes]; simp
        obtain ⟨p, hp, rfl⟩ := List.mem_map.1 he0
        have hp' := List.mem_filter.1 hp
        have hk : p.1 = k := by simpa using hp'.2
        exact ⟨p.2, by rw [← hk]; exact hp'.1, hv⟩
  · -- a record `e` under `k` is in the group of `k`, whose records all have the type of the first (`hall`: the parser has checked it)
    rintro ⟨e, he, rfl⟩
    obtain ⟨es, hes, hin⟩ := PyFmt.groups_mem he
    rw [valueAt_of_mem_nodup hwf.1 hes]
    simp only [Option.map_some, Option.some.injEq]
    cases es with
    | nil => cases hin
    | cons e0 rest =>
      simp only [pyHeadType]
      have hsame : PyFmt.sameType (e0 :: rest) = true := by
        have := List.all_eq_true.1 hall (k, e0 :: rest) hes
        simpa using this
      rcases List.mem_cons.1 hin with rfl | hr
      · rfl
      · exact (PyFmt.sameType_cons.1 hsame e hr).symm

theorem sameNamed_of_logs {s s' : List Char} {r r' : PyFmt.Result} (h : PyFmt.parse s = .ok r) (h' : PyFmt.parse s' = .ok r')
    {st st' : PyFmt.St} (hl : PyFmt.loop true (s.length + 1) s [] PyFmt.St.init = .ok st)
    (hl' : PyFmt.loop true (s'.length + 1) s' [] PyFmt.St.init = .ok st')
    (hsame : ∀ k t, (∃ e, (k, e) ∈ st.map ∧ e.type = t) ↔ (∃ e, (k, e) ∈ st'.map ∧ e.type = t)) :
    SameNamed (· = ·) (pyNamed r) (pyNamed r') := by
  obtain ⟨st1, hl1, hiff⟩ := pyNamed_iff_log h
  obtain ⟨st2, hl2, hiff'⟩ := pyNamed_iff_log h'
  rw [hl] at hl1; cases hl1
  rw [hl'] at hl2; cases hl2
  exact sameNamed_of_valueAt_eq (fun k => Option.ext fun t => by rw [hiff, hiff', hsame]) fun _ _ _ => rfl

end I18n.FmtCheck
