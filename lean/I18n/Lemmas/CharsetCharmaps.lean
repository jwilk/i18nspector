import I18n.Lemmas.CharsetCodec
/-!
# C20: the side conditions of the charmap theorems (complete, injective on defined entries, trie form of `charmap_build`),
# decided on the three shipped charmap tables and on glibc's KOI8-T table
-/
namespace I18n.Charset.Tables
open I18n.Generated.Charset
open I18n.Spec.Charset (InjectiveOnDefined asciiRepertoire)


/-- the three charmap files the tool ships -/
theorem charmap_files : charmaps.map (·.1) =
    ["GEORGIAN-PS".toList.map Char.toNat, "KOI8-RU".toList.map Char.toNat, "VISCII".toList.map Char.toNat] := by decide +kernel

def complete (t : List Nat) : Bool := t.length == 256 && t.all (· != undefinedCp)

theorem charmaps_complete : (charmaps.all fun kv => complete kv.2) = true := by decide +kernel
/-- the trie form of `charmap_build` applies (entry 0 is NUL, the rest non-zero BMP) -/
theorem charmaps_trie : (charmaps.all fun kv => !needDict kv.2) = true := by decide +kernel

/-- glibc's KOI8-T table (the codec the tool reaches through iconv), with U+FFFE for the bytes iconv rejects -/
def koi8tTable : List Nat := iconv_KOI8_T.map fun o => o.getD undefinedCp

theorem koi8t_injSeen : injSeen 0 koi8tTable = true := by decide +kernel
theorem koi8t_injective : InjectiveOnDefined koi8tTable := injSeen_injective _ koi8t_injSeen
theorem koi8t_length : koi8tTable.length = 256 := by decide +kernel

/-- `charmap_build` takes its trie form for glibc's KOI8-T table too (so U+FFFE, the marker of its undefined bytes, never encodes) -/
theorem koi8t_trie : needDict koi8tTable = false := by decide +kernel

theorem trie_of_mem (kv : List Nat × List Nat) (h : kv ∈ charmaps) : needDict kv.2 = false := by
  have := charmaps_trie
  rw [List.all_eq_true] at this
  simpa using this kv h

theorem koi8t_scalar_noTag : ∀ c ∈ koi8tTable, c ≤ 0x10FFFF ∧ isTag c = false := by
  have : (koi8tTable.all fun c => c ≤ 0x10FFFF && !isTag c) = true := by decide +kernel
  simpa only [List.all_eq_true, Bool.and_eq_true, decide_eq_true_eq, Bool.not_eq_true'] using this

theorem charmaps_injSeen : (charmaps.all fun kv => injSeen 0 kv.2) = true := by decide +kernel

theorem injective_of_mem (kv : List Nat × List Nat) (h : kv ∈ charmaps) : InjectiveOnDefined kv.2 :=
  injSeen_injective _ (List.all_eq_true.1 charmaps_injSeen kv h)

theorem complete_of_mem (kv : List Nat × List Nat) (h : kv ∈ charmaps) : kv.2.length = 256 ∧ ∀ c ∈ kv.2, c ≠ undefinedCp := by
  have := List.all_eq_true.1 charmaps_complete kv h
  simpa only [complete, Bool.and_eq_true, beq_iff_eq, List.all_eq_true, bne_iff_ne, ne_eq] using this

end I18n.Charset.Tables
