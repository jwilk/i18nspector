import I18n.Model.Charset
import I18n.Spec.Charset
/-!
# C20: the grow-and-retry loop of `lib/iconv.py` over an abstract iconv

A round that answers E2BIG is followed by one told twice as much; any other round is the last.  `Retry` says that of a loop,
`decodeLoop` and `encodeLoop` are such loops, and what is proved of the binding is proved of `Retry`: what the log of
allocations looks like (`Doubling`), that a property of every last round is a property of the outcome, and that the loop has
ended once a round is told enough.
-/
namespace I18n.Charset

def Outcome.finished {α : Type} : Outcome α → Bool
  | .outOfFuel => false
  | _ => true

theorem callBoth_inLeft (n L : Nat) (r : Round) : (callBoth n L r).inLeft = n - r.main.consumed := by
  unfold callBoth
  split <;> rfl

theorem callBoth_outLeft_le (n L : Nat) (r : Round) : (callBoth n L r).outLeft ≤ L := by
  unfold callBoth
  split <;> simp only <;> omega

/-- the round told `L` bytes asks for more room: the reset call succeeds and the conversion answers E2BIG -/
def More (step : Step) (inLen L : Nat) : Prop := (step L).reset = none ∧ (callBoth inLen L (step L)).rc = .e2big

theorem more_iff_of_reset {step : Step} {inLen L : Nat} (hr : (step L).reset = none) :
    More step inLen L ↔ (callBoth inLen L (step L)).rc = .e2big :=
  and_iff_right hr

/-- the two hypotheses by which `Props/C20` bounds the rounds that ask for more, read as statements about `More` -/
theorem not_more_of_bound {step : Step} {inLen need : Nat}
    (hb : ∀ told, need ≤ told → (step told).reset = none → (callBoth inLen told (step told)).rc ≠ .e2big)
    (told : Nat) (ht : need ≤ told) : ¬ More step inLen told :=
  fun hm => hb told ht hm.1 hm.2

theorem lt_of_more {step : Step} {inLen need : Nat}
    (he : ∀ told, (step told).reset = none → (callBoth inLen told (step told)).rc = .e2big → told < need)
    (told : Nat) (hm : More step inLen told) : told < need :=
  he told hm.1 hm.2

/-- `tr` logs rounds told `L, 2L, 4L, …`, all but the last of which asked for more -/
def Doubling (more : Nat → Prop) (alloc : Nat → Alloc) (L : Nat) (tr : List Alloc) : Prop :=
  ∃ k, tr = (List.range k).map (fun i => alloc (L * 2 ^ i)) ∧ ∀ i, i + 1 < k → more (L * 2 ^ i)

namespace Doubling
variable {more : Nat → Prop} {alloc : Nat → Alloc} {L : Nat} {tr : List Alloc}

theorem nil : Doubling more alloc L [] := ⟨0, rfl, fun _ hi => absurd hi (Nat.not_lt_zero _)⟩

theorem single : Doubling more alloc L [alloc L] := ⟨1, by simp, fun i hi => absurd hi (by omega)⟩

theorem cons (hm : more L) (h : Doubling more alloc (L * 2) tr) : Doubling more alloc L (alloc L :: tr) := by
  obtain ⟨k, rfl, hmore⟩ := h
  refine ⟨k + 1, ?_, fun i hi => ?_⟩
  · rw [List.range_succ_eq_map, List.map_cons, List.map_map, Nat.pow_zero, Nat.mul_one]
    congr 1
    apply List.map_congr_left
    intro i _
    simp only [Function.comp, Nat.pow_succ', Nat.mul_assoc]
  · cases i with
    | zero => rwa [Nat.pow_zero, Nat.mul_one]
    | succ i =>
      have := hmore i (by omega)
      rwa [Nat.mul_assoc, ← Nat.pow_succ'] at this

theorem getElem? (h : Doubling more alloc L tr) {i : Nat} {a : Alloc} (ha : tr[i]? = some a) : a = alloc (L * 2 ^ i) := by
  obtain ⟨k, rfl, _⟩ := h
  rw [List.getElem?_map] at ha
  cases hi : (List.range k)[i]? with
  | none => rw [hi] at ha; cases ha
  | some j =>
    rw [hi] at ha
    obtain ⟨_, rfl⟩ := List.getElem?_eq_some_iff.1 hi
    rw [List.getElem_range] at ha
    exact (Option.some.inj ha).symm

theorem mem (h : Doubling more alloc L tr) {a : Alloc} (ha : a ∈ tr) :
    ∃ i, a = alloc (L * 2 ^ i) ∧ ∀ j, j < i → more (L * 2 ^ j) := by
  obtain ⟨k, rfl, hm⟩ := h
  obtain ⟨i, hi, rfl⟩ := List.mem_map.1 ha
  rw [List.mem_range] at hi
  exact ⟨i, rfl, fun j hj => hm j (by omega)⟩

theorem length_le (h : Doubling more alloc L tr) {need k : Nat} (hb : ∀ told, need ≤ told → ¬ more told)
    (hk : need ≤ L * 2 ^ k) : tr.length ≤ k + 1 := by
  obtain ⟨n, rfl, hm⟩ := h
  rw [List.length_map, List.length_range]
  -- otherwise round `n - 2` asked for more although it was told `L · 2^(n-2) ≥ L · 2^k`
  apply Nat.le_of_not_lt
  intro hn
  have hpow : 2 ^ k ≤ 2 ^ (n - 2) := Nat.pow_le_pow_right (by decide) (by omega)
  have htold : need ≤ L * 2 ^ (n - 2) := Nat.le_trans hk (Nat.mul_le_mul_left L hpow)
  exact hb _ htold (hm (n - 2) (by omega))

theorem mem_lt (h : Doubling more alloc L tr) {need : Nat} (he : ∀ told, more told → told < need) {a : Alloc} (ha : a ∈ tr) :
    ∃ i, a = alloc (L * 2 ^ i) ∧ (i = 0 ∨ L * 2 ^ i < 2 * need) := by
  obtain ⟨i, rfl, hi⟩ := h.mem ha
  refine ⟨i, rfl, ?_⟩
  cases i with
  | zero => exact .inl rfl
  | succ j =>
    have := he _ (hi j (Nat.lt_succ_self j))
    exact .inr (by rw [Nat.pow_succ, ← Nat.mul_assoc]; omega)

end Doubling

/-- a round that asks for more is followed by one told twice as much; any other round is the last, whatever the fuel, logs at
    most itself, and ends the loop -/
structure Retry {α : Type} (step : Step) (inLen : Nat) (alloc : Nat → Alloc) (loop : Nat → Nat → Outcome α × List Alloc) : Prop where
  zero : ∀ L, loop 0 L = (.outOfFuel, [])
  more : ∀ {fuel L}, More step inLen L → loop (fuel + 1) L = ((loop fuel (L * 2)).1, alloc L :: (loop fuel (L * 2)).2)
  last : ∀ {fuel L}, ¬ More step inLen L → loop (fuel + 1) L = loop 1 L
  last_log : ∀ {L}, ¬ More step inLen L → (loop 1 L).2 <+: [alloc L]
  last_finished : ∀ {L}, ¬ More step inLen L → (loop 1 L).1.finished = true

namespace Retry
variable {α : Type} {step : Step} {inLen : Nat} {alloc : Nat → Alloc} {loop : Nat → Nat → Outcome α × List Alloc}

theorem trace (h : Retry step inLen alloc loop) : ∀ (fuel L : Nat), Doubling (More step inLen) alloc L (loop fuel L).2 := by
  intro fuel
  induction fuel with
  | zero => intro L; rw [h.zero]; exact .nil
  | succ fuel ih =>
    intro L
    by_cases hm : More step inLen L
    · rw [h.more hm]; exact (ih (L * 2)).cons hm
    · rw [h.last hm]
      rcases List.prefix_cons_iff.1 (h.last_log hm) with h0 | ⟨t, ht, hnil⟩
      · rw [h0]; exact .nil
      · rw [ht, List.prefix_nil.1 hnil]; exact .single

theorem outcome (h : Retry step inLen alloc loop) (P : Outcome α → Prop) (h0 : P .outOfFuel)
    (hlast : ∀ L, ¬ More step inLen L → P (loop 1 L).1) : ∀ fuel L, P (loop fuel L).1 := by
  intro fuel
  induction fuel with
  | zero => intro L; rw [h.zero]; exact h0
  | succ fuel ih =>
    intro L
    by_cases hm : More step inLen L
    · rw [h.more hm]; exact ih (L * 2)
    · rw [h.last hm]; exact hlast L hm

theorem finishes (h : Retry step inLen alloc loop) (need : Nat) (hb : ∀ told, need ≤ told → ¬ More step inLen told) :
    ∀ {fuel L k : Nat}, need ≤ L * 2 ^ k → k < fuel → (loop fuel L).1.finished = true := by
  intro fuel
  induction fuel with
  | zero => intro L k _ hk; omega
  | succ fuel ih =>
    intro L k hk hf
    by_cases hm : More step inLen L
    · rw [h.more hm]
      cases k with
      | zero => exact (hb L (by simpa using hk) hm).elim
      | succ k =>
        rw [Nat.pow_succ', ← Nat.mul_assoc] at hk
        exact ih hk (by omega)
    · rw [h.last hm]; exact h.last_finished hm

theorem told_enough (h : Retry step inLen alloc loop) (P : Outcome α → Prop) (need : Nat)
    (hb : ∀ told, need ≤ told → ¬ More step inLen told) (hlast : ∀ L, ¬ More step inLen L → P (loop 1 L).1)
    {fuel L k : Nat} (hk : need ≤ L * 2 ^ k) (hf : k < fuel) : P (loop fuel L).1 :=
  h.outcome (fun o => o.finished = true → P o) (fun hx => nomatch hx) (fun L hm _ => hlast L hm) fuel L
    (h.finishes need hb hk hf)

end Retry

/-- fuel for `need` rounds is fuel for the `⌈log₂ need⌉ + 1` the loop makes -/
theorem need_le_mul_two_pow_of_lt_fuel {need fuel L : Nat} (hL : 1 ≤ L) (hN : need < fuel) : need ≤ L * 2 ^ (fuel - 1) := by
  obtain ⟨f, rfl⟩ : ∃ f, fuel = f + 1 := ⟨fuel - 1, by omega⟩
  calc need ≤ f := by omega
    _ ≤ 2 ^ f := Nat.le_of_lt Nat.lt_two_pow_self
    _ ≤ L * 2 ^ f := Nat.le_mul_of_pos_left _ hL

theorem decodeLoop_last {step : Step} {input : List UInt8} {fuel L : Nat} (hm : ¬ More step input.length L) :
    decodeLoop step input (fuel + 1) L = decodeLoop step input 1 L := by
  simp only [decodeLoop]
  cases hr : (step L).reset with
  | some err => rfl
  | none =>
    cases hc : (callBoth input.length L (step L)).rc with
    | e2big => exact (hm ⟨hr, hc⟩).elim
    | _ => rfl

/-- the last round: it logs at most itself, ends the loop, and a Unicode error comes from EILSEQ or EINVAL alone -/
theorem decodeLoop_one {step : Step} {input : List UInt8} {L : Nat} (hm : ¬ More step input.length L) :
    (decodeLoop step input 1 L).2 <+: [⟨4 * L, L⟩] ∧ (decodeLoop step input 1 L).1.finished = true ∧
    ∀ s e, (decodeLoop step input 1 L).1 = .unicodeError s e → (step L).reset = none ∧
      ((callBoth input.length L (step L)).rc = .eilseq ∨ (callBoth input.length L (step L)).rc = .einval) ∧
      s = input.length - (callBoth input.length L (step L)).inLeft ∧ e = syncEnd input s := by
  simp only [decodeLoop]
  cases hr : (step L).reset with
  | some err => exact ⟨List.nil_prefix, rfl, fun s e h => nomatch h⟩
  | none =>
    cases hc : (callBoth input.length L (step L)).rc with
    | e2big => exact (hm ⟨hr, hc⟩).elim
    | eilseq =>
      refine ⟨List.prefix_refl _, rfl, fun s e h => ?_⟩
      cases h
      exact ⟨rfl, .inl rfl, rfl, rfl⟩
    | einval =>
      refine ⟨List.prefix_refl _, rfl, fun s e h => ?_⟩
      cases h
      exact ⟨rfl, .inr rfl, rfl, rfl⟩
    | other n => exact ⟨List.prefix_refl _, rfl, fun s e h => nomatch h⟩
    | ok =>
      simp only
      split
      · exact ⟨List.prefix_refl _, rfl, fun s e h => nomatch h⟩
      · split
        · exact ⟨List.prefix_refl _, rfl, fun s e h => nomatch h⟩
        · split <;> exact ⟨List.prefix_refl _, rfl, fun s e h => nomatch h⟩

theorem decodeLoop_retry (step : Step) (input : List UInt8) :
    Retry step input.length (fun L => ⟨4 * L, L⟩) (decodeLoop step input) where
  zero _ := rfl
  more hm := by simp only [decodeLoop, hm.1, hm.2]
  last := decodeLoop_last
  last_log hm := (decodeLoop_one hm).1
  last_finished hm := (decodeLoop_one hm).2.1

theorem encodeLoop_last {step : Step} {n fuel L : Nat} (hm : ¬ More step (4 * n) L) :
    encodeLoop step n (fuel + 1) L = encodeLoop step n 1 L := by
  simp only [encodeLoop]
  cases hr : (step L).reset with
  | some err => rfl
  | none =>
    cases hc : (callBoth (4 * n) L (step L)).rc with
    | e2big => exact (hm ⟨hr, hc⟩).elim
    | _ => rfl

theorem encodeLoop_one {step : Step} {n L : Nat} (hm : ¬ More step (4 * n) L) :
    (encodeLoop step n 1 L).2 <+: [⟨L, L⟩] ∧ (encodeLoop step n 1 L).1.finished = true ∧
    ∀ s e, (encodeLoop step n 1 L).1 = .unicodeError s e → (step L).reset = none ∧
      ((callBoth (4 * n) L (step L)).rc = .eilseq ∨ (callBoth (4 * n) L (step L)).rc = .einval) ∧
      s = n - (callBoth (4 * n) L (step L)).inLeft / 4 ∧ e = s + 1 := by
  simp only [encodeLoop]
  cases hr : (step L).reset with
  | some err => exact ⟨List.nil_prefix, rfl, fun s e h => nomatch h⟩
  | none =>
    cases hc : (callBoth (4 * n) L (step L)).rc with
    | e2big => exact (hm ⟨hr, hc⟩).elim
    | eilseq =>
      refine ⟨List.prefix_refl _, rfl, fun s e h => ?_⟩
      cases h
      exact ⟨rfl, .inl rfl, rfl, rfl⟩
    | einval =>
      refine ⟨List.prefix_refl _, rfl, fun s e h => ?_⟩
      cases h
      exact ⟨rfl, .inr rfl, rfl, rfl⟩
    | other n => exact ⟨List.prefix_refl _, rfl, fun s e h => nomatch h⟩
    | ok =>
      simp only
      split <;> exact ⟨List.prefix_refl _, rfl, fun s e h => nomatch h⟩

theorem encodeLoop_retry (step : Step) (n : Nat) : Retry step (4 * n) (fun L => ⟨L, L⟩) (encodeLoop step n) where
  zero _ := rfl
  more hm := by simp only [encodeLoop, hm.1, hm.2]
  last := encodeLoop_last
  last_log hm := (encodeLoop_one hm).1
  last_finished hm := (encodeLoop_one hm).2.1

theorem decodeDl_trace (step : Step) (input : List UInt8) (fuel : Nat) :
    Doubling (More step input.length) (fun L => ⟨4 * L, L⟩) input.length (decodeDl step input fuel).2 := by
  unfold decodeDl
  split
  · exact .nil
  · exact (decodeLoop_retry step input).trace fuel input.length

theorem encodeDl_trace (step : Step) (n fuel : Nat) :
    Doubling (More step (4 * n)) (fun L => ⟨L, L⟩) n (encodeDl step n fuel).2 := by
  unfold encodeDl
  split
  · exact .nil
  · exact (encodeLoop_retry step n).trace fuel n

theorem decodeDl_outcome (step : Step) (input : List UInt8) (fuel : Nat) (P : Outcome (List Nat) → Prop)
    (hnil : input = [] → P (.ok [])) (hloop : 1 ≤ input.length → P (decodeLoop step input fuel input.length).1) :
    P (decodeDl step input fuel).1 := by
  unfold decodeDl
  cases input with
  | nil => exact hnil rfl
  | cons b rest => exact hloop (Nat.succ_le_succ (Nat.zero_le _))

theorem encodeDl_outcome (step : Step) (n fuel : Nat) (P : Outcome (List UInt8) → Prop)
    (hnil : n = 0 → P (.ok [])) (hloop : 1 ≤ n → P (encodeLoop step n fuel n).1) : P (encodeDl step n fuel).1 := by
  unfold encodeDl
  split
  · next h => exact hnil h
  · next h => exact hloop (Nat.pos_of_ne_zero h)

theorem decodeDl_finishes (step : Step) (input : List UInt8) (need fuel : Nat)
    (hb : ∀ told, need ≤ told → (step told).reset = none → (callBoth input.length told (step told)).rc ≠ .e2big)
    (hfuel : need < fuel) : (decodeDl step input fuel).1.finished = true :=
  decodeDl_outcome step input fuel (·.finished = true) (fun _ => rfl) fun hlen =>
    (decodeLoop_retry step input).finishes need (not_more_of_bound hb) (k := fuel - 1) (need_le_mul_two_pow_of_lt_fuel hlen hfuel) (by omega)

theorem encodeDl_finishes (step : Step) (n need fuel : Nat)
    (hb : ∀ told, need ≤ told → (step told).reset = none → (callBoth (4 * n) told (step told)).rc ≠ .e2big)
    (hfuel : need < fuel) : (encodeDl step n fuel).1.finished = true :=
  encodeDl_outcome step n fuel (·.finished = true) (fun _ => rfl) fun hlen =>
    (encodeLoop_retry step n).finishes need (not_more_of_bound hb) (k := fuel - 1) (need_le_mul_two_pow_of_lt_fuel hlen hfuel) (by omega)

theorem decodeLoop_alloc (step : Step) (input : List UInt8) : ∀ (fuel outputLen : Nat),
    ∀ a ∈ (decodeLoop step input fuel outputLen).2, a.allocated = 4 * a.told ∧ outputLen ≤ a.told := by
  intro fuel L a ha
  obtain ⟨i, rfl, _⟩ := ((decodeLoop_retry step input).trace fuel L).mem ha
  exact ⟨rfl, Nat.le_mul_of_pos_right L (Nat.two_pow_pos i)⟩

theorem wchars_prefix : ∀ (k : Nat) (buf pad : List UInt8), buf.length = 4 * k →
    (wchars (buf ++ pad)).take k = wchars buf := by
  intro k
  induction k with
  | zero =>
    intro buf pad h
    have : buf = [] := List.eq_nil_of_length_eq_zero (by omega)
    subst this
    simp [wchars]
  | succ k ih =>
    intro buf pad h
    -- `h` leaves no other shape of `buf`: at least four bytes
    match buf, h with
    | a :: b :: c :: d :: rest, h =>
      have hr : rest.length = 4 * k := by simp only [List.length_cons] at h; omega
      simp only [List.cons_append, wchars, List.take_succ_cons, ih rest pad hr]

theorem callBoth_ok (inLen told : Nat) (r : Round) (h : (callBoth inLen told r).rc = .ok) :
    r.main.rc = .ok ∧ r.flush.rc = .ok ∧ (callBoth inLen told r).buf = r.main.written ++ r.flush.written ∧
    (callBoth inLen told r).outLeft = told - (callBoth inLen told r).buf.length ∧
    (callBoth inLen told r).inLeft = inLen - r.main.consumed := by
  unfold callBoth at h ⊢
  cases hm : r.main.rc with
  | ok =>
    simp only [hm] at h ⊢
    refine ⟨trivial, h, trivial, ?_, trivial⟩
    simp only [List.length_append]; omega
  | e2big => simp [hm] at h
  | eilseq => simp [hm] at h
  | einval => simp [hm] at h
  | other n => simp [hm] at h

theorem decodeLoop_ok (step : Step) (input : List UInt8) (fuel L : Nat) (produced : List UInt8)
    (hconv : (step L).reset = none ∧ (callBoth input.length L (step L)).rc = .ok ∧
      (step L).main.consumed = input.length ∧ (callBoth input.length L (step L)).buf = produced)
    (hfit : produced.length ≤ L) (k : Nat) (h4 : produced.length = 4 * k)
    (hvalid : (wchars produced).any (· > 0x10FFFF) = false) :
    (decodeLoop step input (fuel + 1) L).1 = .ok (wchars produced) := by
  obtain ⟨hreset, hrc, hcons, hbuf⟩ := hconv
  obtain ⟨_, _, _, hout, hin⟩ := callBoth_ok _ _ _ hrc
  rw [hcons, Nat.sub_self] at hin
  have hp : L - (L - produced.length) = 4 * k := by omega
  simp only [decodeLoop, hreset, hrc, hin, hout, hbuf, hp]
  have : 4 * k % 4 = 0 := by omega
  simp only [this, ne_eq, not_true_eq_false, if_false]
  have : 4 * k / 4 = k := by omega
  rw [this, wchars_prefix k _ _ h4, hvalid]
  simp

theorem encodeLoop_ok (step : Step) (n : Nat) (fuel L : Nat) (produced : List UInt8)
    (hconv : (step L).reset = none ∧ (callBoth (4 * n) L (step L)).rc = .ok ∧
      (step L).main.consumed = 4 * n ∧ (callBoth (4 * n) L (step L)).buf = produced)
    (hfit : produced.length ≤ L) : (encodeLoop step n (fuel + 1) L).1 = .ok produced := by
  obtain ⟨hreset, hrc, hcons, hbuf⟩ := hconv
  obtain ⟨_, _, _, hout, hin⟩ := callBoth_ok _ _ _ hrc
  rw [hcons, Nat.sub_self] at hin
  have hp : L - (L - produced.length) = produced.length := by omega
  simp only [encodeLoop, hreset, hrc, hin, hout, hbuf, hp]
  simp

theorem decodeLoop_illegal (step : Step) (input : List UInt8) (fuel L : Nat) (hreset : (step L).reset = none)
    (hrc : (callBoth input.length L (step L)).rc = .eilseq ∨ (callBoth input.length L (step L)).rc = .einval) :
    (decodeLoop step input (fuel + 1) L).1 =
      .unicodeError (input.length - (callBoth input.length L (step L)).inLeft)
        (syncEnd input (input.length - (callBoth input.length L (step L)).inLeft)) := by
  rcases hrc with hrc | hrc <;> simp only [decodeLoop, hreset, hrc]

theorem encodeLoop_illegal (step : Step) (n fuel L : Nat) (hreset : (step L).reset = none)
    (hrc : (callBoth (4 * n) L (step L)).rc = .eilseq ∨ (callBoth (4 * n) L (step L)).rc = .einval) :
    (encodeLoop step n (fuel + 1) L).1 =
      .unicodeError (n - (callBoth (4 * n) L (step L)).inLeft / 4) (n - (callBoth (4 * n) L (step L)).inLeft / 4 + 1) := by
  rcases hrc with hrc | hrc <;> simp only [encodeLoop, hreset, hrc]

theorem callBoth_inLeft_le (inLen told : Nat) (r : Round) : (callBoth inLen told r).inLeft ≤ inLen := by
  unfold callBoth
  split
  · exact Nat.sub_le _ _
  · exact Nat.sub_le _ _

/-- **contract of one conversion**: told fewer than `need` bytes iconv answers E2BIG; told at least `need` it
    consumes the whole input and has written `produced` (conversion call and flush call together) -/
structure ConvertsTo (step : Step) (inLen : Nat) (produced : List UInt8) (need : Nat) : Prop where
  fits : produced.length ≤ need
  small : ∀ told, told < need → (step told).reset = none ∧ (callBoth inLen told (step told)).rc = .e2big
  big : ∀ told, need ≤ told → (step told).reset = none ∧ (callBoth inLen told (step told)).rc = .ok ∧
    (step told).main.consumed = inLen ∧ (callBoth inLen told (step told)).buf = produced

theorem ConvertsTo.more_iff {step : Step} {inLen need : Nat} {produced : List UInt8} (h : ConvertsTo step inLen produced need)
    (L : Nat) : More step inLen L ↔ L < need := by
  constructor
  · intro hm
    apply Nat.lt_of_not_le
    intro hbig
    have := hm.2
    rw [(h.big L hbig).2.1] at this
    cases this
  · exact h.small L

theorem ConvertsTo.not_more {step : Step} {inLen need : Nat} {produced : List UInt8} (h : ConvertsTo step inLen produced need)
    (L : Nat) (hL : need ≤ L) : ¬ More step inLen L :=
  fun hm => Nat.not_lt.2 hL ((h.more_iff L).1 hm)

theorem ConvertsTo.le_of_not_more {step : Step} {inLen need L : Nat} {produced : List UInt8}
    (h : ConvertsTo step inLen produced need) (hm : ¬ More step inLen L) : need ≤ L :=
  Nat.le_of_not_lt fun hlt => hm ((h.more_iff L).2 hlt)

theorem decodeLoop_returns (step : Step) (input : List UInt8) (produced : List UInt8) (need k : Nat)
    (h : ConvertsTo step input.length produced need) (h4 : produced.length = 4 * k)
    (hvalid : (wchars produced).any (· > 0x10FFFF) = false) {fuel L j : Nat} (hj : need ≤ L * 2 ^ j) (hf : j < fuel) :
    (decodeLoop step input fuel L).1 = .ok (wchars produced) := by
  refine (decodeLoop_retry step input).told_enough (fun o => o = .ok (wchars produced)) need h.not_more (fun L hm => ?_) hj hf
  have hbig := h.le_of_not_more hm
  exact decodeLoop_ok step input 0 L produced (h.big L hbig) (Nat.le_trans h.fits hbig) k h4 hvalid

theorem encodeLoop_returns (step : Step) (n : Nat) (produced : List UInt8) (need : Nat)
    (h : ConvertsTo step (4 * n) produced need) {fuel L j : Nat} (hj : need ≤ L * 2 ^ j) (hf : j < fuel) :
    (encodeLoop step n fuel L).1 = .ok produced := by
  refine (encodeLoop_retry step n).told_enough (fun o => o = .ok produced) need h.not_more (fun L hm => ?_) hj hf
  have hbig := h.le_of_not_more hm
  exact encodeLoop_ok step n 0 L produced (h.big L hbig) (Nat.le_trans h.fits hbig)

theorem syncEnd_span (input : List UInt8) (start : Nat) (h : start < input.length) :
    start < syncEnd input start ∧ syncEnd input start ≤ input.length := by
  unfold syncEnd
  simp only
  split
  · next k hk =>
    -- an ASCII byte at `k` bytes after `start + 1`
    have := (List.findIdx?_eq_some_iff_getElem.mp hk).1
    simp only [List.length_drop] at this
    omega
  · omega

theorem decodeLoop_error_span (step : Step) (input : List UInt8)
    (hc : ∀ told, (step told).reset = none →
      ((callBoth input.length told (step told)).rc = .eilseq ∨ (callBoth input.length told (step told)).rc = .einval) →
      1 ≤ (callBoth input.length told (step told)).inLeft) (fuel L : Nat) :
    ∀ s e, (decodeLoop step input fuel L).1 = .unicodeError s e → s < e ∧ e ≤ input.length := by
  refine (decodeLoop_retry step input).outcome (fun o => ∀ s e, o = .unicodeError s e → s < e ∧ e ≤ input.length)
    (fun s e h => nomatch h) (fun L hm s e h => ?_) fuel L
  obtain ⟨hr, hk, rfl, rfl⟩ := (decodeLoop_one hm).2.2 s e h
  have h1 := hc L hr hk
  have hle := callBoth_inLeft_le input.length L (step L)
  exact syncEnd_span input _ (by omega)

theorem encodeLoop_error_span (step : Step) (n : Nat)
    (hc : ∀ told, (step told).reset = none →
      ((callBoth (4 * n) told (step told)).rc = .eilseq ∨ (callBoth (4 * n) told (step told)).rc = .einval) →
      4 ≤ (callBoth (4 * n) told (step told)).inLeft) (fuel L : Nat) :
    ∀ s e, (encodeLoop step n fuel L).1 = .unicodeError s e → e = s + 1 ∧ e ≤ n := by
  refine (encodeLoop_retry step n).outcome (fun o => ∀ s e, o = .unicodeError s e → e = s + 1 ∧ e ≤ n)
    (fun s e h => nomatch h) (fun L hm s e h => ?_) fuel L
  obtain ⟨hr, hk, rfl, rfl⟩ := (encodeLoop_one hm).2.2 s e h
  have h1 := hc L hr hk
  have hle := callBoth_inLeft_le (4 * n) L (step L)
  omega

/-- `_encode_dl` with the growth step as a parameter: `grow L` is the next `output_len` after E2BIG -/
def encodeLoopG (grow : Nat → Nat) (step : Step) (n : Nat) : Nat → Nat → Outcome (List UInt8) × List Alloc
  | 0, _ => (.outOfFuel, [])
  | fuel + 1, outputLen =>
    let a : Alloc := ⟨outputLen, outputLen⟩
    let r := step outputLen
    match r.reset with
    | some errno => (.osError errno, [])
    | none =>
      let c := callBoth (4 * n) outputLen r
      match c.rc with
      | .e2big =>
        let (o, tr) := encodeLoopG grow step n fuel (grow outputLen)
        (o, a :: tr)
      | .eilseq | .einval =>
        let start := n - c.inLeft / 4
        (.unicodeError start (start + 1), [a])
      | .other errno => (.osError errno, [a])
      | .ok =>
        if c.inLeft ≠ 0 then (.assertion, [a])
        else
          let produced := outputLen - c.outLeft
          (.ok ((c.buf ++ List.replicate (outputLen - c.buf.length) 0).take produced), [a])

theorem encodeLoopG_double (step : Step) (n : Nat) : ∀ fuel L, encodeLoopG (· * 2) step n fuel L = encodeLoop step n fuel L := by
  intro fuel
  induction fuel with
  | zero => intro L; rfl
  | succ fuel ih =>
    intro L
    simp only [encodeLoopG, encodeLoop, ih]
    cases (step L).reset with
    | some e => rfl
    | none => cases (callBoth (4 * n) L (step L)).rc <;> rfl

/-- a contract-abiding iconv: one character that needs three bytes (U+20AC as UTF-8), E2BIG below three bytes of room -/
def euroStep : Step := fun told =>
  if told < 3 then ⟨none, ⟨.e2big, 0, []⟩, ⟨.ok, 0, []⟩⟩ else ⟨none, ⟨.ok, 4, [0xE2, 0x82, 0xAC]⟩, ⟨.ok, 0, []⟩⟩

theorem euroStep_contract : ConvertsTo euroStep (4 * 1) [0xE2, 0x82, 0xAC] 3 where
  fits := by decide
  small := by intro told h; simp [euroStep, h, callBoth]
  big := by
    intro told h
    have : ¬ told < 3 := by omega
    simp [euroStep, this, callBoth]

/-- `output_len = 2 * len(input)` instead of `output_len *= 2`: against that iconv the loop is told 1, 2, 2, 2, … bytes for ever -/
theorem stuck_loop_never_ends : ∀ fuel L, L ≤ 2 → (encodeLoopG (fun _ => 2 * 1) euroStep 1 fuel L).1 = .outOfFuel := by
  intro fuel
  induction fuel with
  | zero => intro L _; rfl
  | succ fuel ih =>
    intro L hL
    have hlt : L < 3 := by omega
    have h2 := ih (2 * 1) (by omega)
    have hs : euroStep L = ⟨none, ⟨.e2big, 0, []⟩, ⟨.ok, 0, []⟩⟩ := by simp [euroStep, hlt]
    simp only [encodeLoopG, hs, callBoth, h2]

end I18n.Charset
