import I18n.Model.ChkPluralsGen
import I18n.Lemmas.GettextPfGenerated
import I18n.Props.C05
import I18n.Lemmas.CheckPlurals
import I18n.Lemmas.CheckPluralsRegistry
import I18n.Lemmas.PyKitLemmas
/-!
# `check_plurals` after the parse of the header value, regenerated (`Generated/ChkPlurals.lean`), equals the model's `analyse`

The translator cuts `check_plurals_tail` at three seams: the registry comparison, the window loop, the gap analysis. Each is proved
equal to its part of the model (`registry_eq`, `window_eq`, `gaps_eq`) and `tail_eq` glues them; `format_range` of `lib/misc.py`
(`format_range_eq`) comes first because the gap tags are made with it.
-/
namespace I18n.CheckPlurals.GenChk
open I18n I18n.Py I18n.Plural I18n.Generated I18n.CheckPlurals I18n.CheckPlurals.Py

/-- one iteration of `format_range`'s loop.  An `abbrev`: the regenerated text has this body written out as a lambda, and
    `rw [frLoop …]` finds it only because `frStep max last` unfolds reducibly to that lambda. -/
abbrev frStep (max : Nat) (last : Int) (i : Int) (result : List IntOrStr) : Except I18n.Py.Exc (PyKit.LoopStep Empty (List IntOrStr)) :=
  if (decide (result.length < max)) then .ok (.next (result ++ [IntOrStr.int i]))
  else .ok (.brk (PyKit.setTail result 2 [IntOrStr.str ("...".toList), IntOrStr.str (intStr last)]))

theorem frLoop (max : Nat) (last : Int) : ∀ (xs : List Int) (res : List IntOrStr), res.length ≤ max →
    PyKit.forEachCtl xs (frStep max last) res =
      .ok (if res.length + xs.length ≤ max then .exhausted (res ++ xs.map IntOrStr.int)
           else .broke (PyKit.setTail (res ++ (xs.take (max - res.length)).map IntOrStr.int) 2 [IntOrStr.str ("...".toList), IntOrStr.str (intStr last)]))
  | [], res, h => by simp [PyKit.forEachCtl, h]
  | x :: xs, res, h => by
    unfold PyKit.forEachCtl
    by_cases hlt : res.length < max
    · simp only [frStep, hlt, decide_true, if_true]
      rw [frLoop max last xs (res ++ [IntOrStr.int x]) (by simp; omega)]
      have e1 : max - res.length = (max - (res.length + 1)) + 1 := by omega
      simp only [List.length_append, List.length_cons, List.length_nil, List.map_cons, List.append_assoc, List.singleton_append]
      rw [e1, List.take_succ_cons]
      have : (res.length + (0 + 1) + xs.length ≤ max) ↔ (res.length + (xs.length + 1) ≤ max) := by omega
      simp only [this, List.map_cons]
    · have heq : res.length = max := by omega
      simp [frStep, heq]

theorem format_range_eq (a b : Nat) (h : a < b) : ChkPlurals.format_range (PyKit.rangeInt a b) 5 = .ok (formatRange a b) := by
  have hne : PyKit.rangeInt a b ≠ [] := by
    rw [PyKit.rangeInt_nat]; intro hc
    have := congrArg List.length hc
    simp at this; omega
  unfold ChkPlurals.format_range
  rw [PyKit.listGetInt_neg_one, List.getLast?_eq_some_getLast hne]
  simp only [show decide (5 < 4) = false from rfl, Bool.false_eq_true, if_false]
  rw [frLoop 5 _ _ [] (by simp)]
  have hlen : (PyKit.rangeInt a b).length = b - a := by rw [PyKit.rangeInt_nat]; simp
  have hlast : (PyKit.rangeInt a b).getLast hne = ((b - 1 : Nat) : Int) := by
    have : ∀ (l : List Int) (hl : l ≠ []) (e : l = (List.range (b - a)).map (fun k => ((k + a : Nat) : Int))), l.getLast hl = ((b - 1 : Nat) : Int) := by
      intro l hl e; subst e
      rw [List.getLast_eq_getElem]
      simp
      omega
    exact this _ hne (PyKit.rangeInt_nat a b)
  rw [hlast, intStr_ofNat]
  simp only [List.length_nil, Nat.zero_add, hlen, List.nil_append, Nat.sub_zero]
  unfold formatRange
  have e : ∀ (k : Nat), intStr ((k : Int) + (a : Int)) = natStr (k + a) := fun k => by
    have : ((k : Int) + (a : Int)) = ((k + a : Nat) : Int) := by omega
    rw [this, intStr_ofNat]
  have e1 : intStr (1 + (a : Int)) = natStr (1 + a) := by simpa using e 1
  have e2 : intStr (2 + (a : Int)) = natStr (2 + a) := by simpa using e 2
  by_cases hle : b - a ≤ 5
  · simp only [hle, if_true]
    rw [PyKit.rangeInt_nat]
    simp [IntOrStr.toStr, Function.comp_def, e]
  · simp only [hle, if_false]
    rw [PyKit.rangeInt_nat, ← List.map_take, List.take_range, show min 5 (b - a) = 5 by omega]
    simp [PyKit.setTail, IntOrStr.toStr, intStr_ofNat, List.range, List.range.loop, e1, e2]
/-! ## `d[k] += [i]` on the defaultdict is the model's `Preimage.add` (keys stay distinct) -/

theorem extend_eq_add (p : Preimage) (fi : Int) (i : Nat) (h : (keys p).Nodup) :
    PyKit.defaultListExtend p fi [i] = p.add fi i := by
  induction p with
  | nil => simp [PyKit.defaultListExtend, Preimage.add]
  | cons q rest ih =>
    obtain ⟨k, v⟩ := q
    simp only [keys, List.map_cons, List.nodup_cons] at h
    have ih' := ih h.2
    unfold PyKit.defaultListExtend
    by_cases hk : k = fi
    · subst hk
      have hno : ∀ q ∈ rest, ¬ q.1 = k := fun q hq hqe => h.1 (List.mem_map.mpr ⟨q, hq, hqe⟩)
      have hmap : rest.map (fun q => if q.1 = k then (q.1, q.2 ++ [i]) else q) = rest := by
        conv => rhs; rw [← List.map_id rest]
        apply List.map_congr_left
        intro q hq; simp [hno q hq]
      simp [Preimage.add, hmap]
    · have hk' : ¬ fi = k := fun h' => hk h'.symm
      simp only [hk, if_false]
      rw [ih']
      unfold Preimage.add
      simp only [List.any_cons, hk, decide_false, Bool.false_or, List.map_cons, if_false, List.cons_append]
      split <;> rfl

/-! ## the window loop -/

abbrev WSt := List (Int × List Nat) × List TagCall × Bool
abbrev Snap := Option (List (Int × List Nat)) × Nat × List TagCall

def arithTag (hp : Bool) (i : Nat) (what : List Char) : TagCall :=
  ⟨tagName "arithmetic-error-in" hp, [.safe ("f(".toList ++ natStr i ++ what)]⟩

def codomainTag (hp : Bool) (n i : Nat) (fi : Int) : TagCall :=
  ⟨tagName "codomain-error-in" hp, [.safe ("f(".toList ++ natStr i ++ ") = ".toList ++ intStr fi ++ " >= ".toList ++ natStr n)]⟩

/-- one iteration of `for i in range(codomain_limit):` as regenerated, in the model's vocabulary -/
def winStep (n : Nat) (e : Expr) (lc : Option (Nat × Expr)) (hp : Bool) (ut : TagCall) (c0 : Option (List (Int × List Nat)))
    (i : Nat) (st : WSt) : Except Exc (PyKit.LoopStep (Exc × Snap) WSt) :=
  match evalAt 32 i e with
  | .error ex => .ok (.ret (ex, (c0, i, st.2.1)))
  | .ok fi =>
    if fi ≥ n then .ok (.brk (st.1, st.2.1 ++ [codomainTag hp n i fi], st.2.2))
    else
      let pre := PyKit.defaultListExtend st.1 fi [i]
      match lc with
      | some (ln, le) =>
        if n = ln then
          match evalAt 32 i le with
          | .error ex => .ok (.ret (ex, (c0, i, st.2.1)))
          | .ok v => if fi ≠ v ∧ ¬ st.2.2 then .ok (.next (pre, st.2.1 ++ [ut], true)) else .ok (.next (pre, st.2.1, st.2.2))
        else .ok (.next (pre, st.2.1, st.2.2))
      | none => .ok (.next (pre, st.2.1, st.2.2))

/-- what follows the loop: the `else:` clause, the two handlers -/
def winFin (hp : Bool) (c0 : Option (List (Int × List Nat))) :
    Except Exc (PyKit.LoopEnd (Exc × Snap) WSt) → Except Exc (Option (List (Int × List Nat)) × List TagCall)
  | .error ex => .error ex
  | .ok (.ret (ex, (c, i, out))) =>
    if ex = .Overflow then .ok (c, out ++ [arithTag hp i "): integer overflow".toList])
    else if ex = .ZeroDivision then .ok (c, out ++ [arithTag hp i "): division by zero".toList])
    else .error ex
  | .ok (.exhausted (pre, out, _)) => .ok (some pre, out)
  | .ok (.broke (_, out, _)) => .ok (c0, out)

/- `evalAt` raises `Overflow` or `ZeroDivision` only (`eval_err_cases`): the error arms split on these two, not on the constructors of `Exc`
   against the overlapping arms of `window`, and the `else .error ex` of `winFin` never meets the `.crashed` arm of `window`. -/
theorem winLoop (n : Nat) (e : Expr) (lc : Option (Nat × Expr)) (hp : Bool) (ut : TagCall) (c0 : Option (List (Int × List Nat))) :
    ∀ (is : List Nat) (pre : Preimage) (tags : List TagCall) (un : Bool), (keys pre).Nodup →
      winFin hp c0 (PyKit.forEachCtl is (winStep n e lc hp ut c0) (pre, tags, un)) =
        match window n e lc hp ut is ⟨tags, pre, un⟩ with
        | (_, .crashed ex) => .error ex
        | (st, .completed) => .ok (some st.pre, st.tags)
        | (st, .stopped) => .ok (c0, st.tags)
  | [], pre, tags, un, _ => by simp [PyKit.forEachCtl, window, winFin]
  | i :: rest, pre, tags, un, hnd => by
    have ih := winLoop n e lc hp ut c0 rest
    unfold PyKit.forEachCtl window
    simp only [winStep]
    cases hev : evalAt 32 i e with
    | error ex =>
      rcases eval_err_cases hev with rfl | rfl <;> simp [winFin, arithTag]
    | ok fi =>
      simp only []
      by_cases hge : fi ≥ (n : Int)
      · simp [hge, winFin, codomainTag]
      · simp only [hge, if_false]
        rw [extend_eq_add _ _ _ hnd]
        have hnd' := keys_add_nodup pre fi i hnd
        cases lc with
        | none => simpa using ih _ tags un hnd'
        | some p =>
          obtain ⟨ln, le⟩ := p
          simp only []
          by_cases hn : n = ln
          · subst hn
            simp only [if_true]
            cases hev2 : evalAt 32 i le with
            | error ex =>
              rcases eval_err_cases hev2 with rfl | rfl <;> simp [winFin, arithTag]
            | ok v =>
              simp only []
              by_cases hc : fi ≠ v ∧ ¬ un = true
              · simp only [hc]
                simpa [hc] using ih _ (tags ++ [ut]) true hnd'
              · simp only [hc, if_false]
                simpa [hc] using ih _ tags un hnd'
          · simp only [hn, if_false]
            simpa using ih _ tags un hnd'

theorem hp_tag (hp : Bool) (out : List TagCall) (a b : String) (x : List Extra) :
    (if hp = true then out ++ [⟨a, x⟩] else out ++ [(⟨b, x⟩ : TagCall)]) = out ++ [⟨if hp then a else b, x⟩] := by
  cases hp <;> rfl

theorem tagName_arith (hp : Bool) : tagName "arithmetic-error-in" hp = if hp then "arithmetic-error-in-plural-forms" else "arithmetic-error-in-unused-plural-forms" :=
  tagName_arith_eq hp

/-- the model's `unusualTag` (`unusualTagOf_eq`), spelt out as the regenerated text has it -/
def unusualTagOf (hp : Bool) (pf : List Char) (hint : Extra) : TagCall :=
  ⟨if hp then "unusual-plural-forms" else "unusual-unused-plural-forms", [.str pf, .str "=>".toList, hint]⟩

theorem unusualTagOf_eq : unusualTagOf = unusualTag := rfl

theorem window_eq (N : Nat) (out : List TagCall) (c0 : Option (List (Int × List Nat))) (pf : List Char) (hint : Extra) (hp : Bool) (n : Nat) (e : Expr)
    (lc : Option (Nat × Expr)) :
    ChkPlurals.check_plurals_window pluralOps out c0 pf hint hp n e (lc.map (·.1)) (lc.map (·.2)) false N =
      match window n e lc hp (unusualTagOf hp pf hint) (List.range N) ⟨out, [], false⟩ with
      | (_, .crashed ex) => .error ex
      | (st, .completed) => .ok (some st.pre, st.tags)
      | (st, .stopped) => .ok (c0, st.tags) := by
  rw [← winLoop n e lc hp (unusualTagOf hp pf hint) c0 (List.range N) [] out false (by simp [keys])]
  unfold ChkPlurals.check_plurals_window
  simp only [PyKit.ite_ok, hp_tag]
  rw [PyKit.forEachCtl_ext _ _ (winStep n e lc hp (unusualTagOf hp pf hint) c0) _ ?hb]
  case hb =>
    intro i st
    obtain ⟨pre, tags, un⟩ := st
    simp only [winStep, pluralOps, codomainTag, tagName_codomain_eq, unusualTagOf]
    cases evalAt 32 (↑i) e with
    | error ex => rfl
    | ok fi =>
      by_cases hge : fi ≥ (n : Int)
      · simp [hge]
      · rcases lc with _ | ⟨ln, le⟩
        · simp [hge]
        · simp [hge]
          by_cases hn : n = ln
          · subst hn
            cases evalAt 32 (↑i) le with
            | error ex => simp
            | ok v => by_cases h1 : fi = v <;> cases un <;> simp [h1]
          · simp [hn]
  generalize PyKit.forEachCtl (List.range N) (winStep n e lc hp (unusualTagOf hp pf hint) c0) ([], out, false) = r
  rcases r with ex | (⟨ex, c, i, tags⟩ | ⟨pre, tags, un⟩ | ⟨pre, tags, un⟩) <;> rfl

/-! ## the registry comparison -/

theorem parse_eq (c : List Char) : pluralOps.parse c =
    match parsePluralFormsStrict c with
    | .ok k ce _ _ => .ok (k, ce)
    | .syntaxError => .error .ValueError
    | .valueError => .error .ValueError := by
  simp only [pluralOps, Gen.strict_eq]
  cases parsePluralFormsStrict c <;> rfl

theorem localCorrect_eq (n : Nat) : ∀ (cs : List (List Char)),
    localCorrect n cs = (match PyKit.mapM (fun s => pluralOps.parse s) cs with
      | .error ex => .error ex
      | .ok l => .ok (l.filter (fun x => decide (x.1 = n))))
  | [] => rfl
  | c :: cs => by
    unfold localCorrect PyKit.mapM
    rw [localCorrect_eq n cs, parse_eq]
    cases parsePluralFormsStrict c with
    | ok k ce lj rj =>
      simp only []
      cases PyKit.mapM (fun s => pluralOps.parse s) cs with
      | error ex => rfl
      | ok l =>
        simp only [List.filter_cons]
        by_cases hk : k = n <;> simp [hk]
    | syntaxError => rfl
    | valueError => rfl

theorem registry_eq (out : List TagCall) (pf : List Char) (hint : Extra) (hp : Bool) (correct : Option (List (List Char))) (n : Nat) :
    ChkPlurals.check_plurals_registry pluralOps out pf hint hp correct n =
      match (match correct with | none => .ok none | some cs => (localCorrect n cs).map some : Except Exc (Option (List (Nat × Expr)))) with
      | .error ex => .error ex
      | .ok lcs => .ok (match lcs with
          | none => (none, none, out)
          | some [] => (none, none, out ++ [unusualTagOf hp pf hint])
          | some [x] => (some x.2, some x.1, out)
          | some _ => (none, none, out)) := by
  unfold ChkPlurals.check_plurals_registry
  simp only [PyKit.ite_ok, hp_tag]
  cases correct with
  | none => rfl
  | some cs =>
    simp only [localCorrect_eq]
    cases PyKit.mapM (fun s => pluralOps.parse s) cs with
    | error ex => rfl
    | ok l =>
      simp only [Except.map]
      generalize List.filter (fun x => decide (x.1 = n)) l = fl
      rcases fl with _ | ⟨⟨a, b⟩, _ | ⟨y, rest⟩⟩
      · simp [unusualTagOf]
      · simp
      · simp


/-! ## the gap analysis -/

/-- a range of the model (naturals) as the regenerated text has it (integers) -/
def castR (r : Nat × Nat) : Int × Int := ((r.1 : Int), (r.2 : Int))

theorem castR_toNat (a b : Int) (ha : 0 ≤ a) (hb : 0 ≤ b) : castR (a.toNat, b.toNat) = (a, b) := by
  simp only [castR, Int.toNat_of_nonneg ha, Int.toNat_of_nonneg hb]

/-- one element of the model's `gapTags` (`map_gapTag`) -/
def gapTag (hp : Bool) (r : Nat × Nat) : TagCall :=
  ⟨tagName "codomain-error-in" hp, [.safe ("f(x) != ".toList ++ formatRange r.1 r.2)]⟩

theorem map_gapTag (hp : Bool) (rs : List (Nat × Nat)) : rs.map (gapTag hp) = gapTags hp rs := rfl

/-- one iteration of `for rng in uncov_rngs:` -/
def finalStep (hp : Bool) (rng : Int × Int) (st : Option (List (Int × List Nat)) × List TagCall) :
    Except Exc (Option (List (Int × List Nat)) × List TagCall) :=
  match ChkPlurals.format_range (PyKit.rangeInt rng.1 rng.2) 5 with
  | .error ex => .error ex
  | .ok s => .ok (none, st.2 ++ [⟨tagName "codomain-error-in" hp, [.safe ("f(x) != ".toList ++ s)]⟩])

theorem finalLoop (hp : Bool) : ∀ (rs : List (Nat × Nat)) (c : Option (List (Int × List Nat))) (out : List TagCall), (∀ r ∈ rs, r.1 < r.2) →
    PyKit.forEach (rs.map castR) (finalStep hp) (c, out) = .ok (if rs.isEmpty then c else none, out ++ rs.map (gapTag hp))
  | [], c, out, _ => by simp [PyKit.forEach]
  | r :: rs, c, out, h => by
    unfold PyKit.forEach
    simp only [List.map_cons, finalStep, castR]
    rw [format_range_eq r.1 r.2 (h r (by simp))]
    simp only []
    rw [finalLoop hp rs none _ (fun r' hr' => h r' (by simp [hr']))]
    cases rs <;> simp [gapTag]

/-- one iteration of `for i in sorted(ctx.plural_preimage):`; an `abbrev` for the same reason as `frStep` (`rw [scanLoop …]`) -/
abbrev scanStep (n : Nat) (pp : List (Int × List Nat)) (i : Int) (acc : List (Int × Int)) : Except Exc (PyKit.LoopStep Empty (List (Int × Int))) :=
  .ok (if (decide (i > 0) && !PyKit.dictMem pp (i - 1)) then .brk (acc ++ [(i - 1, i)])
    else if (decide (i + 1 < (n : Int)) && !PyKit.dictMem pp (i + 1)) then .brk (acc ++ [(i + 1, i + 2)])
    else .next acc)

theorem dictMem_eq_contains (pp : Preimage) (k : Int) : PyKit.dictMem pp k = (sortedKeys pp).contains k := by
  rw [Bool.eq_iff_iff, List.contains_iff_mem, mem_sortedKeys]
  unfold PyKit.dictMem keys
  simp only [List.any_eq_true, decide_eq_true_eq, List.mem_map]

theorem scanLoop (n : Nat) (pp : Preimage) : ∀ (ks : List Int) (acc : List (Int × Int)), (∀ k ∈ ks, 0 ≤ k) →
    PyKit.forEachCtl ks (scanStep n pp) acc =
      .ok (if scanKeys n (sortedKeys pp) ks = [] then .exhausted acc else .broke (acc ++ (scanKeys n (sortedKeys pp) ks).map castR))
  | [], acc, _ => by simp [PyKit.forEachCtl, scanKeys]
  | i :: ks, acc, h => by
    have hi : 0 ≤ i := h i (by simp)
    unfold PyKit.forEachCtl scanKeys
    -- both tests as propositions: `0 < i ∧ i - 1 is no key`, `i + 1 < n ∧ i + 1 is no key`
    simp only [scanStep, dictMem_eq_contains, Bool.and_eq_true, decide_eq_true_eq, Bool.not_eq_eq_eq_not, Bool.not_true, Bool.not_eq_true]
    by_cases h1 : i > 0 ∧ (sortedKeys pp).contains (i - 1) = false
    · rw [if_pos h1, if_pos h1]
      simp only [List.map_cons, List.map_nil, castR_toNat (i - 1) i (by omega) hi, reduceCtorEq, if_false]
    · rw [if_neg h1, if_neg h1]
      by_cases h2 : i + 1 < (n : Int) ∧ (sortedKeys pp).contains (i + 1) = false
      · rw [if_pos h2, if_pos h2]
        simp only [List.map_cons, List.map_nil, castR_toNat (i + 1) (i + 2) (by omega) (by omega), reduceCtorEq, if_false]
      · rw [if_neg h2, if_neg h2]
        exact scanLoop n pp ks acc (fun k hk => h k (by simp [hk]))

theorem IntInf.add_lt_fin (o p N : Int) : ((PyKit.IntInf.fin o).add (PyKit.IntInf.fin p)).lt (PyKit.IntInf.fin N) = decide (o + p < N) := rfl

/-- the two `uncov_rngs += …` after `codomain = expr.codomain()`, as regenerated, compute the model's `codomainRanges` -/
theorem codomainRanges_map_castR (x y : Int) (n : Nat) (hy : 0 ≤ y) :
    (codomainRanges x y n).map castR =
      if y + 1 < (n : Int) then (if x > 0 then [(0, x)] else []) ++ [(y + 1, (n : Int))]
      else if x > 0 then [(0, x)] else [] := by
  have h0 : ∀ z : Int, 0 ≤ z → ((z.toNat : Nat) : Int) = z := fun z hz => Int.toNat_of_nonneg hz
  by_cases hx : x > 0
  · by_cases hy' : y + 1 < (n : Int)
    · simp [codomainRanges, hx, hy', castR, h0 x (by omega), h0 (y + 1) (by omega)]
    · simp [codomainRanges, hx, hy', castR, h0 x (by omega)]
  · by_cases hy' : y + 1 < (n : Int)
    · simp [codomainRanges, hx, hy', castR, h0 (y + 1) (by omega)]
    · simp [codomainRanges, hx, hy']

theorem gaps_eq (out : List TagCall) (c : Option (List (Int × List Nat))) (hp : Bool) (n : Nat) (e : Expr)
    (hc : ∀ p, c = some p → ∀ k ∈ keys p, 0 ≤ k) :
    ChkPlurals.check_plurals_gaps pluralOps out c hp n e 200 =
      match gapRanges n e c with
      | .error ex => .error ex
      | .ok rs => .ok (out ++ rs.map (gapTag hp), if rs.isEmpty then c else none) := by
  obtain ⟨rs0, heq, h0⟩ := gapRanges_eq n e c
  rw [heq]
  unfold ChkPlurals.check_plurals_gaps
  simp only [PyKit.ite_ok, hp_tag, pluralOps]
  obtain ⟨cd, hcd⟩ := I18n.Props.C05.codomain_nocrash 32 e
  rw [hcd]
  simp only []
  split
  next heq' =>  -- the block that collects the ranges outside the codomain is `.ok` for both shapes of `cd`
    cases cd <;> cases heq'
  next uncov heq' =>
    -- the first half has computed the ranges outside the codomain
    obtain ⟨hne, rfl⟩ : (∀ r ∈ rs0, r.1 < r.2) ∧ uncov = rs0.map castR := by
      rcases h0 with ⟨hcd', rfl⟩ | ⟨x, y, hcd', rfl⟩ <;> rw [hcd] at hcd' <;> cases hcd'
      · exact ⟨by simp, by simpa using heq'.symm⟩
      · have wf := I18n.Props.C05.codomain_interval_wf 32 e x y hcd
        refine ⟨codomainRanges_nonempty x y n (by omega), ?_⟩
        simp only [decide_eq_true_eq, Except.ok.injEq] at heq'
        rw [← heq', codomainRanges_map_castR x y n (by omega)]
    -- the `if not uncov_rngs:` block is the model's `gapTail`
    generalize hB : (if (!!(List.map castR rs0).isEmpty) = true then _ else _ : Except Exc (List (Int × Int))) = B
    have hB' : B = (gapTail n e c rs0).map (List.map castR) := by
      subst hB
      unfold gapTail
      cases hemp : rs0.isEmpty with
      | false => simp [hemp, Except.map]
      | true =>
        obtain rfl : rs0 = [] := List.isEmpty_iff.1 hemp
        simp only [List.map_nil, List.isEmpty_nil, Bool.not_true, Bool.not_false, if_true]
        cases c with
        | none => rfl
        | some pp =>
          simp only []
          cases period 32 e with
          | error ex => rfl
          | ok per =>
            cases per with
            | none => simp [PyKit.infinity, PyKit.IntInf.add, PyKit.IntInf.lt, Except.map]
            | some op =>
              obtain ⟨o, p⟩ := op
              -- `sum(period) < codomain_limit`; the regenerated limit is the argument `200` of the statement
              simp only [IntInf.add_lt_fin, show ((200 : Nat) : Int) = (codomainLimit : Int) from rfl]
              by_cases hs : o + p < (codomainLimit : Int)
              · simp only [hs, decide_true, if_true]
                rw [scanLoop n pp _ _ fun k hk => hc pp rfl k ((mem_sortedKeys pp k).mp hk)]
                cases scanKeys n (sortedKeys pp) (sortedKeys pp) <;> simp [Except.map]
              · simp [hs, Except.map]
    subst hB'
    cases hg : gapTail n e c rs0 with
    | error ex => rfl
    | ok rs =>
      -- the final loop: every range that is left is non-empty
      have hrs : ∀ r ∈ rs, r.1 < r.2 := by
        rcases gapTail_cases hg with rfl | ⟨pre, _, _, rfl, _, _, rfl⟩
        · exact hne
        · exact scanKeys_nonempty n _ _ fun k hk => hc pre rfl k ((mem_sortedKeys pre k).mp hk)
      simp only [Except.map]
      rw [PyKit.forEach_ext _ _ (finalStep hp) ?hb _, finalLoop hp rs c out hrs]
      case hb =>
        intro rng x; unfold finalStep; rw [tagName_codomain_eq]
        cases ChkPlurals.format_range (PyKit.rangeInt rng.fst rng.snd) 5 <;> rfl

/-- the model after the registry comparison: the window, then the gap analysis (`afterRegistry_eq`: the inner `match` of `analyse_eq`) -/
def afterRegistry (pf : List Char) (hp : Bool) (hint : Extra) (n : Nat) (e : Expr) (lc : Option (Nat × Expr)) (out : List TagCall) : Except Exc Output :=
  match window n e lc hp (unusualTagOf hp pf hint) (List.range codomainLimit) ⟨out, [], false⟩ with
  | (_, .crashed ex) => .error ex
  | (st, fin) =>
    let completed : Option Preimage := match fin with | .completed => some st.pre | _ => none
    match gapRanges n e completed with
    | .error ex => .error ex
    | .ok rs => .ok ⟨st.tags ++ rs.map (gapTag hp), if rs.isEmpty then completed else none⟩

theorem afterRegistry_eq (pf : List Char) (hp : Bool) (hint : Extra) (n : Nat) (e : Expr) (lc : Option (Nat × Expr)) (out : List TagCall) :
    afterRegistry pf hp hint n e lc out =
      match window n e lc hp (unusualTag hp pf hint) (List.range codomainLimit) ⟨out, [], false⟩ with
      | (_, .crashed ex) => .error ex
      | (st, fin) =>
        match gapRanges n e (completedOf st fin) with
        | .error ex => .error ex
        | .ok rs => .ok ⟨st.tags ++ gapTags hp rs, if rs.isEmpty then completedOf st fin else none⟩ := by
  unfold afterRegistry
  rw [unusualTagOf_eq]
  -- the window is named first: `rfl` on the open term would start to evaluate `List.range codomainLimit`
  generalize window _ _ _ _ _ _ _ = w
  obtain ⟨st, fin⟩ := w
  cases fin <;> rfl

/- Stated through `r` and `hr`, with a `match` that is not generalised: in `check_plurals_tail` the result of the window is taken apart by a
   matcher of the regenerated definition, so `tail_eq` can only `generalize` the call of `check_plurals_window` and case on the result;
   the two outcomes are `window_then_gaps_error` and `window_then_gaps_ok`. -/
theorem window_then_gaps (out : List TagCall) (pf : List Char) (hint : Extra) (hp : Bool) (n : Nat) (e : Expr) (lc : Option (Nat × Expr))
    (r : Except Exc (Option (List (Int × List Nat)) × List TagCall))
    (hr : ChkPlurals.check_plurals_window pluralOps out none pf hint hp n e (lc.map (·.1)) (lc.map (·.2)) false 200 = r) :
    (match (generalizing := false) r with
      | .error ex => (.error ex : Except Exc (List TagCall × Option Preimage))
      | .ok (c, out') => ChkPlurals.check_plurals_gaps pluralOps out' c hp n e 200) =
    (afterRegistry pf hp hint n e lc out).map (fun o => (o.tags, o.preimage)) := by
  subst hr
  rw [window_eq]
  unfold afterRegistry
  simp only [codomainLimit]
  generalize hwv : window _ _ _ _ _ _ _ = w
  obtain ⟨st, fin⟩ := w
  cases fin with
  | completed =>
    simp only []
    rw [gaps_eq st.tags (some st.pre) hp n e (fun p hp' k hk => by
      cases hp'; exact (completedOf_facts n e lc hp _ _ st .completed rfl hwv st.pre rfl).2 k hk)]
    cases gapRanges n e (some st.pre) <;> simp only [Except.map]
  | stopped =>
    simp only []
    rw [gaps_eq st.tags none hp n e (fun p hp' => by cases hp')]
    cases gapRanges n e none <;> simp only [Except.map]
  | crashed ex => simp only [Except.map]


theorem window_then_gaps_error (out : List TagCall) (pf : List Char) (hint : Extra) (hp : Bool) (n : Nat) (e : Expr) (lc : Option (Nat × Expr)) (ex : Exc)
    (hr : ChkPlurals.check_plurals_window pluralOps out none pf hint hp n e (lc.map (·.1)) (lc.map (·.2)) false 200 = .error ex) :
    (afterRegistry pf hp hint n e lc out).map (fun o => (o.tags, o.preimage)) = .error ex :=
  (window_then_gaps out pf hint hp n e lc _ hr).symm

theorem window_then_gaps_ok (out : List TagCall) (pf : List Char) (hint : Extra) (hp : Bool) (n : Nat) (e : Expr) (lc : Option (Nat × Expr))
    (c : Option (List (Int × List Nat))) (out' : List TagCall)
    (hr : ChkPlurals.check_plurals_window pluralOps out none pf hint hp n e (lc.map (·.1)) (lc.map (·.2)) false 200 = .ok (c, out')) :
    (afterRegistry pf hp hint n e lc out).map (fun o => (o.tags, o.preimage)) = ChkPlurals.check_plurals_gaps pluralOps out' c hp n e 200 :=
  (window_then_gaps out pf hint hp n e lc _ hr).symm


/-! ## the glue: the whole `check_plurals_tail` is the model's `analyse` -/

theorem analyse_after (inp : Input) (pf : List Char) (hp : Bool) (expected : List (Nat × List Char)) (hint : Extra)
    (tags0 : List TagCall) (n : Nat) (e : Expr) (lj rj : List Char) :
    analyse inp pf hp expected hint tags0 n e lj rj =
      match lcsOf inp n with
      | .error ex => .error ex
      | .ok lcs => afterRegistry pf hp hint n e (pickLc (unusualTagOf hp pf hint) lcs).2
          (tags0 ++ junkTags lj rj ++ nplTags n expected ++ (pickLc (unusualTagOf hp pf hint) lcs).1) := by
  rw [analyse_eq]
  simp only [afterRegistry_eq, unusualTagOf_eq]
  rfl  -- what is left differs in the matchers' names only

theorem registry_lcs (out : List TagCall) (pf : List Char) (hint : Extra) (hp : Bool) (inp : Input) (n : Nat) :
    ChkPlurals.check_plurals_registry pluralOps out pf hint hp inp.correct n =
      match lcsOf inp n with
      | .error ex => .error ex
      | .ok lcs => .ok (((pickLc (unusualTagOf hp pf hint) lcs).2).map (·.2), ((pickLc (unusualTagOf hp pf hint) lcs).2).map (·.1),
          out ++ (pickLc (unusualTagOf hp pf hint) lcs).1) := by
  rw [registry_eq]
  unfold lcsOf
  simp only [Except.map]
  cases inp.correct with
  | none => simp [pickLc]
  | some cs =>
    simp only []
    generalize localCorrect n cs = r
    rcases r with ex | (_ | ⟨x, _ | ⟨y, rest⟩⟩) <;> simp [pickLc]

theorem tail_eq (inp : Input) (pf : List Char) (hp : Bool) (expected : List (Nat × List Char)) (hint : Extra) (tags0 : List TagCall)
    (n : Nat) (e : Expr) (lj rj : List Char) :
    ChkPlurals.check_plurals_tail pluralOps tags0 none pf hint hp expected inp.correct n e lj rj =
      (analyse inp pf hp expected hint tags0 n e lj rj).map (fun o => (o.tags, o.preimage)) := by
  unfold ChkPlurals.check_plurals_tail
  simp only [PyKit.ite_ok]
  -- `if ljunk: …` / `if rjunk: …` (the second test is the outer one in the regenerated text): `j` = `tags0` and the model's `junkTags`
  generalize hj : (if (!rj.isEmpty) = true then _ else _ : List TagCall) = j
  obtain rfl : j = tags0 ++ junkTags lj rj := by
    subst hj
    unfold junkTags
    cases lj.isEmpty <;> cases rj.isEmpty <;> simp
  -- named, so that the kernel does not compare the literals character by character
  generalize hs1 : "(Plural-Forms header field)".toList = s1
  generalize hs2 : "!=".toList = s2
  generalize hs3 : "(number of msgstr items)".toList = s3
  generalize hblk : (if decide (expected.length = 1) = true then _ else _ : Except Exc (List TagCall)) = blk
  have : blk = .ok (tags0 ++ junkTags lj rj ++ nplTags n expected) := by
    subst hblk
    generalize tags0 ++ junkTags lj rj = out1
    rcases expected with _ | ⟨⟨k, r⟩, _ | ⟨q, rest⟩⟩
    · simp [nplTags]
    · by_cases hk : n = k <;> simp [PyKit.keys, nplTags, hk, hs1, hs2, hs3]
    · simp [nplTags]
  subst this
  simp only []
  rw [analyse_after, registry_lcs]
  cases lcsOf inp n with
  | error ex => rfl
  | ok lcs =>
    simp only []
    generalize hr : ChkPlurals.check_plurals_window _ _ _ _ _ _ _ _ _ _ _ _ = r
    rcases r with ex | ⟨c, out'⟩
    · exact (window_then_gaps_error _ pf hint hp n e (pickLc (unusualTagOf hp pf hint) lcs).2 ex hr).symm
    · exact (window_then_gaps_ok _ pf hint hp n e (pickLc (unusualTagOf hp pf hint) lcs).2 c out' hr).symm

end I18n.CheckPlurals.GenChk
