/-!
# Decidable equality of `Except` values

Test vectors have the form `f input = .ok v` or `= .error e`.  With this instance they are closed decidable propositions that the
kernel evaluates.  It is scoped: only a section that says `open scoped I18n.ExceptDec` sees it.
-/
namespace I18n.ExceptDec

scoped instance {ε α : Type} [DecidableEq ε] [DecidableEq α] : DecidableEq (Except ε α)
  | .ok a, .ok b => if h : a = b then isTrue (by rw [h]) else isFalse (fun h' => h (Except.ok.inj h'))
  | .error a, .error b => if h : a = b then isTrue (by rw [h]) else isFalse (fun h' => h (Except.error.inj h'))
  | .ok _, .error _ => isFalse nofun
  | .error _, .ok _ => isFalse nofun

end I18n.ExceptDec
