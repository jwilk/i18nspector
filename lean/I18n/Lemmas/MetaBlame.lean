import I18n.Model.Meta
/-!
The "reported once per file" loop: WHAT is reported does not depend on the order of the messages, WHO is blamed does.
-/
namespace I18n.Meta

variable {μ : Type}

theorem blameStrings_found (m : μ) (cands : List (List Char)) (found : List Char) :
    (blameStrings m found cands).2 = found ++ (blameStrings m found cands).1.flatMap (·.2) := by
  induction cands generalizing found with
  | nil => simp [blameStrings]
  | cons s rest ih =>
    unfold blameStrings
    simp only
    split
    · exact ih found
    · simp only [ih, List.flatMap_cons, List.append_assoc]

theorem blameStrings_chars (m : μ) (cands : List (List Char)) (found : List Char) (c : Char) :
    c ∈ (blameStrings m found cands).1.flatMap (·.2) ↔ c ∉ found ∧ ∃ s ∈ cands, c ∈ s := by
  induction cands generalizing found with
  | nil => simp [blameStrings]
  | cons s rest ih =>
    have hu : c ∈ s.filter (fun c => !found.contains c) ↔ c ∈ s ∧ c ∉ found := by simp
    unfold blameStrings
    simp only
    split
    · rename_i he
      rw [List.isEmpty_iff.mp he] at hu
      simp only [ih, List.mem_cons, exists_eq_or_imp]
      by_cases hf : c ∈ found
      · simp [hf]
      · have hs : c ∉ s := fun h => nomatch hu.2 ⟨h, hf⟩
        simp [hf, hs]
    · simp only [List.flatMap_cons, List.mem_append, ih, hu, List.mem_cons, exists_eq_or_imp]
      by_cases hf : c ∈ found <;> by_cases hs : c ∈ s <;> simp [hf, hs]

theorem blame_chars (msgs : List (μ × List (List Char))) (found : List Char) (c : Char) :
    c ∈ (blame found msgs).flatMap (·.2) ↔ (c ∉ found ∧ ∃ m ∈ msgs, ∃ s ∈ m.2, c ∈ s) := by
  induction msgs generalizing found with
  | nil => simp [blame]
  | cons m rest ih =>
    simp only [blame, List.flatMap_append, List.mem_append, ih, blameStrings_found, blameStrings_chars, List.mem_cons,
      exists_eq_or_imp]
    by_cases hf : c ∈ found <;> by_cases hs : ∃ s ∈ m.2, c ∈ s <;> simp [hf, hs]
end I18n.Meta
