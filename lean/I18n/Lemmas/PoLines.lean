import I18n.Spec.PoSpelling
import I18n.Lemmas.PoKit
import I18n.Lemmas.PoUnescape
/-! What one iteration of polib's line loop (`Po.stepLine`) does on each class of spelled line: the call of `process` it makes
(`Calls`).  Lines that carry nothing are in `PoFsm.noise_step`.  The specification's `endsNonSpace t` and `allSpace t` are
`PoKit.LastNot pyIsSpace t` and `∀ c ∈ t, pyIsSpace c = true` by definition, and `MsgPrefix` is the first conjunct of
`MsgSp.Valid`: the lemmas take one for the other. -/

namespace I18n.Spec.PoSpelling
variable {E : Codec} {g : Seg} {x : StrSp} {e : EntrySp}

theorem Seg.Valid.choices (h : g.Valid E) : ∀ c ∈ g.choices, c.Valid E := h.1
theorem Seg.Valid.okSeq (h : g.Valid E) : I18n.Spec.PoSpelling.okSeq g.choices = true := h.2.1
theorem Seg.Valid.lpad (h : g.Valid E) : Blank g.lpad := h.2.2.1
theorem Seg.Valid.rpad (h : g.Valid E) : ∀ c ∈ g.rpad, I18n.Po.pyIsSpace c = true := h.2.2.2

theorem StrSp.Valid.sep_ne (h : x.Valid E) : x.sep ≠ [] := h.1
theorem StrSp.Valid.sep_blank (h : x.Valid E) : Blank x.sep := h.2.1
theorem StrSp.Valid.first (h : x.Valid E) : x.first.Valid E := h.2.2.1
theorem StrSp.Valid.firstNoise (h : x.Valid E) : ∀ z ∈ x.firstNoise, z.Valid := h.2.2.2.1
theorem StrSp.Valid.more (h : x.Valid E) : ∀ gn ∈ x.more, gn.1.Valid E ∧ ∀ z ∈ gn.2, z.Valid := h.2.2.2.2

theorem EntrySp.Valid.comments (h : e.Valid E) : ∀ c ∈ e.comments, c.Valid E := h.1
theorem EntrySp.Valid.msg (h : e.Valid E) : e.msg.Valid E := h.2

end I18n.Spec.PoSpelling

namespace I18n.Lemmas.PoLines
open I18n I18n.Po I18n.Spec.PoSpelling I18n.Lemmas.PoKit
open I18n.Generated.PolibFsm (St Sym Handler)

theorem blank_space (s : Text) (h : Blank s) : ∀ c ∈ s, pyIsSpace c = true := by
  intro c hc; rcases h c hc with rfl | rfl <;> decide

/-! ### the rendered string never shows an unescaped quote to polib's test -/

theorem hexChar_ne_quote : ∀ h : HexDigit, h.char ≠ '"' := by
  rintro ⟨v, u⟩; revert v u; decide
theorem octChar_ne_quote : ∀ a : Fin 8, octChar a ≠ '"' := by decide

/-- every `"` in `s` has a backslash right before it; `prev` is the character before `s` -/
def QuotesEscaped : Char → Text → Prop
  | _, [] => True
  | prev, c :: r => (c = '"' → prev = '\\') ∧ QuotesEscaped c r

theorem quoteAfterOther_false (prev : Char) (s : Text) (h : QuotesEscaped prev s) : quoteAfterOther (prev :: s) = false := by
  induction s generalizing prev with
  | nil => simp [quoteAfterOther]
  | cons c r ih =>
    simp only [quoteAfterOther, Bool.or_eq_false_iff, Bool.and_eq_false_iff, bne_eq_false_iff_eq, beq_eq_false_iff_ne]
    refine ⟨?_, ih c h.2⟩
    by_cases hc : c = '"'
    · exact Or.inl (h.1 hc)
    · exact Or.inr hc

theorem quotesEscaped_append (prev : Char) (a b : Text) (ha : QuotesEscaped prev a)
    (hb : QuotesEscaped ((prev :: a).getLast (by simp)) b) : QuotesEscaped prev (a ++ b) := by
  induction a generalizing prev with
  | nil => simpa using hb
  | cons c r ih =>
    refine ⟨ha.1, ih c ha.2 ?_⟩
    simpa [List.getLast_cons] using hb

theorem quotesEscaped_form (prev : Char) (f : EscForm) : QuotesEscaped prev ('\\' :: f.body) := by
  cases f <;> simp [EscForm.body, QuotesEscaped, octChar_ne_quote, hexChar_ne_quote]

theorem quotesEscaped_flatMap {α : Type} (f : α → Text) (l : List α) (h : ∀ x ∈ l, ∀ prev, QuotesEscaped prev (f x)) (prev : Char) :
    QuotesEscaped prev (l.flatMap f) := by
  induction l generalizing prev with
  | nil => trivial
  | cons x xs ih =>
    rw [List.flatMap_cons]
    exact quotesEscaped_append prev _ _ (h x (by simp) prev) (ih (fun y hy => h y (by simp [hy])) _)

theorem quotesEscaped_choice (E : Codec) (prev : Char) (x : Choice) (hx : x.Valid E) : QuotesEscaped prev x.render := by
  cases x with
  | raw c => exact ⟨fun h => absurd h (hx : rawOk c).ne_quote, trivial⟩
  | simple i => exact ⟨fun h => absurd h (by decide), fun _ => rfl, trivial⟩
  | bytes c forms => exact quotesEscaped_flatMap _ forms (fun f _ p => quotesEscaped_form p f) prev

theorem no_unescaped_quote (E : Codec) (cs : List Choice) (h : ∀ x ∈ cs, x.Valid E) :
    hasUnescapedQuote (render cs) = false := by
  -- `'a'` stands for any character but the backslash: then `hq.1` says that the string does not start with a quote, the first
  -- clause of `hasUnescapedQuote`
  have hq : QuotesEscaped 'a' (render cs) := quotesEscaped_flatMap _ cs (fun x hx p => quotesEscaped_choice E p x (h x hx)) 'a'
  cases hr : render cs with
  | nil => rfl
  | cons c r =>
    rw [hr] at hq
    have hc : c ≠ '"' := fun e => absurd (hq.1 e) (by decide)
    have := quoteAfterOther_false c r hq.2
    unfold hasUnescapedQuote
    split
    · next heq => simp at heq; exact absurd heq.1 hc
    · exact this

theorem inner_quoted (cs : List Choice) : inner (quoted cs) = render cs := by
  simp [inner, quoted]

/-! ### `stepLine` up to `dispatch` -/

theorem dropBom_id (n : Nat) (raw : Text) (h : ∀ c r, raw = c :: r → c ≠ bom) : dropBom n raw = raw := by
  unfold dropBom
  split
  · cases raw with
    | nil => rfl
    | cons c r => simp [h c r rfl]
  · rfl

/-- a stripped line: the token `t0`, then nothing, or white space and more text that ends in a non-space -/
structure Tok (t0 rest : Text) : Prop where
  ne : t0 ≠ []
  nonspace : ∀ c ∈ t0, pyIsSpace c = false
  head : ∀ c r, rest = c :: r → pyIsSpace c = true
  last : LastNot pyIsSpace rest

theorem Tok.of_sep {t0 : Text} (ne : t0 ≠ []) (nonspace : ∀ c ∈ t0, pyIsSpace c = false)
    (sep : Text) (hsep : sep ≠ []) (hsp : ∀ c ∈ sep, pyIsSpace c = true) (body : Text) (hb : body ≠ []) (hlast : LastNot pyIsSpace body) :
    Tok t0 (sep ++ body) := by
  obtain ⟨b, bs, rfl⟩ := List.exists_cons_of_ne_nil hsep
  exact ⟨ne, nonspace, by intro c r e; cases e; exact hsp b (by simp), lastNot_append _ _ hb hlast⟩

theorem Tok.of_cons (c : Char) (r : Text) (hc : pyIsSpace c = false) (hlast : LastNot pyIsSpace (c :: r)) :
    ∃ t rest, c :: r = (c :: t) ++ rest ∧ Tok (c :: t) rest := by
  refine ⟨r.takeWhile fun x => !pyIsSpace x, r.dropWhile fun x => !pyIsSpace x, by simp, by simp, ?_, ?_, ?_⟩
  · intro x hx
    rcases List.mem_cons.1 hx with rfl | hx
    · exact hc
    · simpa using Kit.takeWhile_all _ r x hx
  · simpa using Kit.forall_head?_iff.1 (Kit.dropWhile_head (fun x => !pyIsSpace x) r)
  · intro x e
    refine hlast x ?_
    rw [← List.takeWhile_append_dropWhile (p := fun x => !pyIsSpace x) (l := r), ← List.cons_append, List.getLast?_append, e]
    rfl

theorem Tok.split {t0 rest : Text} (h : Tok t0 rest) (k : Nat) : splitWs pyIsSpace (k + 1) (t0 ++ rest) = t0 :: splitWs pyIsSpace k rest :=
  splitWs_tok k t0 rest h.ne h.nonspace h.head

/-- the same on the padded line, as `Codecs.open` splits it -/
theorem Tok.split_pad {t0 rest : Text} (h : Tok t0 rest) (k : Nat) (lpad rpad : Text) (hl : ∀ c ∈ lpad, pyIsSpace c = true)
    (hr : ∀ c ∈ rpad, pyIsSpace c = true) :
    splitWs pyIsSpace (k + 1) (lpad ++ (t0 ++ rest) ++ rpad) = t0 :: splitWs pyIsSpace k (rest ++ rpad) := by
  rw [List.append_assoc, splitWs_pad _ lpad _ hl, List.append_assoc]
  refine splitWs_tok k t0 _ h.ne h.nonspace fun c r e => ?_
  cases hrest : rest with
  | nil => rw [hrest] at e; exact hr c (by rw [List.nil_append] at e; simp [e])
  | cons b bs => rw [hrest] at e; cases e; exact h.head _ _ hrest

theorem Tok.headNot {t0 rest : Text} (h : Tok t0 rest) : HeadNot pyIsSpace (t0 ++ rest) := by
  obtain ⟨a, as, rfl⟩ := List.exists_cons_of_ne_nil h.ne
  intro c r e
  cases e
  exact h.nonspace a (by simp)

theorem Tok.lastNot {t0 rest : Text} (h : Tok t0 rest) : LastNot pyIsSpace (t0 ++ rest) := by
  cases hr : rest with
  | nil => intro c e; rw [List.append_nil] at e; exact h.nonspace c (List.mem_of_getLast? e)
  | cons b bs => exact lastNot_append _ _ (by simp) (hr ▸ h.last)

theorem hash_nonspace {k : Char} (hk : pyIsSpace k = false) : ∀ c ∈ ['#', k], pyIsSpace c = false := by
  intro c hc
  rw [List.mem_cons, List.mem_singleton] at hc
  rcases hc with rfl | rfl
  · decide
  · exact hk

theorem Tok.marked {t1 rest : Text} (h : Tok t1 rest) (k : Char) (hk : pyIsSpace k = false) (sep : Text) (hsep : sep ≠ []) (hbl : Blank sep) :
    Tok ['#', k] (sep ++ (t1 ++ rest)) :=
  Tok.of_sep (by simp) (hash_nonspace hk) sep hsep (blank_space sep hbl) _
    (by simp [h.ne]) h.lastNot

theorem Tok.ignoredPrev {mid : Text} (h1 : ∀ c r, mid = c :: r → pyIsSpace c = true) (h2 : LastNot pyIsSpace mid) : Tok ['#', '~', '|'] mid :=
  ⟨by simp, by intro c hc; simp at hc; rcases hc with rfl | rfl | rfl <;> decide, h1, h2⟩

theorem Tok.bare {k : Char} (hk : pyIsSpace k = false) : Tok ['#', k] [] :=
  ⟨by simp, hash_nonspace hk, nofun, nofun⟩

theorem line_front (n : Nat) (lpad t0 rest rpad : Text) (hl : Blank lpad) (hr : ∀ c ∈ rpad, pyIsSpace c = true) (ht : Tok t0 rest)
    (hbom : t0.head? ≠ some bom) :
    strip pyIsSpace (dropBom n (lpad ++ (t0 ++ rest) ++ rpad)) = t0 ++ rest ∧
      splitWs pyIsSpace 2 (t0 ++ rest) = t0 :: splitWs pyIsSpace 1 rest := by
  -- the line starts with a blank or with the first character of `t0`
  have hnb : ∀ c r, lpad ++ (t0 ++ rest) ++ rpad = c :: r → c ≠ bom := by
    intro c r e
    cases lpad with
    | nil => obtain ⟨a, as, rfl⟩ := List.exists_cons_of_ne_nil ht.ne; cases e; simpa using hbom
    | cons x xs => cases e; rcases hl c (by simp) with rfl | rfl <;> decide
  rw [dropBom_id n _ hnb]
  exact ⟨strip_pad lpad _ rpad (blank_space lpad hl) hr ht.headNot ht.lastNot, ht.split 1⟩

section
variable {env : Env} (hsp : env.isSpace = pyIsSpace) (enc : Bytes)
include hsp

theorem stepLine_blank (n : Nat) (raw : Text) (h : ∀ c ∈ raw, pyIsSpace c = true) (s : PState) : stepLine env enc n raw s = .ok s := by
  have hb : dropBom n raw = raw := dropBom_id n raw (by
    intro c r e; have := h c (by rw [e]; simp); intro hc; rw [hc] at this; exact absurd this (by decide))
  have : strip pyIsSpace raw = [] := by
    simpa using strip_pad (p := pyIsSpace) raw [] [] h (by simp) (by intro c r e; simp at e) (by intro c e; simp at e)
  simp [stepLine, hsp, hb, this]

theorem stepLine_tok (n : Nat) (lpad t0 rest rpad : Text) (hl : Blank lpad)
    (hr : ∀ c ∈ rpad, pyIsSpace c = true) (ht : Tok t0 rest) (hbom : t0.head? ≠ some bom) (h1 : t0 ≠ ['#', '~', '|']) (h2 : t0 ≠ ['#', '~'])
    (s : PState) :
    stepLine env enc n (lpad ++ (t0 ++ rest) ++ rpad) s =
      dispatch env enc n (t0 ++ rest) t0 (splitWs pyIsSpace 1 rest) { s with entryObsolete := false } := by
  obtain ⟨hs, hsplit⟩ := line_front n lpad t0 rest rpad hl hr ht hbom
  have hne : (t0 ++ rest).isEmpty = false := by simp [ht.ne]
  simp only [stepLine, hsp, hs, hsplit, hne]
  simp [h1, h2]

theorem stepLine_obs (n : Nat) (lpad sep t1 rest rpad : Text) (hl : Blank lpad) (hr : ∀ c ∈ rpad, pyIsSpace c = true)
    (hsep : sep ≠ []) (hbl : Blank sep) (ht : Tok t1 rest) (s : PState) :
    stepLine env enc n (lpad ++ ('#' :: '~' :: (sep ++ (t1 ++ rest))) ++ rpad) s =
      dispatch env enc n (t1 ++ rest) t1 (splitWs pyIsSpace 0 rest) { s with entryObsolete := true } := by
  have hsepsp := blank_space sep hbl
  obtain ⟨hs, hsplit⟩ := line_front n lpad _ _ rpad hl hr (ht.marked '~' (by decide) sep hsep hbl) (by decide)
  rw [splitWs_pad 1 _ _ hsepsp, ht.split 0] at hsplit
  have hdrop : strip pyIsSpace (('#' :: '~' :: (sep ++ (t1 ++ rest))).drop 3) = t1 ++ rest := by
    obtain ⟨b, bs, rfl⟩ := List.exists_cons_of_ne_nil hsep
    simpa using strip_pad (p := pyIsSpace) bs (t1 ++ rest) [] (fun c hc => hsepsp c (by simp [hc])) (by simp) ht.headNot ht.lastNot
  simp only [List.cons_append, List.nil_append] at hs hsplit
  simp only [stepLine, hsp, hs, hsplit, hdrop]
  simp

end

/-! ### keyword lines, continuation lines -/

theorem quoted_headNot (cs : List Choice) : HeadNot pyIsSpace (quoted cs) := by
  intro c r e; simp [quoted] at e; rw [← e.1]; decide

theorem quoted_lastNot (cs : List Choice) : LastNot pyIsSpace (quoted cs) := by
  intro c e
  have : quoted cs = ('"' :: render cs) ++ ['"'] := by simp [quoted]
  rw [this, List.getLast?_concat] at e
  simp at e; rw [← e]; decide

/-- what a line that starts with the word `kw` needs of it (`msgstr[N]` included, which is in no table) -/
structure KwHead (kw : Text) : Prop where
  ne : kw ≠ []
  nonspace : ∀ c ∈ kw, pyIsSpace c = false
  head : kw.head? ≠ some bom ∧ kw.head? ≠ some '#'

/-- `kw` is a keyword of polib's table of message lines, with the symbol `sym` -/
structure IsKw (kw : Text) (sym : Sym) : Prop where
  ne : kw ≠ []
  nonspace : ∀ c ∈ kw, pyIsSpace c = false
  lookup : lookupKw kw I18n.Generated.PolibFsm.keywords = some sym
  head : kw.head? ≠ some bom ∧ kw.head? ≠ some '#'

theorem IsKw.kwHead {kw : Text} {sym : Sym} (h : IsKw kw sym) : KwHead kw := ⟨h.ne, h.nonspace, h.head⟩

-- `String.toList_ofList` turns `"msgctxt".toList` into the list of characters the literal abbreviates; without it `decide` has to
-- evaluate the UTF-8 decoding of the literal, which the kernel does slowly or not at all
theorem isKw_msgctxt : IsKw "msgctxt".toList .ct := by
  rw [String.toList_ofList]
  exact ⟨by decide +kernel, by decide +kernel, by decide +kernel, by decide +kernel⟩
theorem isKw_msgid : IsKw "msgid".toList .mi := by
  rw [String.toList_ofList]
  exact ⟨by decide +kernel, by decide +kernel, by decide +kernel, by decide +kernel⟩
theorem isKw_msgid_plural : IsKw "msgid_plural".toList .mp := by
  rw [String.toList_ofList]
  exact ⟨by decide +kernel, by decide +kernel, by decide +kernel, by decide +kernel⟩
theorem isKw_msgstr : IsKw "msgstr".toList .ms := by
  rw [String.toList_ofList]
  exact ⟨by decide +kernel, by decide +kernel, by decide +kernel, by decide +kernel⟩

theorem dispatch_kw {env : Env} (hsp : env.isSpace = pyIsSpace) {enc : Bytes} {E : Codec} (n : Nat) (kw : Text) (sym : Sym) (hkw : IsKw kw sym) (sep : Text)
    (hsep : Blank sep) (cs : List Choice) (hv : ∀ x ∈ cs, x.Valid E) (trest : List Text) (htr : trest ≠ []) (s : PState) :
    dispatch env enc n (kw ++ (sep ++ quoted cs)) kw trest s =
      process env enc n sym (quoted cs) { s with lastTok := some kw } := by
  have hnb : trest.length + 1 > 1 := by
    have := List.length_pos_iff.mpr htr; omega
  have hline : lstrip pyIsSpace ((kw ++ (sep ++ quoted cs)).drop kw.length) = quoted cs := by
    rw [List.drop_left]
    exact lstrip_pad sep (quoted cs) (blank_space sep hsep) (quoted_headNot cs)
  simp only [dispatch, hnb, if_true, hkw.lookup, hsp, hline, inner_quoted, no_unescaped_quote E cs hv]
  simp

theorem lookupKw_quote (r : Text) : lookupKw ('"' :: r) I18n.Generated.PolibFsm.keywords = none := by
  simp [lookupKw, I18n.Generated.PolibFsm.keywords]

/-- a continuation line: whatever its first token is, it starts with the quote -/
theorem dispatch_cont {E : Codec} (env : Env) (enc : Bytes) (n : Nat)
    (cs : List Choice) (hv : ∀ x ∈ cs, x.Valid E) (r : Text) (trest : List Text) (s : PState) :
    dispatch env enc n (quoted cs) ('"' :: r) trest s = process env enc n .mc (quoted cs) { s with lastTok := some ('"' :: r) } := by
  have h1 : (if trest.length + 1 > 1 then lookupKw ('"' :: r) I18n.Generated.PolibFsm.keywords else none) = none := by
    split <;> simp [lookupKw_quote]
  have h2 : (quoted cs).take 1 = ['"'] := by simp [quoted]
  simp only [dispatch, h1, h2, inner_quoted, no_unescaped_quote E cs hv]
  simp

/-! ### `msgstr[N]` -/

theorem pyDecimal_digit : ∀ i : Fin 10, pyDecimal (digitChar i.val) = some i.val := by decide
theorem digit_nonspace : ∀ i : Fin 10, pyIsSpace (digitChar i.val) = false := by decide
theorem digit_ne_quote : ∀ i : Fin 10, digitChar i.val ≠ '"' := by decide
theorem digit_ne_hash : ∀ i : Fin 10, digitChar i.val ≠ '#' := by decide

theorem mxKw_length (i : Nat) : (mxKw i).length = 9 := rfl

theorem mxKw_head (i : Fin 10) : KwHead (mxKw i.val) where
  ne := by simp [mxKw]
  nonspace := by
    intro c hc
    simp [mxKw] at hc
    rcases hc with rfl | rfl | rfl | rfl | rfl | rfl | rfl | rfl | rfl <;> first | decide | exact digit_nonspace i
  head := by simp [mxKw]; decide

theorem blank_no_quote (sep : Text) (h : Blank sep) : '"' ∉ sep := by
  intro hm; rcases h _ hm with e | e <;> exact absurd e (by decide)

theorem dispatch_mx (env : Env) (enc : Bytes) (n : Nat) (i : Fin 10) (sep : Text)
    (cs : List Choice) (trest : List Text) (s : PState) :
    dispatch env enc n (mxKw i.val ++ (sep ++ quoted cs)) (mxKw i.val) trest s =
      process env enc n .mx (mxKw i.val ++ (sep ++ quoted cs)) { s with lastTok := some (mxKw i.val) } := by
  have h1 : (if trest.length + 1 > 1 then lookupKw (mxKw i.val) I18n.Generated.PolibFsm.keywords else none) = none := by
    split <;> simp [lookupKw, I18n.Generated.PolibFsm.keywords, mxKw]
  simp only [dispatch, h1]
  simp [mxKw]

theorem handle_mx_token (env : Env) (hdec : env.decimal = pyDecimal) (enc : Bytes) (n : Nat) (i : Fin 10) (sep : Text) (hsep : Blank sep)
    (cs : List Choice) (v : Text) (hu : unescape env enc (render cs) = some v) (s : PState) :
    handle env enc n .mx (mxKw i.val ++ (sep ++ quoted cs)) s =
      some ({ s with cur := { s.cur with msgstrPlural := dictSet i.val v s.cur.msgstrPlural }, msgstrIndex := i.val }, true) := by
  -- `token.find('"')`: behind the nine characters of `msgstr[N]` and the blanks
  have hidx : (mxKw i.val ++ (sep ++ quoted cs)).idxOf? '"' = some (9 + sep.length) := by
    have : mxKw i.val ++ (sep ++ quoted cs) = (mxKw i.val ++ sep) ++ '"' :: (render cs ++ ['"']) := by simp [quoted]
    rw [this, idxOf?_first _ _ '"' (by
      intro hm; simp only [List.mem_append] at hm
      rcases hm with hm | hm
      · simp [mxKw] at hm; exact absurd hm.symm (digit_ne_quote i)
      · exact blank_no_quote sep hsep hm), List.length_append, mxKw_length]
  -- `value = token[token.find('"') + 1 : -1]`
  have hval : ((mxKw i.val ++ (sep ++ quoted cs)).drop (9 + sep.length + 1)).take
      ((mxKw i.val ++ (sep ++ quoted cs)).length - 1 - (9 + sep.length + 1)) = render cs := by
    have : mxKw i.val ++ (sep ++ quoted cs) = (mxKw i.val ++ sep ++ ['"']) ++ (render cs ++ ['"']) := by simp [quoted]
    rw [this, List.drop_left' (by simp [mxKw_length]; omega)]
    have hl : ((mxKw i.val ++ sep ++ ['"']) ++ (render cs ++ ['"'])).length - 1 - (9 + sep.length + 1) = (render cs).length := by
      simp [mxKw_length]; omega
    rw [hl]; simp
  -- `token[7]`, the index
  have hd : (mxKw i.val ++ (sep ++ quoted cs)).drop 7 = digitChar i.val :: (']' :: (sep ++ quoted cs)) := by simp [mxKw]
  simp only [handle, hd, hidx, hval, hu, hdec, pyDecimal_digit]

/-! ### comment markers -/

theorem dispatch_hash (env : Env) (enc : Bytes) (n : Nat) (rest : Text) (trest : List Text) (s : PState) :
    dispatch env enc n ('#' :: rest) ['#'] trest s = process env enc n .tc ('#' :: rest) { s with lastTok := some ['#'] } := by
  have h1 : (if trest.length + 1 > 1 then lookupKw ['#'] I18n.Generated.PolibFsm.keywords else none) = none := by
    split <;> simp [lookupKw, I18n.Generated.PolibFsm.keywords]
  simp only [dispatch, h1]
  simp

/-- the comment markers that have a symbol of their own -/
inductive HashKw : Char → Sym → Prop
  | gc : HashKw '.' .gc
  | fl : HashKw ',' .fl
  | oc : HashKw ':' .oc

theorem HashKw.nonspace {k : Char} {sym : Sym} (hk : HashKw k sym) : pyIsSpace k = false := by cases hk <;> decide

theorem dispatch_hashk {k : Char} {sym : Sym} (hk : HashKw k sym) (env : Env) (enc : Bytes) (n : Nat) (rest : Text)
    (trest : List Text) (s : PState) :
    dispatch env enc n ('#' :: k :: rest) ['#', k] trest s =
      if trest = [] then .ok { s with lastTok := some ['#', k] }
      else process env enc n sym ('#' :: k :: rest) { s with lastTok := some ['#', k] } := by
  cases hk <;> cases trest <;> simp [dispatch, lookupKw, I18n.Generated.PolibFsm.keywords, startsWith]

/-! ### `Calls`: message lines -/

/-- the prefix of a message line: none, or the obsolete marker `#~` and blanks (the first conjunct of `MsgSp.Valid`) -/
def MsgPrefix (pre : Prefix) : Prop := pre = .plain ∨ ∃ sep, pre = .obsolete sep ∧ sep ≠ [] ∧ Blank sep

theorem _root_.I18n.Spec.PoSpelling.MsgSp.Valid.pre {E : Codec} {m : MsgSp} (h : m.Valid E) : MsgPrefix m.pre := h.1

/-- `kw` is a keyword of polib's table for `#|` lines, with the symbol `sym` -/
structure IsPrevKw (kw : Text) (sym : Sym) : Prop where
  ne : kw ≠ []
  nonspace : ∀ c ∈ kw, pyIsSpace c = false
  lookup : lookupKw kw I18n.Generated.PolibFsm.prevKeywords = some sym
  head : kw.head? ≠ some '"'

theorem isPrevKw_msgctxt : IsPrevKw "msgctxt".toList .pc := by
  rw [String.toList_ofList]
  exact ⟨by decide +kernel, by decide +kernel, by decide +kernel, by decide +kernel⟩
theorem isPrevKw_msgid : IsPrevKw "msgid".toList .pm := by
  rw [String.toList_ofList]
  exact ⟨by decide +kernel, by decide +kernel, by decide +kernel, by decide +kernel⟩
theorem isPrevKw_msgid_plural : IsPrevKw "msgid_plural".toList .pp := by
  rw [String.toList_ofList]
  exact ⟨by decide +kernel, by decide +kernel, by decide +kernel, by decide +kernel⟩

/-- on `line`, whatever the line number and the state, the loop body comes to `process sym tok`, having set the obsolete marker
    to `o` and `tokens[0]` to some token: all a line class has to say, the state machine is `process`'s matter -/
def Calls (env : Env) (enc : Bytes) (line : Text) (o : Bool) (sym : Sym) (tok : Text) : Prop :=
  ∀ n s, ∃ t0, stepLine env enc n line s = process env enc n sym tok { s with entryObsolete := o, lastTok := some t0 }

theorem Tok.word {kw : Text} (ne : kw ≠ []) (nonspace : ∀ c ∈ kw, pyIsSpace c = false)
    (sep : Text) (hsep : sep ≠ []) (hbl : Blank sep) (cs : List Choice) : Tok kw (sep ++ quoted cs) :=
  Tok.of_sep ne nonspace sep hsep (blank_space sep hbl) _ (by simp [quoted]) (quoted_lastNot cs)

section
variable {env : Env} (hsp : env.isSpace = pyIsSpace) {enc : Bytes}
include hsp

variable (enc) in
/-- behind `#~` the tokens are those of `split(None, 2)` without the first, so the rest is split once less -/
theorem stepLine_msg (n : Nat) (pre : Prefix) (hpre : MsgPrefix pre) (lpad t0 rest rpad : Text) (hl : Blank lpad)
    (hr : ∀ c ∈ rpad, pyIsSpace c = true) (ht : Tok t0 rest) (hhead : t0.head? ≠ some bom ∧ t0.head? ≠ some '#') (s : PState) :
    stepLine env enc n (lpad ++ (pre.render ++ (t0 ++ rest)) ++ rpad) s =
      dispatch env enc n (t0 ++ rest) t0 (splitWs pyIsSpace (if pre.isObsolete then 0 else 1) rest) { s with entryObsolete := pre.isObsolete } := by
  rcases hpre with rfl | ⟨sep, rfl, hsep, hbl⟩
  · have hne : ∀ r, t0 ≠ '#' :: r := fun r e => hhead.2 (by rw [e]; rfl)
    exact stepLine_tok hsp enc n lpad t0 rest rpad hl hr ht hhead.1 (hne _) (hne _) s
  · exact stepLine_obs hsp enc n lpad sep t0 rest rpad hl hr hsep hbl ht s

variable (enc) in
theorem step_word_line (n : Nat) (pre : Prefix) (hpre : MsgPrefix pre)
    (kw : Text) (hkw : KwHead kw)
    (sep : Text) (hsep : sep ≠ []) (hbl : Blank sep) (g : Seg) (hl : Blank g.lpad) (hr : ∀ c ∈ g.rpad, pyIsSpace c = true) (s : PState) :
    ∃ trest, trest ≠ [] ∧ stepLine env enc n (kwLine pre kw sep g) s =
      dispatch env enc n (kw ++ (sep ++ quoted g.choices)) kw trest { s with entryObsolete := pre.isObsolete } :=
  ⟨_, splitWs_ne_nil _ _ '"' (by simp [quoted]) (by decide),
    stepLine_msg hsp enc n pre hpre g.lpad kw _ g.rpad hl hr (Tok.word hkw.ne hkw.nonspace sep hsep hbl g.choices) hkw.head s⟩

variable {E : Codec}

theorem calls_kw_line (pre : Prefix) (hpre : MsgPrefix pre)
    (kw : Text) (sym : Sym) (hkw : IsKw kw sym) (sep : Text) (hsep : sep ≠ []) (hbl : Blank sep) (g : Seg) (hg : g.Valid E) :
    Calls env enc (kwLine pre kw sep g) pre.isObsolete sym (quoted g.choices) := fun n s => by
  obtain ⟨trest, hne, h⟩ := step_word_line hsp enc n pre hpre kw hkw.kwHead sep hsep hbl g hg.lpad hg.rpad s
  exact ⟨kw, h.trans (dispatch_kw hsp n kw sym hkw sep hbl g.choices hg.choices _ hne _)⟩

theorem calls_cont_line (pre : Prefix) (hpre : MsgPrefix pre)
    (g : Seg) (hg : g.Valid E) : Calls env enc (contLine pre g) pre.isObsolete .mc (quoted g.choices) := fun n s => by
  obtain ⟨t, rest, e, ht⟩ := Tok.of_cons '"' (render g.choices ++ ['"']) (by decide) (quoted_lastNot g.choices)
  have := stepLine_msg hsp enc n pre hpre g.lpad _ rest g.rpad hg.lpad hg.rpad ht (by simp; decide) s
  rw [← e] at this
  exact ⟨_, this.trans (dispatch_cont env enc n g.choices hg.choices t _ _)⟩

theorem calls_mx_line (pre : Prefix) (hpre : MsgPrefix pre)
    (i : Fin 10) (sep : Text) (hsep : sep ≠ []) (hbl : Blank sep) (g : Seg) (hg : g.Valid E) :
    Calls env enc (kwLine pre (mxKw i.val) sep g) pre.isObsolete .mx (mxKw i.val ++ (sep ++ quoted g.choices)) := fun n s => by
  obtain ⟨trest, _, h⟩ := step_word_line hsp enc n pre hpre (mxKw i.val) (mxKw_head i) sep hsep hbl g hg.lpad hg.rpad s
  exact ⟨_, h.trans (dispatch_mx env enc n i sep g.choices _ _)⟩

/-! ### `#|` lines (previous msgctxt / msgid / msgid_plural) -/

variable (enc) in
theorem stepLine_prev (n : Nat) (psep : Text) (hpsep : psep ≠ []) (hpbl : Blank psep) (t1 rest : Text) (ht : Tok t1 rest)
    (lpad rpad : Text) (hl : Blank lpad) (hr : ∀ c ∈ rpad, pyIsSpace c = true) (s : PState) :
    stepLine env enc n (lpad ++ ('#' :: '|' :: (psep ++ (t1 ++ rest))) ++ rpad) s =
      dispatch env enc n ('#' :: '|' :: (psep ++ (t1 ++ rest))) ['#', '|'] (t1 :: splitWs pyIsSpace 0 rest) { s with entryObsolete := false } := by
  have := stepLine_tok hsp enc n lpad _ _ rpad hl hr (ht.marked '|' (by decide) psep hpsep hpbl) (by decide) (by decide) (by decide) s
  rwa [splitWs_pad 1 psep _ (blank_space psep hpbl), ht.split 0] at this

theorem dispatch_prev_cont (n : Nat) (rest r : Text) (tr : List Text) (s : PState) :
    dispatch env enc n ('#' :: '|' :: rest) ['#', '|'] (('"' :: r) :: tr) s =
      process env enc n .mc (lstrip pyIsSpace rest) { s with lastTok := some ['#', '|'] } := by
  simp only [dispatch, hsp]
  simp [lookupKw, I18n.Generated.PolibFsm.keywords, startsWith]

theorem dispatch_prev_kw (n : Nat) (rest kw : Text) (sym : Sym) (hkw : IsPrevKw kw sym) (t2 : Text) (tr : List Text) (s : PState) :
    dispatch env enc n ('#' :: '|' :: rest) ['#', '|'] (kw :: t2 :: tr) s =
      process env enc n sym (lstrip pyIsSpace ((lstrip pyIsSpace rest).drop kw.length)) { s with lastTok := some ['#', '|'] } := by
  have hnq : startsWith ['"'] kw = false := by
    obtain ⟨ka, kas, rfl⟩ := List.exists_cons_of_ne_nil hkw.ne
    have := hkw.head; simp at this; simp [startsWith, this]
  simp only [dispatch, hsp, hnq, hkw.lookup]
  simp [lookupKw, I18n.Generated.PolibFsm.keywords, startsWith]

theorem calls_prev_kw_line (psep : Text) (hpsep : psep ≠ []) (hpbl : Blank psep) (kw : Text) (sym : Sym) (hkw : IsPrevKw kw sym)
    (sep : Text) (hsep : sep ≠ []) (hbl : Blank sep) (g : Seg) (hl : Blank g.lpad) (hr : ∀ c ∈ g.rpad, pyIsSpace c = true) :
    Calls env enc (kwLine (.previous psep) kw sep g) false sym (quoted g.choices) := fun n s => by
  refine ⟨['#', '|'], ?_⟩
  have ht := Tok.word hkw.ne hkw.nonspace sep hsep hbl g.choices
  -- the quoted string is a token behind the keyword
  obtain ⟨q0, qs, hq0c⟩ := List.exists_cons_of_ne_nil
    (splitWs_ne_nil (p := pyIsSpace) 0 (sep ++ quoted g.choices) '"' (by simp [quoted]) (by decide))
  simp only [kwLine, Prefix.render, List.cons_append]
  rw [stepLine_prev hsp enc n psep hpsep hpbl kw _ ht g.lpad g.rpad hl hr s, hq0c, dispatch_prev_kw hsp n _ kw sym hkw,
    lstrip_pad psep _ (blank_space psep hpbl) ht.headNot, List.drop_left,
    lstrip_pad sep _ (blank_space sep hbl) (quoted_headNot g.choices)]

theorem calls_prev_cont_line (psep : Text) (hpsep : psep ≠ []) (hpbl : Blank psep) (g : Seg) (hl : Blank g.lpad)
    (hr : ∀ c ∈ g.rpad, pyIsSpace c = true) : Calls env enc (contLine (.previous psep) g) false .mc (quoted g.choices) := fun n s => by
  refine ⟨['#', '|'], ?_⟩
  obtain ⟨t, rest, e, ht⟩ := Tok.of_cons '"' (render g.choices ++ ['"']) (by decide) (quoted_lastNot g.choices)
  have hstep := stepLine_prev hsp enc n psep hpsep hpbl _ rest ht g.lpad g.rpad hl hr s
  have hline := lstrip_pad psep _ (blank_space psep hpbl) ht.headNot
  rw [← e] at hstep hline
  simp only [contLine, quoted, Prefix.render, List.cons_append]
  rw [hstep, dispatch_prev_cont hsp, hline]

/-! ### comment lines -/

theorem calls_hash_line (text rpad : Text) (ht : endsNonSpace text) (hr : allSpace rpad) :
    Calls env enc ('#' :: ((if text = [] then [] else ' ' :: text) ++ rpad)) false .tc ('#' :: if text = [] then [] else ' ' :: text) :=
  fun n s => by
  have htok : Tok ['#'] (if text = [] then [] else ' ' :: text) := by
    by_cases h : text = []
    · rw [if_pos h]; exact ⟨by simp, by simp; decide, nofun, nofun⟩
    · rw [if_neg h]; exact Tok.of_sep (by simp) (by simp; decide) [' '] (by simp) (by simp; decide) text h ht
  refine ⟨['#'], ?_⟩
  generalize (if text = [] then [] else ' ' :: text) = body at htok
  have := stepLine_tok hsp enc n [] _ _ rpad nofun hr htok (by decide) (by decide) (by decide) s
  simp only [List.nil_append, List.cons_append] at this
  rw [this]
  exact dispatch_hash env enc n body _ _

theorem calls_hashk_line {k : Char} {sym : Sym} (hk : HashKw k sym) (ws : Char) (hws : blankChar ws)
    (body rpad : Text) (hne : body ≠ []) (hlast : endsNonSpace body) (hr : allSpace rpad) :
    Calls env enc ('#' :: k :: ws :: (body ++ rpad)) false sym ('#' :: k :: ws :: body) := fun n s => by
  have hwsp : pyIsSpace ws = true := by rcases hws with rfl | rfl <;> decide
  have ht : Tok ['#', k] (ws :: body) := Tok.of_sep (by simp) (hash_nonspace hk.nonspace)
    [ws] (by simp) (by simpa using hwsp) body hne hlast
  -- the body contributes a second token
  obtain ⟨t1, tr, htrc⟩ := List.exists_cons_of_ne_nil (splitWs_ne_nil (p := pyIsSpace) 1 (ws :: body) (body.getLast hne)
    (by simp [List.getLast_mem]) (hlast _ (List.getLast?_eq_some_getLast hne)))
  have := stepLine_tok hsp enc n [] _ _ rpad nofun hr ht (by simp; decide) (by simp)
    (by cases hk <;> decide) s
  simp only [List.nil_append, List.cons_append] at this
  refine ⟨['#', k], ?_⟩
  rw [this, htrc, dispatch_hashk hk, if_neg (List.cons_ne_nil _ _)]

end

end I18n.Lemmas.PoLines
