import I18n.Model.Tags
import I18n.Spec.Tags
/-
Lemmas behind Props/C02, the escaper: `escape` of anything but a `safestr` is a `Token` of the specification (`escape_token`;
each branch of `repr` on a character emits one `Item`, `reprChar_item`), and a token has no hostile character (`token_clean`:
a plain character is an `Item` only if it is not hostile, the rest of a token is printable ASCII, which is harmless under
`Sound db`).  `escape_forall` is the form the callers use.
-/
namespace I18n.Tags
open I18n.Spec.Tags

/-- printable ASCII -/
def AP (c : Nat) : Prop := 32 ≤ c ∧ c ≤ 126

instance (c : Nat) : Decidable (AP c) := inferInstanceAs (Decidable (32 ≤ c ∧ c ≤ 126))

theorem AP.not_hostile {db : UnicodeDB} (h : Sound db) {c : Nat} (hc : AP c) : hostile db c = false := by
  obtain ⟨h1, h2⟩ := hc
  have hf := h.ascii_not_format c h1 h2
  simp [hostile, isControl, isSeparator, isSurrogate, hf]
  omega

theorem clean_ascii {db : UnicodeDB} (h : Sound db) {s : Str} (hs : ∀ c ∈ s, AP c) : Clean db s :=
  fun c hc => AP.not_hostile h (hs c hc)

theorem isHex_hexDigit (n : Nat) (h : n < 16) : isHex (hexDigit n) = true := by
  unfold hexDigit isHex
  split <;> simp <;> omega

theorem hexFixed_hex (w n : Nat) : ∀ d ∈ hexFixed w n, isHex d = true := by
  induction w generalizing n with
  | zero => simp [hexFixed]
  | succ w ih =>
    intro d hd
    simp only [hexFixed, List.mem_append, List.mem_singleton] at hd
    rcases hd with hd | hd
    · exact ih _ d hd
    · subst hd; exact isHex_hexDigit _ (Nat.mod_lt _ (by decide))

theorem hexFixed_length (w n : Nat) : (hexFixed w n).length = w := by
  induction w generalizing n with
  | zero => simp [hexFixed]
  | succ w ih => simp [hexFixed, ih]

theorem isHex_AP {d : Nat} (h : isHex d = true) : AP d := by
  simp [isHex] at h
  unfold AP; omega

theorem quoteFor_cases (s : Str) : quoteFor s = 39 ∨ quoteFor s = 34 := by
  unfold quoteFor; split <;> simp

theorem hex_item {db : UnicodeDB} {q : Nat} (lead w c : Nat)
    (hl : (lead = 120 ∧ w = 2) ∨ (lead = 117 ∧ w = 4) ∨ (lead = 85 ∧ w = 8)) :
    Item db q (92 :: lead :: hexFixed w c) :=
  .hex lead _ (by rw [hexFixed_length]; exact hl) (hexFixed_hex _ _)

/- One `iteInduction` per `if` of `reprChar`, in source order (`split` is very slow on this chain). -/
theorem reprChar_item {db : UnicodeDB} (h : Sound db) (q c : Nat) : Item db q (reprChar db q c) := by
  unfold reprChar
  refine iteInduction (fun h1 => ?_) fun h1 => ?_
  · rcases h1 with rfl | rfl
    · exact .quote
    · exact .backslash
  have plain : hostile db c = false → Item db q [c] := .plain c (fun e => h1 (.inl e)) (fun e => h1 (.inr e))
  refine iteInduction (fun _ => .tab) fun _ => ?_
  refine iteInduction (fun _ => .newline) fun _ => ?_
  refine iteInduction (fun _ => .cr) fun _ => ?_
  refine iteInduction (fun _ => hex_item _ _ _ (.inl ⟨rfl, rfl⟩)) fun h5 => ?_
  refine iteInduction (fun h6 => plain (AP.not_hostile h ⟨by omega, by omega⟩)) fun _ => ?_
  refine iteInduction (fun h7 => plain (h.printable_not_hostile c h7)) fun _ => ?_
  refine iteInduction (fun _ => hex_item _ _ _ (.inl ⟨rfl, rfl⟩)) fun _ => ?_
  exact iteInduction (fun _ => hex_item _ _ _ (.inr (.inl ⟨rfl, rfl⟩))) fun _ => hex_item _ _ _ (.inr (.inr ⟨rfl, rfl⟩))

theorem reprByte_item {db : UnicodeDB} (h : Sound db) (q c : Nat) : Item db q (reprByte q c) := by
  unfold reprByte
  refine iteInduction (fun h1 => ?_) fun h1 => ?_
  · rcases h1 with rfl | rfl
    · exact .quote
    · exact .backslash
  refine iteInduction (fun _ => .tab) fun _ => ?_
  refine iteInduction (fun _ => .newline) fun _ => ?_
  refine iteInduction (fun _ => .cr) fun _ => ?_
  refine iteInduction (fun _ => hex_item _ _ _ (.inl ⟨rfl, rfl⟩)) fun h5 => ?_
  exact .plain c (fun e => h1 (.inl e)) (fun e => h1 (.inr e)) (AP.not_hostile h ⟨by omega, by omega⟩)

theorem body_flatMap {db : UnicodeDB} {q : Nat} (f : Nat → Str) (hf : ∀ c, Item db q (f c)) (s : Str) :
    Body db q (s.flatMap f) := by
  induction s with
  | nil => exact .nil
  | cons c s ih => simpa [List.flatMap_cons] using Body.cons (hf c) ih

theorem item_clean {db : UnicodeDB} (h : Sound db) {q : Nat} (hq : q = 39 ∨ q = 34) {i : Str} (hi : Item db q i) :
    Clean db i := by
  cases hi with
  | plain c _ _ h3 => simpa [Clean] using h3
  | hex lead ds hl hd =>
    refine clean_ascii h (List.forall_mem_cons.mpr ⟨by decide, List.forall_mem_cons.mpr ⟨?_, fun d hd' => isHex_AP (hd d hd')⟩⟩)
    rcases hl with ⟨rfl, _⟩ | ⟨rfl, _⟩ | ⟨rfl, _⟩ <;> decide
  -- the fixed escapes `\q \\ \t \n \r`
  | _ => rcases hq with rfl | rfl <;> exact clean_ascii h (by decide)

theorem body_clean {db : UnicodeDB} (h : Sound db) {q : Nat} (hq : q = 39 ∨ q = 34) {b : Str} (hb : Body db q b) :
    Clean db b := by
  induction hb with
  | nil => intro c hc; simp at hc
  | cons hi _ ih =>
    intro c hc
    rcases List.mem_append.mp hc with hc | hc
    · exact item_clean h hq hi c hc
    · exact ih c hc

theorem isSafeChar_AP {c : Nat} (h : isSafeChar c = true) : AP c := by
  simp [isSafeChar] at h
  unfold AP; omega

theorem token_clean {db : UnicodeDB} (h : Sound db) {s : Str} (hs : Token db s) : Clean db s := by
  cases hs with
  | word _ _ hall => exact clean_ascii h fun c hc => isSafeChar_AP (hall c hc)
  | emptyString => exact clean_ascii h (by decide)
  | quoted q body hq hb =>
    have hqq : Clean db [q] := by rcases hq with rfl | rfl <;> exact clean_ascii h (by decide)
    exact List.forall_mem_cons.mpr ⟨hqq q (by simp), List.forall_mem_append.mpr ⟨body_clean h hq hb, hqq⟩⟩

theorem reprStr_token {db : UnicodeDB} (h : Sound db) (s : Str) : Token db (reprStr db s) := by
  unfold reprStr
  exact .quoted _ _ (quoteFor_cases s) (body_flatMap _ (reprChar_item h _) s)

theorem isSafe_iff {s : Str} : isSafe s = true ↔ s ≠ [] ∧ ∀ c ∈ s, isSafeChar c = true := by
  simp [isSafe]

theorem escapeStr_token {db : UnicodeDB} (h : Sound db) (s : Str) : Token db (escapeStr db s) := by
  unfold escapeStr
  by_cases hne : s = []
  · rw [if_pos hne]; exact .emptyString
  rw [if_neg hne]
  by_cases hsafe : isSafe s = true
  · rw [if_pos hsafe]; exact .word s hne (isSafe_iff.mp hsafe).2
  · rw [if_neg hsafe]; exact reprStr_token h s

/-- file-derived extras (everything that is not a `safestr`) -/
def Extra.escaped : Extra → Bool
  | .safe _ => false
  | _ => true

theorem Extra.escaped_or_safe (x : Extra) : x.escaped = true ∨ ∃ s, x = .safe s := by
  cases x <;> simp [Extra.escaped]

theorem escape_token {db : UnicodeDB} (h : Sound db) (x : Extra) (hx : x.escaped = true) : Token db (escape db x) := by
  cases x with
  | safe s => simp [Extra.escaped] at hx
  -- `repr(b)[1:]`: the literal `b'…'` without its `b`
  | bytes b => exact .quoted _ _ (quoteFor_cases _) (body_flatMap _ (reprByte_item h _) _)
  | str s => exact escapeStr_token h s
  | int n => exact escapeStr_token h _

/-- What the escaper guarantees to its callers, for any class `P` of characters that contains the harmless ones:
    only a `safestr` can bring in a character outside `P`. -/
theorem escape_forall {db : UnicodeDB} (h : Sound db) {P : Nat → Prop} (hP : ∀ c, hostile db c = false → P c) (x : Extra)
    (hs : ∀ s, x = .safe s → ∀ c ∈ s, P c) : ∀ c ∈ escape db x, P c := by
  rcases x.escaped_or_safe with hx | ⟨s, rfl⟩
  · exact fun c hc => hP c (token_clean h (escape_token h x hx) c hc)
  · exact hs s rfl

theorem natDigitsAux_spec (fuel n : Nat) (acc : Str) :
    ∃ ds, natDigitsAux fuel n acc = ds ++ acc ∧ (∀ c ∈ ds, 48 ≤ c ∧ c ≤ 57) ∧ (fuel ≠ 0 → ds ≠ []) := by
  induction fuel generalizing n acc with
  | zero => exact ⟨[], rfl, by simp, by simp⟩
  | succ fuel ih =>
    have hd : 48 ≤ 48 + n % 10 ∧ 48 + n % 10 ≤ 57 := by omega
    rw [natDigitsAux]
    by_cases hn : n < 10
    · rw [if_pos hn]
      exact ⟨[48 + n % 10], rfl, List.forall_mem_singleton.mpr hd, by simp⟩
    · rw [if_neg hn]
      obtain ⟨ds, e, hds, _⟩ := ih (n / 10) ((48 + n % 10) :: acc)
      refine ⟨ds ++ [48 + n % 10], by rw [e, List.append_assoc, List.singleton_append], ?_, by simp⟩
      exact List.forall_mem_append.mpr ⟨hds, List.forall_mem_singleton.mpr hd⟩

theorem strInt_safe (n : Int) : isSafe (strInt n) = true := by
  have hd : ∀ m, isSafe (natDigits m) = true := by
    intro m
    obtain ⟨ds, e, hd, hne⟩ := natDigitsAux_spec (m + 1) m []
    rw [natDigits, e, List.append_nil]
    exact isSafe_iff.mpr ⟨hne (by simp), fun c hc => by have := hd c hc; simp [isSafeChar]; omega⟩
  cases n with
  | ofNat m => exact hd m
  | negSucc m =>
    have hdigits : ∀ c ∈ natDigits (m + 1), isSafeChar c = true := (isSafe_iff.mp (hd _)).2
    exact isSafe_iff.mpr ⟨List.cons_ne_nil _ _, List.forall_mem_cons.mpr ⟨by decide, hdigits⟩⟩

theorem escape_int (db : UnicodeDB) (n : Int) : escape db (.int n) = strInt n := by
  have hs := strInt_safe n
  simp [escape, escapeStr, (isSafe_iff.mp hs).1, hs]

end I18n.Tags
