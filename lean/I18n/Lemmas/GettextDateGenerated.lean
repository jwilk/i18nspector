import I18n.Generated.GettextDate
import I18n.Lemmas.DateScan
import I18n.Lemmas.PyKitLemmas
import I18n.Lemmas.Kit.Basic
/-!
# `fix_date_format` / `parse_date` regenerated from `lib/gettext.py` equal the hand-written model (`Model/Date.lean`)

The main proof follows the code: the check of the hint (`hint_eq`), then a split on the match, the zone groups and the table entry,
after which both sides are the assembly with its length assertion and the calendar (`tail_eq`); the facts about the kit primitives are
separate lemmas.
-/
-- some simp lemmas below fire only on another spelling of the same source (a comparison turned round, a literal set in another order)
set_option linter.unusedSimpArgs false
namespace I18n.Date.Gen
open I18n I18n.Date I18n.Date.Py I18n.Generated

/-- `parse_date(s)` as regenerated: the calendar primitive, `ValueError` turned into `DateSyntaxError` -/
theorem parse_date_eq (s : List Char) :
    GettextDate.parse_date s = (match parseCanon s with | some t => .ok t | none => .error .syntax) := by
  simp only [GettextDate.parse_date, strptimeCanon]
  cases parseCanon s
  · exact PyKit.tryExcept_error ..
  · exact PyKit.tryExcept_ok ..

theorem hintOk_split (sg a b c d : Char) :
    hintOk [sg, a, b, c, d] = (hintSyntax [sg, a, b, c, d] && (decide (num2 c d ≤ 59) && decide (num2 a b * 60 + num2 c d < 1440))) := by
  simp only [hintOk, hintSyntax, Bool.and_assoc]

theorem hintOk_syntax (h : List Char) (hs : hintSyntax h = false) : hintOk h = false := by
  -- `fun_cases` only to learn that `h` has five characters; the definition is folded back so that `hintOk_split` applies
  fun_cases hintOk h
  · rw [← hintOk, hintOk_split, hs]; rfl
  · rfl

/-- on `[+-]dddd`, `strptime(h, '%z')` raises `ValueError` exactly when the model's `hintOk` fails -/
theorem strptimeZ_eq (h : List Char) (hs : hintSyntax h = true) :
    strptimeZ h = (if hintOk h then .ok () else .error .valueError) := by
  revert hs
  fun_cases hintSyntax h
  · intro hs
    rw [← hintSyntax] at hs
    rw [hintOk_split, hs]
    simp only [strptimeZ, hs, if_true, Bool.true_and]
  · nofun

theorem append_space (date time z : List Char) : date ++ " ".toList ++ time ++ z = date ++ ' ' :: time ++ z := by simp

theorem len_int' (t : List Char) : ((21 : Int) = (t.length : Int)) = (t.length = 21) :=
  propext (eq_comm.trans (Kit.natCast_eq_ofNat t.length 21))

/-- the check of the hint: `ValueError` exactly when the model's `hintBad` holds -/
theorem hint_eq (hint : Option (List Char)) :
    (match hint with
      | none => .ok ()
      | some h =>
        if (!hintSyntax h) = true then .error .valueError
        else match strptimeZ h with
          | .error e => .error e
          | .ok _ => .ok () : Except DErr Unit) =
    if hintBad hint = true then .error .valueError else .ok () := by
  cases hint with
  | none => rfl
  | some h =>
    cases hs : hintSyntax h with
    | false => simp only [hintBad, hintOk_syntax h hs, hs, Bool.not_false, if_true]
    | true =>
      cases ho : hintOk h with
      | false => simp only [hintBad, strptimeZ_eq h hs, hs, ho, Bool.not_true, Bool.not_false, Bool.false_eq_true, if_false, if_true]
      | true => simp only [hintBad, strptimeZ_eq h hs, hs, ho, Bool.not_true, Bool.false_eq_true, if_false, if_true]

/-- after the zone text is known: assembly, the `len == 21` assertion, the calendar -/
theorem tail_eq (date time zone : List Char) :
    (if decide ((date ++ " ".toList ++ time ++ zone).length = 21) = true then
        match GettextDate.parse_date (date ++ " ".toList ++ time ++ zone) with
        | .error e => .error e
        | .ok _ => .ok (date ++ " ".toList ++ time ++ zone)
      else .error .assertion) =
    ofOutcome
      (if (date ++ ' ' :: time ++ zone).length ≠ 21 then .assertErr
      else
        match parseCanon (date ++ ' ' :: time ++ zone) with
        | none => .syntaxErr
        | some _ => .ok (date ++ ' ' :: time ++ zone)) := by
  simp only [append_space, parse_date_eq, decide_eq_true_eq]
  by_cases hl : (date ++ ' ' :: time ++ zone).length = 21
  · rw [if_pos hl, if_neg (not_not_intro hl)]
    cases parseCanon (date ++ ' ' :: time ++ zone) <;> rfl
  · rw [if_neg hl, if_pos hl]; rfl

theorem fix_date_format_eq (s : List Char) (hint : Option (List Char)) :
    GettextDate.fix_date_format s hint = ofOutcome (fix s hint) := by
  -- the length assertion is read in ℕ whichever way round the source writes it: `len(s) == 21` (`natCast_eq_ofNat`) or `21 == len(s)` (`len_int'`)
  simp only [GettextDate.fix_date_format, fix, Kit.natCast_eq_ofNat, len_int']
  by_cases hb : hasBoilerplate (strip s) = true
  · rw [if_pos hb, if_pos hb]; rfl
  rw [if_neg hb, if_neg hb]
  -- the block that checks the hint (`arg 2`: the scrutinee of the `match` on its outcome) is `hint_eq`'s left side up to the names of
  -- the auxiliary matchers, hence `exact` and not `rw`
  conv => lhs; arg 2; tactic => exact hint_eq hint
  by_cases hh : hintBad hint = true
  · rw [if_pos hh, if_pos hh]; rfl
  rw [if_neg hh, if_neg hh]
  simp only [parseDateMatch]
  cases hp : parseDate (strip s) with
  | none => rfl
  | some g =>
    obtain ⟨date, time, zone⟩ := g
    cases zone with
    | num zh zm => exact tail_eq date time (zh ++ zm)
    | abbr a =>
      obtain ⟨v, hv⟩ := parseDate_abbr_known hp rfl
      simp only [Option.map, groupsOf, resolveZone, timezonesGet, hv, PyKit.tryExcept_ok]
      rcases v with _ | ⟨z, _ | ⟨z2, r⟩⟩
      · rfl
      · exact tail_eq date time z
      · rfl
    | none =>
      cases hint with
      | none => rfl
      | some h => exact tail_eq date time h
end I18n.Date.Gen
