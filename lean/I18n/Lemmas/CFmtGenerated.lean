import I18n.Generated.CFmtConv
import I18n.Lemmas.CFmtScan
import I18n.Lemmas.CFmtValid
/-!
# The decision code regenerated from `Conversion.__init__` equals the hand-written model

`Generated.CFmtConv.checks` is what `tools/translate/cfmtconv2lean.py` makes of the current source (the statements after
`self.type = tp`); the model is `checkFlags`, `doWidth`, `doPrec`, `doIndex` in sequence. `FormatString.add_argument` is
regenerated with it (`add_argument_eq_kit`).  In `checks_eq` the model's stages are rewritten as `bind` chains (`doWidth_staged` …)
and the blocks of the regenerated text are matched against them one by one.
-/
namespace I18n.CFmt.Py
open I18n.Spec.Printf I18n.Generated.CFormatTables
open I18n.CFmt

@[simp] theorem bind_ok {α β : Type} (v : α) (k : α → R β) : bind (.ok v) k = k v := rfl
@[simp] theorem bind_error {α β : Type} (e : CErr) (k : α → R β) : bind (.error e) k = .error e := rfl
theorem bind_assoc {α β γ : Type} (x : R α) (f : α → R β) (g : β → R γ) : bind (bind x f) g = bind x (fun a => bind (f a) g) := by
  cases x <;> rfl
theorem bind_pure {α : Type} (x : R α) : bind x (fun a => .ok a) = x := by cases x <;> rfl
theorem bind_congr {α β : Type} {x y : R α} {f g : α → R β} (hx : x = y) (hf : ∀ a, f a = g a) : bind x f = bind y g := by
  subst hx
  cases x with
  | error e => rfl
  | ok a => exact hf a

@[simp] theorem ite_true {α : Type} (a b : R α) : ite (.ok true) a b = a := rfl
@[simp] theorem ite_false {α : Type} (a b : R α) : ite (.ok false) a b = b := rfl
@[simp] theorem ite_error {α : Type} (e : CErr) (a b : R α) : ite (.error e) a b = .error e := rfl
theorem ite_ok {α : Type} (c : Bool) (a b : R α) : ite (.ok c) a b = if c then a else b := by cases c <;> rfl
@[simp] theorem andR_ok (a : Bool) (b : R Bool) : andR (.ok a) b = if a then b else .ok false := by cases a <;> rfl
@[simp] theorem notR_ok (a : Bool) : notR (.ok a) = .ok (!a) := rfl
@[simp] theorem notR_error (e : CErr) : notR (.error e) = .error e := rfl

@[simp] theorem raiseOf_FlagError : raiseOf "FlagError" = .FlagError := by decide +kernel
@[simp] theorem raiseOf_AssertionError : raiseOf "AssertionError" = .crash .AssertionError := by decide +kernel
@[simp] theorem raiseOf_WidthRangeError : raiseOf "WidthRangeError" = .WidthRangeError := by decide +kernel
@[simp] theorem raiseOf_WidthError : raiseOf "WidthError" = .WidthError := by decide +kernel
@[simp] theorem raiseOf_PrecisionRangeError : raiseOf "PrecisionRangeError" = .PrecisionRangeError := by decide +kernel
@[simp] theorem raiseOf_PrecisionError : raiseOf "PrecisionError" = .PrecisionError := by decide +kernel
@[simp] theorem raiseOf_ArgumentRangeError : raiseOf "ArgumentRangeError" = .ArgumentRangeError := by decide +kernel
@[simp] theorem raiseOf_ArgumentNumberingMixture : raiseOf "ArgumentNumberingMixture" = .ArgumentNumberingMixture := by decide +kernel
@[simp] theorem raiseOf_ForbiddenArgumentIndex : raiseOf "ForbiddenArgumentIndex" = .ForbiddenArgumentIndex := by decide +kernel
@[simp] theorem raiseOf_IndexError : raiseOf "IndexError" = .crash .IndexError := by decide +kernel
@[simp] theorem raiseOf_OverflowError : raiseOf "OverflowError" = .crash .Overflow := by decide +kernel
@[simp] theorem warnS_RedundantFlag (w : Bool) (st : St) : warnS w st "RedundantFlag" = warn w st .RedundantFlag := by
  simp [warnS, warnOf]

@[simp] theorem group_index (d : Directive) : groupOf d "index" = idxVal d.index := by simp [groupOf]
@[simp] theorem group_flags (d : Directive) : groupOf d "flags" = .str d.flags := by simp [groupOf]
@[simp] theorem group_width (d : Directive) : groupOf d "width" = widthVal d.width := by simp [groupOf]
@[simp] theorem group_varwidth (d : Directive) : groupOf d "varwidth" = varwidthVal d.width := by simp [groupOf]
@[simp] theorem group_varwidth_index (d : Directive) : groupOf d "varwidth_index" = varwidthIndexVal d.width := by simp [groupOf]
@[simp] theorem group_precision (d : Directive) : groupOf d "precision" = precVal d.prec := by simp [groupOf]
@[simp] theorem group_varprec (d : Directive) : groupOf d "varprec" = varprecVal d.prec := by simp [groupOf]
@[simp] theorem group_varprec_index (d : Directive) : groupOf d "varprec_index" = varprecIndexVal d.prec := by simp [groupOf]

@[simp] theorem eq_str1 (a b : Char) : eq (.str [a]) (.str [b]) = decide (a = b) := by
  rw [Bool.eq_iff_iff]
  simp only [eq, beq_iff_eq, Val.str.injEq, List.cons.injEq, and_true, decide_eq_true_eq]
theorem eq_int (a b : Nat) : eq (.int a) (.int b) = (a == b) := by
  rw [Bool.eq_iff_iff]
  simp only [eq, beq_iff_eq, Val.int.injEq]
@[simp] theorem inStr1 (c : Char) (hay : List Char) : inStr (.str [c]) hay = .ok (hay.contains c) := rfl
@[simp] theorem counterHas1 (cnt : Counter) (c : Char) : counterHas cnt (.str [c]) = cnt.any (fun p => p.1 == c) := rfl

/-- `if b: raise e` in front of the rest of a block -/
theorem raise_if {β : Type} (b : Bool) (e : CErr) (k : Unit → R β) :
    bind (ite (.ok b) (.error e) (.ok ())) k = if b then .error e else k () := by
  cases b <;> rfl

theorem ite_ok_ok {α : Type} (b : Bool) (x y : α) : ite (.ok b) (.ok x) (.ok y) = .ok (if b then x else y) := by
  cases b <;> rfl

theorem inSet_str1 (c : Char) (l : List Char) : inSet (.str [c]) (l.map fun x => .str [x]) = l.contains c := by
  induction l with
  | nil => rfl
  | cons a l ih =>
    simp only [inSet] at ih
    simp only [inSet, List.map_cons, List.contains_cons, ih]
    exact congrArg (· || _) (eq_str1 c a)

open I18n.Generated.CFmtConv in
/-- one round of `for flag, count in flags.items()` as regenerated = one round of the model's `flagLoop`: both sides are the
    same chain of tests, read off one test at a time -/
theorem loop1_eq (w : Bool) (m : String → Val) (conv : Char) (tp : String) (sid : Nat) (c : Char) (n : Nat) (st : St) :
    loop1 w m (.str [conv]) tp sid (.str [c]) (.int n) st =
      match flagErr c conv with
      | some e => .error e
      | none => .ok (if n != 1 then warn w st .RedundantFlag else st) := by
  have hset := inSet_str1 c ['-', ' ', '+', 'I']
  simp only [List.map_cons, List.map_nil, List.contains_cons, List.contains_nil, Bool.or_false] at hset
  unfold loop1 flagErr
  simp only [eq_int, eq_str1, inStr1, raise_if, ite_ok_ok, bind_ok, raiseOf_FlagError, raiseOf_AssertionError, warnS_RedundantFlag,
    notR_ok, hset, bne, beq_iff_eq, decide_eq_true_eq, Bool.or_assoc]
  generalize (if (!n == 1) = true then warn w st .RedundantFlag else st) = st'
  by_cases h1 : conv = 'n'
  · simp only [h1, if_true]
  simp only [h1, if_false]
  by_cases h2 : c = '#'
  · simp only [h2, if_true, decide_true, ite_true]
    cases (octCvt ++ hexCvt ++ floatCvt).contains conv <;> rfl
  simp only [h2, if_false, decide_false, ite_false]
  by_cases h3 : c = '0'
  · simp only [h3, if_true, decide_true, ite_true]
    cases (intCvt ++ floatCvt).contains conv <;> rfl
  simp only [h3, if_false, decide_false, ite_false]
  by_cases h4 : c = '\''
  · simp only [h4, if_true, decide_true, ite_true]
    cases decCvt.contains conv <;> rfl
  simp only [h4, if_false, decide_false, ite_false]
  by_cases h5 : conv = '%'
  · simp only [h5, if_true]
    rfl
  simp only [h5, if_false]
  generalize (c == '-' || (c == ' ' || (c == '+' || c == 'I'))) = b
  cases b <;> rfl

open I18n.Generated.CFmtConv in
theorem forItems_eq (w : Bool) (m : String → Val) (conv : Char) (tp : String) (sid : Nat) (flags : List Char) :
    ∀ (l : List Char) (st : St),
      forItems (loop1 w m (.str [conv]) tp sid) (l.map fun c => (c, flags.count c)) st = flagLoop w flags conv l st := by
  intro l
  induction l with
  | nil => intro st; rfl
  | cons c l ih =>
    intro st
    simp only [List.map_cons, forItems, loop1_eq, flagLoop]
    cases flagErr c conv with
    | some e => rfl
    | none => exact ih _

theorem counterHas_flags (flags : List Char) (c : Char) :
    ((distinct flags).map fun x => (x, flags.count x)).any (fun p => p.1 == c) = flags.contains c := by
  rw [Bool.eq_iff_iff]
  simp only [List.any_map, List.any_eq_true, Function.comp, beq_iff_eq, List.contains_iff_mem]
  constructor
  · rintro ⟨x, hx, rfl⟩; exact mem_distinct.1 hx
  · intro h; exact ⟨c, mem_distinct.2 h, rfl⟩

theorem int_digits {ds : List Char} (h : Numeral ds) : Py.int (.str ds) = (pyInt ds).map Val.int := by
  obtain ⟨hne, hd⟩ := h
  have h1 : ds.isEmpty = false := by cases ds <;> simp_all
  have h2 : ds.all Char.isDigit = true := List.all_eq_true.2 hd
  simp only [Py.int, h1, h2, Bool.not_true, Bool.or_self, Bool.false_eq_true, if_false, pyInt]
  split <;> rfl

def optVal : Option Nat → Val
  | none => .none
  | some n => .int n

theorem except_addArgument_eq (st : St) (i : Option Nat) (e : Entry) :
    except1 (except1 (Py.addArgument st (optVal i) e) .IndexError (.error .ArgumentNumberingMixture)) .Overflow (.error .ArgumentRangeError) =
      CFmt.addArgument st i e := by
  fun_cases CFmt.addArgument st i e
  all_goals simp only [Py.addArgument, optVal, argIndexOf, addArgumentRaw, *, if_true, if_false, Bool.false_eq_true]
  all_goals rfl

open I18n.Generated.CFmtConv in
/-- `FormatString.add_argument` as regenerated from the source = the kit's hand-written version (for the indices the callers
    pass: `None` or an `int`) -/
theorem add_argument_eq_kit (st : St) (i : Option Nat) (e : Entry) :
    add_argument st (optVal i) e = Py.addArgument st (optVal i) e := by
  unfold add_argument Py.addArgument
  obtain ⟨next, map, nitems, warnings⟩ := st
  cases i with
  | none =>
    cases next with
    | none => rfl
    | some k =>
      simp only [optVal, argIndexOf, addArgumentRaw, mapIsNone, isNone, nextVal, addInt, setNext, gt, lt, mapAppend, raise_if, ite_true, ite_false,
        bind_ok, raiseOf_OverflowError, decide_eq_true_eq, gt_iff_lt]
  | some n =>
    cases next with
    | none =>
      simp only [optVal, argIndexOf, addArgumentRaw, mapIsNone, isNone, nextVal, gt, lt, mapAppend, raise_if, ite_true, ite_false,
        bind_ok, raiseOf_OverflowError, decide_eq_true_eq, gt_iff_lt]
    | some k =>
      simp only [optVal, argIndexOf, addArgumentRaw, mapIsNone, isNone, nextVal, setNext, eq_int, mapEmpty, ite_false, bind_ok,
        raiseOf_IndexError, raiseOf_AssertionError]
      cases k == 1
      · rfl
      · cases map.isEmpty
        · rfl
        · simp only [gt, lt, mapAppend, raise_if, ite_true, bind_ok, raiseOf_OverflowError, decide_eq_true_eq, gt_iff_lt, Bool.not_true,
            Bool.false_eq_true, if_false, if_true]

/-- the model with the position of the conversion fixed (`Conversion.__init__` passes `self`) -/
def modelChecks (w : Bool) (st : St) (d : Directive) (tp : String) : Except CErr St :=
  match checkFlags w st d.flags d.body.conv with
  | .error e => .error e
  | .ok st1 =>
    match doWidth st1 d.width d.body.conv st.nitems with
    | .error e => .error e
    | .ok st2 =>
      match doPrec w st2 d.prec d.flags d.body.conv st.nitems with
      | .error e => .error e
      | .ok st3 => doIndex st3 d.index tp d.body.conv st.nitems

/-- what the width block leaves: the parent's state and the value of the local `width` (`None`, an `int`, or `...`), as the pair
    `(st, width)` of the regenerated text (the translator orders what a block assigns by name; hence `(precision, st)` in `precRes`) -/
def widthRes (st : St) (sid : Nat) : Width → R (St × Val)
  | .none => .ok (st, .none)
  | .num ds =>
    match pyInt ds with
    | .error e => .error e
    | .ok v => if v > I18n.Generated.CFormatTables.INT_MAX then .error .WidthRangeError else .ok (st, .int v)
  | .star idx =>
    match optIndex idx with
    | .error e => .error e
    | .ok i =>
      match CFmt.addArgument st i ⟨.width, variableWidthType, sid⟩ with
      | .error e => .error e
      | .ok st' => .ok (st', .ellipsis)

/-- what the precision block leaves: the value of the local `precision` and the parent's state -/
def precRes (st : St) (sid : Nat) : Prec → R (Val × St)
  | .none => .ok (.none, st)
  | .num ds =>
    match pyInt (if ds.isEmpty then ['0'] else ds) with
    | .error e => .error e
    | .ok v => if v > I18n.Generated.CFormatTables.INT_MAX then .error .PrecisionRangeError else .ok (.int v, st)
  | .star idx =>
    match optIndex idx with
    | .error e => .error e
    | .ok i =>
      match CFmt.addArgument st i ⟨.prec, variablePrecisionType, sid⟩ with
      | .error e => .error e
      | .ok st' => .ok (.ellipsis, st')

/-- `if width is not None: if conversion in '%n': raise WidthError` -/
def checkW (v : Val) (conv : Char) : R Unit :=
  if (!isNone v && ['%', 'n'].contains conv) = true then .error .WidthError else .ok ()

/-- `if precision is not None: …` -/
def checkP (w : Bool) (pv : Val) (s : St) (flags : List Char) (conv : Char) : R St :=
  if isNone pv = true then .ok s
  else if (intCvt ++ floatCvt ++ strCvt).contains conv = true then
    .ok (if (intCvt.contains conv && flags.contains '0') = true then warn w s .RedundantFlag else s)
  else .error .PrecisionError

/-- the end of `__init__`: `if tp == 'void': … else: parent.add_argument(index, self)` -/
def finalIdx (s : St) (i : Option Nat) (tp : String) (conv : Char) (sid : Nat) : R St :=
  if (tp == "void") = true then (if (i.isSome && conv == '%') = true then .error .ForbiddenArgumentIndex else .ok s)
  else CFmt.addArgument s i ⟨.conv, tp, sid⟩

theorem void_eq (tp : String) : eq (Val.str tp.toList) (Val.str ['v', 'o', 'i', 'd']) = (tp == "void") := by
  unfold eq
  by_cases h : tp = "void"
  · subst h; rfl
  · have : Val.str tp.toList ≠ Val.str ['v', 'o', 'i', 'd'] := by
      intro h'; injection h' with h'
      exact h (String.toList_inj.1 (by rw [h']; rfl))
    rw [beq_eq_false_iff_ne.2 this, beq_eq_false_iff_ne.2 h]

theorem doWidth_staged (st : St) (wd : Width) (conv : Char) (sid : Nat) :
    doWidth st wd conv sid = bind (widthRes st sid wd) fun x => bind (checkW x.2 conv) fun _ => .ok x.1 := by
  fun_cases doWidth st wd conv sid
  all_goals simp only [widthRes, *, if_true, if_false, bind_ok, bind_error, checkW, isNone, List.contains_cons, List.contains_nil,
    Bool.or_false, Bool.not_false, Bool.true_and, Bool.false_eq_true]
  all_goals rfl

theorem doPrec_staged (w : Bool) (st : St) (p : Prec) (flags : List Char) (conv : Char) (sid : Nat) :
    doPrec w st p flags conv sid = bind (precRes st sid p) fun y => checkP w y.1 y.2 flags conv := by
  fun_cases doPrec w st p flags conv sid
  all_goals simp only [precRes, *, if_true, if_false, bind_ok, bind_error, checkP, isNone, Bool.false_eq_true]
  all_goals rfl

theorem doIndex_staged (st : St) (o : Option (List Char)) (tp : String) (conv : Char) (sid : Nat) :
    doIndex st o tp conv sid = bind (optIndex o) fun i => finalIdx st i tp conv sid := by
  unfold doIndex finalIdx
  cases optIndex o with
  | error e => rfl
  | ok i => simp only [bind_ok]

theorem modelChecks_staged (w : Bool) (st : St) (d : Directive) (tp : String) :
    modelChecks w st d tp =
      bind (checkFlags w st d.flags d.body.conv) fun st1 =>
        bind (doWidth st1 d.width d.body.conv st.nitems) fun st2 =>
          bind (doPrec w st2 d.prec d.flags d.body.conv st.nitems) fun st3 => doIndex st3 d.index tp d.body.conv st.nitems := by
  unfold modelChecks
  cases checkFlags w st d.flags d.body.conv with
  | error e => rfl
  | ok st1 =>
    simp only [bind_ok]
    cases doWidth st1 d.width d.body.conv st.nitems with
    | error e => rfl
    | ok st2 =>
      simp only [bind_ok]
      cases doPrec w st2 d.prec d.flags d.body.conv st.nitems <;> rfl

theorem isNone_optVal (i : Option Nat) : isNone (optVal i) = !i.isSome := by cases i <;> rfl

/- `checkW_gen`, `checkP_gen`, `final_gen`: the three nests of `if … raise` of the source, for arbitrary truth values.  An edit of the
   source that nests or orders these tests otherwise changes these statements with it. -/

/-- `if width is not None: if conversion in '%n': raise WidthError` -/
theorem checkW_gen (A B : Bool) (e : CErr) :
    ite (.ok !A) (bind (ite (.ok B) (.error e) (.ok ())) fun _ => (.ok () : R Unit)) (.ok ()) =
      if (!A && B) = true then .error e else .ok () := by
  cases A <;> cases B <;> rfl

/-- `if precision is not None: if conversion in …: pass else: raise PrecisionError`, then `if … and ('0' in flags): parent.warn(…)` -/
theorem checkP_gen (C D E F : Bool) (e : CErr) (s s' : St) :
    ite (.ok !C) (bind (ite (.ok D) (.ok ()) (.error e)) fun _ =>
        bind (ite (andR (.ok E) (.ok F)) (.ok s') (.ok s)) fun st => (.ok st : R St)) (.ok s) =
      if C = true then .ok s else if D = true then .ok (if (E && F) = true then s' else s) else .error e := by
  cases C <;> cases D <;> cases E <;> cases F <;> rfl

/-- `if tp == 'void': if index is not None: if conversion == '%': raise … else: parent.add_argument(index, self)` (`X`) -/
theorem final_gen (G H I : Bool) (e : CErr) (s : St) (X : R St) :
    bind (ite (.ok G) (bind (ite (.ok !H) (bind (ite (.ok I) (.error e) (.ok ())) fun _ => (.ok () : R Unit)) (.ok ())) fun _ => .ok s)
        (bind X fun st => .ok st)) (fun st => .ok st) =
      if G = true then (if (!H && I) = true then .error e else .ok s) else X := by
  cases G <;> cases H <;> cases I <;> simp [bind_pure]

theorem warn_block (w : Bool) (x : Warn) (a b : Bool) (st : St) {β : Type} (k : St → R β) :
    bind (ite (andR (.ok a) (.ok b)) (.ok (warn w st x)) (.ok st)) k = k (if (a && b) = true then warn w st x else st) := by
  cases a <;> cases b <;> rfl

/-- an index group as regenerated: `x = match.group(…); if x is not None: x = int(x.rstrip('$')); if not (0 < x <= NL_ARGMAX): raise`.
    An `abbrev`, so that `rw [idx_block …]` finds the block in the regenerated text. -/
abbrev idxCode (o : Option (List Char)) : R Val :=
  ite (.ok !isNone (idxVal o))
    (bind (rstripDollar (idxVal o)) fun a => bind (int a) fun x =>
      bind (ite (notR (andR (lt (Val.int 0) x) (le x (Val.int Generated.CFormatTables.NL_ARGMAX)))) (.error (raiseOf "ArgumentRangeError")) (.ok ()))
        fun _ => .ok x)
    (.ok (idxVal o))

theorem idx_block (o : Option (List Char)) (h : IdxWf o) {β : Type} (k : Val → R β) :
    bind (idxCode o) k =
      bind (optIndex o) fun i => k (optVal i) := by
  cases o with
  | none => rfl
  | some ds =>
    have h : Numeral ds := h
    simp only [idxCode, idxVal, isNone, Bool.not_false, ite_true, Py.rstripDollar, I18n.CFmtRe.rstripDollar_digits h.2, bind_ok, int_digits h, optIndex,
      argIndex]
    cases pyInt ds with
    | error e => rfl
    | ok n =>
      simp only [Except.map, bind_ok, lt, le, andR_ok, raiseOf_ArgumentRangeError]
      cases decide (0 < n) <;> cases decide (n ≤ Generated.CFormatTables.NL_ARGMAX) <;> rfl

open I18n.Generated.CFmtConv in
/-- a `*` width or precision: its index group, then `add_argument` behind the two `except` clauses -/
theorem star_block {γ : Type} (o : Option (List Char)) (h : IdxWf o) (s : St) (e : Entry) (mk : St → γ) :
    (bind (idxCode o) fun vi =>
      bind (except1 (except1 (add_argument s vi e) .IndexError (.error (raiseOf "ArgumentNumberingMixture"))) .Overflow
        (.error (raiseOf "ArgumentRangeError"))) fun st => .ok (mk st)) =
      match optIndex o with
      | .error e => .error e
      | .ok i =>
        match CFmt.addArgument s i e with
        | .error e => .error e
        | .ok st' => .ok (mk st') := by
  rw [idx_block o h]
  cases optIndex o with
  | error e => rfl
  | ok i =>
    simp only [bind_ok, add_argument_eq_kit, raiseOf_ArgumentNumberingMixture, raiseOf_ArgumentRangeError, except_addArgument_eq]
    cases CFmt.addArgument s i e <;> rfl

/-- a numeral width or precision: `x = int(x); if x > INT_MAX: raise` -/
theorem num_block {γ : Type} {ds : List Char} (h : Numeral ds) (er : CErr) (mk : Val → γ) :
    (bind (int (.str ds)) fun x => bind (ite (gt x (Val.int Generated.CFormatTables.INT_MAX)) (.error er) (.ok ())) fun _ => .ok (mk x)) =
      match pyInt ds with
      | .error e => .error e
      | .ok v => if v > Generated.CFormatTables.INT_MAX then .error er else .ok (mk (.int v)) := by
  rw [int_digits h]
  cases pyInt ds with
  | error e => rfl
  | ok v => simp only [Except.map, bind_ok, gt, lt, raise_if, decide_eq_true_eq, gt_iff_lt]

open I18n.Generated.CFmtConv in
theorem checks_eq (w : Bool) (st : St) (d : Directive) (hd : d.Wf) (tp : String) :
    checks w st (groupOf d) (.str [d.body.conv]) tp st.nitems = modelChecks w st d tp := by
  rw [modelChecks_staged]
  unfold checks checkFlags
  simp only [group_flags, counter, bind_ok, forItems_eq]
  cases flagLoop w d.flags d.body.conv (distinct d.flags) st with
  | error e => rfl
  | ok st1 =>
    simp only [bind_ok, counterHas1, counterHas_flags, warn_block, warnS_RedundantFlag, group_width, group_varwidth, group_varwidth_index,
      group_precision, group_varprec, group_varprec_index, group_index]
    generalize (if (d.flags.contains '+' && d.flags.contains ' ') = true then
        warn w (if (d.flags.contains '-' && d.flags.contains '0') = true then warn w st1 .RedundantFlag else st1) .RedundantFlag
      else if (d.flags.contains '-' && d.flags.contains '0') = true then warn w st1 .RedundantFlag else st1) = st2
    simp only [doWidth_staged, doPrec_staged, doIndex_staged, bind_assoc]
    refine bind_congr ?_ fun x => ?_
    · have hw := hd.width
      cases hwd : d.width with
      | none => rfl
      | num ds =>
        rw [hwd] at hw
        simp only [widthVal, isNone, Bool.not_false, ite_true, raiseOf_WidthRangeError]
        exact num_block hw.1 _ (fun x => (st2, x))
      | star idx =>
        rw [hwd] at hw
        simp only [widthVal, varwidthVal, varwidthIndexVal, isNone, truthy, Bool.not_true, ite_false, ite_true, List.isEmpty_cons, Bool.not_false]
        exact (bind_pure _).trans (star_block idx hw st2 _ (fun s => (s, Val.ellipsis)))
    · simp only [bind_ok]
      refine bind_congr ?_ fun _ => bind_congr ?_ fun y => bind_congr ?_ fun s5 => ?_
      · simp only [inStr1, raiseOf_WidthError, checkW]
        exact checkW_gen _ _ _
      · have hp := hd.prec
        cases hpd : d.prec with
        | none => rfl
        | num ds =>
          rw [hpd] at hp
          have hnum : Numeral (if ds.isEmpty then ['0'] else ds) := by
            cases ds with
            | nil => exact ⟨by simp, by intro c hc; simp at hc; subst hc; rfl⟩
            | cons c t => exact ⟨by simp, hp⟩
          have hor : orV (Val.str ds) (Val.str ['0']) = Val.str (if ds.isEmpty then ['0'] else ds) := by
            cases ds <;> rfl
          simp only [precVal, isNone, Bool.not_false, ite_true, raiseOf_PrecisionRangeError, hor]
          exact num_block hnum _ (fun v => (v, x.1))
        | star idx =>
          rw [hpd] at hp
          simp only [precVal, varprecVal, varprecIndexVal, isNone, truthy, Bool.not_true, ite_false, ite_true, List.isEmpty_cons, Bool.not_false]
          exact (bind_pure _).trans (star_block idx hp x.1 _ (fun s => (Val.ellipsis, s)))
      · simp only [inStr1, raiseOf_PrecisionError, checkP]
        exact checkP_gen _ _ _ _ _ _ _
      · rw [idx_block _ hd.index]
        refine bind_congr rfl fun i => ?_
        rw [final_gen]
        simp only [void_eq, isNone_optVal, eq_str1, add_argument_eq_kit, except_addArgument_eq, raiseOf_ForbiddenArgumentIndex,
          raiseOf_ArgumentNumberingMixture, raiseOf_ArgumentRangeError, finalIdx, selfEntry, Bool.not_not]
        rfl

open I18n.Generated.CFmtConv in
/-- **`Conversion(parent, match)` as the model has it = the type (from the probed table) and then the decision code regenerated
    from the current source**, for every directive the regex can produce (`d.Wf`: what a match decodes to) -/
theorem conversion_eq_generated (w : Bool) (st : St) (d : Directive) (hd : d.Wf) :
    conversion w st d =
      match typeInfo d.body with
      | .error e => .error e
      | .ok (tp, _, np) =>
        checks w (if np then warn w st .NonPortableConversion else st) (groupOf d) (.str [d.body.conv]) tp st.nitems := by
  unfold conversion
  cases typeInfo d.body with
  | error e => rfl
  | ok r =>
    obtain ⟨tp, integer, np⟩ := r
    simp only
    have hn : (if np = true then warn w st .NonPortableConversion else st).nitems = st.nitems := by
      cases np <;> cases w <;> rfl
    rw [← hn, checks_eq w _ d hd tp, modelChecks]
    cases hc : checkFlags w (if np = true then warn w st .NonPortableConversion else st) d.flags d.body.conv with
    | error e => rfl
    | ok st1 =>
      have h1 := checkFlags_nitems hc
      simp only [h1]
      cases hw : doWidth st1 d.width d.body.conv (if np = true then warn w st .NonPortableConversion else st).nitems with
      | error e => rfl
      | ok st2 =>
        have h2 := doWidth_nitems (body_conv_mem hd.body) hw
        simp only [h2, h1]
        cases hp : doPrec w st2 d.prec d.flags d.body.conv (if np = true then warn w st .NonPortableConversion else st).nitems with
        | error e => rfl
        | ok st3 =>
          have h3 := doPrec_nitems (body_conv_mem hd.body) hp
          simp only [h3, h2, h1]

end I18n.CFmt.Py
