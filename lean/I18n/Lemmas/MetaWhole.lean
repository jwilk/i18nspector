import I18n.Lemmas.MetaRealBinary
import I18n.Lemmas.Kit.List
import I18n.Generated.BinaryReads
/-!
The order in which the composed checker (`Real.pipeline`) prints its tags is the order of the stage calls in the source of
`Checker.check` (`Generated.BinaryReads.checkStages`, regenerated from /repo on every run): `pipeline_ordered`, from which
`Props/C17.lean` reads `output_order` off — the `whole-files` stream compares the lines of `Real.wholeCheck` with the tool's in order.
-/
namespace I18n.Meta.Real
open I18n I18n.Check I18n.Meta

/-- the stage call of `Checker.check` a tag comes from (as spelled in `Generated.BinaryReads.checkStages`) -/
def stageName : RTag → String
  | .comments _ => "check_comments(ctx)"
  | .headers _ => "check_headers(ctx)"
  | .language _ => "check_language(ctx)"
  | .plurals _ => "check_plurals(ctx)"
  | .mime _ => "check_mime(ctx)"
  | .date _ => "check_dates(ctx)"
  | .project _ => "check_project(ctx)"
  | .translator _ => "check_translator(ctx)"
  | .msg _ _ => "check_messages(ctx)"
  | .fmt _ => "check_messages(ctx)"

def stagePos (t : RTag) : Nat := Generated.BinaryReads.checkStages.idxOf (stageName t)

/-- the positions, read off the generated list in one evaluation.  No tag has position 5: that entry of `checkStages` is
    `if broken_encoding: ctx.encoding = None`, which makes no tag call (`resetStage`) -/
theorem stagePos_eq (t : RTag) : stagePos t = match t with
    | .comments _ => 0 | .headers _ => 1 | .language _ => 2 | .plurals _ => 3 | .mime _ => 4 | .date _ => 6
    | .project _ => 7 | .translator _ => 8 | .msg _ _ => 9 | .fmt _ => 9 := by
  have h : ["check_comments(ctx)", "check_headers(ctx)", "check_language(ctx)", "check_plurals(ctx)", "check_mime(ctx)",
      "check_dates(ctx)", "check_project(ctx)", "check_translator(ctx)", "check_messages(ctx)"].map
      Generated.BinaryReads.checkStages.idxOf = [0, 1, 2, 3, 4, 6, 7, 8, 9] := by
    decide +kernel
  simp only [List.map_cons, List.map_nil, List.cons.injEq, and_true] at h
  cases t <;> simp only [stagePos, stageName, h]

def Ordered {σ τ : Type} (f : τ → Nat) : Nat → List (Stage σ τ) → Prop
  | _, [] => True
  | lo, st :: rest => ∃ c, lo ≤ c ∧ (∀ s, ∀ t ∈ (st s).2.1, f t = c) ∧ Ordered f c rest

theorem runStages_ordered {σ τ : Type} (f : τ → Nat) (l : List (Stage σ τ)) (lo : Nat) (h : Ordered f lo l) (s : σ) :
    (∀ t ∈ (runStages l s).1, lo ≤ f t) ∧ ((runStages l s).1.map f).Pairwise (· ≤ ·) := by
  induction l generalizing lo s with
  | nil => simp [runStages]
  | cons st rest ih =>
    obtain ⟨c, hlo, hst, hrest⟩ := h
    unfold runStages
    have hs := hst s
    rcases hq : st s with ⟨s1, o1, r1⟩
    rw [hq] at hs
    simp only at hs
    have hself : (o1.map f).Pairwise (· ≤ ·) :=
      List.pairwise_map.2 (List.pairwise_of_forall_mem_list fun a ha b hb => by rw [hs a ha, hs b hb]; exact Nat.le_refl c)
    cases r1 with
    | true =>
      refine ⟨fun t ht => by rw [hs t ht]; exact hlo, hself⟩
    | false =>
      obtain ⟨i1, i2⟩ := ih c hrest s1
      refine ⟨?_, ?_⟩
      · intro t ht
        simp only [List.mem_append] at ht
        rcases ht with ht | ht
        · rw [hs t ht]; exact hlo
        · exact Nat.le_trans hlo (i1 t ht)
      · simp only [List.map_append]
        rw [List.pairwise_append]
        refine ⟨hself, i2, ?_⟩
        intro a ha b hb
        simp only [List.mem_map] at ha hb
        obtain ⟨x, hx, rfl⟩ := ha
        obtain ⟨y, hy, rfl⟩ := hb
        rw [hs x hx]
        exact i1 y hy

theorem pipeline_ordered (w : World) : Ordered stagePos 0 (pipeline w) := by
  unfold pipeline
  refine ⟨0, Nat.le_refl _, ?_, 1, by decide, ?_, 2, by decide, ?_, 3, by decide, ?_, 4, by decide, ?_, 5, by decide, ?_,
    6, by decide, ?_, 7, by decide, ?_, 8, by decide, ?_, 9, by decide, ?_, trivial⟩
  · exact fun s => Kit.forall_mem_of_eq_map (commentsStage_tags w s) fun _ => stagePos_eq _
  · exact fun s => Kit.forall_mem_of_eq_map (headersStage_tags w s) fun _ => stagePos_eq _
  · exact fun s => Kit.forall_mem_of_eq_map (languageStage_tags w s) fun _ => stagePos_eq _
  · exact fun s => Kit.forall_mem_of_eq_map (pluralsStage_tags w s) fun _ => stagePos_eq _
  · exact fun s => Kit.forall_mem_of_eq_map (mimeStage_tags w s) fun _ => stagePos_eq _
  · exact fun _ _ ht => nomatch ht  -- `resetStage` prints nothing, so any bound between 4 and 6 does
  · exact fun s => Kit.forall_mem_of_eq_map (datesStage_tags w s) fun _ => stagePos_eq _
  · exact fun s => Kit.forall_mem_of_eq_map (projectStage_tags w s) fun _ => stagePos_eq _
  · exact fun s => Kit.forall_mem_of_eq_map (translatorStage_tags w s) fun _ => stagePos_eq _
  · exact fun s => messagesOut_all w s.1 s.2 _ (fun _ _ => stagePos_eq _) fun _ => stagePos_eq _

end I18n.Meta.Real
