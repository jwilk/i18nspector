/-!
# Runs of rows with the same key

A table that lists the rows with the same key one after the other can be swept run by run, so that what depends on the key
alone (decoding a string literal, parsing it) is evaluated by the kernel once per run and not once per row.
-/
namespace I18n.KeyRuns

def keyRuns {α κ : Type} [DecidableEq κ] (key : α → κ) : List α → List (κ × List α)
  | [] => []
  | a :: l =>
    match keyRuns key l with
    | (k, r) :: rest => if key a = k then (k, a :: r) :: rest else (key a, [a]) :: (k, r) :: rest
    | [] => [(key a, [a])]

theorem filter_keyRuns {α κ : Type} [DecidableEq κ] (key : α → κ) (p : κ → Bool) (l : List α) :
    l.filter (fun a => p (key a)) = (keyRuns key l).flatMap fun r => if p r.1 then r.2 else [] := by
  induction l with
  | nil => rfl
  | cons a l ih =>
    rw [List.filter_cons, ih, keyRuns]
    cases keyRuns key l with
    | nil => simp
    | cons r rest =>
      by_cases h : key a = r.1
      · cases hp : p r.1 <;> simp [h, hp]
      · cases hp : p (key a) <;> simp [h, hp]

theorem all_keyRuns {α κ : Type} [DecidableEq κ] (key : α → κ) (g : κ → α → Bool) (l : List α) :
    l.all (fun a => g (key a) a) = (keyRuns key l).all fun r => r.2.all (g r.1) := by
  induction l with
  | nil => rfl
  | cons a l ih =>
    rw [List.all_cons, ih, keyRuns]
    cases keyRuns key l with
    | nil => simp
    | cons r rest =>
      by_cases h : key a = r.1
      · simp [h, Bool.and_assoc]
      · simp [h]

end I18n.KeyRuns
