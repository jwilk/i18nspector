import I18n.Lemmas.MoBytes
/-! Key and value of a well-formed catalog entry (`Spec.CatEntry.WF`) as byte strings: where their NULs and the EOT are,
what `split` and `splitAll` make of them, and conversely (`rawEntry_exists`) that byte strings passing the parser's two
NUL tests are key and value of a well-formed entry. -/
namespace I18n.Mo
open I18n.Mo.Spec

theorem key0_no_nul {e : CatEntry} (h : e.WF) : (0 : UInt8) ∉ e.key0 := by
  unfold CatEntry.key0
  cases hc : e.ctxt with
  | none => exact h.msgid_no_nul
  | some c =>
    simp only
    intro m
    rcases List.mem_append.1 m with m | m
    · exact (h.ctxt_clean c hc).1 m
    · rcases List.mem_cons.1 m with m | m
      · cases m
      · exact h.msgid_no_nul m

theorem split_key {e : CatEntry} (h : e.WF) :
    split 0 2 e.key = match e.plural with | none => [e.key0] | some p => [e.key0, p] := by
  unfold CatEntry.key
  cases hp : e.plural with
  | none => exact split_no_sep 0 2 _ (key0_no_nul h)
  | some p =>
    simp only
    rw [split_append_sep 0 1 _ _ (key0_no_nul h), split_no_sep 0 1 p (h.plural_no_nul p hp)]

theorem split_key0 {e : CatEntry} (h : e.WF) :
    split 4 1 e.key0 = match e.ctxt with | none => [e.msgid] | some c => [c, e.msgid] := by
  unfold CatEntry.key0
  cases hc : e.ctxt with
  | none => exact split_no_sep 4 1 _ (h.msgid_no_eot hc)
  | some c =>
    simp only
    rw [split_append_sep 4 0 _ _ (h.ctxt_clean c hc).2, split_zero]

theorem splitAll_value {e : CatEntry} (h : e.WF) : splitAll 0 e.value = e.forms :=
  splitAll_join0 e.forms h.forms_ne h.forms_no_nul

theorem value_singular {e : CatEntry} (h : e.WF) (hp : e.plural = none) : e.forms = [e.value] := by
  have h1 := h.singular_one hp
  unfold CatEntry.value
  match hf : e.forms, h1 with
  | [f], _ => rfl

/-- key and value of a well-formed entry pass the two NUL tests of `parseEntry` (`msgidNul`, `msgstrNul`) -/
theorem nul_tests_pass {e : CatEntry} (h : e.WF) :
    (split 0 2 e.key).headD [] = e.key0 ∧ ¬ (split 0 2 e.key).length > 2 ∧
    ¬ ((split 0 2 e.key).length = 1 ∧ (splitAll 0 e.value).length > 1) := by
  rw [split_key h, splitAll_value h]
  cases hp : e.plural with
  | none => simp [h.singular_one hp]
  | some p => simp

theorem ctxt_split (k0 : Bytes) (h0 : (0 : UInt8) ∉ k0) :
    ∃ (ctxt : Option Bytes) (msgid : Bytes),
      (match ctxt with | none => msgid | some c => c ++ 4 :: msgid) = k0 ∧
      (∀ c, ctxt = some c → (0 : UInt8) ∉ c ∧ (4 : UInt8) ∉ c) ∧ (0 : UInt8) ∉ msgid ∧ (ctxt = none → (4 : UInt8) ∉ msgid) := by
  rcases split_cases 4 1 k0 with ⟨_, h | h⟩ | ⟨k', a, r, _, ha, hb, _⟩
  · omega
  · exact ⟨none, k0, rfl, by simp, h0, fun _ => h⟩
  · subst hb
    have h1 : (0 : UInt8) ∉ a := fun m => h0 (List.mem_append_left _ m)
    have h2 : (0 : UInt8) ∉ r := fun m => h0 (List.mem_append_right _ (List.mem_cons_of_mem _ m))
    refine ⟨some a, r, rfl, ?_, h2, by simp⟩
    intro c hc; cases hc; exact ⟨h1, ha⟩

/-- Conversely, byte strings that pass the parser's two NUL tests are key and value of a well-formed entry: cut the key at
    its first NUL (what follows is the plural), the part before it at its first EOT (`ctxt_split`), the value at every NUL. -/
theorem rawEntry_exists (K V : Bytes) (h2 : ¬ (split 0 2 K).length > 2)
    (h3 : ¬ ((split 0 2 K).length = 1 ∧ (splitAll 0 V).length > 1)) :
    ∃ e : CatEntry, e.WF ∧ e.key = K ∧ e.value = V := by
  obtain ⟨forms_ne, forms_no_nul, hjoin⟩ := splitAll_spec V
  rcases split_cases 0 2 K with ⟨hs, h | h⟩ | ⟨k', a, r, hk, ha, hb, hs⟩
  · omega
  · -- no NUL in the key: a singular entry; by the second test the value has no NUL either
    obtain ⟨ctxt, msgid, hkey, ctxt_clean, msgid_no_nul, msgid_no_eot⟩ := ctxt_split K h
    have hV : splitAll 0 V = [V] := by
      match hf : splitAll 0 V, forms_ne, hjoin with
      | [f], _, hjoin => simp [join0] at hjoin; rw [hjoin]
      | f :: g :: fs, _, _ => rw [hs, hf] at h3; simp at h3
    have hV0 : (0 : UInt8) ∉ V := forms_no_nul V (by rw [hV]; simp)
    refine ⟨⟨ctxt, msgid, none, [V]⟩, ?_, ?_, by simp [CatEntry.value, join0]⟩
    · exact {
        ctxt_clean, msgid_no_nul, msgid_no_eot
        plural_no_nul := by simp
        forms_no_nul := by intro f hf; simp at hf; subst hf; exact hV0
        forms_ne := by simp
        singular_one := by simp }
    · simp only [CatEntry.key, CatEntry.key0]; exact hkey
  · -- `K = a ++ 0 :: r`, no NUL in `a`: a plural entry with plural `r`, which by the first test has no NUL
    have hk' : k' = 1 := by omega
    subst hk'
    rcases split_cases 0 1 r with ⟨hr, h | h⟩ | ⟨k'', a', r', hk'', _, _, hr⟩
    · omega
    · obtain ⟨ctxt, msgid, hkey, ctxt_clean, msgid_no_nul, msgid_no_eot⟩ := ctxt_split a ha
      refine ⟨⟨ctxt, msgid, some r, splitAll 0 V⟩, ?_, ?_, hjoin⟩
      · exact {
          ctxt_clean, msgid_no_nul, msgid_no_eot, forms_no_nul, forms_ne
          plural_no_nul := by intro p hp; cases hp; exact h
          singular_one := by simp }
      · simp only [CatEntry.key, CatEntry.key0]; rw [hb, ← hkey]; rfl
    · have : k'' = 0 := by omega
      subst this
      rw [hs, hr, split_zero] at h2
      simp at h2

theorem key_count_nul {e : CatEntry} (h : e.WF) : e.key.count 0 ≤ 1 := by
  have h0 := List.count_eq_zero.2 (key0_no_nul h)
  unfold CatEntry.key
  cases hp : e.plural with
  | none => simp only; omega
  | some p =>
    have := List.count_eq_zero.2 (h.plural_no_nul p hp)
    simp only [List.count_append, List.count_cons]
    simp; omega

theorem key_nul_structure {e : CatEntry} (h : e.WF) :
    (¬ ∃ x y z, e.key = x ++ 0 :: y ++ 0 :: z) ∧ ((0 : UInt8) ∉ e.key → (0 : UInt8) ∉ e.value) := by
  constructor
  · rintro ⟨x, y, z, hxyz⟩
    have := key_count_nul h
    rw [hxyz] at this
    simp only [List.count_append, List.count_cons] at this
    simp at this
    omega
  · intro hno
    cases hp : e.plural with
    | none =>
      have := value_singular h hp
      exact h.forms_no_nul e.value (by rw [this]; simp)
    | some p =>
      exfalso; apply hno
      unfold CatEntry.key; rw [hp]; simp

theorem takeWhile_key {e : CatEntry} (h : e.WF) : e.key.takeWhile (· ≠ 0) = e.key0 := by
  have h0 := key0_no_nul h
  have hall : ∀ x ∈ e.key0, (decide (x ≠ 0)) = true := by
    intro x hx; simp; intro hx0; subst hx0; exact h0 hx
  unfold CatEntry.key
  cases e.plural with
  | none => simpa using List.takeWhile_append_of_pos (l₂ := []) hall
  | some p => simp only; rw [List.takeWhile_append_of_pos hall]; simp

end I18n.Mo
