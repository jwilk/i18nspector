import I18n.Model.HashOrder
/-! `pySorted` is a sorting function: a permutation of its input, pairwise ordered (C03, hash-seed independence). -/
namespace I18n.HashOrder
variable {α : Type}

theorem insertBy_perm (le : α → α → Bool) (a : α) : ∀ l, (insertBy le a l).Perm (a :: l)
  | [] => List.Perm.refl _
  | b :: l => by
    simp only [insertBy]
    split
    · exact List.Perm.refl _
    · exact ((insertBy_perm le a l).cons b).trans (List.Perm.swap a b l)

theorem pySorted_perm (le : α → α → Bool) : ∀ l, (pySorted le l).Perm l
  | [] => List.Perm.refl _
  | a :: l => (insertBy_perm le a _).trans ((pySorted_perm le l).cons a)

theorem insertBy_pairwise (le : α → α → Bool) (trans : ∀ a b c, le a b → le b c → le a c) (total : ∀ a b, le a b || le b a)
    (a : α) : ∀ l, l.Pairwise (fun x y => le x y = true) → (insertBy le a l).Pairwise (fun x y => le x y = true)
  | [], _ => by simp [insertBy]
  | b :: l, h => by
    simp only [insertBy]
    have hb := List.pairwise_cons.mp h
    split
    · rename_i hab
      refine List.pairwise_cons.mpr ⟨?_, h⟩
      intro x hx
      rcases List.mem_cons.mp hx with rfl | hx
      · exact hab
      · exact trans _ _ _ hab (hb.1 x hx)
    · rename_i hab
      have hba : le b a = true := (Bool.or_eq_true_iff.1 (total a b)).resolve_left hab
      refine List.pairwise_cons.mpr ⟨?_, insertBy_pairwise le trans total a l hb.2⟩
      intro x hx
      have hx' := (insertBy_perm le a l).mem_iff.mp hx
      rcases List.mem_cons.mp hx' with rfl | hx'
      · exact hba
      · exact hb.1 x hx'

theorem pySorted_pairwise (le : α → α → Bool) (trans : ∀ a b c, le a b → le b c → le a c) (total : ∀ a b, le a b || le b a) :
    ∀ l, (pySorted le l).Pairwise (fun x y => le x y = true)
  | [] => List.Pairwise.nil
  | a :: l => insertBy_pairwise le trans total a _ (pySorted_pairwise le trans total l)

theorem pySorted_perm_eq (le : α → α → Bool) (trans : ∀ a b c, le a b → le b c → le a c) (total : ∀ a b, le a b || le b a)
    (s : List α) (antisymm : ∀ a b, a ∈ s → b ∈ s → le a b → le b a → a = b) (l : List α) (hl : l.Perm s) :
    pySorted le l = pySorted le s := by
  have hp : (pySorted le l).Perm (pySorted le s) :=
    (pySorted_perm _ _).trans (hl.trans (pySorted_perm _ _).symm)
  apply List.Perm.eq_of_pairwise (le := fun a b => le a b = true) _ (pySorted_pairwise le trans total _)
    (pySorted_pairwise le trans total _) hp
  intro a b ha hb hab hba
  have ha' : a ∈ s := hl.mem_iff.mp ((pySorted_perm _ _).mem_iff.mp ha)
  have hb' : b ∈ s := (pySorted_perm _ _).mem_iff.mp hb
  exact antisymm a b ha' hb' hab hba

theorem SetOrder.indep {γ : Type} (ord : SetOrder α) (s : List α) (g : List α → γ) (h : ∀ l, l.Perm s → g l = g s) :
    g (ord.order s) = g s :=
  h _ (ord.perm s)

/-- Hash-seed independence: two iteration orders give the same result. -/
theorem SetOrder.indep₂ {γ : Type} (ord1 ord2 : SetOrder α) (s : List α) (g : List α → γ)
    (h : ∀ l, l.Perm s → g l = g s) : g (ord1.order s) = g (ord2.order s) :=
  (ord1.indep s g h).trans (ord2.indep s g h).symm

end I18n.HashOrder
