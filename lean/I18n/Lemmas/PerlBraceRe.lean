import I18n.Lemmas.PerlBrace
import I18n.Lemmas.BraceReKit
/-
The deterministic scanner of the perl-brace model IS the first match of the live parse tree `perlFieldRe` under the
backtracking semantics `Spec.BraceRe.bt` (end position and the span of the `name` group included).  A change of the
pattern changes the generated term and breaks this proof in the kernel.
-/
namespace I18n.PerlBrace
open I18n.BraceChars I18n.Spec.BraceRe
open I18n.Generated.PyBraceTables (perlFieldRe perlFieldReFlags perlFieldReGroups)

/-- the captures `_field_re` records for an item that starts at `pos` -/
def itemCaps (pos : Nat) : Item → Caps
  | .lit t => [(1, pos, pos + t.length)]
  | .field n => [(2, pos + 1, pos + 1 + n.length)]

theorem cls_not_open (c : Char) : clsTest liveDB true [.lit 123] c = decide (c ≠ '{') :=
  (cls_none_of liveDB ['{'] c).trans (by simp)

theorem perlFieldRe_split : perlFieldRe =
    .alt (.group 1 (.plus (.cls true [.lit 123])))
      (.seq (chr '{') (.seq (.group 2 (.seq (.cls true [.notWord, .digit]) (.star (.cls false [.word])))) (chr '}'))) := rfl

theorem matchAt_perlFieldRe (cs : List Char) (pos : Nat) :
    matchAt liveDB perlFieldRe cs pos =
      (scanItem cs).map fun (it, rest) => { rest := rest, pos := pos + it.text.length, caps := itemCaps pos it } := by
  cases cs with
  | nil => rfl
  | cons c cs =>
    -- a literal: the greedy run is the first successful path (nothing follows the alternative)
    rw [matchAt, perlFieldRe_split, bt_alt, bt_group,
      bt_plus_cls liveDB true _ _ cls_not_open _ (greedy_of_ne_none _ fun _ => Option.some_ne_none _)]
    by_cases hc : c = '{'
    · subst hc
      simp only [List.takeWhile_cons, ne_eq, not_true_eq_false, decide_false, Bool.false_eq_true, if_false, List.isEmpty_nil, if_true,
        bt_seq, bt_chr_cons, bt_group]
      cases cs with
      | nil => rfl
      | cons d ds =>
        simp only [bt_cls_cons, cls_idstart, scanItem, ne_eq, not_true_eq_false, if_false]
        by_cases hd : isIdStart d = true
        · -- the run of `\w` is maximal because `}`, which must follow, is not `\w`
          simp only [hd, if_true]
          rw [bt_star_cls liveDB false _ _ cls_word _ ((failsOn_chr liveDB '}' isWord (by decide) some).group 2 (pos + 1)).greedy]
          cases ds.dropWhile isWord with
          | nil => rfl
          | cons e r =>
            rw [bt_chr_cons]
            by_cases he : e = '}'
            · subst he
              simp [Item.text, itemCaps]
              omega
            · rw [if_neg he]
              split
              next heq => cases heq; exact absurd rfl he   -- the arm `'}' :: _`
              next => rfl
        · simp [hd]
    · simp [scanItem_other cs hc, hc, Item.text, itemCaps]

/-- the compile flags are `re.VERBOSE | re.UNICODE` and the groups are `literal`, `name` -/
theorem perl_regex_flags : perlFieldReFlags = 96 ∧ perlFieldReGroups = [("literal", 1), ("name", 2)] := by decide

end I18n.PerlBrace
