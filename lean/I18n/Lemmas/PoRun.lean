import I18n.Lemmas.PoFsm
/-! polib's loop as a judgement between states seen as the specification sees them (`PoFsm.abs`): `Run ls a b`, its rules, what
`process` does with the token of a keyword line and of a comment line, and the lines of one string. -/
namespace I18n.Lemmas.PoRun
open I18n I18n.Po I18n.Spec.PoSpelling I18n.Lemmas.PoKit I18n.Lemmas.PoLines I18n.Lemmas.PoFsm
open I18n.Generated.PolibFsm (St Sym Handler)
open PoCatalog (content)

/-- the loop takes the lines `ls` from `a` to `b`, both seen through `abs`: from every line number (entries record theirs, `abs`
    erases them) and from every state `s` with `abs s = a` (the two scratch variables differ after every line; `Run.call` is where a
    rule may use `entry_obsolete`, and `tokens[0]` matters to `finish` only, `PoFile.TokOk`) -/
def Run (env : Env) (enc : Bytes) (ls : List Text) (a b : PState) : Prop :=
  ∀ n s, abs s = a → ∃ s', parseLoop env enc n ls s = .ok s' ∧ abs s' = b

variable {env : Env} {enc : Bytes}

theorem Run.nil (a : PState) : Run env enc [] a a := fun _ s h => ⟨s, rfl, h⟩

theorem Run.append {l₁ l₂ : List Text} {a b c : PState} (h₁ : Run env enc l₁ a b) (h₂ : Run env enc l₂ b c) :
    Run env enc (l₁ ++ l₂) a c := by
  intro n s hs
  obtain ⟨s1, e1, hs1⟩ := h₁ n s hs
  obtain ⟨s2, e2, hs2⟩ := h₂ (n + l₁.length) s1 hs1
  exact ⟨s2, by rw [parseLoop_append, e1]; exact e2, hs2⟩

theorem Run.one {l : Text} {a b : PState} (h : ∀ n s, abs s = a → ∃ s', stepLine env enc n l s = .ok s' ∧ abs s' = b) :
    Run env enc [l] a b := by
  intro n s hs
  obtain ⟨s', e, hs'⟩ := h (n + 1) s hs
  exact ⟨s', by simp only [parseLoop, e], hs'⟩

theorem Run.cons {l : Text} {ls : List Text} {a b c : PState} (h₁ : Run env enc [l] a b) (h₂ : Run env enc ls b c) :
    Run env enc (l :: ls) a c := Run.append h₁ h₂

theorem Run.call {l : Text} {o : Bool} {sym : Sym} {tok : Text} {a b : PState} (hl : Calls env enc l o sym tok)
    (hp : ∀ n s, abs s = a → s.entryObsolete = o → ∃ s', process env enc n sym tok s = .ok s' ∧ abs s' = b) : Run env enc [l] a b :=
  Run.one fun n s hs => by
    obtain ⟨t0, e⟩ := hl n s
    rw [e]
    exact hp n _ ((abs_of_same (same_of_set s o (some t0))).symm.trans hs) rfl

theorem process_kw (f : Fld) (hf : f ≠ .mx) (cs : List Choice) (t : Text) (hu : unescape env enc (render cs) = some t)
    (n : Nat) (s : PState) (htr : transition f.sym s.state = some f.handler) :
    ∃ s', process env enc n f.sym (quoted cs) s = .ok s' ∧ abs s' = f.set (f.start s.entryObsolete (abs s)) t := by
  -- each handler is `flushIfDone` (not for `msgid_plural`, `msgstr`: the `match` of `Fld.start`) and one field update; rewriting
  -- from right to left turns `flush (abs s)` into `abs (flushIfDone n s)`, and both sides are the same structure literal
  cases f
  case mx => exact absurd rfl hf
  all_goals
    refine ⟨_, process_of env enc n _ _ _ s _ true htr (by simp only [Fld.handler, handle, inner_quoted, hu, Option.map_some]; rfl), ?_⟩
    simp only [Fld.start, ← abs_flush n s, ← flushIfDone_entryObsolete n s]
    rfl

theorem process_mx (hdec : env.decimal = pyDecimal) (i : Fin 10) (sep : Text) (hsep : Blank sep) (cs : List Choice) (t : Text)
    (hu : unescape env enc (render cs) = some t) (n : Nat) (s : PState) (htr : transition .mx s.state = some .mx) :
    ∃ s', process env enc n .mx (mxKw i.val ++ (sep ++ quoted cs)) s = .ok s' ∧
      abs s' = Fld.mx.set { abs s with state := .mx, msgstrIndex := i.val } t :=
  ⟨_, process_of env enc n .mx .mx _ s _ true htr (handle_mx_token env hdec enc n i sep hsep cs t hu s), rfl⟩

/-- a line whose handler closes a finished entry and then edits the current one by `g` (a comment line of any kind) -/
theorem process_edit (sym : Sym) (h : Handler) (nx : St) (hnx : h.toSt? = some nx) (tok : Text) (n : Nat) (s : PState) (g : Entry → Entry)
    (hg : ∀ c, content (g c) = g (content c)) (htr : transition sym s.state = some h)
    (hh : handle env enc n h tok s = some ({ flushIfDone n s with cur := g (flushIfDone n s).cur }, true)) :
    ∃ s', process env enc n sym tok s = .ok s' ∧ abs s' = { flush (abs s) with cur := g (flush (abs s)).cur, state := nx } := by
  refine ⟨_, process_of env enc n sym h tok s _ true htr hh, ?_⟩
  rw [← abs_flush n s, hnx]
  exact abs_edit (flushIfDone n s) g hg nx

section
variable (hsp : env.isSpace = pyIsSpace)
include hsp

theorem run_noise (zs : List Noise) (hz : ∀ z ∈ zs, z.Valid) (a : PState) :
    Run env enc (zs.map Noise.render) a a := by
  induction zs with
  | nil => exact Run.nil a
  | cons z zs ih =>
    refine Run.cons (Run.one fun n s hs => ?_) (ih fun y hy => hz y (by simp [hy]))
    obtain ⟨s', e, hs'⟩ := noise_step env hsp enc n z (hz z (by simp)) s
    exact ⟨s', e, (abs_of_same hs').symm.trans hs⟩

variable {E : Codec}

/-- every continuation line behind `pre` reaches the continuation handler; with which obsolete marker depends on `pre` (`#~`
    sets it, `#|` resets it) and does not matter to that handler, hence `∃ o` -/
def ContCalls (E : Codec) (env : Env) (enc : Bytes) (pre : Prefix) : Prop :=
  ∀ g : Seg, g.Valid E → ∃ o, Calls env enc (contLine pre g) o .mc (quoted g.choices)

theorem contCalls_msg (pre : Prefix) (hpre : MsgPrefix pre) : ContCalls E env enc pre :=
  fun g hg => ⟨_, calls_cont_line hsp pre hpre g hg⟩

end

theorem run_cont (hE : CodecOk env enc E) {o : Bool} (f : Fld) (g : Seg) (hg : g.Valid E) {l : Text} (hl : Calls env enc l o .mc (quoted g.choices))
    (a : PState) (hst : a.state = f.st) (v : Text) (hget : f.get a = some v) :
    Run env enc [l] a (f.set a (v ++ text g.choices)) :=
  Run.call hl fun n s hs _ => by
    subst hs
    exact ⟨_, process_mc env enc n f g.choices _ (Lemmas.PoUnescape.unescape_spelling hE g.choices hg.choices hg.okSeq) s hst v
      ((abs_get f s).symm.trans hget), abs_set f s _⟩

variable (hsp : env.isSpace = pyIsSpace) (hE : CodecOk env enc E)
include hsp hE

theorem run_conts (pre : Prefix) (hc : ContCalls E env enc pre) (f : Fld)
    (more : List (Seg × List Noise)) (hv : ∀ gn ∈ more, gn.1.Valid E ∧ ∀ z ∈ gn.2, z.Valid) (r : PState) (hr : r.state = f.st) (v : Text) :
    Run env enc (contLines pre more) (f.set r v) (f.set r (v ++ more.flatMap fun gn => text gn.1.choices)) := by
  induction more generalizing v with
  | nil => simpa [contLines] using Run.nil _
  | cons gn rest ih =>
    have hgn := hv gn (by simp)
    obtain ⟨o, hl⟩ := hc gn.1 hgn.1
    have h1 := run_cont hE f gn.1 hgn.1 hl (f.set r v) (by rw [fld_set_state, hr]) v (fld_get_set f r v)
    rw [fld_set_set] at h1
    simpa [contLines, List.append_assoc] using
      Run.cons h1 (Run.append (run_noise hsp gn.2 hgn.2 _) (ih (fun y hy => hv y (by simp [hy])) (v ++ text gn.1.choices)))

theorem run_str (pre : Prefix) (hc : ContCalls E env enc pre) (f : Fld) (kw : Text)
    (x : StrSp) (hx : x.Valid E) (a r : PState) (hr : r.state = f.st)
    (hkw : Run env enc [kwLine pre kw x.sep x.first] a (f.set r (text x.first.choices))) :
    Run env enc (x.lines pre kw) a (f.set r x.text) :=
  Run.cons hkw (Run.append (run_noise hsp x.firstNoise hx.firstNoise _) (run_conts hsp hE pre hc f x.more hx.more r hr _))

theorem run_field (f : Fld) (hf : f ≠ .mx) (pre : Prefix) (hpre : MsgPrefix pre)
    (kw : Text) (hkw : IsKw kw f.sym) (x : StrSp) (hx : x.Valid E) (a : PState) (htr : transition f.sym a.state = some f.handler) :
    Run env enc (x.lines pre kw) a (f.set (f.start pre.isObsolete a) x.text) :=
  run_str hsp hE pre (contCalls_msg hsp pre hpre) f kw x hx a _ (start_state f _ a) <|
    Run.call (calls_kw_line hsp pre hpre kw f.sym hkw x.sep hx.sep_ne hx.sep_blank x.first hx.first) fun n s hs ho => by
      subst hs
      rw [← ho]
      exact process_kw f hf _ _ (Lemmas.PoUnescape.unescape_spelling hE _ hx.first.choices hx.first.okSeq) n s htr

theorem run_mx (hdec : env.decimal = pyDecimal) (pre : Prefix) (hpre : MsgPrefix pre)
    (i : Fin 10) (x : StrSp) (hx : x.Valid E) (a : PState) (htr : transition .mx a.state = some .mx) :
    Run env enc (x.lines pre (mxKw i.val)) a (Fld.mx.set { a with state := .mx, msgstrIndex := i.val } x.text) :=
  run_str hsp hE pre (contCalls_msg hsp pre hpre) .mx _ x hx a _ rfl <|
    Run.call (calls_mx_line hsp pre hpre i x.sep hx.sep_ne hx.sep_blank x.first hx.first) fun n s hs _ => by
      subst hs
      exact process_mx hdec i x.sep hx.sep_blank _ _ (Lemmas.PoUnescape.unescape_spelling hE _ hx.first.choices hx.first.okSeq) n s htr

end I18n.Lemmas.PoRun
