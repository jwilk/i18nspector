import I18n.Lemmas.CheckPluralsTags
import I18n.Lemmas.FmtCheckNamed
/-!
# What `ctx.plural_preimage[i]` is

The `n` of the 200-window for which the plural expression selects form `i`, in increasing order.  The window loop of
`check_plurals` appends each `n` under the value of the expression at `n` (`window_lookupKey`, read off
`CheckPlurals.window_spec`), and only a completed window leaves a preimage (`checkPlurals_preimage_window`, for any catalog);
`preimageOfHeader_get`, the case of the catalog without language that `preimageOfHeader` runs `check_plurals` on, is what C14
`omission_window` cites.
-/
namespace I18n.FmtCheck
open I18n I18n.Py I18n.Plural I18n.CheckPlurals

/-- the plural expression `e` evaluates to `k` at `n = i` -/
def selects (e : Expr) (k : Int) (i : Nat) : Bool :=
  match evalAt 32 i e with
  | .ok v => v == k
  | .error _ => false

theorem selects_eq_outcome (e : Expr) (k : Int) : selects e k = fun j : Nat => outcome 32 j e == some k := by
  funext j
  unfold selects outcome
  cases evalAt 32 j e <;> rfl

theorem window_lookupKey (n : Nat) (e : Expr) (lc : Option (Nat × Expr)) (hp : Bool) (ut : TagCall)
    (is : List Nat) (st st' : WinState) (hw : window n e lc hp ut is st = (st', .completed)) (k : Int) :
    lookupKey k st'.pre = if is.filter (selects e k) = [] then lookupKey k st.pre
      else some ((lookupKey k st.pre).getD [] ++ is.filter (selects e k)) := by
  obtain ⟨_, _, _, _, _, hfin⟩ := window_spec n e lc hp ut is st st' _ hw
  rcases hfin with ⟨_, _, _, hrec⟩ | ⟨hs, _⟩
  · rw [lookupKey_eq_lookup, lookupKey_eq_lookup, selects_eq_outcome]
    exact hrec k
  · cases hs

theorem window_preimageGet (n : Nat) (e : Expr) (lc : Option (Nat × Expr)) (hp : Bool) (ut : TagCall)
    (st0 st : WinState) (h0 : st0.pre = [])
    (hw : window n e lc hp ut (List.range codomainLimit) st0 = (st, .completed)) (i : Nat) :
    (∀ l, preimageGet st.pre i = some l → l = (List.range codomainLimit).filter (selects e i)) ∧
    (preimageGet st.pre i = none ↔ ∀ k, k < codomainLimit → selects e i k = false) := by
  have h := window_lookupKey n e lc hp ut _ st0 st hw (i : Int)
  rw [h0] at h
  have hnone : (List.range codomainLimit).filter (selects e i) = [] ↔ ∀ k, k < codomainLimit → selects e i k = false := by
    simp only [List.filter_eq_nil_iff, List.mem_range, Bool.not_eq_true]
  unfold preimageGet
  rw [h]
  by_cases hnil : (List.range codomainLimit).filter (selects e i) = []
  · rw [if_pos hnil]
    exact ⟨fun l hl => (nomatch hl), iff_of_true rfl (hnone.1 hnil)⟩
  · rw [if_neg hnil]
    exact ⟨fun l hl => (Option.some.inj hl).symm, iff_of_false (fun h => (nomatch h)) fun h => hnil (hnone.2 h)⟩

theorem checkPlurals_preimage_window {inp : Input} {pf : List Char} {out : Output} {pre : Preimage}
    (hv : headerValues inp = [pf]) (hc : checkPlurals inp = .ok out) (h : out.preimage = some pre) :
    inp.isTemplate = false ∧ ∃ n e lj rj, parsePluralForms pf = .ok n e lj rj ∧
      ∃ (lc : Option (Nat × Expr)) (hp : Bool) (ut : TagCall) (st0 st : WinState), st0.pre = [] ∧
        window n e lc hp ut (List.range codomainLimit) st0 = (st, .completed) ∧ pre = st.pre := by
  cases ht : inp.isTemplate with
  | true =>
    rw [checkPlurals_eq, hv] at hc
    simp only [ht, ↓reduceIte] at hc
    cases hc
    cases h
  | false =>
    refine ⟨rfl, ?_⟩
    cases hpf : parsePluralForms pf with
    | valueError => rw [checkPlurals_single _ pf hv ht, hpf] at hc; cases hc
    | syntaxError => rw [checkPlurals_single _ pf hv ht, hpf] at hc; cases hc; cases h
    | ok n e lj rj =>
      obtain ⟨lcs, st, fin, rs, _, hw, _, rfl⟩ := report_ok _ pf out hv ht n e lj rj hpf hc
      have hfin : fin = .completed ∧ pre = st.pre := by
        simp only at h
        split at h
        · cases fin with
          | completed => exact ⟨rfl, (Option.some.inj h).symm⟩
          | stopped => cases h
          | crashed ex => cases h
        · cases h
      obtain ⟨rfl, rfl⟩ := hfin
      exact ⟨n, e, lj, rj, rfl, _, _, _, _, st, rfl, hw, rfl⟩

theorem checkPlurals_preimageGet {inp : Input} {pf : List Char} {out : Output} {pre : Preimage}
    (hv : headerValues inp = [pf]) (hc : checkPlurals inp = .ok out) (h : out.preimage = some pre) :
    ∃ n e lj rj, parsePluralForms pf = .ok n e lj rj ∧ ∀ i : Nat,
      (∀ l, preimageGet pre i = some l → l = (List.range codomainLimit).filter (selects e i)) ∧
      (preimageGet pre i = none ↔ ∀ k, k < codomainLimit → selects e i k = false) := by
  obtain ⟨_, n, e, lj, rj, hpf, lc, hp, ut, st0, st, h0, hw, rfl⟩ := checkPlurals_preimage_window hv hc h
  exact ⟨n, e, lj, rj, hpf, fun i => window_preimageGet n e lc hp ut st0 st h0 hw i⟩

theorem preimageOfHeader_get {tmpl : Bool} {pf : List Char} {pre : Preimage} (h : preimageOfHeader tmpl [pf] = some pre) :
    ∃ n e lj rj, parsePluralForms pf = .ok n e lj rj ∧ ∀ i : Nat,
      (∀ l, preimageGet pre i = some l → l = (List.range codomainLimit).filter (selects e i)) ∧
      (preimageGet pre i = none ↔ ∀ k, k < codomainLimit → selects e i k = false) := by
  unfold preimageOfHeader at h
  cases hc : checkPlurals ⟨[pf], none, [], [], tmpl⟩ with
  | error ex => rw [hc] at h; cases h
  | ok out => rw [hc] at h; exact checkPlurals_preimageGet (inp := ⟨[pf], none, [], [], tmpl⟩) rfl hc h

end I18n.FmtCheck
