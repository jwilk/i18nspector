import I18n.Lemmas.Kit.List
import I18n.Lemmas.MsgLoop
/-
Reading single tags off the rule set: which tag names each part of `entryTags` and of `flagTags` can contain, and
`has t (entryTags …)`, `has t (flagTags …)`, `has t (perFlag …)` each as one Boolean formula (`has_entryTags`, `has_flagTags`,
`has_perFlag`) of which the theorems per tag are readings.  At the end the file level: `fileTags`, and the entry-by-entry list
`entriesFrom` by position and by member.
-/
namespace I18n.Msg
open I18n.Tags (Str lit Extra)
open I18n.Spec.MessageRules

def Emit.isTag (t : MTag) : Emit → Bool
  | .tag t' _ => t' = t
  | _ => false

def has (t : MTag) (l : List Emit) : Bool := l.any (Emit.isTag t)

@[simp] theorem has_nil (t : MTag) : has t [] = false := rfl
@[simp] theorem has_append (t : MTag) (a b : List Emit) : has t (a ++ b) = (has t a || has t b) := by simp [has]
@[simp] theorem has_cons (t : MTag) (x : Emit) (l : List Emit) : has t (x :: l) = (x.isTag t || has t l) := by simp [has]
@[simp] theorem has_rule (t : MTag) (c : Bool) (x : Emit) : has t (rule c x) = (c && x.isTag t) := by
  cases c <;> simp [rule, has]
@[simp] theorem isTag_tagR (t t' : MTag) (db : Tags.UnicodeDB) (e : Entry) (c : Bool) (r : List Extra) :
    (tagR db e c t' r).isTag t = decide (t' = t) := rfl
@[simp] theorem isTag_tag (t t' : MTag) (r : List Extra) : (Emit.tag t' r).isTag t = decide (t' = t) := rfl
@[simp] theorem isTag_fmt (t : MTag) (n : Str) (i : Info) : (Emit.fmt n i).isTag t = false := rfl
@[simp] theorem isTag_crash (t : MTag) (x : Exc) : (Emit.crash x).isTag t = false := rfl

theorem has_eq_false_of_forall {t : MTag} {l : List Emit} (h : ∀ x ∈ l, x.isTag t = false) : has t l = false := by
  simp only [has, List.any_eq_false]; intro x hx; simp [h x hx]

theorem has_flatMap {α : Type} (t : MTag) (l : List α) (f : α → List Emit) :
    has t (l.flatMap f) = l.any fun a => has t (f a) := List.any_flatMap

theorem has_map {α : Type} (t : MTag) (l : List α) (f : α → Emit) :
    has t (l.map f) = l.any fun a => (f a).isTag t := List.any_map

theorem has_rangeTail_false (env : FlagEnv) (e : Entry) (rd : List ((Nat × Nat) × List (Str × Nat))) (t : MTag)
    (h1 : t ≠ .conflictingMessageFlags) (h2 : t ≠ .duplicateMessageFlag) : has t (rangeTail env e rd) = false := by
  fun_cases rangeTail env e rd <;> simp [Ne.symm h1, Ne.symm h2]

theorem has_positivePairs_false (env : FlagEnv) (e : Entry) (pos : List (Str × Str)) (t : MTag)
    (h1 : t ≠ .conflictingMessageFlags) : has t (positivePairs env e pos) = false := by
  simp only [positivePairs, has_flatMap]
  rw [List.any_eq_false]; intro f1 _
  rw [Bool.not_eq_true, List.any_eq_false]; intro f2 _
  cases strLt f1 f2 <;> cases shareExample env f1 f2 <;> simp [Ne.symm h1]

theorem has_conflictLoop_false (env : FlagEnv) (e : Entry) (ff : List ((Str × Str) × Str)) (t : MTag)
    (h1 : t ≠ .conflictingMessageFlags) : has t (conflictLoop env e ff) = false := by
  simp only [conflictLoop, has_flatMap, has_map]
  rw [List.any_eq_false]; intro pn _
  rw [Bool.not_eq_true, List.any_eq_false]; intro f _; simp [Ne.symm h1]

theorem has_redundantLoop_false (env : FlagEnv) (e : Entry) (ff : List ((Str × Str) × Str)) (t : MTag)
    (h1 : t ≠ .redundantMessageFlag) : has t (redundantLoop env e ff) = false := by
  simp only [redundantLoop, has_map, List.any_eq_false]
  intro f _
  split <;> simp [Ne.symm h1]

theorem has_perFlag (env : FlagEnv) (e : Entry) (flags : List Str) (f : Str) (t : MTag) :
    has t (perFlag env e flags f) =
      ((decide (f = lit "wrap") && flags.contains (lit "no-wrap") && decide (MTag.conflictingMessageFlags = t))
        || (e.msgidPlural.isNone && (flagKind env f).isRange && decide (MTag.rangeFlagWithoutPluralString = t))
        || (decide (flagKind env f = .range none) && decide (MTag.invalidRangeFlag = t))
        || (decide (flagKind env f = .unknown) && decide (MTag.unknownMessageFlag = t))
        || (decide (flags.count f > 1 ∧ f ≠ []) && decide (rangeOf env f = none) && decide (MTag.duplicateMessageFlag = t))) := by
  have hw : f = lit "wrap" ↔ flagKind env f = .wrap := (flagKind_wrap_iff env f).symm
  have hr : rangeOf env f = match flagKind env f with | .range r => r | _ => none := rfl
  cases hk : flagKind env f with
  | range r => cases r <;> simp [perFlag, hk, hr, hw, FlagKind.isRange, Bool.and_comm, Bool.or_assoc]
  | _ => simp [perFlag, hk, hr, hw, FlagKind.isRange, Bool.and_comm]

/-- the per-flag part ranges over the flags themselves, `sorted(set(·))` keeping membership -/
theorem has_flagTags (env : FlagEnv) (e : Entry) (t : MTag) :
    has t (flagTags env e) =
      ((e.flags.any fun f => has t (perFlag env e e.flags f))
        || has t (rangeTail env e (rangeDict env e.flags (toSorted strLt e.flags)))
        || has t (positivePairs env e (formatFlagsOf (formatDict env (toSorted strLt e.flags)) []))
        || has t (conflictLoop env e (formatDict env (toSorted strLt e.flags)))
        || has t (redundantLoop env e (formatDict env (toSorted strLt e.flags)))) := by
  have hany : ((toSorted strLt e.flags).any fun f => has t (perFlag env e e.flags f)) =
      e.flags.any fun f => has t (perFlag env e e.flags f) := by
    rw [Bool.eq_iff_iff]
    simp only [List.any_eq_true, mem_toSorted]
  simp only [flagTags, has_append, has_flatMap, hany]

theorem has_flagTags_false (env : FlagEnv) (e : Entry) (t : MTag) (ht : t ∉ MTag.ofCheckMessageFlags) :
    has t (flagTags env e) = false := by
  simp only [MTag.ofCheckMessageFlags, List.mem_cons, List.not_mem_nil, or_false, not_or] at ht
  -- `t` is none of the six tags of `_check_message_flags`, in the order of `MTag.ofCheckMessageFlags`
  obtain ⟨hconf, hdup, hinv, hnopl, hred, hunk⟩ := ht
  rw [has_flagTags, has_rangeTail_false env e _ t hconf hdup, has_positivePairs_false env e _ t hconf,
    has_conflictLoop_false env e _ t hconf, has_redundantLoop_false env e _ t hred]
  -- every disjunct of `has_perFlag` tests `t` against one of them
  simp [has_perFlag, Ne.symm hconf, Ne.symm hdup, Ne.symm hinv, Ne.symm hnopl, Ne.symm hunk]

theorem mem_unusualTags (env : Env) (pre : List Entry) (e : Entry) (x : Emit) :
    ∀ (rest done : List Str), x ∈ unusualTags env pre e done rest ↔
      ∃ d s r, rest = d ++ s :: r ∧ ∃ names, reported env pre e (done ++ d) s ≠ [] ∧
        ucNames env.charName (reported env pre e (done ++ d) s) = some names ∧
        x = tagR env.flag.db e tplColon .unusualCharacterInTranslation [.safe names]
  | [], done => by simp [unusualTags]
  | s :: rest, done => by
    have hhead : x ∈ (if (reported env pre e done s).isEmpty then [] else unusualTag env e (reported env pre e done s)) ↔
        ∃ names, reported env pre e done s ≠ [] ∧ ucNames env.charName (reported env pre e done s) = some names ∧
          x = tagR env.flag.db e tplColon .unusualCharacterInTranslation [.safe names] := by
      cases hr : reported env pre e done s with
      | nil => simp
      | cons c cs => cases hn : ucNames env.charName (c :: cs) <;> simp [unusualTag, hn]
    -- the string is the first one, or one of the rest
    rw [unusualTags, List.mem_append, hhead, mem_unusualTags env pre e x rest (done ++ [s]), Kit.exists_split_cons]
    simp only [List.append_nil, List.append_assoc, List.singleton_append]

theorem has_unusualTags_false (env : Env) (pre : List Entry) (e : Entry) (t : MTag) (ht : t ≠ .unusualCharacterInTranslation)
    (rest done : List Str) : has t (unusualTags env pre e done rest) = false :=
  has_eq_false_of_forall fun x hx => by
    obtain ⟨_, _, _, _, _, _, _, rfl⟩ := (mem_unusualTags env pre e x rest done).mp hx
    simp [Ne.symm ht]

theorem unusualTags_nil (env : Env) (pre : List Entry) (e : Entry) (rest done : List Str)
    (h : ∀ d s r, rest = d ++ s :: r → reported env pre e (done ++ d) s = []) : unusualTags env pre e done rest = [] :=
  List.eq_nil_iff_forall_not_mem.mpr fun x hx => by
    obtain ⟨d, s, r, hr, _, hne, _⟩ := (mem_unusualTags env pre e x rest done).mp hx
    exact hne (h d s r hr)

/-- `hs`: what is reported has a name, so the tag can be formatted -/
theorem has_unusualTags_iff {env : Env} (hs : Sane env) (pre : List Entry) (e : Entry) (rest done : List Str) :
    has .unusualCharacterInTranslation (unusualTags env pre e done rest) = true ↔
      ∃ d s r, rest = d ++ s :: r ∧ reported env pre e (done ++ d) s ≠ [] := by
  simp only [has, List.any_eq_true]
  constructor
  · rintro ⟨x, hx, _⟩
    obtain ⟨d, s, r, hsplit, _, hne, _, _⟩ := (mem_unusualTags env pre e x rest done).mp hx
    exact ⟨d, s, r, hsplit, hne⟩
  · rintro ⟨d, s, r, hsplit, hne⟩
    obtain ⟨names, hnames⟩ := ucNames_reported hs pre e (done ++ d) s
    exact ⟨_, (mem_unusualTags env pre e _ rest done).mpr ⟨d, s, r, hsplit, names, hne, hnames, rfl⟩, by simp⟩

theorem has_dispatch_false (env : Env) (e : Entry) (t : MTag) : has t (dispatch env e) = false := by
  simp [dispatch, has_map]

theorem has_xmlTags_false (env : Env) (ctx : Ctx) (e : Entry) (t : MTag) (ht : t ≠ .malformedXml) :
    has t (xmlTags env ctx e) = false := by
  fun_cases xmlTags env ctx e <;> simp [Ne.symm ht]

theorem has_markerTag (db : Tags.UnicodeDB) (e : Entry) (t : MTag) (m : Option Str) :
    has t (markerTag db e m) = (m.isSome && decide (MTag.conflictMarkerInTranslation = t)) := by
  cases m <;> simp [markerTag]

theorem has_entryTags (env : Env) (ctx : Ctx) (pre : List Entry) (e : Entry) (t : MTag) :
    has t (entryTags env ctx pre e) =
      (isMessage e &&
        (has t (flagTags env.flag e) || has t (xmlTags env ctx e)
          || (decide (earlierSame pre e = 1) && decide (MTag.duplicateMessageDefinition = t))
          || (ctx.isTemplate && hasTranslation e && decide (MTag.translationInTemplate = t))
          || ((e.prevMsgctxt.isSome || e.prevMsgid.isSome || e.prevMsgidPlural.isSome) && !fuzzy e
                && decide (MTag.strayPreviousMsgid = t))
          || (((considered e).any fun s => leadingLf s != leadingLf e.msgid) && decide (MTag.inconsistentLeadingNewlines = t))
          || (((considered e).any fun s => trailingLf s != trailingLf e.msgid) && decide (MTag.inconsistentTrailingNewlines = t))
          || (ctx.hasEncoding && has t (unusualTags env pre e [] (translations e)))
          || (!fuzzy e && (((firstMarker env e).isSome && decide (MTag.conflictMarkerInTranslation = t))
                || (someForm e && e.forms.any (· = []) && decide (MTag.partiallyTranslatedMessage = t)))))) := by
  unfold entryTags
  cases hm : isMessage e
  · rfl
  · simp only [Bool.not_true, Bool.false_eq_true, if_false, has_append, has_dispatch_false, has_rule, isTag_tagR,
      apply_ite (has t), has_markerTag, has_nil, Bool.true_and, Bool.or_false, Bool.or_assoc, Bool.if_false_right,
      Bool.if_false_left, Bool.decide_eq_true]

theorem fileTags_eq (ctx : Ctx) (file : List Entry) :
    fileTags ctx file =
      if (∀ e ∈ file, isMessage e = false) ∧ ¬(ctx.isBinary = true ∧ ctx.possibleHiddenStrings = true)
      then [.tag .emptyFile []] else [] := by
  simp only [fileTags, rule, Bool.and_eq_true, Bool.not_eq_true', List.any_eq_false, Bool.not_eq_true,
    Bool.and_eq_false_iff, Decidable.not_and_iff_not_or_not]

theorem entriesFrom_append (env : Env) (ctx : Ctx) : ∀ (a p b : List Entry),
    entriesFrom env ctx p (a ++ b) = entriesFrom env ctx p a ++ entriesFrom env ctx (p ++ a) b
  | [], p, b => by simp [entriesFrom]
  | x :: a, p, b => by simp [entriesFrom, entriesFrom_append env ctx a (p ++ [x]) b]

theorem entriesFrom_length (env : Env) (ctx : Ctx) : ∀ (a p : List Entry), (entriesFrom env ctx p a).length = a.length
  | [], _ => rfl
  | _ :: a, p => by simp [entriesFrom, entriesFrom_length env ctx a]

theorem entriesFrom_getElem? (env : Env) (ctx : Ctx) (p a b : List Entry) (e : Entry) :
    (entriesFrom env ctx p (a ++ e :: b))[a.length]? = some (entryTags env ctx (p ++ a) e) := by
  rw [entriesFrom_append, List.getElem?_append_right (by simp [entriesFrom_length])]
  simp [entriesFrom_length, entriesFrom]

theorem mem_entriesFrom {env : Env} {ctx : Ctx} {l : List Emit} : ∀ {rest pre : List Entry},
    l ∈ entriesFrom env ctx pre rest ↔ ∃ a e b, rest = a ++ e :: b ∧ l = entryTags env ctx (pre ++ a) e
  | [], _ => by simp [entriesFrom]
  | e :: rest, pre => by
    rw [entriesFrom, List.mem_cons, mem_entriesFrom, Kit.exists_split_cons]
    simp only [List.append_nil, List.append_assoc, List.singleton_append]

end I18n.Msg
