import I18n.Lemmas.PyBraceFormat
/-
python-brace: the two typing gaps (`Spec.quirk`) are exactly that — a specification with one of them is refused by
`__format__` of `str`, `int` and `float`, so an accepted flat string with such a field cannot be formatted at all.
-/
namespace I18n.PyBrace
open I18n.BraceChars I18n.Spec.StrFormat

theorem finishSpec_comma {dt : Char} {r : RawSpec} (h : r.thousands = .comma) {t : Char} (ht : r.type = some t)
    (hmem : t ∈ ['b', 'c', 'o', 'x', 'X']) : finishSpec dt r = .error .thousandsWithType := by
  unfold finishSpec
  rw [h, ht]
  simp only [List.mem_cons, List.not_mem_nil, or_false] at hmem
  rcases hmem with rfl | rfl | rfl | rfl | rfl <;> rfl

theorem formatLong_c {n : Int} {s : ISpec} (ht : s.type = 'c') (h : s.alternate = true ∨ s.sign.isSome = true) :
    formatLong n s ≠ .ok () := by
  unfold formatLong
  by_cases h1 : s.precision.isSome = true
  · rw [if_pos h1]; exact nofun
  · rw [if_neg h1]
    by_cases h2 : s.noNeg0 = true
    · rw [if_pos h2]; exact nofun
    · rw [if_neg h2, if_pos ht]
      by_cases h3 : s.sign.isSome = true
      · rw [if_pos h3]; exact nofun
      · rw [if_neg h3, if_pos (h.resolve_right h3)]; exact nofun

theorem formatValue_quirk {cfg : Cfg} (hcfg : cfg.ssizeMax ≤ 2 ^ 31 - 1) {sp : List Char} {f : Spec} {tp : TySet}
    (hsp : '}' ∉ sp) (hscan : scanSpec sp = some f) (hchk : specCheck cfg f = .ok tp) (hq : f.quirk = true) (v : Val) :
    formatValue v sp ≠ .ok () := by
  have hsyn := parseSyntax_of_check (Nat.le_trans hcfg (by decide)) hsp hscan hchk
  have hne : ¬ sp.isEmpty = true := by
    intro he
    rw [List.isEmpty_iff.mp he, scanSpec_nil] at hscan
    cases hscan
    cases hq
  simp only [Spec.quirk, Bool.or_eq_true, Bool.and_eq_true, beq_iff_eq] at hq
  -- whatever the default type and alignment: a record CPython gets out of the specification has `c` with a sign or `#`
  have hc : ∀ dt da s, parseSpec dt da sp = .ok s → s.type = 'c' ∧ (s.alternate = true ∨ s.sign.isSome = true) := by
    intro dt da s hs
    simp only [parseSpec, hsyn] at hs
    rcases hq with ⟨hcomma, ht⟩ | ⟨ht, hflag⟩
    · -- a comma with b, c, o, x, X is refused while the specification is parsed
      obtain ⟨t, ht, hmem⟩ : ∃ t, f.type = some t ∧ t ∈ ['b', 'c', 'o', 'x', 'X'] := by
        rcases ht with (((h | h) | h) | h) | h <;> exact ⟨_, h, by decide⟩
      rw [finishSpec_comma (rawOf_thousands_comma hcomma) ht hmem] at hs
      cases hs
    · cases finishSpec_inv hs
      exact ⟨congrArg (Option.getD · dt) ht, hflag⟩
  unfold formatValue
  rw [if_neg hne]
  cases v with
  | str =>
    cases hs : parseSpec 's' '<' sp with
    | error e => exact nofun
    | ok s => simp [(hc _ _ _ hs).1]
  | int n =>
    cases hs : parseSpec 'd' '>' sp with
    | error e => exact nofun
    | ok s =>
      obtain ⟨ht, hflag⟩ := hc _ _ _ hs
      have : memC s.type "bcdoxXn" = true := by rw [ht]; decide +kernel
      simp only [this, if_true]
      exact formatLong_c ht hflag
  | float =>
    cases hs : parseSpec '\x00' '>' sp with
    | error e => exact nofun
    | ok s =>
      have : ¬ (s.type = '\x00' ∨ memC s.type "eEfFgGn%" = true) := by rw [(hc _ _ _ hs).1]; decide +kernel
      simp only [this, if_false]
      exact nofun

theorem renderField_ok_inv {a : Args} {an an' : AutoNumber} {f : Field} (h : renderField a an f = .ok an') :
    ∃ w, f.needsExpanding = false ∧ formatValue w f.spec = .ok () := by
  revert h
  fun_cases renderField a an f with
  | case1 | case2 | case3 | case4 | case5 | case6 | case7 | case8 => rintro ⟨⟩
  | case9 _ _ _ _ _ _ _ _ _ _ w _ hne hfv => exact fun _ => ⟨w, Bool.eq_false_iff.mpr hne, hfv⟩

theorem field_noQuirk {cfg : Cfg} (hcfg : cfg.ssizeMax ≤ 2 ^ 31 - 1) {cs rest : List Char} {rf : RawField} {st st' : State}
    {tp : TySet} (hshape : FieldShape cs rf rest) (hfi : fieldInit cfg st rf = .ok (st', tp))
    (hne : (cpField rf).needsExpanding = false) {w : Val} (hfv : formatValue w (cpField rf).spec = .ok ()) :
    NoQuirk (cpField rf) := by
  intro sf' h'
  obtain ⟨_, _, h0 | ⟨sf, hcl, hscan, hchk⟩⟩ := fieldInit_flat hshape hfi hne
  · rw [h0, scanSpec_nil] at h'
    cases h'
    rfl
  · cases hscan.symm.trans h'
    cases hqq : sf'.quirk with
    | false => rfl
    | true => exact absurd hfv (formatValue_quirk hcfg hcl hscan hchk hqq w)

theorem run_noQuirk {cfg : Cfg} (hcfg : cfg.ssizeMax ≤ 2 ^ 31 - 1) {a : Args} {st stF : State} {cs : List Char} {fs : List Field}
    (h : Run cfg st cs fs stF) : ∀ an, renderAll a an fs = .ok () → ∀ f ∈ fs, NoQuirk f := by
  induction h with
  | nil => exact fun _ _ _ => nofun
  | lit _ _ ih => exact ih
  | field hshape hfi _ ih =>
    intro an hok f hf
    simp only [renderAll] at hok
    split at hok
    · cases hok
    · rename_i an' hr
      rcases List.mem_cons.mp hf with rfl | hf
      · obtain ⟨w, hne, hfv⟩ := renderField_ok_inv hr
        exact field_noQuirk hcfg hshape hfi hne hfv
      · exact ih an' hok f hf

/-- `quirk_rejected`, for any `SSIZE_MAX` up to 2^31-1 -/
theorem parseWith_quirk_rejected {cfg : Cfg} (hcfg : cfg.ssizeMax ≤ 2 ^ 31 - 1) (s : List Char) (r : Result)
    (h : parseWith cfg s = .ok r) (hq : ¬ QuirkFree s) (a : Args) : format s a ≠ .ok () := by
  obtain ⟨stF, fs, hr, _⟩ := parseWith_run h
  obtain ⟨chunks, hmk, rfl⟩ := yields_markup (run_yields hr)
  rw [yields_format a (run_yields hr)]
  intro hok
  apply hq
  intro chunks' hmk' f hf
  rw [hmk] at hmk'
  cases hmk'
  exact run_noQuirk hcfg hr _ hok f hf

end I18n.PyBrace
