import I18n.Lemmas.CFmtArgs
import I18n.Lemmas.Kit.List
/-!
# The stages of `Conversion.__init__`, warnings off: `conversion false` succeeds exactly on valid directives

Each stage (flags, width, precision, argument number) is a `Stage`: it succeeds exactly when its part of the directive is
valid and its numerals are short, it has then registered the part's references with `add_argument`, and when it fails the error
is one of the module's own or `int()`'s on a long numeral.  The stages are assembled from the combinators
`Stage.check`/`int`/`index`/`add`/`seq`/`tick`, so the text of each is walked once; `conversion_stage` is their sequence, and the
loop over the items (`CFmtGlobal.steps_stage`) a sequence of those.  A stage never writes `warnings`: the notion is for
warnings off, and `CFmtConv`'s `…_erase` lemmas carry a result over to warnings on.
-/
namespace I18n.CFmt
open I18n.Spec.Printf

/-- `IdxShort`, `WidthShort`, `PrecShort`: `int()` accepts the numeral of the part, if it has one (`IntFits`) -/
def IdxShort : Option (List Char) → Prop
  | none => True
  | some ds => IntFits ds.length

def WidthShort : Width → Prop
  | .none => True
  | .num ds => IntFits ds.length
  | .star idx => IdxShort idx

def PrecShort : Prec → Prop
  | .none => True
  | .num ds => IntFits ds.length
  | .star idx => IdxShort idx

/-- every numeral of the directive has at most `sys.get_int_max_str_digits()` digits -/
structure DirShort (d : Directive) : Prop where
  index : IdxShort d.index
  width : WidthShort d.width
  prec : PrecShort d.prec

theorem argIndex_eq (ds : List Char) :
    argIndex ds =
      if IntFits ds.length then
        (if 1 ≤ decimal ds ∧ decimal ds ≤ Spec.Printf.NL_ARGMAX then .ok (decimal ds) else .error .ArgumentRangeError)
      else .error (.crash .ValueError) := by
  have e : (decide (0 < decimal ds) && decide (decimal ds ≤ Spec.Printf.NL_ARGMAX)) =
      decide (1 ≤ decimal ds ∧ decimal ds ≤ Spec.Printf.NL_ARGMAX) := (Bool.decide_and _ _).symm
  unfold argIndex
  rw [pyInt]
  by_cases hl : IntFits ds.length
  · simp only [hl, if_true]
    rw [nl_argmax_pin, e]
    by_cases hr : 1 ≤ decimal ds ∧ decimal ds ≤ Spec.Printf.NL_ARGMAX
    · simp [hr]
    · simp [hr]
  · simp only [hl, if_false]

theorem optIndex_ok_iff (idx : Option (List Char)) (i : Option Nat) :
    optIndex idx = .ok i ↔ IdxShort idx ∧ IdxInRange idx ∧ i = idxValue idx := by
  cases idx with
  | none => simp [optIndex, IdxShort, IdxInRange, idxValue, eq_comm]
  | some ds =>
    simp only [optIndex, argIndex_eq, IdxShort, IdxInRange, idxValue]
    by_cases hl : IntFits ds.length
    · by_cases hr : 1 ≤ decimal ds ∧ decimal ds ≤ Spec.Printf.NL_ARGMAX
      · simp [hl, hr, eq_comm]
      · simp [hl, hr]
    · simp [hl]

/-- how a stage may fail: with one of the module's own errors, or with `int()`'s `ValueError` on a numeral that is not
    `short` — nothing else, in particular no crash of `add_argument` -/
def Blame (short : Prop) (e : CErr) : Prop := e.own = true ∨ (e = .crash .ValueError ∧ ¬ short)

theorem Blame.mono {p q : Prop} {e : CErr} (h : Blame p e) (hqp : q → p) : Blame q e :=
  h.imp_right fun ⟨he, hn⟩ => ⟨he, fun hq => hn (hqp hq)⟩

theorem optIndex_blame {idx : Option (List Char)} {e : CErr} (h : optIndex idx = .error e) : Blame (IdxShort idx) e := by
  cases idx with
  | none => simp [optIndex] at h
  | some ds =>
    simp only [optIndex, argIndex_eq, IdxShort] at h ⊢
    by_cases hl : IntFits ds.length
    · by_cases hr : 1 ≤ decimal ds ∧ decimal ds ≤ Spec.Printf.NL_ARGMAX
      · simp [hl, hr] at h
      · simp [hl, hr] at h; exact Or.inl (h ▸ rfl)
    · simp [hl] at h; exact Or.inr ⟨h.symm, hl⟩

theorem optIndex_error_not {idx : Option (List Char)} {e : CErr} (h : optIndex idx = .error e) :
    ¬(IdxShort idx ∧ IdxInRange idx) := fun ⟨h1, h2⟩ => by
  rw [(optIndex_ok_iff idx _).2 ⟨h1, h2, rfl⟩] at h
  cases h

theorem mem_distinct {x : Char} {l : List Char} : x ∈ distinct l ↔ x ∈ l :=
  Kit.mem_distinct rfl (fun _ _ => rfl)

theorem flagLoop_false_ok_iff (flags : List Char) (conv : Char) : ∀ (fs : List Char) (st st' : St),
    flagLoop false flags conv fs st = .ok st' ↔ st' = st ∧ ∀ f ∈ fs, flagErr f conv = none
  | [], st, st' => by simp [flagLoop, eq_comm]
  | f :: fs, st, st' => by
    simp only [flagLoop, warn_false, ite_self, List.mem_cons, forall_eq_or_imp]
    cases hf : flagErr f conv with
    | some e => simp
    | none => simpa using flagLoop_false_ok_iff flags conv fs st st'

theorem checkFlags_false (st : St) (flags : List Char) (conv : Char) :
    checkFlags false st flags conv = flagLoop false flags conv (distinct flags) st := by
  unfold checkFlags
  cases flagLoop false flags conv (distinct flags) st with
  | error e => rfl
  | ok st1 => simp only [warn_false, ite_self]

theorem checkFlags_false_ok_iff (st st' : St) (flags : List Char) (conv : Char) :
    checkFlags false st flags conv = .ok st' ↔ st' = st ∧ ∀ f ∈ flags, flagErr f conv = none := by
  simp only [checkFlags_false, flagLoop_false_ok_iff, mem_distinct]

theorem flagLoop_false_error (flags : List Char) (conv : Char) : ∀ (fs : List Char) (st : St) (e : CErr),
    flagLoop false flags conv fs st = .error e → ∃ f ∈ fs, flagErr f conv = some e
  | [], st, e, h => by cases h
  | f :: fs, st, e, h => by
    simp only [flagLoop, warn_false, ite_self] at h
    cases hf : flagErr f conv with
    | some e' =>
      rw [hf] at h
      simp only [Except.error.injEq] at h
      exact ⟨f, by simp, by rw [hf, h]⟩
    | none =>
      rw [hf] at h
      obtain ⟨f', hf', he⟩ := flagLoop_false_error flags conv fs st e h
      exact ⟨f', by simp [hf'], he⟩

theorem checkFlags_false_error {st : St} {flags : List Char} {conv : Char} {e : CErr}
    (hfl : ∀ f ∈ flags, f ∈ flagChars) (hc : conv ∈ convChars)
    (h : checkFlags false st flags conv = .error e) : e = .FlagError := by
  rw [checkFlags_false] at h
  obtain ⟨f, hf, he⟩ := flagLoop_false_error flags conv _ st _ h
  have := (flagErr_spec f (hfl f (mem_distinct.1 hf)) conv hc).2
  rw [he] at this
  rcases this with h | h
  · cases h
  · exact (Option.some.inj h)

def widthRefs (w : Width) (parent : Nat) : List Ref :=
  match w with
  | .star idx => [⟨idxValue idx, ⟨.width, "int", parent⟩⟩]
  | _ => []

def precRefs (p : Prec) (parent : Nat) : List Ref :=
  match p with
  | .star idx => [⟨idxValue idx, ⟨.prec, "int", parent⟩⟩]
  | _ => []

/-- `int(precision or '0')`: the digit limit cannot bite on the stand-in `'0'` -/
theorem intFits_precDigits (ds : List Char) : IntFits (if ds.isEmpty then ['0'] else ds).length ↔ IntFits ds.length := by
  cases ds with
  | nil => exact ⟨fun _ => Or.inr (Nat.zero_le _), fun _ => by show IntFits 1; unfold IntFits; omega⟩
  | cons d ds' => exact Iff.rfl

def convRefs (d : Directive) (parent : Nat) : List Ref :=
  if d.body.conv ∈ consuming then [⟨idxValue d.index, ⟨.conv, d.body.typeName, parent⟩⟩] else []

theorem refs_eq (d : Directive) (p : Nat) : d.refs p = widthRefs d.width p ++ (precRefs d.prec p ++ convRefs d p) := rfl

theorem idxValue_isSome (idx : Option (List Char)) : (idxValue idx).isSome = true ↔ idx ≠ none := by
  cases idx <;> simp [idxValue]

/-- what one stage `x` of `FormatString.__init__` / `Conversion.__init__` does, warnings off, from the state `st`: it succeeds
    exactly when its numerals are short, its condition `P` holds and `add_argument` accepts its references `rs`, one after the
    other, and then `len(self._items)` is `n`; when it fails from a reachable state, the error is one of the module's own, or
    `int()`'s on a long numeral -/
structure Stage (st : St) (x : Except CErr St) (short P : Prop) (rs : List Ref) (n : Nat) : Prop where
  ok_iff : ∀ st', x = .ok st' ↔ short ∧ P ∧ ∃ s, addAll st rs = .ok s ∧ st' = setN n s
  blame : ∀ pre, Reach pre st → ∀ e, x = .error e → Blame short e

section stage
variable {st : St} {x : Except CErr St} {short P : Prop} {rs : List Ref} {n : Nat}

theorem Stage.ok_iff' (h : Stage st x short P rs st.nitems) (st' : St) :
    x = .ok st' ↔ short ∧ P ∧ addAll st rs = .ok st' := by
  rw [h.ok_iff, addAll_ok_setN]

theorem Stage.pure : Stage st (.ok st) True True [] st.nitems where
  ok_iff st' := by rw [addAll_ok_setN]; simp only [addAll, true_and]
  blame _ _ _ h := nomatch h

theorem Stage.congr {short' P' : Prop} (h : Stage st x short P rs n) (hs : short' ↔ short) (hP : P' ↔ P) :
    Stage st x short' P' rs n where
  ok_iff st' := by rw [hs, hP]; exact h.ok_iff st'
  blame pre hR e he := (h.blame pre hR e he).mono hs.1

theorem Stage.fail {e : CErr} (hn : ¬ (short ∧ P)) (hb : Blame short e) : Stage st (.error e) short P rs n where
  ok_iff st' := by
    simp only [error_ne_ok, false_iff]
    exact fun ⟨hs, hP, _⟩ => hn ⟨hs, hP⟩
  blame _ _ e' he := by cases he; exact hb

theorem Stage.not_ok {e : CErr} (h : Stage st (.error e) short P rs n) (hs : short) (hP : P) {s : St} (ha : addAll st rs = .ok s) :
    False :=
  error_ne_ok.1 ((h.ok_iff _).2 ⟨hs, hP, s, ha, rfl⟩)

theorem Stage.check {c : Prop} [Decidable c] {e0 : CErr} (he0 : e0.own = true) (h : Stage st x short P rs n) :
    Stage st (if c then .error e0 else x) short (¬ c ∧ P) rs n := by
  by_cases hc : c
  · rw [if_pos hc]
    exact Stage.fail (fun ⟨_, hnc, _⟩ => hnc hc) (Or.inl he0)
  · rw [if_neg hc]
    exact h.congr Iff.rfl (and_iff_right hc)

/-- `int()` on a numeral.  (The rest of the stage is asked for as a family in the value read, here and in `Stage.index`, so
    that `k`, `P`, `rs` are found by pattern unification when a stage is put together.) -/
theorem Stage.int (ds : List Char) {k : Nat → Except CErr St} {P : Nat → Prop} (h : ∀ v, Stage st (k v) short (P v) rs n) :
    Stage st (match pyInt ds with | .error e => .error e | .ok v => k v) (IntFits ds.length ∧ short) (P (decimal ds)) rs n := by
  rw [pyInt]
  by_cases hl : IntFits ds.length
  · rw [if_pos hl]
    exact (h _).congr (and_iff_right hl) Iff.rfl
  · rw [if_neg hl]
    exact Stage.fail (fun ⟨⟨hfit, _⟩, _⟩ => hl hfit) (Or.inr ⟨rfl, fun ⟨hfit, _⟩ => hl hfit⟩)

theorem Stage.index (idx : Option (List Char)) {k : Option Nat → Except CErr St} {P : Option Nat → Prop} {rs : Option Nat → List Ref}
    (h : ∀ i, Stage st (k i) short (P i) (rs i) n) :
    Stage st (match optIndex idx with | .error e => .error e | .ok i => k i) (IdxShort idx ∧ short)
      (IdxInRange idx ∧ P (idxValue idx)) (rs (idxValue idx)) n := by
  cases ho : optIndex idx with
  | error e => exact Stage.fail (fun ⟨⟨hsh, _⟩, hrg, _⟩ => optIndex_error_not ho ⟨hsh, hrg⟩) ((optIndex_blame ho).mono And.left)
  | ok i =>
    obtain ⟨h1, h2, rfl⟩ := (optIndex_ok_iff idx i).1 ho
    exact (h _).congr (and_iff_right h1) (and_iff_right h2)

theorem Stage.add (i : Option Nat) (v : Entry) : Stage st (addArgument st i v) True True [⟨i, v⟩] st.nitems where
  ok_iff st' := by rw [addAll_ok_setN, addAll_single]; simp only [true_and]
  blame _ hR _ he := Or.inl (addArgument_error_own hR he)

/-- one stage after another: the second starts where `add_argument` has registered the references of the first, a state that
    differs from `st` in `_next_arg_index` and `_argument_map` and has `len(self._items) = n` (so what a later stage reads as
    `parent` is `n` by computation) -/
theorem Stage.seq {k : St → Except CErr St} {short' P' : Prop} {rs' : List Ref} {n' : Nat} (h : Stage st x short P rs n)
    (hk : ∀ a m, Stage ⟨a, m, n, st.warnings⟩ (k ⟨a, m, n, st.warnings⟩) short' P' rs' n') :
    Stage st (match (generalizing := false) x with | .error e => .error e | .ok s => k s) (short ∧ short') (P ∧ P') (rs ++ rs') n' := by
  cases x with
  | error e =>
    constructor
    · intro st'
      simp only [error_ne_ok, false_iff, addAll_append]
      rintro ⟨hs, hP, s', ha, _⟩
      -- had `add_argument` accepted `rs`, the first stage would not have raised
      cases ha1 : addAll st rs with
      | error e1 => rw [ha1] at ha; cases ha
      | ok s => exact h.not_ok hs.1 hP.1 ha1
    · intro pre hR e' he
      cases he
      exact (h.blame pre hR e rfl).mono And.left
  | ok s1 =>
    -- the first stage has registered `rs`, reaching `s`, and left `setN n s`; the second runs from there
    obtain ⟨hs, hP, s, ha, rfl⟩ := (h.ok_iff s1).1 rfl
    have hk' : Stage (setN n s) (k (setN n s)) short' P' rs' n' := by
      obtain ⟨a, m, _, _⟩ := s
      obtain ⟨-, rfl⟩ := addAll_nitems ha
      exact hk a m
    constructor
    · intro st'
      show k (setN n s) = .ok st' ↔ _
      rw [hk'.ok_iff, addAll_from_setN, addAll_append, ha]
      simp only [hs, hP, true_and]
    · intro pre hR e he
      have hR' : Reach (pre ++ rs) (setN n s) := ((addAll_reach rs pre st hR).1 s ha).setN n
      exact (hk'.blame _ hR' e he).mono And.right

/-- `items += […]` after a stage -/
theorem Stage.tick (h : Stage st x short P rs n) :
    Stage st (match (generalizing := false) x with | .error e => .error e | .ok s => .ok { s with nitems := s.nitems + 1 }) short P rs (n + 1) := by
  cases x with
  | error e =>
    refine ⟨fun st' => ?_, h.blame⟩
    simp only [error_ne_ok, false_iff]
    rintro ⟨hs, hP, s, ha, _⟩
    exact h.not_ok hs hP ha
  | ok s1 =>
    obtain ⟨hs, hP, s, ha, rfl⟩ := (h.ok_iff s1).1 rfl
    constructor
    · intro st'
      show Except.ok (setN (n + 1) s) = .ok st' ↔ _
      simp only [hs, hP, ha, true_and, Except.ok.injEq, exists_eq_left', eq_comm (a := st')]
    · intro _ _ e he
      cases he

end stage

theorem checkFlags_stage {flags : List Char} {conv : Char} (hfl : ∀ f ∈ flags, f ∈ flagChars) (hc : conv ∈ convChars) (st : St) :
    Stage st (checkFlags false st flags conv) True (∀ f ∈ flags, conv ∈ flagConvs f) [] st.nitems := by
  constructor
  · intro st'
    have hflags : (∀ f ∈ flags, flagErr f conv = none) ↔ ∀ f ∈ flags, conv ∈ flagConvs f :=
      forall₂_congr fun f hf => (flagErr_spec f (hfl f hf) conv hc).1
    rw [addAll_ok_setN, checkFlags_false_ok_iff, hflags]
    simp only [addAll, Except.ok.injEq, true_and, eq_comm (a := st')]
    exact and_comm
  · intro _ _ e he
    obtain rfl : e = .FlagError := checkFlags_false_error hfl hc he
    exact Or.inl rfl

theorem doWidth_stage {conv : Char} (hc : conv ∈ convChars) (st : St) (w : Width) (parent : Nat) :
    Stage st (doWidth st w conv parent) (WidthShort w) (w.Valid conv) (widthRefs w parent) st.nitems := by
  have tail : ∀ s : St, Stage s (if (conv == '%' || conv == 'n') = true then .error .WidthError else .ok s) True (conv ∈ widthConvs) [] s.nitems :=
    fun s => (Stage.check rfl Stage.pure).congr Iff.rfl (by simp only [← width_conv_spec conv hc, Bool.not_eq_true, and_true])
  cases w with
  | none => exact Stage.pure
  | num ds =>
    -- `int`: `IntFits ∧ ·`; `check`: `¬ v > INT_MAX ∧ ·`; `tail`: `conv ∈ widthConvs`
    exact (Stage.int ds fun v => Stage.check rfl (tail st)).congr (by simp only [WidthShort, and_true])
      (by simp only [Width.Valid, ← int_max_pin, Nat.not_lt])
  | star idx =>
    -- `index`: `IdxShort ∧ ·`, `IdxInRange ∧ ·`; `add`: the reference; `tail`: `conv ∈ widthConvs`
    exact (Stage.index idx fun i => (Stage.add i ⟨.width, "int", parent⟩).seq fun _ _ => tail _).congr
      (by simp only [WidthShort, and_true]) (by simp only [Width.Valid, true_and])

open I18n.Generated.CFormatTables (intCvt floatCvt strCvt) in
theorem doPrec_stage {conv : Char} (hc : conv ∈ convChars) (st : St) (p : Prec) (flags : List Char) (parent : Nat) :
    Stage st (doPrec false st p flags conv parent) (PrecShort p) (p.Valid conv) (precRefs p parent) st.nitems := by
  have tail : ∀ s : St, Stage s
      (if (intCvt ++ floatCvt ++ strCvt).contains conv = true then
        .ok (if (intCvt.contains conv && flags.contains '0') = true then warn false s .RedundantFlag else s)
      else .error .PrecisionError) True (conv ∈ precConvs) [] s.nitems := fun s => by
    rw [warn_false, ite_self, ← ite_not]
    exact (Stage.check rfl Stage.pure).congr Iff.rfl (by simp only [← prec_conv_spec conv hc, Classical.not_not, and_true])
  cases p with
  | none => exact Stage.pure
  | num ds =>
    have hdec : decimal (if ds.isEmpty then ['0'] else ds) = decimal ds := by cases ds <;> rfl
    exact (Stage.int _ fun v => Stage.check rfl (tail st)).congr (by simp only [PrecShort, intFits_precDigits, and_true])
      (by simp only [Prec.Valid, ← int_max_pin, Nat.not_lt, hdec])
  | star idx =>
    exact (Stage.index idx fun i => (Stage.add i ⟨.prec, "int", parent⟩).seq fun _ _ => tail _).congr
      (by simp only [PrecShort, and_true]) (by simp only [Prec.Valid, true_and])

theorem doIndex_stage {d : Directive} (hb : d.body.Wf) {ti : TypeInfo} (hti : d.body.typeInfo = some ti) (st : St) (parent : Nat) :
    Stage st (doIndex st d.index ti.type d.body.conv parent) (IdxShort d.index)
      (IdxInRange d.index ∧ (d.index ≠ none → d.body.conv ∈ indexConvs)) (convRefs d parent) st.nitems := by
  have hcm := body_conv_mem hb
  have hv := body_void hb hti
  have htn : d.body.typeName = ti.type := by simp only [Body.typeName, hti]
  unfold doIndex convRefs
  by_cases hvoid : ti.type = "void"
  · -- `%%` and `%m`: no reference; an argument number is refused on `%%`
    simp only [hvoid, beq_self_eq_true, if_true, if_neg (hv.1 hvoid)]
    refine Stage.congr (Stage.index d.index fun i => Stage.check rfl Stage.pure) (and_true _).symm.to_iff ?_
    simp only [Bool.and_eq_true, beq_iff_eq, idxValue_isSome, and_true, not_and, indexConvs_iff hcm]
  · have hcn : d.body.conv ∈ consuming := Classical.not_not.1 fun h => hvoid (hv.2 h)
    simp only [beq_iff_eq, hvoid, if_false, if_pos hcn, htn]
    exact (Stage.index d.index fun i => Stage.add i _).congr (and_true _).symm.to_iff
      (and_congr_right' (iff_true_intro fun _ => consuming_indexConvs hcm hcn))

/-- **One directive.**  With warnings off, `Conversion(parent, match)` succeeds exactly when the directive is a
    valid conversion specification whose numerals `int()` accepts, and then it has registered the
    directive's argument references, in order. -/
theorem conversion_stage {d : Directive} (hd : d.Wf) (st : St) :
    Stage st (conversion false st d) (DirShort d) (ValidDirective d) (d.refs st.nitems) st.nitems := by
  have hc := body_conv_mem hd.body
  unfold conversion
  rw [typeInfo_spec hd.body]
  cases hti : d.body.typeInfo with
  | none => exact Stage.fail (fun ⟨_, hv⟩ => hv.typed hti) (Or.inl rfl)
  | some ti =>
    simp only [warn_false, ite_self]
    refine Stage.congr ((checkFlags_stage hd.flags hc st).seq fun _ _ => (doWidth_stage hc _ d.width _).seq fun _ _ =>
      (doPrec_stage hc _ d.prec d.flags _).seq fun _ _ => doIndex_stage hd.body hti _ _) ?_ ?_
    · exact ⟨fun h => ⟨trivial, h.width, h.prec, h.index⟩, fun ⟨_, hw, hp, hi⟩ => { index := hi, width := hw, prec := hp }⟩
    · have htyped : d.body.typeInfo ≠ none := by rw [hti]; exact Option.some_ne_none ti
      exact ⟨fun h => ⟨h.flags, h.width, h.prec, h.indexRange, h.indexAllowed⟩, fun ⟨hf, hw, hp, hr, ha⟩ =>
        { wf := hd, typed := htyped, flags := hf, width := hw, prec := hp, indexRange := hr, indexAllowed := ha }⟩

theorem doWidth_ok_iff {conv : Char} (hc : conv ∈ convChars) (st st' : St) (w : Width) (parent : Nat) :
    doWidth st w conv parent = .ok st' ↔ WidthShort w ∧ w.Valid conv ∧ addAll st (widthRefs w parent) = .ok st' :=
  (doWidth_stage hc st w parent).ok_iff' st'

theorem doPrec_ok_iff {conv : Char} (hc : conv ∈ convChars) (st st' : St) (p : Prec) (flags : List Char) (parent : Nat) :
    doPrec false st p flags conv parent = .ok st' ↔ PrecShort p ∧ p.Valid conv ∧ addAll st (precRefs p parent) = .ok st' :=
  (doPrec_stage hc st p flags parent).ok_iff' st'

/-! the item count survives each stage: drop the warnings (`*_erase`) and read the success of the stage off `*_ok_iff` -/

theorem checkFlags_nitems {w : Bool} {st st' : St} {flags : List Char} {conv : Char} (h : checkFlags w st flags conv = .ok st') :
    st'.nitems = st.nitems := by
  have he := checkFlags_erase w st flags conv
  rw [h] at he
  exact congrArg St.nitems (a₁ := erase st') (a₂ := erase st) ((checkFlags_false_ok_iff _ _ _ _).1 he.symm).1

theorem doWidth_nitems {st st' : St} {wd : Width} {conv : Char} {sid : Nat} (hc : conv ∈ convChars)
    (h : doWidth st wd conv sid = .ok st') : st'.nitems = st.nitems := by
  obtain ⟨_, _, hadd⟩ := (doWidth_ok_iff hc _ _ _ _).1 h
  exact (addAll_nitems hadd).1

theorem doPrec_nitems {w : Bool} {st st' : St} {p : Prec} {flags : List Char} {conv : Char} {sid : Nat} (hc : conv ∈ convChars)
    (h : doPrec w st p flags conv sid = .ok st') : st'.nitems = st.nitems := by
  have he := doPrec_erase w st p flags conv sid
  rw [h] at he
  obtain ⟨_, _, hadd⟩ := (doPrec_ok_iff hc _ _ _ _ _).1 he.symm
  exact (addAll_nitems hadd).1

theorem conversion_ok_iff {d : Directive} (hd : d.Wf) (st st' : St) :
    conversion false st d = .ok st' ↔
      DirShort d ∧ ValidDirective d ∧ addAll st (d.refs st.nitems) = .ok st' :=
  (conversion_stage hd st).ok_iff' st'

theorem conversion_error {pre : List Ref} {st : St} {d : Directive} {e : CErr} (hR : Reach pre st) (hd : d.Wf)
    (h : conversion false st d = .error e) : Blame (DirShort d) e :=
  (conversion_stage hd st).blame pre hR e h

end I18n.CFmt
