import I18n.Lemmas.HdrMeta
import I18n.Lemmas.Kit.List
/-
C15 lemmas: membership in the tags of the stray-line loop (`seen_conflict_marker`: of the conflict markers only the
first is reported) and of the loop over `sorted(metadata.items())` ↔ `StrayRule`, `NameRule` of `Spec.HeaderRules`.
At the top the facts about `stripPrefix`, `startsWith`, `endsWith` that the scanners of `HdrCType` and `HdrScan` use as
well, and the conflict-marker scanner (`isConflictMarker_iff`); before the field-name loop, the pin of the fields with
rules of their own (`dedicated_pin`) and the correction hint as a function (`hintOf`, `hint_iff`).
-/
namespace I18n.Hdr
open I18n.Spec.HeaderRules I18n.Date I18n.Generated

theorem stripPrefix_eq_some (p s r : Str) : stripPrefix p s = some r ↔ s = p ++ r :=
  Kit.stripPrefix_iff (fun _ => rfl) (fun _ _ => rfl) (fun _ _ _ _ => rfl)

theorem stripPrefix_cases (p s : Str) :
    (∃ r, stripPrefix p s = some r ∧ s = p ++ r) ∨ (stripPrefix p s = none ∧ ∀ r, s ≠ p ++ r) := by
  cases h : stripPrefix p s with
  | some r => exact .inl ⟨r, rfl, (stripPrefix_eq_some p s r).1 h⟩
  | none => exact .inr ⟨rfl, fun r e => by rw [(stripPrefix_eq_some p s r).2 e] at h; cases h⟩

theorem startsWith_iff (p s : Str) : startsWith p s = true ↔ ∃ r, s = p ++ r := by
  simp only [startsWith, Option.isSome_iff_exists, stripPrefix_eq_some]

theorem endsWith_iff (p s : Str) : endsWith p s = true ↔ ∃ q, s = q ++ p := by
  unfold endsWith
  rw [startsWith_iff]
  constructor
  · rintro ⟨r, h⟩
    exact ⟨r.reverse, by rw [← List.reverse_reverse s, h, List.reverse_append, List.reverse_reverse]⟩
  · rintro ⟨q, rfl⟩
    exact ⟨q.reverse, List.reverse_append⟩

theorem isConflictMarker_iff (l : Str) : isConflictMarker l = true ↔ ConflictMarker l := by
  unfold isConflictMarker ConflictMarker
  simp only [Bool.and_eq_true, startsWith_iff, endsWith_iff, decide_eq_true_eq]
  have hA : ("#-#-#-#-#  ".toList).length = 11 := by rw [String.toList_ofList]; rfl
  have hB : ("  #-#-#-#-#".toList).length = 11 := by rw [String.toList_ofList]; rfl
  constructor
  · rintro ⟨⟨⟨r, hr⟩, ⟨q, hq⟩⟩, hlen⟩
    have e : "#-#-#-#-#  ".toList ++ r = q ++ "  #-#-#-#-#".toList := hr.symm.trans hq
    have hql : l.length = q.length + 11 := by rw [hq, List.length_append, hB]
    rcases List.append_eq_append_iff.1 e with ⟨a', h1, h2⟩ | ⟨c', h1, _⟩
    · refine ⟨a', ?_, ?_⟩
      · intro e0; subst e0
        have : q.length = 11 := by rw [h1, List.append_nil, hA]
        omega
      · rw [hr, h2, List.append_assoc]
    · have := (congrArg List.length h1).trans List.length_append
      omega
  · rintro ⟨mid, hne, rfl⟩
    refine ⟨⟨⟨mid ++ "  #-#-#-#-#".toList, List.append_assoc _ _ _⟩, ⟨"#-#-#-#-#  ".toList ++ mid, rfl⟩⟩, ?_⟩
    have : 0 < mid.length := List.length_pos_iff.2 hne
    simp only [List.length_append, hA, hB]
    omega

theorem mem_strayTags (seen : Bool) (S : List Str) (t : TagCall) :
    t ∈ strayTags seen S ↔
      (∃ l ∈ S, ¬ isConflictMarker l = true ∧ t = ⟨"stray-header-line", [.str l]⟩)
      ∨ (seen = false ∧ ∃ pre l post, S = pre ++ l :: post ∧ isConflictMarker l = true ∧
          (∀ m ∈ pre, ¬ isConflictMarker m = true) ∧ t = ⟨"conflict-marker-in-header-entry", [.str l]⟩) := by
  induction S generalizing seen with
  | nil => simp [strayTags]
  | cons l rest ih =>
    unfold strayTags
    rw [Kit.exists_split_cons]
    by_cases hm : isConflictMarker l = true
    · -- a marker: reported unless one was seen; no later marker is the first
      rw [if_pos hm, List.mem_append, ih true]
      constructor
      · rintro (h | ⟨l', hl', hn, rfl⟩ | ⟨hs, _⟩)
        · cases seen with
          | true => exact absurd h List.not_mem_nil
          | false => exact .inr ⟨rfl, .inl ⟨hm, nofun, List.mem_singleton.1 h⟩⟩
        · exact .inl ⟨l', List.mem_cons_of_mem _ hl', hn, rfl⟩
        · cases hs
      · rintro (⟨l', hl', hn, rfl⟩ | ⟨rfl, ⟨_, _, rfl⟩ | ⟨pre, x, post, _, _, hpre, _⟩⟩)
        · rcases List.mem_cons.1 hl' with rfl | hl'
          · exact absurd hm hn
          · exact .inr (.inl ⟨l', hl', hn, rfl⟩)
        · exact .inl (List.mem_singleton.2 rfl)
        · exact absurd hm (hpre l List.mem_cons_self)
    · rw [if_neg hm, List.mem_cons, ih seen]
      constructor
      · rintro (rfl | ⟨l', hl', hn, rfl⟩ | ⟨hs, pre, x, post, e, hx, hpre, rfl⟩)
        · exact .inl ⟨l, List.mem_cons_self, hm, rfl⟩
        · exact .inl ⟨l', List.mem_cons_of_mem _ hl', hn, rfl⟩
        · exact .inr ⟨hs, .inr ⟨pre, x, post, e, hx, List.forall_mem_cons.2 ⟨hm, hpre⟩, rfl⟩⟩
      · rintro (⟨l', hl', hn, rfl⟩ | ⟨hs, ⟨hl, _⟩ | ⟨pre, x, post, e, hx, hpre, rfl⟩⟩)
        · rcases List.mem_cons.1 hl' with rfl | hl'
          · exact .inl rfl
          · exact .inr (.inl ⟨l', hl', hn, rfl⟩)
        · exact absurd hl hm
        · exact .inr (.inr ⟨hs, pre, x, post, e, hx, (List.forall_mem_cons.1 hpre).2, rfl⟩)

theorem strayLines_append (l1 l2 : List Line) : strayLines (l1 ++ l2) = strayLines l1 ++ strayLines l2 := by
  induction l1 with
  | nil => rfl
  | cons l l1 ih => cases l <;> simp [strayLines, ih]

theorem strayLines_eq (ls : List Line) : strayLines ls = strays ls := by
  induction ls with
  | nil => rfl
  | cons l rest ih =>
    cases l with
    | field k v => exact ih
    | stray s => exact congrArg (s :: ·) ih

theorem mem_strayTags_rule (ls : List Line) (t : TagCall) :
    t ∈ strayTags false (strayLines ls) ↔ StrayRule ls t := by
  rw [mem_strayTags, strayLines_eq]
  unfold StrayRule
  simp only [isConflictMarker_iff, true_and]

theorem startsWithX_iff (k : Str) :
    (startsWith "X-".toList k || startsWith "x-".toList k) = true ↔ XPrefixed k := by
  simp only [Bool.or_eq_true, startsWith_iff, XPrefixed]
  exact exists_or.symm

/-- the fields the code's `@checks_header_fields` decorators register are those with rules of their own -/
theorem dedicated_pin : HeaderFields.dedicated = ownRules := rfl

def hintOf (x : Ext) (m : Meta) (key : Str) : Option Str :=
  match (match lcHint key with | some h => some h | none => x.closeField key) with
  | some h => if m.has h then none else some h
  | none => none

theorem hint_iff (x : Ext) (ls : List Line) (key : Str) (h : Option Str) :
    Hint x (fieldLines ls) key h ↔ h = hintOf x (buildMeta ls []) key := by
  -- `registered` and `headerFields` are the same table; the lookup in it is left a variable
  unfold Hint hintOf lcHint registered headerFields
  generalize List.find? _ (List.map String.toList HeaderFields.headerFields) = f
  simp only [← meta_has]
  exact Iff.rfl

theorem fieldNameTags_eq (x : Ext) (m : Meta) (key : Str) :
    fieldNameTags x m key =
      (if (startsWith "X-".toList key || startsWith "x-".toList key) = true then []
       else if headerFields.contains key = true then []
       else match hintOf x m key with
         | none => [tag "unknown-header-field" [sx key]]
         | some h => [tag "unknown-header-field" [sx key, arrow, sx h]])
      ++ (if ((m.get key).length > 1 && !dedicatedFields.contains key) = true then [tag "duplicate-header-field" [sx key]] else []) := by
  unfold fieldNameTags hintOf
  -- with the lookup a variable, unifying the two `match`es does not start evaluating it over the table
  generalize lcHint key = f
  rfl

theorem mem_fieldNameTags (x : Ext) (ls : List Line) (key : Str) (t : TagCall) :
    t ∈ fieldNameTags x (buildMeta ls []) key ↔
      (¬ XPrefixed key ∧ key ∉ registered ∧ ∃ h, Hint x (fieldLines ls) key h ∧
          t = ⟨"unknown-header-field", match h with | some c => [.str key, .str "=>".toList, .str c] | none => [.str key]⟩)
      ∨ (1 < ((fieldLines ls).filter (·.1 = key)).length ∧ key ∉ ownRules.map String.toList ∧
          t = ⟨"duplicate-header-field", [.str key]⟩) := by
  have hreg : headerFields.contains key = true ↔ key ∈ registered := by
    simp [headerFields, registered]
  have hded : dedicatedFields.contains key = true ↔ key ∈ ownRules.map String.toList := by
    simp [dedicatedFields, dedicated_pin]
  have hlen : (Meta.get (buildMeta ls []) key).length = ((fieldLines ls).filter (·.1 = key)).length := by
    rw [meta_get, length_fieldVals]
  rw [fieldNameTags_eq, List.mem_append]
  simp only [List.mem_ite_nil_left, List.mem_ite_nil_right, List.mem_singleton, startsWithX_iff, hreg, hlen, Bool.and_eq_true,
    decide_eq_true_eq, Bool.not_eq_true', ← Bool.not_eq_true, hded, hint_iff, exists_eq_left, and_assoc]
  cases hintOf x (buildMeta ls []) key <;> simp only [List.mem_singleton] <;> exact Iff.rfl

theorem mem_nameTags (x : Ext) (ls : List Line) (t : TagCall) :
    t ∈ (sortedSet ((buildMeta ls []).map (·.1))).flatMap (fieldNameTags x (buildMeta ls [])) ↔ NameRule x (fieldLines ls) t := by
  simp only [List.mem_flatMap, meta_keys, mem_fieldNameTags, NameRule, and_or_left, exists_or]
  exact Iff.rfl

end I18n.Hdr
