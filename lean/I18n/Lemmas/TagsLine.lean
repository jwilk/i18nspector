import I18n.Lemmas.Tags
import I18n.Model.TagsLive
import I18n.Lemmas.Kit.Assoc
/-
Lemmas behind Props/C02, the line: `Tag.format` is the specification's `lineOf` (`format_eq`); the `…_forall` lemmas carry any
class `P` of characters that contains the harmless ones through the line, `str.format`, `safe_format` and `message_repr`, so
that "clean" and "newline-free" (for the line count) are two instances; `str.format` is read one step at a time
(`pyFormatGo_step`: a prefix of the template goes, one piece is appended), and a template without braces formats to itself
(`pyFormat_braceFree`); a run of `Checker.tag` calls prints what its calls print, one after the other (`runTags_ok_iff`).
The range tables of the running interpreter are compared by `disjointRanges`, which the kernel evaluates.
-/
namespace I18n.Tags
open I18n.Spec.Tags

theorem joinStr_eq (sep : Str) (xs : List Str) : joinStr sep xs = (xs.intersperse sep).flatten := by
  induction xs with
  | nil => rfl
  | cons x rest ih =>
    cases rest with
    | nil => simp [joinStr]
    | cons y rest => simp [joinStr, ih, List.intersperse]

theorem joinStr_forall (P : Nat → Prop) (sep : Str) (xs : List Str) (hsep : ∀ c ∈ sep, P c)
    (hxs : ∀ x ∈ xs, ∀ c ∈ x, P c) : ∀ c ∈ joinStr sep xs, P c := by
  induction xs with
  | nil => simp [joinStr]
  | cons x rest ih =>
    cases rest with
    | nil => simpa [joinStr] using hxs x (by simp)
    | cons y rest =>
      intro c hc
      simp only [joinStr, List.mem_append] at hc
      rcases hc with (hc | hc) | hc
      · exact hxs x (by simp) c hc
      · exact hsep c hc
      · exact ih (fun z hz => hxs z (by simp [hz])) c hc

/-- For every colour the line is `lineOf`: colouring wraps the tag name in `on`, `off` and changes nothing else. -/
theorem format_eq (db : UnicodeDB) (t : Tag) (p : Str) (xs : List Extra) (col : Option (Str × Str)) :
    format db t p xs col =
      lineOf t.priority.code p ((col.getD ([], [])).1 ++ t.name ++ (col.getD ([], [])).2) (xs.map (escape db)) := by
  cases col <;> cases xs <;> simp [format, lineOf, joinStr_eq, lit]

theorem lineOf_forall (P : Nat → Prop) (l : Nat) (p n : Str) (es : List Str) (hl : P l) (h58 : P 58) (h32 : P 32)
    (hp : ∀ c ∈ p, P c) (hn : ∀ c ∈ n, P c) (hes : ∀ e ∈ es, ∀ c ∈ e, P c) : ∀ c ∈ lineOf l p n es, P c := by
  have hsep : ∀ c ∈ lit ": ", P c := by simp [lit, h58, h32]
  have htail : ∀ c ∈ (es.intersperse [32]).flatten, P c :=
    joinStr_eq [32] es ▸ joinStr_forall P [32] es (by simpa using h32) hes
  have hhead : ∀ c ∈ [l] ++ lit ": " ++ p ++ lit ": " ++ n, P c := by
    simp only [List.forall_mem_append, List.forall_mem_singleton]
    exact ⟨⟨⟨⟨hl, hsep⟩, hp⟩, hsep⟩, hn⟩
  unfold lineOf
  split
  · simpa using hhead
  · exact List.forall_mem_append.mpr ⟨hhead, List.forall_mem_cons.mpr ⟨h32, htail⟩⟩

theorem letter_AP (l : Letter) : AP l.code := by
  cases l <;> decide

/-- `escape_forall` for the whole line: the letter, the punctuation and the escaped extras are harmless, so a character
    outside `P` can only come from the path, the (coloured) tag name or a `safestr` extra. -/
theorem format_forall {db : UnicodeDB} (h : Sound db) {P : Nat → Prop} (hP : ∀ c, hostile db c = false → P c)
    (t : Tag) (p : Str) (xs : List Extra) (col : Option (Str × Str)) (hp : ∀ c ∈ p, P c)
    (hn : ∀ c ∈ (col.getD ([], [])).1 ++ t.name ++ (col.getD ([], [])).2, P c)
    (hsafe : ∀ s, Extra.safe s ∈ xs → ∀ c ∈ s, P c) : ∀ c ∈ format db t p xs col, P c := by
  have hap : ∀ c, AP c → P c := fun c hc => hP c (AP.not_hostile h hc)
  rw [format_eq]
  refine lineOf_forall P _ _ _ _ (hap _ (letter_AP _)) (hap 58 (by decide)) (hap 32 (by decide)) hp hn ?_
  simp only [List.forall_mem_map]
  exact fun x hx => escape_forall h hP x (by rintro s rfl; exact hsafe s hx)

theorem lookupKw_eq_lookup (kwargs : List (Str × Str)) (k : Str) : lookupKw kwargs k = kwargs.lookup k :=
  Kit.eq_lookup (g := lookupKw) (fun _ => rfl) (fun _ _ _ _ => rfl) kwargs k

theorem scanField_suffix {s acc name rest : Str} (h : scanField s acc = .ok (name, rest)) : rest <:+ s := by
  induction s generalizing acc with
  | nil => cases h
  | cons c s ih =>
    rw [scanField] at h
    by_cases h125 : c = 125
    · rw [if_pos h125] at h; cases h; exact List.suffix_cons _ _
    rw [if_neg h125] at h
    -- `{` and the unsupported syntax `[ ] . ! :` are errors; any other character belongs to the name
    split at h
    · cases h
    split at h
    · cases h
    · exact (ih h).trans (List.suffix_cons _ _)

/-- A step of `str.format` that does not fail drops a prefix of the template and appends one piece: the character read
    (one of the two for `}}` and `{{`), a positional argument, or the value of a keyword. -/
theorem pyFormatGo_step {args : List Str} {kwargs : List (Str × Str)} {fuel : Nat} {c : Nat} {rest : Str} {st : AutoNum}
    {next : Nat} {acc out : Str} (h : pyFormatGo args kwargs (fuel + 1) (c :: rest) st next acc = .ok out) :
    ∃ piece rest' st' next', (piece = [c] ∨ piece ∈ args ∨ ∃ kv ∈ kwargs, kv.2 = piece) ∧ rest' <:+ rest ∧
      pyFormatGo args kwargs fuel rest' st' next' (acc ++ piece) = .ok out := by
  unfold pyFormatGo at h
  by_cases h125 : c = 125
  · -- `}`: an error unless another `}` follows
    rw [if_pos h125] at h
    split at h
    · exact ⟨[c], _, _, _, .inl rfl, List.suffix_cons _ _, h125 ▸ h⟩
    · cases h
  rw [if_neg h125] at h
  by_cases h123 : c = 123
  · -- `{`: an error at the end of the template, `{{`, or a replacement field, whose name `scanField` has to accept
    rw [if_pos h123] at h
    split at h
    · cases h
    · exact ⟨[c], _, _, _, .inl rfl, List.suffix_cons _ _, h123 ▸ h⟩
    split at h
    · cases h
    rename_i name rest' hscan
    have hsuf : rest' <:+ rest := scanField_suffix hscan
    by_cases hempty : name.isEmpty = true
    · -- `{}`: the next positional argument; an error under manual numbering or past the last argument
      rw [if_pos hempty] at h
      split at h
      · cases h
      split at h
      · cases h
      · rename_i v hv
        exact ⟨v, _, _, _, .inr (.inl (List.mem_of_getElem? hv)), hsuf, h⟩
    rw [if_neg hempty] at h
    by_cases hdigits : isDigits name = true
    · -- `{n}`: the `n`-th positional argument; an error under automatic numbering or past the last argument
      rw [if_pos hdigits] at h
      split at h
      · cases h
      split at h
      · cases h
      · rename_i v hv
        exact ⟨v, _, _, _, .inr (.inl (List.mem_of_getElem? hv)), hsuf, h⟩
    · -- `{name}`: the keyword's value; an error without that keyword
      rw [if_neg hdigits] at h
      split at h
      · cases h
      · rename_i v hv
        rw [lookupKw_eq_lookup] at hv
        exact ⟨v, _, _, _, .inr (.inr ⟨_, Kit.lookup_mem hv, rfl⟩), hsuf, h⟩
  · rw [if_neg h123] at h
    exact ⟨[c], _, _, _, .inl rfl, List.suffix_refl _, h⟩

theorem pyFormatGo_forall (P : Nat → Prop) (args : List Str) (kwargs : List (Str × Str))
    (hargs : ∀ a ∈ args, ∀ c ∈ a, P c) (hkw : ∀ kv ∈ kwargs, ∀ c ∈ kv.2, P c)
    (fuel : Nat) (t : Str) (st : AutoNum) (next : Nat) (acc out : Str) :
      pyFormatGo args kwargs fuel t st next acc = .ok out →
      (∀ c ∈ t, P c) → (∀ c ∈ acc, P c) → ∀ c ∈ out, P c := by
  intro h ht hacc
  induction fuel generalizing t st next acc with
  | zero => rw [pyFormatGo] at h; cases h; exact hacc
  | succ fuel ih =>
    cases t with
    | nil => rw [pyFormatGo] at h; cases h; exact hacc
    | cons c rest =>
      obtain ⟨piece, rest', st', next', hpiece, hsuf, h'⟩ := pyFormatGo_step h
      refine ih _ _ _ _ h' (fun d hd => ht d (List.mem_cons_of_mem _ (hsuf.subset hd)))
        (List.forall_mem_append.mpr ⟨hacc, ?_⟩)
      rcases hpiece with rfl | hp | ⟨kv, hkv, rfl⟩
      · exact List.forall_mem_singleton.mpr (ht c List.mem_cons_self)
      · exact hargs _ hp
      · exact hkw kv hkv

theorem pyFormat_forall (P : Nat → Prop) (template : Str) (args : List Str) (kwargs : List (Str × Str)) (out : Str)
    (h : pyFormat template args kwargs = .ok out)
    (ht : ∀ c ∈ template, P c) (hargs : ∀ a ∈ args, ∀ c ∈ a, P c) (hkw : ∀ kv ∈ kwargs, ∀ c ∈ kv.2, P c) :
    ∀ c ∈ out, P c :=
  pyFormatGo_forall P args kwargs hargs hkw _ _ _ _ _ _ h ht (by simp)

theorem pyFormatGo_braceFree (args : List Str) (kw : List (Str × Str)) :
    ∀ (s : Str) (fuel : Nat) (st : AutoNum) (next : Nat) (acc : Str),
      s.length < fuel → (∀ c ∈ s, c ≠ 123 ∧ c ≠ 125) → pyFormatGo args kw fuel s st next acc = .ok (acc ++ s)
  | [], fuel, st, next, acc, hf, _ => by
    cases fuel with
    | zero => simp at hf
    | succ n => simp [pyFormatGo]
  | c :: rest, fuel, st, next, acc, hf, hb => by
    cases fuel with
    | zero => simp at hf
    | succ n =>
      have hc := hb c (by simp)
      have ih := pyFormatGo_braceFree args kw rest n st next (acc ++ [c]) (by simp at hf; omega)
        (fun x hx => hb x (by simp [hx]))
      simp [pyFormatGo, hc.1, hc.2, ih]

theorem pyFormat_braceFree (s : Str) (h : ∀ c ∈ s, c ≠ 123 ∧ c ≠ 125) : pyFormat s [] [] = .ok s := by
  simp [pyFormat, pyFormatGo_braceFree [] [] s (s.length + 1) .init 0 [] (by omega) h]

/-- `escape_forall` for `safe_format`: every argument goes through the escaper, so a character outside `P` in the result
    comes from the template or from a `safestr` argument. -/
theorem safeFormat_forall {db : UnicodeDB} (h : Sound db) {P : Nat → Prop} (hP : ∀ c, hostile db c = false → P c)
    (template : Str) (args : List Extra) (kwargs : List (Str × Extra)) (out : Str)
    (hout : safeFormat db template args kwargs = .ok out) (ht : ∀ c ∈ template, P c)
    (hargs : ∀ s, Extra.safe s ∈ args → ∀ c ∈ s, P c)
    (hkw : ∀ k s, (k, Extra.safe s) ∈ kwargs → ∀ c ∈ s, P c) : ∀ c ∈ out, P c := by
  have hargs' : ∀ a ∈ args.map (escape db), ∀ c ∈ a, P c := by
    simp only [List.forall_mem_map]
    exact fun x hx => escape_forall h hP x (by rintro s rfl; exact hargs s hx)
  have hkw' : ∀ kv ∈ kwargs.map (fun kv => (kv.1, escape db kv.2)), ∀ c ∈ kv.2, P c := by
    simp only [List.forall_mem_map]
    rintro ⟨k, x⟩ hkx
    exact escape_forall h hP x (by rintro s rfl; exact hkw k s hkx)
  exact pyFormat_forall P template _ _ out hout ht hargs' hkw'

/-- The same for `message_repr`: msgid and msgctxt are passed as `str`, never as `safestr`, and the text put around them
    is printable ASCII, so a character outside `P` in the result comes from the caller's template. -/
theorem messageRepr_forall {db : UnicodeDB} (h : Sound db) {P : Nat → Prop} (hP : ∀ c, hostile db c = false → P c)
    (msgid : Str) (msgctxt : Option Str) (template out : Str)
    (ht : ∀ c ∈ template, P c) (hout : messageRepr db msgid msgctxt template = .ok out) : ∀ c ∈ out, P c := by
  unfold messageRepr at hout
  cases msgctxt <;>
  · simp only at hout
    split at hout
    · cases hout
    · rename_i t' ht'
      -- `t'` is `template` with `msgid {id}[ msgctxt {ctxt}]` in place of its `{}`
      have hc : ∀ c ∈ t', P c := by
        refine pyFormat_forall P template _ [] t' ht' ht (List.forall_mem_singleton.mpr fun c hc => ?_) (by simp)
        exact hP c (clean_ascii h (by decide) c hc)
      exact safeFormat_forall h hP t' [] _ out hout hc (by simp) (by simp)

def disjointRanges (ps hs : List (Nat × Nat)) : Bool :=
  ps.all fun p => hs.all fun h => Nat.blt p.2 h.1 || Nat.blt h.2 p.1

theorem disjointRanges_sound (ps hs : List (Nat × Nat)) (hd : disjointRanges ps hs = true) (c : Nat)
    (hp : inRanges ps c = true) : inRanges hs c = false := by
  simp only [inRanges, List.any_eq_true, Bool.and_eq_true, decide_eq_true_eq] at hp
  obtain ⟨p, hpm, hp1, hp2⟩ := hp
  simp only [disjointRanges, List.all_eq_true, Bool.or_eq_true, Nat.blt_eq] at hd
  simp only [inRanges, List.any_eq_false, Bool.and_eq_true, decide_eq_true_eq]
  intro r hrm
  have := hd p hpm r hrm
  omega

def liveHostileRanges : List (Nat × Nat) :=
  [(0, 31), (127, 159), (0x2028, 0x2029), (0xD800, 0xDFFF)] ++ Generated.UnicodeClasses.cf

theorem liveHostile_eq (c : Nat) : hostile liveDb c = inRanges liveHostileRanges c := by
  have e : inRanges liveHostileRanges c =
      (((decide (0 ≤ c) && decide (c ≤ 31)) || ((decide (127 ≤ c) && decide (c ≤ 159)) ||
        ((decide (0x2028 ≤ c) && decide (c ≤ 0x2029)) || ((decide (0xD800 ≤ c) && decide (c ≤ 0xDFFF)) ||
          inRanges Generated.UnicodeClasses.cf c))))) := by
    simp [liveHostileRanges, inRanges]
  rw [e]
  simp only [hostile, isControl, isSeparator, isSurrogate, liveDb]
  generalize inRanges Generated.UnicodeClasses.cf c = b
  rw [Bool.eq_iff_iff]
  cases b <;> simp <;> omega

theorem classes_of_not_hostile {db : UnicodeDB} {c : Nat} (h : hostile db c = false) :
    c ≠ 10 ∧ c ≠ 27 ∧ c ≠ 127 ∧ 32 ≤ c ∧ ¬(128 ≤ c ∧ c ≤ 159) ∧ db.format c = false ∧ c ≠ 0x2028 ∧ c ≠ 0x2029 := by
  unfold hostile at h
  simp only [Bool.or_eq_false_iff] at h
  obtain ⟨⟨⟨hc, hf⟩, hs⟩, _⟩ := h
  simp [isControl] at hc
  simp [isSeparator] at hs
  exact ⟨by omega, by omega, by omega, by omega, by omega, hf, by omega, by omega⟩

theorem findTag_mem {reg : List Tag} {n : Str} {t : Tag} (h : findTag reg n = some t) : t ∈ reg ∧ t.name = n := by
  unfold findTag at h
  exact ⟨List.mem_of_find?_eq_some h, by simpa using List.find?_some h⟩

theorem count_lines (lines : List Str) (h : ∀ l ∈ lines, 10 ∉ l) :
    newlines ((lines.map (· ++ [10])).flatten) = lines.length := by
  induction lines with
  | nil => rfl
  | cons l rest ih =>
    have h0 : List.count 10 l = 0 := List.count_eq_zero.mpr (h l (by simp))
    have := ih (fun x hx => h x (by simp [hx]))
    simp only [newlines] at this ⊢
    simp [List.count_append, h0, this]

/-- the calls that print (the tag is not in `ignore_tags`) -/
def printing (cfg : Config) (calls : List (Str × List Extra)) : List (Str × List Extra) :=
  calls.filter fun c => !cfg.ignore.contains c.1

theorem printing_cons_ignored {cfg : Config} {n : Str} (h : n ∈ cfg.ignore) (xs : List Extra) (rest : List (Str × List Extra)) :
    printing cfg ((n, xs) :: rest) = printing cfg rest := by
  simp [printing, h]

theorem printing_cons_printed {cfg : Config} {n : Str} (h : n ∉ cfg.ignore) (xs : List Extra) (rest : List (Str × List Extra)) :
    printing cfg ((n, xs) :: rest) = (n, xs) :: printing cfg rest := by
  simp [printing, h]

theorem runTags_cons_ok (db : UnicodeDB) (cfg : Config) (n : Str) (xs : List Extra) (rest : List (Str × List Extra)) (out : Str) :
    runTags db cfg ((n, xs) :: rest) = .ok out ↔
      ∃ o o', checkerTag db cfg n xs = .ok o ∧ runTags db cfg rest = .ok o' ∧ out = o ++ o' := by
  simp only [runTags]
  cases checkerTag db cfg n xs <;> cases runTags db cfg rest <;> simp [eq_comm]

theorem checkerTag_ok {db : UnicodeDB} {cfg : Config} {n : Str} {xs : List Extra} {o : Str} (h : checkerTag db cfg n xs = .ok o) :
    (n ∈ cfg.ignore ∧ o = []) ∨
      (n ∉ cfg.ignore ∧ ∃ t, findTag cfg.registry n = some t ∧ o = format db t cfg.path xs (some (cfg.colours t)) ++ [10]) := by
  simp only [checkerTag, List.contains_eq_mem, decide_eq_true_eq] at h
  by_cases hign : n ∈ cfg.ignore
  · rw [if_pos hign] at h
    exact .inl ⟨hign, (Except.ok.inj h).symm⟩
  rw [if_neg hign] at h
  cases ht : findTag cfg.registry n with
  | none => rw [ht] at h; cases h
  | some t => rw [ht] at h; exact .inr ⟨hign, t, rfl, (Except.ok.inj h).symm⟩

theorem runTags_lines (db : UnicodeDB) (cfg : Config) :
    ∀ (calls : List (Str × List Extra)) (out : Str), runTags db cfg calls = .ok out →
      (∀ call ∈ calls, ∀ t ∈ cfg.registry, 10 ∉ format db t cfg.path call.2 (some (cfg.colours t))) →
      ∃ lines : List Str, lines.length = (printing cfg calls).length ∧ (∀ l ∈ lines, 10 ∉ l) ∧
        out = (lines.map (· ++ [10])).flatten := by
  intro calls
  induction calls with
  | nil =>
    intro out h _
    simp only [runTags, Except.ok.injEq] at h
    exact ⟨[], rfl, by simp, by simp [← h]⟩
  | cons call rest ih =>
    intro out h hfmt
    obtain ⟨n, xs⟩ := call
    obtain ⟨o, o', ho, ho', rfl⟩ := (runTags_cons_ok db cfg n xs rest out).mp h
    obtain ⟨lines, hlen, hnl, rfl⟩ := ih o' ho' (fun c hc => hfmt c (by simp [hc]))
    rcases checkerTag_ok ho with ⟨hign, rfl⟩ | ⟨hign, t, ht, rfl⟩
    · exact ⟨lines, by rw [printing_cons_ignored hign, hlen], hnl, rfl⟩
    · refine ⟨format db t cfg.path xs (some (cfg.colours t)) :: lines, ?_, ?_, by simp⟩
      · rw [printing_cons_printed hign, List.length_cons, List.length_cons, hlen]
      · intro l hl
        rcases List.mem_cons.mp hl with rfl | hl
        · exact hfmt (n, xs) (by simp) t (findTag_mem ht).1
        · exact hnl l hl

theorem runTags_append (db : UnicodeDB) (cfg : Config) (a b : List (Str × List Extra)) :
    runTags db cfg (a ++ b) =
      match runTags db cfg a with
      | .error e => .error e
      | .ok oa =>
        match runTags db cfg b with
        | .error e => .error e
        | .ok ob => .ok (oa ++ ob) := by
  fun_induction runTags db cfg a <;> simp only [List.nil_append, List.cons_append, runTags, *]
  all_goals cases runTags db cfg b <;> simp

theorem runTags_append_ok (db : UnicodeDB) (cfg : Config) (a b : List (Str × List Extra)) (o : Str) :
    runTags db cfg (a ++ b) = .ok o ↔
      ∃ oa ob, runTags db cfg a = .ok oa ∧ runTags db cfg b = .ok ob ∧ o = oa ++ ob := by
  rw [runTags_append]
  cases runTags db cfg a <;> cases runTags db cfg b <;> simp [eq_comm]

theorem runTags_ok_iff (db : UnicodeDB) (cfg : Config) (calls : List (Str × List Extra)) (out : Str) :
    runTags db cfg calls = .ok out ↔
      ∃ outs : List Str, calls.map (fun c => checkerTag db cfg c.1 c.2) = outs.map Except.ok ∧ out = outs.flatten := by
  induction calls generalizing out with
  | nil => simp [runTags, eq_comm]
  | cons call rest ih =>
    obtain ⟨n, xs⟩ := call
    simp only [runTags_cons_ok, ih, List.map_cons]
    constructor
    · rintro ⟨o, _, ho, ⟨outs, hmap, rfl⟩, rfl⟩
      exact ⟨o :: outs, by simp [ho, hmap], by simp⟩
    · rintro ⟨_ | ⟨o, outs⟩, hmap, rfl⟩
      · simp at hmap
      · simp only [List.map_cons, List.cons.injEq] at hmap
        exact ⟨o, _, hmap.1, ⟨outs, hmap.2, rfl⟩, by simp⟩

end I18n.Tags
