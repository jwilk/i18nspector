import I18n.Model.PerlBrace
import I18n.Spec.PerlBraceRef
/-
Character classes: the early-exit look-up of the models is plain membership in the generated tables (they are sorted), and
the facts about particular characters that the scanners' determinism rests on.
-/
namespace I18n.BraceChars
open I18n.Spec.PerlBraceRef (inRanges Word Digit)
open I18n.Generated.PyBraceTables (wordRanges digitRanges decimalRanges)

/-- sorted, non-overlapping, every range non-empty, all starts ≥ `lo` (with `Nat.ble`, which the kernel evaluates as it stands) -/
def sortedFrom : Nat → List (Nat × Nat) → Bool
  | _, [] => true
  | lo, (a, b) :: rs => Nat.ble lo a && Nat.ble a b && sortedFrom (b + 1) rs

theorem inRanges_cons (a b : Nat) (rs : List (Nat × Nat)) (n : Nat) :
    inRanges ((a, b) :: rs) n = ((decide (a ≤ n) && decide (n ≤ b)) || inRanges rs n) := rfl

theorem sortedFrom_cons {lo a b : Nat} {rs : List (Nat × Nat)} (h : sortedFrom lo ((a, b) :: rs) = true) :
    lo ≤ a ∧ a ≤ b ∧ sortedFrom (b + 1) rs = true := by
  simpa only [sortedFrom, Bool.and_eq_true, Nat.ble_eq, and_assoc] using h

theorem below_sorted (rs : List (Nat × Nat)) : ∀ lo n, sortedFrom lo rs = true → n < lo → inRanges rs n = false := by
  induction rs with
  | nil => intro _ _ _ _; rfl
  | cons r rs ih =>
    intro lo n h hn
    obtain ⟨h1, h2, h3⟩ := sortedFrom_cons h
    have hna : n < r.1 := Nat.lt_of_lt_of_le hn h1
    rw [inRanges_cons, ih (r.2 + 1) n h3 (Nat.lt_succ_of_le (Nat.le_trans (Nat.le_of_lt hna) h2)), decide_eq_false (Nat.not_le.2 hna)]
    rfl

theorem inSorted_eq (rs : List (Nat × Nat)) : ∀ lo, sortedFrom lo rs = true → ∀ n, inSorted rs n = inRanges rs n := by
  induction rs with
  | nil => intro _ _ _; rfl
  | cons r rs ih =>
    intro lo h n
    obtain ⟨h1, h2, h3⟩ := sortedFrom_cons h
    rw [inSorted, inRanges_cons]
    by_cases hna : n < r.1
    · rw [if_pos hna, below_sorted rs _ n h3 (Nat.lt_succ_of_le (Nat.le_trans (Nat.le_of_lt hna) h2)), decide_eq_false (Nat.not_le.2 hna)]
      rfl
    · rw [if_neg hna, decide_eq_true (Nat.le_of_not_lt hna), Bool.true_and]
      by_cases hnb : n ≤ r.2
      · rw [if_pos hnb, decide_eq_true hnb, Bool.true_or]
      · rw [if_neg hnb, decide_eq_false hnb, Bool.false_or, ih _ h3]

theorem wordRanges_sorted : sortedFrom 0 wordRanges = true := by decide +kernel
theorem digitRanges_sorted : sortedFrom 0 digitRanges = true := by decide +kernel

theorem isWord_eq_inRanges (c : Char) : isWord c = inRanges wordRanges c.toNat := inSorted_eq _ 0 wordRanges_sorted _

theorem isDigit_eq_inRanges (c : Char) : isDigit c = inRanges digitRanges c.toNat := inSorted_eq _ 0 digitRanges_sorted _

theorem isWord_iff (c : Char) : isWord c = true ↔ Word c := by rw [isWord_eq_inRanges, Word]

theorem isDigit_iff (c : Char) : isDigit c = true ↔ Digit c := by rw [isDigit_eq_inRanges, Digit]

theorem isIdStart_iff (c : Char) : isIdStart c = true ↔ (Word c ∧ ¬ Digit c) := by
  simp only [isIdStart, Bool.and_eq_true, Bool.not_eq_true', ← isWord_iff, ← isDigit_iff]
  cases isDigit c <;> simp

/-- `str.isdecimal` and `\d` are the same table -/
theorem decimal_eq_digit : decimalRanges = digitRanges := by decide +kernel

theorem ne_of_class {p : Char → Bool} {c x : Char} (h : p c = true) (hx : p x = false) : c ≠ x := by
  rintro rfl
  exact Bool.false_ne_true (hx.symm.trans h)

theorem word_ne_open {c : Char} (h : isWord c = true) : c ≠ '{' := ne_of_class h (by decide)
theorem word_ne_close {c : Char} (h : isWord c = true) : c ≠ '}' := ne_of_class h (by decide)
theorem word_ne_colon {c : Char} (h : isWord c = true) : c ≠ ':' := ne_of_class h (by decide)
theorem word_ne_bang {c : Char} (h : isWord c = true) : c ≠ '!' := ne_of_class h (by decide)
theorem word_ne_dot {c : Char} (h : isWord c = true) : c ≠ '.' := ne_of_class h (by decide)
theorem word_ne_lbracket {c : Char} (h : isWord c = true) : c ≠ '[' := ne_of_class h (by decide)
theorem word_ne_rbracket {c : Char} (h : isWord c = true) : c ≠ ']' := ne_of_class h (by decide)
theorem word_ne_nul {c : Char} (h : isWord c = true) : c ≠ '\x00' := ne_of_class h (by decide)

theorem digit_ne_open {c : Char} (h : isDigit c = true) : c ≠ '{' := ne_of_class h (by decide)
theorem digit_ne_close {c : Char} (h : isDigit c = true) : c ≠ '}' := ne_of_class h (by decide)
theorem digit_ne_colon {c : Char} (h : isDigit c = true) : c ≠ ':' := ne_of_class h (by decide)
theorem digit_ne_bang {c : Char} (h : isDigit c = true) : c ≠ '!' := ne_of_class h (by decide)
theorem digit_ne_lbracket {c : Char} (h : isDigit c = true) : c ≠ '[' := ne_of_class h (by decide)
theorem digit_ne_dot {c : Char} (h : isDigit c = true) : c ≠ '.' := ne_of_class h (by decide)

theorem idStart_word {c : Char} (h : isIdStart c = true) : isWord c = true := by
  simp only [isIdStart, Bool.and_eq_true] at h; exact h.1

end I18n.BraceChars
