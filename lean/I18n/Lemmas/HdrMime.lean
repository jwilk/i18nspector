import I18n.Lemmas.HdrCType
import I18n.Lemmas.HdrFields
/-
C15 lemmas: `check_mime` — when it returns, its tags are those of the MIME-Version, Content-Transfer-Encoding and
Content-Type rules; it raises exactly when the charset fragment raises on a charset that a Content-Type value declares
(`checkMime_error_iff`), so it returns whenever the charset fragment does.  At the end `toName` / `ofName`, the passage between
the header's strings and the code points of the charset fragment: the round trips, and `truncateChars` seen on strings.
-/
namespace I18n.Hdr
open I18n.Spec.HeaderRules I18n.Date I18n.Generated

theorem hint_eq : contentTypeHint = "text/plain; charset=<encoding>".toList := rfl

/-- the disjuncts of `ContentTypeRule` about one Content-Type value -/
def CtOneRule (db : UDB) (cs : CharsetCheck) (ct : Str) (t : TagCall) : Prop :=
  ((¬ ∃ full enc, CharsetParam db ct full enc) ∧
    t = ⟨"invalid-content-type", [.str ct, .str "=>".toList, .str "text/plain; charset=<encoding>".toList]⟩)
  ∨ ∃ full enc ctags kept, CharsetOf db ct full enc ∧ cs (toName enc) = .ok (ctags, kept) ∧
      ((∃ c ∈ ctags, t = ofCharsetTag ct c)
       ∨ (full = false ∧ t = ⟨"invalid-content-type", [.str ct, .str "=>".toList,
            .str (match kept with | some e => "text/plain; charset=".toList ++ ofName e
                                  | none => "text/plain; charset=<encoding>".toList)]⟩))

theorem contentTypeRule_iff (x : Ext) (cs : CharsetCheck) (fs : List (Str × Str)) (t : TagCall) :
    ContentTypeRule x cs fs t ↔
      (cnt fs "Content-Type" = 0 ∧
        t = ⟨"no-content-type-header-field", [.safe "Content-Type: text/plain; charset=<encoding>".toList]⟩)
      ∨ (1 < cnt fs "Content-Type" ∧ t = t0 "duplicate-header-field-content-type")
      ∨ ∃ ct ∈ vals fs "Content-Type", CtOneRule x.db cs ct t := Iff.rfl

theorem contentTypeOne_spec (db : UDB) (cs : CharsetCheck) (ct : Str) :
    (∃ ts kept, contentTypeOne db cs ct = .ok (ts, kept) ∧ ∀ t, t ∈ ts ↔ CtOneRule db cs ct t)
    ∨ contentTypeOne db cs ct = .error () := by
  unfold contentTypeOne CtOneRule
  cases hm : matchContentType db ct with
  | none =>
    have hnone := (matchContentType_none_iff db ct).1 hm
    refine .inl ⟨_, _, rfl, fun t => ?_⟩
    simp only [List.mem_singleton]
    constructor
    · intro e; exact Or.inl ⟨hnone, e⟩
    · rintro (⟨_, e⟩ | ⟨full, enc, _, _, hof, _⟩)
      · exact e
      · exact absurd ⟨full, enc, hof.1⟩ hnone
  | some p =>
    obtain ⟨full, enc⟩ := p
    simp only []
    cases hc : cs (toName enc) with
    | error u => exact .inr rfl
    | ok r =>
      obtain ⟨ctags, kept0⟩ := r
      refine .inl ⟨_, _, rfl, fun t => ?_⟩
      -- the scanner's answer is the one witness of `CharsetOf`, so the rule's `full enc ctags kept` can only be the values at hand;
      -- then `full` decides whether `invalid-content-type` is there
      have hof : CharsetOf db ct full enc := (matchContentType_some_iff db ct full enc).1 hm
      rw [List.mem_append, List.mem_map]
      constructor
      · intro h
        refine .inr ⟨full, enc, ctags, kept0, hof, hc, h.imp (fun ⟨c, hc, e⟩ => ⟨c, hc, e.symm⟩) fun h => ?_⟩
        cases full
        · exact ⟨rfl, by cases kept0 <;> exact List.mem_singleton.1 h⟩
        · cases h
      · rintro (⟨hno, _⟩ | ⟨full', enc', ctags', kept', hof', hc', h⟩)
        · exact absurd ⟨full, enc, hof.1⟩ hno
        · obtain ⟨rfl, rfl⟩ := charsetOf_unique db ct hof hof'
          rw [hc] at hc'
          obtain ⟨rfl, rfl⟩ : ctags = ctags' ∧ kept0 = kept' := by simpa using hc'
          refine h.imp (fun ⟨c, hc, e⟩ => ⟨c, hc, e.symm⟩) ?_
          rintro ⟨rfl, e⟩
          cases kept0 <;> exact List.mem_singleton.2 e

theorem contentTypeLoop_spec (db : UDB) (cs : CharsetCheck) (cts : List Str) :
    (∃ ts es, contentTypeLoop db cs cts = .ok (ts, es) ∧ ∀ t, t ∈ ts ↔ ∃ ct ∈ cts, CtOneRule db cs ct t)
    ∨ contentTypeLoop db cs cts = .error () := by
  induction cts with
  | nil => exact .inl ⟨[], [], rfl, by simp⟩
  | cons ct rest ih =>
    unfold contentTypeLoop
    rcases contentTypeOne_spec db cs ct with ⟨t1, e1, h1, hm1⟩ | h1
    · rcases ih with ⟨ts2, es2, h2, hm2⟩ | h2
      · exact .inl ⟨_, _, by rw [h1, h2], fun t => by simp [hm1, hm2]⟩
      · exact .inr (by rw [h1, h2])
    · exact .inr (by rw [h1])

theorem mem_checkMime (x : Ext) (cs : CharsetCheck) (ls : List Line) (out : MimeOut)
    (h : checkMime x.db cs (buildMeta ls []) = .ok out) (t : TagCall) :
    t ∈ out.tags ↔
      FixedRule (fieldLines ls) "MIME-Version" "1.0" "mime-version" t
      ∨ FixedRule (fieldLines ls) "Content-Transfer-Encoding" "8bit" "content-transfer-encoding" t
      ∨ ContentTypeRule x cs (fieldLines ls) t := by
  rw [contentTypeRule_iff]
  unfold checkMime at h
  rw [meta_getS] at h
  unfold cnt
  generalize vals (fieldLines ls) "Content-Type" = cts at h ⊢
  simp only [] at h
  by_cases h0 : cts.length = 0
  · rw [if_pos h0] at h
    injection h with h; subst h
    have hnil : cts = [] := List.length_eq_zero_iff.1 h0
    subst hnil
    simp only [List.mem_append, mem_mimeVersionTags, mem_cteTags, List.mem_singleton, List.length_nil, true_and, Nat.not_lt_zero, false_and,
      List.not_mem_nil, exists_false, or_false, or_assoc]
    exact Iff.rfl
  · rw [if_neg h0] at h
    rcases contentTypeLoop_spec x.db cs (dedup cts) with ⟨ts, encs, hl, hmem⟩ | hl
    · rw [hl] at h
      injection h with h; subst h
      simp only [List.mem_append, mem_mimeVersionTags, mem_cteTags, hmem, mem_dedup,
        List.mem_ite_nil_right, List.mem_singleton, h0, false_and, false_or, or_assoc]
      exact Iff.rfl
    · rw [hl] at h; cases h

theorem contentTypeOne_error_iff (db : UDB) (cs : CharsetCheck) (ct : Str) :
    contentTypeOne db cs ct = .error () ↔ ∃ full enc, CharsetOf db ct full enc ∧ cs (toName enc) = .error () := by
  simp only [← matchContentType_some_iff]
  unfold contentTypeOne
  cases matchContentType db ct with
  | none => simp only [reduceCtorEq, false_and, exists_false]
  | some p =>
    obtain ⟨full, enc⟩ := p
    have hex : (∃ full' enc', some (full, enc) = some (full', enc') ∧ cs (toName enc') = .error ()) ↔
        cs (toName enc) = .error () :=
      ⟨by rintro ⟨_, _, ⟨⟩, h⟩; exact h, fun h => ⟨full, enc, rfl, h⟩⟩
    rw [hex]
    dsimp only
    cases cs (toName enc) with
    | error u => exact iff_of_true rfl rfl
    | ok r => exact iff_of_false nofun nofun

theorem contentTypeLoop_error_iff (db : UDB) (cs : CharsetCheck) (cts : List Str) :
    contentTypeLoop db cs cts = .error () ↔ ∃ ct ∈ cts, contentTypeOne db cs ct = .error () := by
  induction cts with
  | nil => exact iff_of_false nofun nofun
  | cons ct rest ih =>
    simp only [List.mem_cons, exists_eq_or_imp, ← ih]
    rw [contentTypeLoop]
    cases contentTypeOne db cs ct with
    | error u => exact iff_of_true rfl (.inl rfl)
    | ok r =>
      cases contentTypeLoop db cs rest with
      | error u => exact iff_of_true rfl (.inr rfl)
      | ok r2 => exact iff_of_false nofun (by rintro (h | h) <;> cases h)

theorem checkMime_error_iff (db : UDB) (cs : CharsetCheck) (m : Meta) :
    checkMime db cs m = .error () ↔
      ∃ ct ∈ m.getS "Content-Type", ∃ full enc, CharsetOf db ct full enc ∧ cs (toName enc) = .error () := by
  simp only [← contentTypeOne_error_iff, ← mem_dedup (vs := m.getS "Content-Type"), ← contentTypeLoop_error_iff]
  unfold checkMime
  dsimp only
  by_cases h0 : (m.getS "Content-Type").length = 0
  · rw [if_pos h0, List.length_eq_zero_iff.1 h0]
    exact iff_of_false nofun nofun
  · rw [if_neg h0]
    cases contentTypeLoop db cs (dedup (m.getS "Content-Type")) with
    | error u => exact iff_of_true rfl rfl
    | ok r => exact iff_of_false nofun nofun

theorem checkMime_ok_of (db : UDB) (cs : CharsetCheck) (m : Meta)
    (hcs : ∀ ct ∈ m.getS "Content-Type", ∀ full enc, CharsetOf db ct full enc → ∃ r, cs (toName enc) = .ok r) :
    ∃ out, checkMime db cs m = .ok out := by
  cases h : checkMime db cs m with
  | ok out => exact ⟨out, rfl⟩
  | error u =>
    obtain ⟨ct, hct, full, enc, hof, he⟩ := (checkMime_error_iff db cs m).1 h
    obtain ⟨r, hr⟩ := hcs ct hct full enc hof
    rw [hr] at he
    cases he

theorem checkMime_ok (db : UDB) (cs : CharsetCheck) (hcs : ∀ n, ∃ r, cs n = .ok r) (m : Meta) :
    ∃ out, checkMime db cs m = .ok out :=
  checkMime_ok_of db cs m fun _ _ _ enc _ => hcs (toName enc)

theorem ofName_toName (s : Str) : ofName (toName s) = s := by
  induction s with
  | nil => rfl
  | cons c cs ih =>
    simp only [toName, ofName, List.map_cons, List.map_map] at ih ⊢
    rw [ih]; simp [Char.ofNat_toNat]

theorem toName_ofName_of_small (n : List Nat) (h : ∀ c ∈ n, c < 128) : toName (ofName n) = n := by
  induction n with
  | nil => rfl
  | cons c cs ih =>
    have hc : c < 128 := h c (by simp)
    have hcs : ∀ d ∈ cs, d < 128 := fun d hd => h d (by simp [hd])
    simp only [toName, ofName, List.map_cons, List.map_map] at ih ⊢
    rw [ih hcs]
    congr 1
    have hv : c.isValidChar := Or.inl (by omega)
    rw [Char.ofNat, dif_pos hv]
    rfl

theorem toName_inj {a b : Str} (h : toName a = toName b) : a = b := by
  rw [← ofName_toName a, ← ofName_toName b, h]

theorem toName_eq_charset (enc : Str) : toName enc = Charset.charsetLiteral ↔ enc = "CHARSET".toList := by
  constructor
  · intro h; exact toName_inj (h.trans (by decide))
  · rintro rfl; decide

theorem ofName_ellipsis : ofName Charset.ellipsis = "...".toList := by decide

theorem map_ofName_truncate (u : List (List Nat)) :
    (Charset.truncateChars u).map ofName =
      if ((u.map ofName).length : Int) > 5 then (u.map ofName).take 4 ++ ["...".toList] else u.map ofName := by
  unfold Charset.truncateChars
  by_cases h : u.length > 5
  · have h' : ((u.map ofName).length : Int) > 5 := by simp; omega
    simp only [if_pos h, if_pos h', List.map_append, List.map_take, List.map_cons, List.map_nil, ofName_ellipsis]
  · have h' : ¬ ((u.map ofName).length : Int) > 5 := by simp; omega
    simp only [if_neg h, if_neg h']

end I18n.Hdr
