import I18n.Model.FmtMsgGen
import I18n.Lemmas.FmtArgsGenerated
import I18n.Lemmas.FmtCheckMessage
import I18n.Lemmas.PyKitLemmas
/-!
# `check_message` regenerated from `lib/check/msgformat/__init__.py` equals the hand-written `FmtCheck.checkMessage`

For every back end (`Backend σ F`), every context, message and flags.  The proof never names a bound variable of the generated text:
it replaces the three loop bodies by named model steps (`step1`, `pluralStep`, `planStep`) and characterises what each stage delivers.
-/
-- Some simp sets name lemmas for spellings of the source other than the present one (the other orientation of a test, another
-- way to write an update), so that the proofs survive such edits; on the present text the linter would report them.
set_option linter.unusedSimpArgs false
namespace I18n.FmtCheck.GenMsg
open I18n I18n.FmtSig I18n.FmtCheck I18n.FmtCheck.Gen I18n.Generated

theorem forEach_ext {α σ ε : Type} (xs : List α) (body body' : α → σ → Except ε σ) (h : ∀ x s, body x s = body' x s) (s : σ) :
    PyKit.forEach xs body s = PyKit.forEach xs body' s :=
  PyKit.forEach_ext xs body body' h s

variable {σ F : Type}

/-! ### the first loop: `for i, s in enumerate(msgids)` -/

/-- one round of `for i, s in enumerate(msgids)` as the model has it: `.inl` = the `return` of the non-template branch -/
def step1 (b : Backend σ F) (ctx : Ctx) (msg : Msg σ) (p : Nat × σ) (st : List (Nat × F) × List TagCall) :
    Except Py.Exc (List TagCall ⊕ (List (Nat × F) × List TagCall)) :=
  match msgidFmt b ctx msg p.2 with
  | .error e => .error e
  | .ok none => .ok (.inl st.2)
  | .ok (some (tg, none)) => .ok (.inr (st.1, st.2 ++ tg))
  | .ok (some (tg, some f)) => .ok (.inr (PyKit.dictSet st.1 p.1 f, st.2 ++ tg))

/-- `msgid_fmts` after the first loop -/
def fmtsOf (f0 f1 : Option F) : List (Nat × F) :=
  (match f0 with | some f => [(0, f)] | none => []) ++ (match f1 with | some f => [(1, f)] | none => [])

theorem fmtsOf_get (f0 f1 : Option F) : PyKit.dictGet? (fmtsOf f0 f1) 0 = f0 ∧ PyKit.dictGet? (fmtsOf f0 f1) 1 = f1 := by
  cases f0 <;> cases f1 <;> simp [fmtsOf, PyKit.dictGet?]

/-- what the first loop delivers: `.inl` = the `return` of the non-template branch -/
theorem stage1_spec (b : Backend σ F) (ctx : Ctx) (msg : Msg σ) (out : List TagCall)
    (body : Nat × σ → List (Nat × F) × List TagCall → Except Py.Exc (List TagCall ⊕ (List (Nat × F) × List TagCall)))
    (hb : ∀ p st, body p st = step1 b ctx msg p st) :
    PyKit.forEachRet (PyKit.enumerate (msg.msgid :: msg.msgidPlural.toList)) body ([], out) =
      match msgidFmt b ctx msg msg.msgid with
      | .error e => .error e
      | .ok none => .ok (.inl out)
      | .ok (some (tg0, f0)) =>
        match pluralMsgidFmt b ctx msg with
        | .error e => .error e
        | .ok none => .ok (.inl (out ++ tg0))
        | .ok (some (tg1, f1)) => .ok (.inr (fmtsOf f0 f1, out ++ tg0 ++ tg1)) := by
  obtain rfl : body = step1 b ctx msg := funext fun p => funext (hb p)
  simp only [pluralMsgidFmt]
  cases hP : msg.msgidPlural with
  | none =>
    simp only [Option.toList, PyKit.enumerate, PyKit.enumerateFrom, PyKit.forEachRet, step1]
    cases msgidFmt b ctx msg msg.msgid with
    | error e => rfl
    | ok r =>
      rcases r with _ | ⟨tg0, _ | f0⟩ <;> simp [fmtsOf, PyKit.dictSet]
  | some pl =>
    simp only [Option.toList, PyKit.enumerate, PyKit.enumerateFrom, PyKit.forEachRet, step1]
    cases msgidFmt b ctx msg msg.msgid with
    | error e => rfl
    | ok r =>
      rcases r with _ | ⟨tg0, f0⟩
      · rfl
      · cases msgidFmt b ctx msg pl with
        | error e => cases f0 <;> rfl
        | ok r1 => rcases r1 with _ | ⟨tg1, _ | f1⟩ <;> cases f0 <;> simp [fmtsOf, PyKit.dictSet]

/-! ### the loop over `sorted(message.msgstr_plural.items())` = `pluralPlans` -/

/-- one `msgstr[i]`: the tags of `check_string` and the plan, if any -/
def pluralStep (b : Backend σ F) (ctx : Ctx) (msg : Msg σ) (fl : Flags) (f0 f1 : Option F) (pre : CheckPlurals.Preimage) (p : Nat × σ) :
    Except Py.Exc (List TagCall × Option (Plan F)) :=
  match checkString b ctx msg p.2 with
  | .error e => .error e
  | .ok (tg, none) => .ok (tg, none)
  | .ok (tg, some d) =>
    match preimageGet pre p.1 with
    | none => .ok (tg, none)
    | some pi => .ok (tg, some (pluralPlan b f0 f1 p.1 d (pi.filter fl.inRange)))

/-- the state `(out, strings)` of `check_message` after a stage that delivers the tags and plans `r` -/
def addPlans (st : List TagCall × List (Plan F)) (r : Except Py.Exc (List TagCall × List (Plan F))) :
    Except Py.Exc (List TagCall × List (Plan F)) :=
  match r with
  | .error e => .error e
  | .ok (tg, plans) => .ok (st.1 ++ tg, st.2 ++ plans)

theorem forEach_pluralPlans (b : Backend σ F) (ctx : Ctx) (msg : Msg σ) (fl : Flags) (f0 f1 : Option F) (pre : CheckPlurals.Preimage)
    (body : Nat × σ → List TagCall × List (Plan F) → Except Py.Exc (List TagCall × List (Plan F)))
    (hb : ∀ p st, body p st = match pluralStep b ctx msg fl f0 f1 pre p with
      | .error e => .error e
      | .ok (tg, none) => .ok (st.1 ++ tg, st.2)
      | .ok (tg, some pl) => .ok (st.1 ++ tg, st.2 ++ [pl])) (xs : List (Nat × σ)) :
    ∀ st, PyKit.forEach xs body st = addPlans st (pluralPlans b ctx msg fl f0 f1 pre xs) := by
  unfold addPlans
  induction xs with
  | nil => intro st; simp [PyKit.forEach, pluralPlans]
  | cons x xs ih =>
    intro st
    obtain ⟨i, s⟩ := x
    simp only [PyKit.forEach, pluralPlans, hb, pluralStep, ih]
    cases checkString b ctx msg s with
    | error e => rfl
    | ok r =>
      obtain ⟨tg, dst⟩ := r
      cases pluralPlans b ctx msg fl f0 f1 pre xs with
      | error e =>
        cases dst with
        | none => rfl
        | some d => cases preimageGet pre i <;> rfl
      | ok r =>
        obtain ⟨tgs, plans⟩ := r
        cases dst with
        | none => simp [List.append_assoc]
        | some d => cases preimageGet pre i <;> simp [List.append_assoc]

/-! ### the last loop: `for d in strings` = `runPlans` -/

/-- what one `d` of `strings` emits -/
def planStep (b : Backend σ F) (pfx : Extra) (d : Plan F) : Except Py.Exc (List TagCall) :=
  match d.dst, d.src with
  | some dst, some src => b.checkArgs pfx d.srcLoc src d.dstLoc dst d.omittedOk
  | _, _ => .ok []

theorem collect_planStep (b : Backend σ F) (pfx : Extra) (ds : List (Plan F)) :
    collect (planStep b pfx) ds = runPlans b pfx ds := by
  induction ds with
  | nil => rfl
  | cons d ds ih =>
    simp only [collect, runPlans, planStep, ih]
    cases d.dst with
    | none => cases runPlans b pfx ds <;> simp
    | some dst =>
      cases d.src with
      | none => cases runPlans b pfx ds <;> simp
      | some src => rfl

/- Each block of the regenerated text is the scrutinee of a `match`; `conv => lhs; arg 2; tactic => show _ = …` states what the block
   is in terms of the model (the text of the block itself is never written down) and proves it by the case analysis the block makes. -/
theorem check_message_eq (b : Backend σ F) (out : List TagCall) (ctx : Ctx) (msg : Msg σ) (fl : Flags) :
    FmtMsg.check_message b out ctx msg fl = appendTags out (checkMessage b ctx msg fl) := by
  simp only [FmtMsg.check_message]
  -- `msgids = [message.msgid]; if message.msgid_plural is not None: msgids += […]` is printed under `Except` and cannot fail
  split
  next e heq =>
    cases hP : msg.msgidPlural <;> simp [hP] at heq
  next msgids heq =>
    have hm : msgids = msg.msgid :: msg.msgidPlural.toList := by
      cases hP : msg.msgidPlural <;> simp [hP] at heq <;> simp [← heq]
    subst hm
    clear heq
    rw [stage1_spec b ctx msg out _ ?hb1]
    case hb1 =>
      intro p st
      obtain ⟨i, s⟩ := p
      obtain ⟨m, o⟩ := st
      simp only [step1, msgidFmt]
      cases hT : ctx.isTemplate
      · simp only [Bool.false_eq_true, if_false]
        cases hp : b.parse s <;> simp [hp]
      · simp only [if_true]
        cases checkString b ctx msg s with
        | error e => rfl
        | ok r =>
          obtain ⟨tg, f⟩ := r
          cases f <;> rfl
    simp only [checkMessage]
    cases h0 : msgidFmt b ctx msg msg.msgid with
    | error e => rfl
    | ok r0 =>
      rcases r0 with _ | ⟨tg0, f0⟩
      · simp
      · simp only []
        cases h1 : pluralMsgidFmt b ctx msg with
        | error e => rfl
        | ok r1 =>
          rcases r1 with _ | ⟨tg1, f1⟩
          · -- the `return` of the non-template branch at msgid_plural: nothing was emitted before
            have hT : ctx.isTemplate = false := by
              simp only [pluralMsgidFmt] at h1
              cases hP : msg.msgidPlural with
              | none => simp [hP] at h1
              | some pl => rw [hP] at h1; exact msgidFmt_none_template b ctx msg pl h1
            have : tg0 = [] := msgidFmt_tags_nontemplate b ctx msg _ tg0 f0 hT h0
            simp [this]
          · simp only [(fmtsOf_get f0 f1).1, (fmtsOf_get f0 f1).2]
            -- if ctx.is_template and len(msgid_fmts) == 2: self.check_args(…)
            conv =>
              lhs
              arg 2
              tactic =>
                show _ = appendTags (out ++ tg0 ++ tg1) (templateArgs b ctx msg f0 f1)
                simp only [templateArgs]
                cases hT : ctx.isTemplate
                · cases f0 <;> cases f1 <;> simp [fmtsOf]
                · cases f0 with
                  | none => cases f1 <;> simp [fmtsOf]
                  | some a =>
                    cases f1 with
                    | none => simp [fmtsOf]
                    | some c =>
                      cases hca : b.checkArgs msg.pfx "msgid_plural".toList c "msgid".toList a true <;>
                        simp only [hT, fmtsOf, PyKit.dictGet, hca, List.cons_append, List.nil_append, List.length_cons, List.length_nil,
                          decide_true, Bool.and_self, if_true, Nat.reduceEqDiff, appendTags, reduceCtorEq, if_false]
            cases templateArgs b ctx msg f0 f1 with
            | error e => rfl
            | ok tg2 =>
              simp only [appendTags_ok, checkTranslations]
              cases hF : fl.fuzzy
              · cases hE : ctx.hasEncoding
                · simp [List.append_assoc]
                · simp only [Bool.false_eq_true, if_false, Bool.not_true]
                  -- if has_msgstr: …
                  conv =>
                    lhs
                    arg 2
                    tactic =>
                      show _ = addPlans (out ++ tg0 ++ tg1 ++ tg2 ++ b.checkMsgids msg.repr f0, []) (msgstrPlan b ctx msg f0)
                      simp only [msgstrPlan, addPlans]
                      cases hS : b.truthy msg.msgstr
                      · simp
                      · cases hcs : checkString b ctx msg msg.msgstr with
                        | error e' => simp
                        | ok r => obtain ⟨tg, dst⟩ := r; simp
                  cases msgstrPlan b ctx msg f0 with
                  | error e => rfl
                  | ok r5 =>
                    obtain ⟨tg5, strings⟩ := r5
                    simp only [addPlans, List.nil_append]
                    -- if has_msgstr_plural and ctx.plural_preimage: …
                    conv =>
                      lhs
                      arg 2
                      tactic =>
                        show _ = addPlans (out ++ tg0 ++ tg1 ++ tg2 ++ b.checkMsgids msg.repr f0 ++ tg5, strings)
                          (msgstrPluralPlans b ctx msg fl f0 f1)
                        simp only [msgstrPluralPlans]
                        rcases hpre : ctx.preimage with _ | ⟨_ | ⟨q, pre⟩⟩
                        · simp [addPlans]
                        · simp [addPlans]
                        · cases hA : msg.msgstrPlural.any (fun p => b.truthy p.2)
                          · simp [addPlans]
                          · simp only [List.isEmpty_cons, Bool.not_false, Bool.and_true, if_true]
                            rw [forEach_pluralPlans b ctx msg fl f0 f1 (q :: pre) _ ?hb2]
                            case hb2 =>
                              intro p st
                              obtain ⟨i, s⟩ := p
                              obtain ⟨o, strs⟩ := st
                              simp only [pluralStep, hpre, Py.optDictGet, dictGet_eq, preimageGet, if_true]
                              cases checkString b ctx msg s with
                              | error e => rfl
                              | ok r =>
                                obtain ⟨tg, dst⟩ := r
                                cases dst with
                                | none => rfl
                                | some d =>
                                  simp only []
                                  cases hl : lookupKey (↑i : Int) (q :: pre) with
                                  | none => rfl
                                  | some pi =>
                                    simp only []
                                    generalize List.filter (fun x => fl.inRange x) pi = pp
                                    have hloc : "msgstr[".toList ++ natStr i ++ "]".toList = msgstrLoc i := rfl
                                    simp only [pluralPlan, hloc, decide_eq_true_eq]
                                    generalize msgstrLoc i = loc
                                    generalize "msgid".toList = lid
                                    generalize "msgid_plural".toList = lpl
                                    -- the cascade of `pluralPlan`: `preimage == [1]` → msgid, omission allowed if both msgids parsed to
                                    -- equally long formats; else msgid_plural, omission allowed for `len(preimage) <= 1` and for
                                    -- `[0, y]`.  The cases below are `[1]`, `[]`, `[x]`, `[x, y]` (on `x = 0`), longer.
                                    by_cases hp1 : pp = [1]
                                    · subst hp1
                                      cases f0 <;> cases f1 <;> simp <;> (generalize b.len _ = x; generalize b.len _ = y; by_cases h : x = y <;> simp [h])
                                    · rcases pp with _ | ⟨x, _ | ⟨y, _ | ⟨z, t⟩⟩⟩
                                      · simp +arith
                                      · simp +arith [hp1]
                                      · by_cases hx : x = 0 <;> simp +arith [PyKit.listGet, hx]
                                      · simp +arith
                    cases msgstrPluralPlans b ctx msg fl f0 f1 with
                    | error e => rfl
                    | ok r6 =>
                      obtain ⟨tg6, plans2⟩ := r6
                      simp only [addPlans]
                      -- for d in strings: …
                      rw [forEach_appendTags (planStep b msg.pfx) _ ?hbf, collect_planStep]
                      case hbf =>
                        intro d o
                        obtain ⟨sl, src, dl, dst, ok⟩ := d
                        simp only [planStep]
                        cases dst with
                        | none => simp
                        | some dst =>
                          cases src with
                          | none => simp
                          | some src => simp; rfl
                      cases runPlans b msg.pfx (strings ++ plans2) <;> simp [List.append_assoc]
              · simp [List.append_assoc]
end I18n.FmtCheck.GenMsg
