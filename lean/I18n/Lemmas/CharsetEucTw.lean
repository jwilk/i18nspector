import I18n.Model.Charset
import I18n.Lemmas.PyKitLemmas
/-!
# C20: EUC-TW — the structure of the encoding round-trips exactly on canonical units (`eucTwEncode_of_decode_canonical`), over any CNS tables;
# what the encoder writes reads back as the text without its TAG characters (`eucTwDecode_of_encode`), over any tables whose inverse
# names cells of the table.  A unit is handled as data (`char?`, `len`, `bytes`), so that its three forms make one case of the
# induction along a decoding.  At the end `AgreesWithIconv`: what it means for tables to agree with the system iconv on the
# dumped units and characters (`eucTwDecodeFacts`, `eucTwEncodeFacts`).
-/
namespace I18n.Charset

theorem eucTwUnit_spec (cns : CnsTable) (bs : List UInt8) : ∀ u, eucTwUnit cns bs = u →
    match u with
    | .done => bs = []
    | .ascii c => ∃ b rest, bs = b :: rest ∧ c = b.toNat ∧ c ≤ 0x7F
    | .two r c ch => ∃ b b2 rest, bs = b :: b2 :: rest ∧ r = b.toNat ∧ c = b2.toNat ∧ cns 1 r c = some ch ∧ b.toNat ≠ 0x8E
    | .four p r c ch => ∃ b b2 b3 b4 rest, bs = b :: b2 :: b3 :: b4 :: rest ∧ b.toNat = 0x8E ∧ 0xA1 ≤ b2.toNat ∧
        b2.toNat ≤ 0xB0 ∧ p = b2.toNat - 0xA0 ∧ r = b3.toNat ∧ c = b4.toNat ∧ cns p r c = some ch
    | .illegal | .incomplete => bs ≠ [] := by
  intro u h
  subst h
  -- the cases are the leaves of `eucTwUnit`, in its order; the six not named below answer `.illegal` or `.incomplete` on `b :: _`
  fun_cases eucTwUnit cns bs
  -- `[]`
  case case1 => exact rfl
  -- first byte ≤ 7F
  case case2 b rest hb => exact ⟨b, rest, rfl, rfl, hb⟩
  -- 8E, plane byte in A1..B0, two more bytes, the table has the cell
  case case7 b _ _ b2 hlo hb hhi b3 b4 rest ch hc =>
    exact ⟨b, b2, b3, b4, rest, rfl, hb, by omega, by omega, rfl, rfl, rfl, hc⟩
  -- a lead byte other than 8E, a second byte, plane 1 has the cell
  case case10 b _ _ b2 rest _ hne ch hc => exact ⟨b, b2, rest, rfl, rfl, rfl, hc, hne⟩
  all_goals exact List.cons_ne_nil _ _

theorem eucTwUnit_done (cns : CnsTable) (bs : List UInt8) (h : eucTwUnit cns bs = .done) : bs = [] :=
  eucTwUnit_spec cns bs _ h

theorem eucTwUnit_ascii (cns : CnsTable) (bs : List UInt8) (c : Nat) (h : eucTwUnit cns bs = .ascii c) :
    ∃ b rest, bs = b :: rest ∧ c = b.toNat ∧ c ≤ 0x7F :=
  eucTwUnit_spec cns bs _ h

theorem eucTwUnit_two (cns : CnsTable) (bs : List UInt8) (r c ch : Nat) (h : eucTwUnit cns bs = .two r c ch) :
    ∃ b b2 rest, bs = b :: b2 :: rest ∧ r = b.toNat ∧ c = b2.toNat ∧ cns 1 r c = some ch ∧ b.toNat ≠ 0x8E :=
  eucTwUnit_spec cns bs _ h

theorem eucTwUnit_four (cns : CnsTable) (bs : List UInt8) (p r c ch : Nat) (h : eucTwUnit cns bs = .four p r c ch) :
    ∃ b b2 b3 b4 rest, bs = b :: b2 :: b3 :: b4 :: rest ∧ b.toNat = 0x8E ∧ 0xA1 ≤ b2.toNat ∧ b2.toNat ≤ 0xB0 ∧
      p = b2.toNat - 0xA0 ∧ r = b3.toNat ∧ c = b4.toNat ∧ cns p r c = some ch :=
  eucTwUnit_spec cns bs _ h

/-! ## a unit as data: the character it carries, how many bytes it takes, the bytes it was read from -/

def EucUnit.char? : EucUnit → Option Nat
  | .ascii c => some c
  | .two _ _ ch => some ch
  | .four _ _ _ ch => some ch
  | _ => none

def EucUnit.len : EucUnit → Nat
  | .ascii _ => 1
  | .two _ _ _ => 2
  | .four _ _ _ _ => 4
  | _ => 0

/-- spelt as `eucTwEncodeChar` writes a character standing at that position -/
def EucUnit.bytes : EucUnit → List UInt8
  | .ascii c => [UInt8.ofNat c]
  | .two r c _ => [UInt8.ofNat r, UInt8.ofNat c]
  | .four p r c _ => [0x8E, UInt8.ofNat (0xA0 + p), UInt8.ofNat r, UInt8.ofNat c]
  | _ => []

theorem EucUnit.length_bytes (u : EucUnit) : u.bytes.length = u.len := by
  cases u <;> rfl

theorem EucUnit.len_pos {u : EucUnit} {ch : Nat} (h : u.char? = some ch) : 1 ≤ u.len := by
  cases u with
  | ascii _ | two _ _ _ | four _ _ _ _ => exact Nat.le_add_left 1 _
  | done | illegal | incomplete => cases h

theorem eucTwUnit_split (cns : CnsTable) (bs : List UInt8) :
    (eucTwUnit cns bs).bytes ++ bs.drop (eucTwUnit cns bs).len = bs := by
  cases hu : eucTwUnit cns bs with
  | done | illegal | incomplete => rfl
  | ascii c =>
    obtain ⟨b, rest, rfl, rfl, _⟩ := eucTwUnit_ascii cns bs c hu
    -- the unit's bytes are those read, since `UInt8.ofNat b.toNat = b`
    simp only [EucUnit.bytes, EucUnit.len, List.drop_succ_cons, List.drop_zero, UInt8.ofNat_toNat]
    rfl
  | two r c ch =>
    obtain ⟨b, b2, rest, rfl, rfl, rfl, _, _⟩ := eucTwUnit_two cns bs r c ch hu
    simp only [EucUnit.bytes, EucUnit.len, List.drop_succ_cons, List.drop_zero, UInt8.ofNat_toNat]
    rfl
  | four p r c ch =>
    obtain ⟨b, b2, b3, b4, rest, rfl, hb, hlo, _, hp, rfl, rfl, _⟩ := eucTwUnit_four cns bs p r c ch hu
    have hplane : 0xA0 + p = b2.toNat := by omega
    have hb' : (0x8E : UInt8) = b := by rw [← UInt8.ofNat_toNat (x := b), hb]; rfl
    simp only [EucUnit.bytes, EucUnit.len, List.drop_succ_cons, List.drop_zero, UInt8.ofNat_toNat, hplane, hb']
    rfl

theorem eucTwUnit_length (cns : CnsTable) (bs : List UInt8) :
    (eucTwUnit cns bs).len + (bs.drop (eucTwUnit cns bs).len).length = bs.length := by
  have := congrArg List.length (eucTwUnit_split cns bs)
  rwa [List.length_append, EucUnit.length_bytes] at this

theorem eucTwUnit_char_source (cns : CnsTable) (bs : List UInt8) (ch : Nat) (h : (eucTwUnit cns bs).char? = some ch) :
    ch ≤ 0x7F ∨ ∃ p r c, cns p r c = some ch := by
  cases hu : eucTwUnit cns bs with
  | done | illegal | incomplete => rw [hu] at h; cases h
  | ascii c =>
    rw [hu] at h; cases h
    obtain ⟨_, _, _, _, hle⟩ := eucTwUnit_ascii cns bs _ hu
    exact .inl hle
  | two r c ch' =>
    rw [hu] at h; cases h
    obtain ⟨_, _, _, _, _, _, hc, _⟩ := eucTwUnit_two cns bs r c _ hu
    exact .inr ⟨_, _, _, hc⟩
  | four p r c ch' =>
    rw [hu] at h; cases h
    obtain ⟨_, _, _, _, _, _, _, _, _, _, _, _, hc⟩ := eucTwUnit_four cns bs p r c _ hu
    exact .inr ⟨_, _, _, hc⟩

theorem eucTwDecodeLoop_char {cns : CnsTable} {bs : List UInt8} {ch : Nat} (h : (eucTwUnit cns bs).char? = some ch)
    (fuel i : Nat) : eucTwDecodeLoop cns (fuel + 1) i bs =
      (eucTwDecodeLoop cns fuel (i + (eucTwUnit cns bs).len) (bs.drop (eucTwUnit cns bs).len)).map (ch :: ·) := by
  rw [eucTwDecodeLoop]
  cases hu : eucTwUnit cns bs <;> rw [hu] at h <;> cases h <;> rfl

theorem eucTwDecodeLoop_stop {cns : CnsTable} {bs : List UInt8} (h : (eucTwUnit cns bs).char? = none) (fuel i : Nat) :
    eucTwDecodeLoop cns (fuel + 1) i bs =
      if bs = [] then .ok [] else .error (i, decide (eucTwUnit cns bs = .incomplete)) := by
  have hs := eucTwUnit_spec cns bs _ rfl
  rw [eucTwDecodeLoop]
  cases hu : eucTwUnit cns bs <;> rw [hu] at h hs
  case done => rw [if_pos hs]
  case illegal => rw [if_neg hs]; rfl
  case incomplete => rw [if_neg hs]; rfl
  all_goals cases h

@[elab_as_elim]
theorem eucTwDecodeLoop_ok_induction {cns : CnsTable} {motive : Nat → List UInt8 → List Nat → Prop}
    (nil : ∀ fuel, motive fuel [] [])
    (char : ∀ fuel bs ch cs, (eucTwUnit cns bs).char? = some ch →
      motive fuel (bs.drop (eucTwUnit cns bs).len) cs → motive (fuel + 1) bs (ch :: cs)) :
    ∀ (fuel i : Nat) (bs : List UInt8) (cs : List Nat), eucTwDecodeLoop cns fuel i bs = .ok cs → motive fuel bs cs := by
  intro fuel
  induction fuel with
  | zero =>
    intro i bs cs h
    cases bs with
    | nil => cases h; exact nil 0
    | cons b rest => cases h
  | succ fuel ih =>
    intro i bs cs h
    cases hc : (eucTwUnit cns bs).char? with
    | none =>
      rw [eucTwDecodeLoop_stop hc] at h
      split at h
      · next hnil => subst hnil; cases h; exact nil _
      · cases h
    | some ch =>
      rw [eucTwDecodeLoop_char hc] at h
      obtain ⟨cs', hrec, rfl⟩ := PyKit.map_eq_ok.1 h
      exact char fuel bs ch cs' hc (ih _ _ _ hrec)

theorem eucTwDecodeLoop_fuel (cns : CnsTable) : ∀ (fuel fuel' i : Nat) (bs : List UInt8), bs.length ≤ fuel → bs.length ≤ fuel' →
    eucTwDecodeLoop cns fuel i bs = eucTwDecodeLoop cns fuel' i bs := by
  intro fuel
  induction fuel with
  | zero =>
    intro fuel' i bs h _
    obtain rfl := List.eq_nil_of_length_eq_zero (Nat.le_zero.1 h)
    cases fuel' <;> rfl
  | succ fuel ih =>
    intro fuel' i bs h h'
    cases fuel' with
    | zero =>
      obtain rfl := List.eq_nil_of_length_eq_zero (Nat.le_zero.1 h')
      rfl
    | succ fuel' =>
      cases hc : (eucTwUnit cns bs).char? with
      | none => rw [eucTwDecodeLoop_stop hc, eucTwDecodeLoop_stop hc]
      | some ch =>
        have hlen := eucTwUnit_length cns bs
        have hpos := EucUnit.len_pos hc
        rw [eucTwDecodeLoop_char hc, eucTwDecodeLoop_char hc, ih fuel' _ _ (by omega) (by omega)]

theorem eucTwDecodeLoop_mem {cns : CnsTable} (fuel i : Nat) (bs : List UInt8) (cs : List Nat)
    (h : eucTwDecodeLoop cns fuel i bs = .ok cs) : ∀ ch ∈ cs, ch ≤ 0x7F ∨ ∃ p r c, cns p r c = some ch := by
  refine eucTwDecodeLoop_ok_induction (motive := fun _ _ cs => ∀ ch ∈ cs, ch ≤ 0x7F ∨ ∃ p r c, cns p r c = some ch)
    (fun _ _ hc => nomatch hc) (fun fuel bs ch cs' hc ih => ?_) fuel i bs cs h
  exact List.forall_mem_cons.2 ⟨eucTwUnit_char_source cns bs ch hc, ih⟩

theorem eucTwCanonical_succ (cns : CnsTable) (inv : CnsInverse) (fuel : Nat) (bs : List UInt8) :
    eucTwCanonical cns inv (fuel + 1) bs =
      ((eucTwUnit cns bs).canonical inv &&
        ((eucTwUnit cns bs).char?.isNone || eucTwCanonical cns inv fuel (bs.drop (eucTwUnit cns bs).len))) := by
  rw [eucTwCanonical]
  cases eucTwUnit cns bs <;> simp [EucUnit.canonical, EucUnit.char?, EucUnit.len]

theorem eucTwCanonical_fuel (cns : CnsTable) (inv : CnsInverse) : ∀ (fuel fuel' : Nat) (bs : List UInt8),
    bs.length ≤ fuel → bs.length ≤ fuel' → eucTwCanonical cns inv fuel bs = eucTwCanonical cns inv fuel' bs := by
  intro fuel
  induction fuel with
  | zero =>
    intro fuel' bs h _
    obtain rfl := List.eq_nil_of_length_eq_zero (Nat.le_zero.1 h)
    cases fuel' <;> rfl
  | succ fuel ih =>
    intro fuel' bs h h'
    cases fuel' with
    | zero =>
      obtain rfl := List.eq_nil_of_length_eq_zero (Nat.le_zero.1 h')
      rfl
    | succ fuel' =>
      rw [eucTwCanonical_succ, eucTwCanonical_succ]
      cases hc : (eucTwUnit cns bs).char? with
      | none => rfl
      | some ch =>
        have hlen := eucTwUnit_length cns bs
        have hpos := EucUnit.len_pos hc
        rw [ih fuel' _ (by omega) (by omega)]

theorem eucTwUnit_canonical_encodes (cns : CnsTable) (inv : CnsInverse) (bs : List UInt8) (ch : Nat)
    (h : (eucTwUnit cns bs).char? = some ch) (hcan : (eucTwUnit cns bs).canonical inv = true) :
    eucTwEncodeChar inv ch = some (eucTwUnit cns bs).bytes := by
  cases hu : eucTwUnit cns bs with
  | done | illegal | incomplete => rw [hu] at h; cases h
  | ascii c =>
    rw [hu] at h; cases h
    obtain ⟨_, _, _, _, hle⟩ := eucTwUnit_ascii cns bs _ hu
    simp only [eucTwEncodeChar, hle, if_true, EucUnit.bytes]
  | two r c ch' =>
    rw [hu] at h hcan; cases h
    simp only [EucUnit.canonical, Bool.and_eq_true, decide_eq_true_eq, beq_iff_eq] at hcan
    -- `canonical` asks `ch > 0x7F`: the encoder writes an ASCII character as one byte, wherever a table may hold it
    have hn : ¬ ch ≤ 0x7F := by omega
    simp only [eucTwEncodeChar, hn, if_false, hcan.2, if_true, EucUnit.bytes]
  | four p r c ch' =>
    rw [hu] at h hcan; cases h
    simp only [EucUnit.canonical, Bool.and_eq_true, decide_eq_true_eq, beq_iff_eq, bne_iff_ne, ne_eq] at hcan
    have hn : ¬ ch ≤ 0x7F := by omega
    simp only [eucTwEncodeChar, hn, if_false, hcan.2, hcan.1.2, EucUnit.bytes]

theorem eucTwEncode_of_decode_canonical (cns : CnsTable) (inv : CnsInverse) (bs : List UInt8) (cs : List Nat)
    (h : eucTwDecode cns bs = .ok cs) (hcan : eucTwCanonical cns inv bs.length bs = true) :
    eucTwEncode inv cs = .ok bs := by
  refine eucTwDecodeLoop_ok_induction
    (motive := fun fuel bs cs => eucTwCanonical cns inv fuel bs = true → ∀ j, eucTwEncodeFrom inv j cs = .ok bs)
    (fun _ _ _ => rfl) (fun fuel bs ch cs hc ih hcan j => ?_) bs.length 0 bs cs h hcan 0
  rw [eucTwCanonical_succ, hc, Bool.and_eq_true] at hcan
  rw [eucTwEncodeFrom, eucTwUnit_canonical_encodes cns inv bs ch hc hcan.1, ih hcan.2 (j + 1)]
  exact congrArg Except.ok (eucTwUnit_split cns bs)

/-! ## the encoder's bytes, read back -/

theorem eucTwUnit_of_two (cns : CnsTable) (r c ch : Nat) (rest : List UInt8) (hr : 0xA1 ≤ r ∧ r ≤ 0xFE) (hc : 0xA1 ≤ c ∧ c ≤ 0xFE)
    (h : cns 1 r c = some ch) : eucTwUnit cns (UInt8.ofNat r :: UInt8.ofNat c :: rest) = .two r c ch := by
  have e1 : (UInt8.ofNat r).toNat = r := UInt8.toNat_ofNat_of_lt' (by show r < 256; omega)
  have e2 : (UInt8.ofNat c).toNat = c := UInt8.toNat_ofNat_of_lt' (by show c < 256; omega)
  simp only [eucTwUnit, e1, e2]
  have n1 : ¬ r ≤ 0x7F := by omega
  have n2 : ¬ ((r ≤ 0xA0 ∧ r ≠ 0x8E) ∨ r > 0xFE) := by omega
  have n3 : ¬ (c < 0xA1 ∨ c = 0xFF) := by omega
  have n4 : ¬ r = 0x8E := by omega
  simp only [n1, n2, n3, n4, if_false, h]

theorem eucTwUnit_of_four (cns : CnsTable) (p r c ch : Nat) (rest : List UInt8) (hp : 1 ≤ p ∧ p ≤ 16)
    (hr : r ≤ 0xFF) (hc : c ≤ 0xFF) (h : cns p r c = some ch) :
    eucTwUnit cns (0x8E :: UInt8.ofNat (0xA0 + p) :: UInt8.ofNat r :: UInt8.ofNat c :: rest) = .four p r c ch := by
  have e0 : (0x8E : UInt8).toNat = 0x8E := rfl
  have e1 : (UInt8.ofNat (0xA0 + p)).toNat = 0xA0 + p := UInt8.toNat_ofNat_of_lt' (by show 0xA0 + p < 256; omega)
  have e2 : (UInt8.ofNat r).toNat = r := UInt8.toNat_ofNat_of_lt' (Nat.lt_succ_of_le hr)
  have e3 : (UInt8.ofNat c).toNat = c := UInt8.toNat_ofNat_of_lt' (Nat.lt_succ_of_le hc)
  simp only [eucTwUnit, e0, e1, e2, e3]
  have n1 : ¬ (0xA0 + p < 0xA1 ∨ 0xA0 + p = 0xFF) := by omega
  have n2 : ¬ 0xA0 + p > 0xB0 := by omega
  have n3 : 0xA0 + p - 0xA0 = p := by omega
  simp only [n1, n2, n3, if_false, h]
  simp

theorem eucTwUnit_of_ascii (cns : CnsTable) (c : Nat) (rest : List UInt8) (hc : c ≤ 0x7F) :
    eucTwUnit cns (UInt8.ofNat c :: rest) = .ascii c := by
  have e1 : (UInt8.ofNat c).toNat = c := UInt8.toNat_ofNat_of_lt' (by show c < 256; omega)
  simp only [eucTwUnit, e1, hc, if_true]

theorem isTag_of_ascii {c : Nat} (h : c ≤ 0x7F) : isTag c = false := by
  simp only [isTag, beq_eq_false_iff_ne, ne_eq]
  omega

theorem eucTwEncodeChar_of_inv {inv : CnsInverse} {ch p r c : Nat} (hch : 0x7F < ch) (h : inv ch = some (p, r, c)) :
    eucTwEncodeChar inv ch =
      some (if p = 1 then [UInt8.ofNat r, UInt8.ofNat c] else [0x8E, UInt8.ofNat (0xA0 + p), UInt8.ofNat r, UInt8.ofNat c]) := by
  simp only [eucTwEncodeChar, Nat.not_le_of_lt hch, if_false, h]
  split <;> rfl

/-- `inv` names, for each character it knows, a cell of `cns` that holds the character and that EUC-TW can spell; it knows no
    TAG character, those being the ones the encoder is taken to drop -/
def InvNamesCells (cns : CnsTable) (inv : CnsInverse) : Prop :=
  ∀ ch p r c, inv ch = some (p, r, c) →
    isTag ch = false ∧ cns p r c = some ch ∧ (0xA1 ≤ r ∧ r ≤ 0xFE) ∧ (0xA1 ≤ c ∧ c ≤ 0xFE) ∧ (1 ≤ p ∧ p ≤ 16)

section
variable {cns : CnsTable} {inv : CnsInverse} (hinv : InvNamesCells cns inv)
include hinv

theorem eucTwEncodeChar_parses (c : Nat) (w : List UInt8) (h : eucTwEncodeChar inv c = some w) (rest : List UInt8) :
    (w = [] ∧ isTag c = true) ∨
    (isTag c = false ∧ (eucTwUnit cns (w ++ rest)).char? = some c ∧ (eucTwUnit cns (w ++ rest)).len = w.length) := by
  by_cases hle : c ≤ 0x7F
  · simp only [eucTwEncodeChar, hle, if_true, Option.some.injEq] at h
    subst h
    refine .inr ⟨isTag_of_ascii hle, ?_⟩
    rw [List.cons_append, List.nil_append, eucTwUnit_of_ascii cns c rest hle]
    exact ⟨rfl, rfl⟩
  · cases hpos : inv c with
    | none =>
      simp only [eucTwEncodeChar, hle, if_false, hpos] at h
      split at h
      · next htag => cases h; exact .inl ⟨rfl, htag⟩
      · cases h
    | some pos =>
      obtain ⟨p, r, k⟩ := pos
      obtain ⟨hnt, hcns, hr, hk, hp⟩ := hinv c p r k hpos
      rw [eucTwEncodeChar_of_inv (Nat.lt_of_not_le hle) hpos] at h
      cases h
      refine .inr ⟨hnt, ?_⟩
      by_cases hp1 : p = 1
      · subst hp1
        rw [if_pos rfl, List.cons_append, List.cons_append, List.nil_append, eucTwUnit_of_two cns r k c rest hr hk hcns]
        exact ⟨rfl, rfl⟩
      · rw [if_neg hp1]
        simp only [List.cons_append, List.nil_append]
        rw [eucTwUnit_of_four cns p r k c rest hp (by omega) (by omega) hcns]
        exact ⟨rfl, rfl⟩

theorem eucTwDecodeLoop_of_encodeFrom : ∀ (cs : List Nat) (fuel i j : Nat) (bs : List UInt8),
    eucTwEncodeFrom inv j cs = .ok bs → bs.length ≤ fuel →
    eucTwDecodeLoop cns fuel i bs = .ok (cs.filter fun c => !isTag c) := by
  intro cs
  induction cs with
  | nil =>
    intro fuel i j bs h _
    cases h
    cases fuel <;> rfl
  | cons c cs ih =>
    intro fuel i j bs h hf
    rw [eucTwEncodeFrom] at h
    cases hc : eucTwEncodeChar inv c with
    | none => rw [hc] at h; cases h
    | some w =>
      rw [hc] at h
      obtain ⟨bs', hrec, rfl⟩ := PyKit.map_eq_ok.1 h
      rw [List.length_append] at hf
      rcases eucTwEncodeChar_parses hinv c w hc bs' with ⟨rfl, htag⟩ | ⟨hnt, hch, hlen⟩
      · rw [List.filter_cons, htag]
        exact ih fuel i (j + 1) bs' hrec (by simpa using hf)
      · have hpos := EucUnit.len_pos hch
        obtain ⟨f, rfl⟩ : ∃ f, fuel = f + 1 := ⟨fuel - 1, by omega⟩
        rw [eucTwDecodeLoop_char hch, hlen, List.drop_left, ih f _ (j + 1) bs' hrec (by omega), List.filter_cons, hnt]
        rfl

theorem eucTwDecode_of_encode (cs : List Nat) (bs : List UInt8) (h : eucTwEncode inv cs = .ok bs) :
    eucTwDecode cns bs = .ok (cs.filter fun c => !isTag c) :=
  eucTwDecodeLoop_of_encodeFrom hinv cs bs.length 0 0 bs h (Nat.le_refl _)

end

theorem eucTwDecodeLoop_error_pos (cns : CnsTable) : ∀ (fuel i : Nat) (bs : List UInt8) (s : Nat) (k : Bool),
    eucTwDecodeLoop cns fuel i bs = .error (s, k) → i ≤ s ∧ s < i + bs.length := by
  intro fuel
  induction fuel with
  | zero =>
    intro i bs s k h
    cases bs with
    | nil => cases h
    | cons b rest => cases h; exact ⟨Nat.le_refl _, Nat.lt_add_of_pos_right (Nat.zero_lt_succ _)⟩
  | succ fuel ih =>
    intro i bs s k h
    cases hc : (eucTwUnit cns bs).char? with
    | none =>
      rw [eucTwDecodeLoop_stop hc] at h
      split at h
      · cases h
      · next hne => cases h; exact ⟨Nat.le_refl _, Nat.lt_add_of_pos_right (List.length_pos_iff.2 hne)⟩
    | some ch =>
      rw [eucTwDecodeLoop_char hc, PyKit.map_eq_error] at h
      have := ih _ _ _ _ h
      have := eucTwUnit_length cns bs
      omega

open I18n.Generated.Charset (eucTwDecodeFacts eucTwEncodeFacts)

def toBytes (l : List Nat) : List UInt8 := l.map UInt8.ofNat

/-- the tables agree with what the system iconv answered for the dumped units and characters -/
structure AgreesWithIconv (cns : CnsTable) (inv : CnsInverse) : Prop where
  dec : ∀ f ∈ eucTwDecodeFacts, eucTwDecode cns (toBytes f.1) = .ok [f.2]
  enc : ∀ f ∈ eucTwEncodeFacts, eucTwEncode inv [f.1] = .ok (toBytes f.2)

/-- the canonical form `8E A2 A4 A1` the dumped facts mention does round-trip -/
theorem eucTw_canonical_nonvacuous (cns : CnsTable) (inv : CnsInverse) (h : AgreesWithIconv cns inv) :
    eucTwEncode inv [0x5FE3] = .ok [0x8E, 0xA2, 0xA4, 0xA1] ∧ eucTwDecode cns [0x8E, 0xA2, 0xA4, 0xA1] = .ok [0x5FE3] :=
  ⟨h.enc (24547, [142, 162, 164, 161]) (by decide), h.dec ([142, 162, 164, 161], 24547) (by decide)⟩

end I18n.Charset
