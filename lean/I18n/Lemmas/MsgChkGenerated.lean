import I18n.Generated.MsgChk
import I18n.Lemmas.MsgFlagsLoop
import I18n.Lemmas.MsgFlagRules
import I18n.Lemmas.PyKitLemmas
/-!
# `Checker._check_message_flags` regenerated = `Msg.checkMessageFlags`

`I18n.Generated.MsgChk` is rewritten by `tools/translate/msgchk2lean.py` from the current source on every run.  The generated method keeps
`format_flags` as the nested dictionary of the source (`defaultdict(dict)`), the model as one flat association list keyed by
`(kind, format)`: the loop invariant relates the two (`NestedIsFlat`).
-/
-- some simp lemmas below fire only on another spelling of the same source (a comparison turned round, a literal set in another order)
set_option linter.unusedSimpArgs false
namespace I18n.Msg.Gen
open I18n I18n.Msg I18n.Generated
open I18n.Tags (Str lit Extra)
open I18n.Spec.MessageRules (flagKind)

/-- forget which exception it was -/
def erase {α : Type} : Except Py.Exc α → Except Unit α
  | .ok v => .ok v
  | .error _ => .error ()

@[simp] theorem erase_ok {α : Type} (v : α) : erase (.ok v : Except Py.Exc α) = .ok v := rfl
@[simp] theorem erase_error {α : Type} (e : Py.Exc) : erase (.error e : Except Py.Exc α) = .error () := rfl

theorem eq_ok_of_erase {α : Type} {a : Except Py.Exc α} {v : α} (h : erase a = .ok v) : a = .ok v := by
  cases a with
  | error e => cases h
  | ok w => injection h with h; rw [h]

/-! ### nested vs flat `format_flags` -/

abbrev Nested := List (Str × List (Str × Str))
abbrev Flat := List ((Str × Str) × Str)

/-- `format_flags[tp]` of the nested dictionary is the model's `formatFlagsOf flat tp`, for every kind -/
def NestedIsFlat (ff : Nested) (flat : Flat) : Prop := ∀ tp, MsgPy.ddGet ff tp = formatFlagsOf flat tp

theorem ddGet_dictSet {κ ν : Type} [DecidableEq κ] [Inhabited ν] (k : κ) (v : ν) (d : List (κ × ν)) (k' : κ) :
    MsgPy.ddGet (MsgPy.dictSet k v d) k' = if k' = k then v else MsgPy.ddGet d k' := by
  unfold MsgPy.ddGet MsgPy.dictSet
  by_cases h : k' = k
  · subst h; simp [assocGet_assocSet_self]
  · simp [h, assocGet_assocSet_ne h]

/-- `format_flags[tp][sf] = flag` on the flat dictionary, read kind by kind -/
theorem formatFlagsOf_assocSet (tp sf flag tp' : Str) (flat : Flat) :
    formatFlagsOf (assocSet (tp, sf) flag flat) tp' =
      if tp' = tp then assocSet sf flag (formatFlagsOf flat tp) else formatFlagsOf flat tp' := by
  induction flat with
  | nil => by_cases h : tp = tp' <;> simp [assocSet, formatFlagsOf, h, eq_comm (a := tp')]
  | cons p flat ih =>
    obtain ⟨⟨t, s⟩, fl⟩ := p
    unfold formatFlagsOf at ih ⊢
    by_cases hk : (t, s) = (tp, sf)
    · obtain ⟨rfl, rfl⟩ := Prod.mk.inj hk
      by_cases h : t = tp' <;> simp [assocSet, h, eq_comm (a := tp')]
    · rw [assocSet, if_neg hk]
      by_cases h : tp' = tp
      · subst h
        rw [if_pos rfl] at ih ⊢
        by_cases ht : t = tp'
        · -- the head is of the kind written, under another key (`hk`): it stays in front
          have hs : s ≠ sf := fun e => hk (by rw [ht, e])
          simp [assocSet, ht, hs, ih]
        · simp [ht, ih]
      · rw [if_neg h] at ih ⊢
        by_cases ht : t = tp' <;> simp [ht, ih]

theorem NestedIsFlat.set (ff : Nested) (flat : Flat) (h : NestedIsFlat ff flat) (tp sf flag : Str) :
    NestedIsFlat (MsgPy.dictSet tp (MsgPy.dictSet sf flag (MsgPy.ddGet ff tp)) ff) (assocSet (tp, sf) flag flat) := by
  intro tp'
  rw [ddGet_dictSet, formatFlagsOf_assocSet, h, h]

/-! ### the prefix loop of the `-format` branch -/

theorem forEachBrk_classify (env : FlagEnv) (flag : Str) (body : Str → Bool × Nested → Except Py.Exc (PyKit.Step (Bool × Nested)))
    (hb : ∀ p known ff, body p (known, ff) =
      if (!startsWith p flag) = true then .ok (.next (known, ff))
      else if env.isFormat (sliceTo flag p.length 7) = true then
        .ok (.brk (true, MsgPy.dictSet (rstrip [45] p) (MsgPy.dictSet (sliceTo flag p.length 7) flag (MsgPy.ddGet ff (rstrip [45] p))) ff))
      else .ok (.next (known, ff)))
    (ps : List Str) (known : Bool) (ff : Nested) :
    PyKit.forEachBrk ps body (known, ff) =
      .ok (match classifyFormat env flag ps with
        | some (tp, sf) => (true, MsgPy.dictSet tp (MsgPy.dictSet sf flag (MsgPy.ddGet ff tp)) ff)
        | none => (known, ff)) := by
  induction ps with
  | nil => rfl
  | cons p ps ih =>
    simp only [PyKit.forEachBrk_cons, classifyFormat, hb]
    by_cases h1 : (!startsWith p flag) = true
    · simp only [h1, if_true, ih]
    · simp only [h1, if_false, Bool.false_eq_true]
      by_cases h2 : env.isFormat (sliceTo flag p.length 7) = true
      · simp only [h2, if_true]
      · simp only [h2, if_false, Bool.false_eq_true, ih]

/-! ### the loop over `sorted(flags.items())` -/

/-- the loop-carried variables of the generated loop: `(out, fuzzy, wrap, i, j, range_min, range_max, range_flags, format_flags)`, in the
    order the translator gives them (by first assignment in the loop body); `StateRel` projects by position -/
abbrev GSt := List Emit × Bool × Option Bool × Option Nat × Option Nat × Nat × Option Nat × List ((Nat × Nat) × List (Str × Nat)) × Nested

/-- the generated state agrees with the model's (`i`, `j` — bound on some paths only — are not constrained) -/
def StateRel (out0 : List Emit) (st : FSt) (g : GSt) : Prop :=
  g.1 = out0 ++ st.out ∧ g.2.1 = st.fuzzy ∧ g.2.2.1 = st.wrap ∧ g.2.2.2.2.2.1 = st.rangeMin ∧ g.2.2.2.2.2.2.1 = st.rangeMax ∧
  g.2.2.2.2.2.2.2.1 = st.rangeFlags ∧ NestedIsFlat g.2.2.2.2.2.2.2.2 st.formatFlags

theorem StateRel.unpack {out0 : List Emit} {st : FSt} {g : GSt} (h : StateRel out0 st g) :
    ∃ i j ff, g = (out0 ++ st.out, st.fuzzy, st.wrap, i, j, st.rangeMin, st.rangeMax, st.rangeFlags, ff) ∧ NestedIsFlat ff st.formatFlags := by
  obtain ⟨o, fz, w, i, j, rmin, rmax, rf, ff⟩ := g
  obtain ⟨h1, h2, h3, h4, h5, h6, h7⟩ := h
  simp only at h1 h2 h3 h4 h5 h6
  subst h1 h2 h3 h4 h5 h6
  exact ⟨i, j, ff, rfl, h7⟩

/-! ### facts about the model's loop that make the partial operations of the source total -/

/-- what the text after the loop needs of the loop's final state: distinct range keys, only known formats among the positive format
    flags, no exception among the calls emitted -/
def LoopFacts (env : FlagEnv) (st : FSt) : Prop :=
  (keysOf st.rangeFlags).Nodup ∧ (∀ k ∈ keysOf (formatFlagsOf st.formatFlags []), env.isFormat k = true) ∧ noCrash st.out = true

/-- `LoopFacts` holds when the loop over the sorted flags is done: read off the loop's closed form -/
theorem loopFacts_final (env : FlagEnv) (e : Entry) : LoopFacts env (flagLoop env e {} (sortedFlagItems e.flags)) := by
  obtain ⟨hout, hff, hrf, -⟩ := flagLoop_sorted env e
  refine ⟨?_, fun k hk => ?_, ?_⟩
  · rw [hrf]
    exact rangeDict_nodup ..
  · obtain ⟨p, hp, hpk⟩ := List.mem_map.1 ((mem_keysOf_formatFlagsOf _ _ _).1 hk)
    rw [hff] at hp
    rcases mem_formatDict env p _ [] hp with h | h
    · cases h
    · obtain ⟨_, _, _, _, hf, _⟩ := classifyFormat_some (flagKind_format h).2
      rwa [hpk] at hf
  · rw [hout]
    exact noCrash_flatMap fun f _ => noCrash_perFlag ..

/-- the literals of the source the model takes from its environment: the five for which `FlagEnv` has a field; every other literal of
    the method (`'fuzzy'`, `'wrap'`, `'-format'`, `'markdown-text'`, the lengths `6`, `7`) is a literal in the model too -/
structure SrcEnv (env : FlagEnv) : Prop where
  prefixes : env.prefixes = MsgChk.loop_const_1
  pairs : env.conflictPairs = MsgChk.loop_const_2
  rangePrefix : env.rangePrefix = lit "range:"
  rangeStrip : env.rangeStrip = lit " \t\r\x0c\x0b"
  rangeSep : env.rangeSep = lit ".."

/-- a loop with a second loop-carried variable that every iteration overwrites -/
theorem forEach_emit_junk {α σ : Type} (f : α → List Emit) (body : α → List Emit × σ → Except Py.Exc (List Emit × σ)) (xs : List α)
    (hb : ∀ x ∈ xs, ∀ out s, ∃ s', body x (out, s) = .ok (out ++ f x, s')) (out : List Emit) (s : σ) :
    ∃ s', PyKit.forEach xs body (out, s) = .ok (out ++ xs.flatMap f, s') := by
  -- the model threads the output alone, by `w ↦ w ++ f x`; the related states are those whose first component is that output
  let step (w : List Emit) (x : α) := w ++ f x
  have hstep : ∀ x ∈ xs, ∀ (w : List Emit) (p : List Emit × σ), p.1 = w → ∃ p', body x p = .ok p' ∧ p'.1 = step w x := by
    rintro x hx w ⟨o, s⟩ rfl
    obtain ⟨s', e⟩ := hb x hx o s
    exact ⟨_, e, rfl⟩
  obtain ⟨⟨o, s'⟩, h, rfl⟩ := PyKit.forEach_rel (g := fun xs w => xs.foldl step w) (fun _ => rfl) (fun _ _ _ => rfl) xs out (out, s) hstep rfl
  exact ⟨s', by rw [h, PyKit.foldl_append_flatMap]⟩

theorem dictGet_of_mem (d : List (Str × Str)) (k : Str) (h : k ∈ keysOf d) :
    PyKit.dictGet d k = .ok ((assocGet k d).getD []) := by
  -- not `assocGet_eq_lookup`: that one is about the `BEq` which `DecidableEq` gives, `PyKit.dictGet` compares by `List Char`'s own
  rw [PyKit.dictGet_eq_lookup, Kit.eq_lookup (g := fun d k => assocGet k d) (fun _ => rfl) (fun _ _ _ _ => rfl)]
  obtain ⟨v, hv⟩ := Option.isSome_iff_exists.1 (Kit.isSome_lookup.2 h)
  rw [hv]
  rfl

theorem examplesOf_known (env : FlagEnv) (f : Str) (h : env.isFormat f = true) : MsgPy.examplesOf env f = .ok (env.examples f) := by
  have hm : f ∈ keysOf env.formats := by
    obtain ⟨p, hp, e⟩ := List.any_eq_true.1 h
    exact List.mem_map.2 ⟨p, hp, of_decide_eq_true e⟩
  obtain ⟨v, hv⟩ := Option.isSome_iff_exists.1 ((assocGet_isSome_iff f env.formats).2 hm)
  simp only [MsgPy.examplesOf, FlagEnv.examples, hv]
  rfl

theorem filter_isEmpty {α : Type} (p : α → Bool) (l : List α) : (l.filter p).isEmpty = !l.any p := by
  induction l with
  | nil => rfl
  | cons x l ih => cases h : p x <;> simp [List.filter_cons, h, ih]

/-- a loop that emits one value per element, where the value may be an exception leaving the method -/
theorem forEach_map_crash {α : Type} (g : α → Emit) (body : α → List Emit → Except Py.Exc (List Emit)) (xs : List α)
    (hb : ∀ x ∈ xs, ∀ out, (noCrash [g x] = true → body x out = .ok (out ++ [g x])) ∧ (noCrash [g x] = false → ∃ e, body x out = .error e))
    (out : List Emit) :
    erase (PyKit.forEach xs body out) = if noCrash (xs.map g) = true then .ok (out ++ xs.map g) else .error () := by
  induction xs generalizing out with
  | nil => simp [PyKit.forEach, noCrash]
  | cons x xs ih =>
    obtain ⟨h1, h2⟩ := hb x (by simp) out
    have hxs : ∀ y ∈ xs, ∀ out, (noCrash [g y] = true → body y out = .ok (out ++ [g y])) ∧ (noCrash [g y] = false → ∃ e, body y out = .error e) :=
      fun y hy => hb y (by simp [hy])
    have hsplit : noCrash (List.map g (x :: xs)) = (noCrash [g x] && noCrash (xs.map g)) := by
      rw [List.map_cons, show g x :: xs.map g = [g x] ++ xs.map g from rfl, noCrash_append]
    rw [hsplit]
    cases hc : noCrash [g x]
    · obtain ⟨e, he⟩ := h2 hc
      simp [PyKit.forEach, he]
    · simp only [PyKit.forEach, h1 hc, ih hxs, Bool.true_and]
      split <;> simp [List.append_assoc]

/-- the emissions contain an exception leaving the method -/
def hasCrash (l : List Emit) : Bool := l.any fun x => match x with | .crash _ => true | _ => false

/-- `GSt` inside the `if / elif` chain over the flag, with the two locals `n`, `known_flag` the chain sets (again in the translator's
    order: `BranchRel` names the components by position) -/
abbrev GBr := List Emit × Bool × Option Bool × Option Nat × Option Nat × Nat × Option Nat × List ((Nat × Nat) × List (Str × Nat)) × Nat × Bool × Nested

/-- the generated `if / elif` chain yields `known_flag`, `n` and the state as `flagBranch` computes them -/
def BranchRel (out0 : List Emit) (b : Bool × Nat × FSt) : GBr → Prop
  | (o, fz, w, i, j, rmin, rmax, rf, n, known, ff) => known = b.1 ∧ n = b.2.1 ∧ StateRel out0 b.2.2 (o, fz, w, i, j, rmin, rmax, rf, ff)

theorem check_message_flags_eq (env : FlagEnv) (henv : SrcEnv env) (e : Entry) (out0 : List Emit) :
    erase (MsgChk.check_message_flags env out0 e) =
      if noCrash (checkMessageFlags env e).2 = true then
        .ok (((checkMessageFlags env e).1.fuzzy, (checkMessageFlags env e).1.rangeMin, (checkMessageFlags env e).1.rangeMax,
               keysOf (formatFlagsOf (flagLoop env e {} (sortedFlagItems e.flags)).formatFlags [])),
             out0 ++ (checkMessageFlags env e).2)
      else .error () := by
  unfold_generated_msgchk
  generalize hfe : PyKit.forEach (sortedFlagItems e.flags) _ _ = r
  have hloop : ∃ g', r = .ok g' ∧ StateRel out0 (flagLoop env e {} (sortedFlagItems e.flags)) g' := by
    rw [← hfe]
    clear hfe
    refine PyKit.forEach_rel (R := StateRel out0) (step := fun st x => flagStep env e st x.1 x.2) (g := fun items st => flagLoop env e st items)
      (fun _ => rfl) (fun _ _ _ => rfl) _ {} _ ?hb ⟨by simp, rfl, rfl, rfl, rfl, rfl, fun tp => rfl⟩
    intro x _ st g hR
    obtain ⟨flag, n⟩ := x
    obtain ⟨i, j, ff, rfl, h7⟩ := hR.unpack
    generalize hbr : (if decide (flag = lit "fuzzy") = true then _ else _) = rb
    have hbranch : ∃ gb, rb = .ok gb ∧ BranchRel out0 (flagBranch env e st flag n) gb := by
      rw [← hbr]
      clear hbr
      have hstrip : MsgPy.strip (lit " \t\x0d\x0c\x0b") (List.drop 6 flag) = strip env.rangeStrip (flag.drop env.rangePrefix.length) := by
        rw [henv.rangeStrip, henv.rangePrefix]; rfl
      simp only [flagBranch, parseRange, formatSuffix, hstrip, henv.rangeSep, henv.rangePrefix, MsgPy.startswith, MsgPy.endswith, PyKit.ite_ok, PyKit.bound,
        decide_eq_true_eq, List.contains_cons, List.contains_nil, Bool.or_false, Bool.or_eq_true, beq_iff_eq]
      by_cases c1 : flag = lit "fuzzy"
      · exact ⟨_, by rw [if_pos c1], by simp [BranchRel, StateRel, c1, h7]⟩
      simp only [c1, if_false]
      by_cases c2 : flag = lit "wrap" ∨ flag = lit "no-wrap"
      · simp only [c2, if_true]
        refine ⟨_, rfl, ?_⟩
        by_cases hw : st.wrap = some (!decide (flag = lit "wrap")) <;> simp [BranchRel, StateRel, hw, h7, tagR, tplColon]
      simp only [c2, if_false]
      by_cases c3 : startsWith (lit "range:") flag = true
      · simp only [c3, if_true]
        cases hm : matchRange (lit "..") (strip env.rangeStrip (flag.drop (lit "range:").length)) with
        | none =>
          exact ⟨_, rfl, by cases hpl : e.msgidPlural <;> simp [BranchRel, StateRel, h7, tagR, tplColon]⟩
        | some ab =>
          by_cases hab : ab.1 < ab.2
          · simp only [hab, if_true]
            exact ⟨_, rfl, by cases hpl : e.msgidPlural <;> simp [BranchRel, StateRel, h7, rangeAdd, MsgPy.ddGet, MsgPy.dictSet] <;> rfl⟩
          · simp only [hab, if_false]
            exact ⟨_, rfl, by cases hpl : e.msgidPlural <;> simp [BranchRel, StateRel, h7, tagR, tplColon]⟩
      simp only [c3, Bool.false_eq_true, if_false]
      by_cases c4 : endsWith (lit "-format") flag = true
      · simp only [c4, if_true]
        rw [forEachBrk_classify env flag _ (fun p known ff => by simp only [MsgPy.startswith, MsgPy.rstrip, show lit "-" = [45] by decide, PyKit.ite_ok]),
          ← henv.prefixes]
        cases hc : classifyFormat env flag env.prefixes with
        | none => exact ⟨_, rfl, by simp [BranchRel, StateRel, h7]⟩
        | some ts => exact ⟨_, rfl, by simp [BranchRel, StateRel, NestedIsFlat.set ff st.formatFlags h7 ts.1 ts.2 flag]⟩
      · simp only [c4, Bool.false_eq_true, if_false]
        exact ⟨_, rfl, by by_cases c5 : flag = lit "markdown-text" <;> simp [BranchRel, StateRel, c5, h7]⟩
    obtain ⟨⟨o', fz', w', i', j', rmin', rmax', rf', n', known', ff'⟩, rfl, hk, hn, hR⟩ := hbranch
    clear hbr
    rw [flagStep_eq, ← hk, ← hn]
    revert hR
    generalize (flagBranch env e st flag n).2.2 = st'
    intro hR
    obtain ⟨_, _, _, ⟨⟩, h7'⟩ := hR.unpack
    simp only [PyKit.ite_ok]
    refine ⟨_, rfl, ?_⟩
    have hd : (decide (n' > 1) && !flag.isEmpty) = decide (n' > 1 ∧ flag ≠ []) := by
      cases flag <;> simp
    -- after the branch: `unknown-message-flag` when no branch knew the flag, `duplicate-message-flag` when it is listed twice; the rule
    -- set's `rule` adds the same two, in this order
    cases known' <;> by_cases hdup : n' > 1 ∧ flag ≠ [] <;> simp [StateRel, addOut, Spec.MessageRules.rule, hd, hdup, h7', tagR]
  obtain ⟨g', hr, hR⟩ := hloop
  subst hr
  clear hfe
  have hP := loopFacts_final env e
  unfold checkMessageFlags
  revert hR hP
  generalize flagLoop env e {} (sortedFlagItems e.flags) = st
  intro hR hP
  obtain ⟨i, j, ff, rfl, h7⟩ := hR.unpack
  obtain ⟨hnd, hknown, hnc⟩ := hP
  simp only []
  -- several `range:` flags: `heapq.nsmallest(2, …)` against the model's two smallest keys; one: its counts summed
  generalize hA : (if decide (st.rangeFlags.length > 1) = true then _ else _) = rA
  have hA' : rA = .ok (out0 ++ st.out ++ rangeTail env e st.rangeFlags) := by
    rw [← hA]
    clear hA
    have hlen : (toSorted pairLt (keysOf st.rangeFlags)).length = st.rangeFlags.length := by
      rw [length_toSorted_of_nodup _ _ hnd]; simp [keysOf]
    revert hlen
    generalize st.rangeFlags = rf
    intro hlen
    rcases rf with _ | ⟨⟨k, c⟩, _ | ⟨q, rest⟩⟩
    · simp [rangeTail]
    · by_cases hs : (c.map (·.2)).sum > 1 <;> simp [rangeTail, MsgPy.values, hs, tagR, PyKit.keys, keysOf]
    · have hk : PyKit.keys ((k, c) :: q :: rest) = keysOf ((k, c) :: q :: rest) := rfl
      rcases hts : toSorted pairLt (keysOf ((k, c) :: q :: rest)) with _ | ⟨r1, _ | ⟨r2, more⟩⟩
      · simp [hts] at hlen
      · simp [hts] at hlen
      · simp [rangeTail, MsgPy.nsmallest2, hk, hts, tagR, MsgPy.ddGet]
        -- what is left compares the kit's `PyKit.keys (… .getD default)` with the model's `keysOf (… .getD [])`, for each of the two keys
        exact ⟨rfl, rfl⟩
  subst hA'
  clear hA
  have h7' : ∀ tp, MsgPy.ddGet ff tp = formatFlagsOf st.formatFlags tp := h7
  simp only [h7']
  generalize hpos : formatFlagsOf st.formatFlags [] = pos at hknown ⊢
  have hkp : ∀ k ∈ toSorted strLt (keysOf pos), env.isFormat k = true := fun k hk => hknown k ((mem_toSorted (lt := strLt)).1 hk)
  -- pairs of positive format flags without a common example: two nested loops that cannot fail, each a `flatMap`
  generalize hB : PyKit.forEach (MsgPy.sortedItems pos) _ _ = rB
  have hB' : rB = .ok (out0 ++ st.out ++ rangeTail env e st.rangeFlags ++ positivePairs env e pos) := by
    rw [← hB]
    clear hB
    unfold positivePairs MsgPy.sortedItems
    rw [PyKit.forEach_emit (fun x => (toSorted strLt (keysOf pos)).flatMap fun f2 =>
        if !strLt x.1 f2 then [] else if shareExample env x.1 f2 then [] else
          [tagR env.db e tplColon .conflictingMessageFlags [.str x.2, .str ((assocGet f2 pos).getD [])]]) _ _ ?hb1]
    case hb1 =>
      intro x hx o
      obtain ⟨k1, hk1, rfl⟩ := List.mem_map.1 hx
      rw [PyKit.forEach_emit (fun y => if !strLt k1 y.1 then [] else if shareExample env k1 y.1 then [] else
          [tagR env.db e tplColon .conflictingMessageFlags [.str ((assocGet k1 pos).getD []), .str y.2]]) _ _ ?hb2]
      case hb2 =>
        intro y hy o2
        obtain ⟨k2, hk2, rfl⟩ := List.mem_map.1 hy
        simp only [examplesOf_known env k1 (hkp k1 hk1), examplesOf_known env k2 (hkp k2 hk2), PyKit.setInter, filter_isEmpty, Bool.not_not,
          PyKit.ite_ok, tagR, ← PyKit.ite_tail_append]
        rfl
      simp only [List.flatMap_map]
      rfl
    simp only [List.flatMap_map]
    rfl
  subst hB'
  clear hB
  simp only []
  -- positive against negative kinds; `sorted(frozenset(a) & frozenset(b))` is the model's `commonKeys a b` as it stands
  generalize hC : PyKit.forEach MsgChk.loop_const_2 _ _ = rC
  obtain ⟨s', hC'⟩ : ∃ s', rC = .ok (out0 ++ st.out ++ rangeTail env e st.rangeFlags ++ positivePairs env e pos ++ conflictLoop env e st.formatFlags, s') := by
    rw [← hC]
    clear hC
    unfold conflictLoop
    rw [henv.pairs]
    refine forEach_emit_junk (fun (pn : Str × Str) => (commonKeys (formatFlagsOf st.formatFlags pn.1) (formatFlagsOf st.formatFlags pn.2)).map fun f =>
        tagR env.db e tplColon .conflictingMessageFlags [.str ((assocGet f (formatFlagsOf st.formatFlags pn.1)).getD []),
          .str ((assocGet f (formatFlagsOf st.formatFlags pn.2)).getD [])]) _ _ ?hbc _ _
    intro x hx o s
    rw [PyKit.forEach_emit (fun f => [tagR env.db e tplColon .conflictingMessageFlags [.str ((assocGet f (formatFlagsOf st.formatFlags x.1)).getD []),
          .str ((assocGet f (formatFlagsOf st.formatFlags x.2)).getD [])]]) _ _ ?hbi]
    case hbi =>
      intro f hf o2
      obtain ⟨h1, h2⟩ := (mem_commonKeys _ _ f).1 hf
      simp only [dictGet_of_mem _ _ h1, dictGet_of_mem _ _ h2, tagR]
    simp only []
    refine ⟨formatFlagsOf st.formatFlags x.1, ?_⟩
    simp only [commonKeys, MsgPy.sortedSet, PyKit.setInter, PyKit.keys, keysOf, ← List.map_eq_flatMap]
  subst hC'
  clear hC
  simp only []
  -- `possible-<fmt>-format` next to `<fmt>-format`: the one place an exception can come from (`safe_format` of the interpolated text)
  generalize hposs : formatFlagsOf st.formatFlags (lit "possible") = poss
  generalize hfd : PyKit.forEach (MsgPy.sortedSet (PyKit.setInter (PyKit.keys pos) (PyKit.keys poss))) _ _ = rD
  have hD' : erase rD = if noCrash (redundantLoop env e st.formatFlags) = true then
      .ok (out0 ++ st.out ++ rangeTail env e st.rangeFlags ++ positivePairs env e pos ++ conflictLoop env e st.formatFlags ++
        redundantLoop env e st.formatFlags) else .error () := by
    have hred : redundantLoop env e st.formatFlags =
        List.map (fun f => match impliedBy ((assocGet f pos).getD []) with
          | .ok s => tagR env.db e tplColon .redundantMessageFlag [.str ((assocGet f poss).getD []), .safe s]
          | .error err => Emit.crash (.format err)) (MsgPy.sortedSet (PyKit.setInter (PyKit.keys pos) (PyKit.keys poss))) := by
      unfold redundantLoop
      simp only [hpos, hposs]
      rfl
    rw [← hfd, hred]
    refine forEach_map_crash _ _ _ ?hbd _
    intro f hf o
    obtain ⟨h1, h2⟩ := (mem_commonKeys _ _ f).1 hf
    simp only [dictGet_of_mem _ _ h1, dictGet_of_mem _ _ h2, MsgPy.safeFormat, impliedBy]
    cases Tags.pyFormat (lit "(implied by " ++ (assocGet f pos).getD [] ++ lit ")") [] [] with
    | ok s => simp [noCrash, tagR]
    | error err => simp [noCrash]
  clear hfd
  have hnc' : noCrash (st.out ++ rangeTail env e st.rangeFlags ++ positivePairs env e pos ++ conflictLoop env e st.formatFlags ++
      redundantLoop env e st.formatFlags) = noCrash (redundantLoop env e st.formatFlags) := by
    simp only [noCrash_append, hnc, noCrash_rangeTail, noCrash_positivePairs, noCrash_conflictLoop, Bool.true_and]
  rw [hnc']
  revert hD'
  generalize redundantLoop env e st.formatFlags = red
  intro hD'
  cases hcr : noCrash red
  · -- a crash among the redundant-flag emissions: the loop raised (`hD'`), and so does the method
    rw [hcr, if_neg Bool.false_ne_true] at hD'
    rw [if_neg Bool.false_ne_true]
    cases rD with
    | error err => rfl
    | ok o => cases hD'
  · -- none: the loop returned what the model lists; `PyKit.keys` and `keysOf` are the same function
    rw [hcr, if_pos rfl] at hD'
    rw [if_pos rfl, eq_ok_of_erase hD']
    simp only [erase_ok, List.append_assoc]
    rfl

theorem check_message_flags_of_noCrash (env : FlagEnv) (henv : SrcEnv env) (e : Entry) (out : List Emit)
    (h : noCrash (checkMessageFlags env e).2 = true) :
    MsgChk.check_message_flags env out e =
      .ok (((checkMessageFlags env e).1.fuzzy, (checkMessageFlags env e).1.rangeMin, (checkMessageFlags env e).1.rangeMax,
             keysOf (formatFlagsOf (flagLoop env e {} (sortedFlagItems e.flags)).formatFlags [])),
           out ++ (checkMessageFlags env e).2) := by
  have tie := check_message_flags_eq env henv e out
  rw [if_pos h] at tie
  exact eq_ok_of_erase tie

theorem check_message_flags_eq_rules (env : FlagEnv) (henv : SrcEnv env) (e : Entry) (out : List Emit) (fz : Bool) (rmin : Nat)
    (rmax : Option Nat) (fs : List Str) (ts : List Emit)
    (h : MsgChk.check_message_flags env out e = .ok ((fz, rmin, rmax, fs), ts)) :
    ts = out ++ Spec.MessageRules.flagTags env e ∧
    Spec.MessageRules.info env e = ⟨fz, rmin, rmax, toSorted strLt fs⟩ := by
  have tie := check_message_flags_eq env henv e out
  rw [h, erase_ok] at tie
  have hm := checkMessageFlags_eq env e
  split at tie
  · simp only [Except.ok.injEq, Prod.mk.injEq] at tie
    obtain ⟨⟨rfl, rfl, rfl, rfl⟩, rfl⟩ := tie
    -- the model lists `info.formats` sorted: `toSorted` of these keys, by definition
    exact ⟨by rw [hm], (congrArg Prod.fst hm).symm.trans rfl⟩
  · cases tie

end I18n.Msg.Gen
