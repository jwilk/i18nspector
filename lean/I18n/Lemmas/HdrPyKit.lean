import I18n.Model.HdrPy
import I18n.Lemmas.HdrDomains
import I18n.Lemmas.HdrParse
import I18n.Lemmas.HdrAddr
/-!
# The Python-operation kit of the C15 translators (`Model/HdrPy.lean`): what each operation computes, in the model's terms

The dictionary lemmas (the kit's association-list operations against `Meta` and `Hdr.dictSet` / `Hdr.dictGet` of the model) stand in
namespace `I18n.Hdr.Gen`, where the ties use them.
-/
namespace I18n.HdrPy
open I18n

/-! ### `str.split(sep, 1)` / `str.rsplit(sep, 1)` -/

theorem split1_of_not_mem (sep : Char) (s : Str) (h : sep ∉ s) : split1 sep s = [s] := by
  induction s with
  | nil => rfl
  | cons c cs ih =>
    have hc : c ≠ sep := fun e => h (by simp [e])
    have hcs : sep ∉ cs := fun m => h (by simp [m])
    simp [split1, hc, ih hcs]

theorem split1_of_split (sep : Char) (a b : Str) (h : sep ∉ a) : split1 sep (a ++ sep :: b) = [a, b] := by
  induction a with
  | nil => simp [split1]
  | cons c cs ih =>
    have hc : c ≠ sep := fun e => h (by simp [e])
    have hcs : sep ∉ cs := fun m => h (by simp [m])
    simp [split1, hc, ih hcs]

theorem rsplit1_of_not_mem (sep : Char) (s : Str) (h : sep ∉ s) : rsplit1 sep s = [s] := by
  unfold rsplit1
  rw [split1_of_not_mem sep s.reverse (by simpa using h)]

theorem rsplit1_of_split (sep : Char) (a b : Str) (h : sep ∉ b) : rsplit1 sep (a ++ sep :: b) = [a, b] := by
  unfold rsplit1
  have e : (a ++ sep :: b).reverse = b.reverse ++ sep :: a.reverse := by simp
  rw [e, split1_of_split sep b.reverse a.reverse (by simpa using h)]
  simp

theorem rsplit1_at (email : Str) (h : '@' ∈ email) : ∃ loc, rsplit1 '@' email = [loc, Domains.domainOf email] := by
  obtain ⟨loc, e, hn⟩ := Domains.domainOf_spec email h
  refine ⟨loc, ?_⟩
  conv => lhs; rw [e]
  exact rsplit1_of_split '@' loc _ hn


theorem pop_of_ne_nil {α : Type} (xs : List α) (h : xs ≠ []) : pop xs = .ok xs.dropLast := by
  cases xs with
  | nil => exact absurd rfl h
  | cons a as => rfl

/-! ### `line.split(':', 1)` and `.strip(' \t')` as the model has them -/

theorem split1_colon (l : Str) :
    split1 ':' l = match Hdr.splitColon l with | (k, some v) => [k, v] | (k, none) => [k] := by
  rcases h : Hdr.splitColon l with ⟨k, _ | v⟩
  · obtain ⟨rfl, hn⟩ := (Hdr.splitColon_none l k).1 h
    simp [split1_of_not_mem _ _ hn]
  · obtain ⟨rfl, hn⟩ := (Hdr.splitColon_some l k v).1 h
    simp [split1_of_split _ _ _ hn]

/-- `.strip(' \t')`, the characters spelt out (the form `simp` brings the literal into) -/
theorem strip_blanks (v : Str) : strip [' ', '\t'] v = Hdr.stripBlanks v := by
  have e : (fun c => [' ', '\t'].contains c) = Hdr.isBlank := by
    funext c
    simp only [Hdr.isBlank, List.contains_cons, List.contains_nil, Bool.or_false]
    by_cases h1 : c = ' ' <;> by_cases h2 : c = '\t' <;> simp [h1, h2]
  simp only [strip, rstrip, lstrip, Hdr.stripBlanks, e]

end I18n.HdrPy

/-! ### the dictionaries of the header checks: `metadata` (a `defaultdict(list)`) is the model's `Meta` -/
namespace I18n.Hdr.Gen
open I18n I18n.Hdr

theorem ddGet_meta (m : Meta) (k : Str) : HdrPy.ddGet m k = m.get k := by
  induction m with
  | nil => rfl
  | cons p m ih =>
    obtain ⟨k', vs⟩ := p
    by_cases h : k' = k
    · simp [HdrPy.ddGet, Meta.get, h, List.find?]
    · simp only [HdrPy.ddGet, h, if_false, ih]
      simp [Meta.get, List.find?, h]

theorem ddGet_getS (m : Meta) (k : String) : HdrPy.ddGet m k.toList = m.getS k := ddGet_meta m _

theorem dictSet_eq (k v : Str) (d : List (Str × Str)) : HdrPy.dictSet k v d = Hdr.dictSet k v d :=
  (Kit.eq_set' (s := HdrPy.dictSet k v) rfl (fun _ _ _ => rfl) d).trans (Kit.eq_set' (s := Hdr.dictSet k v) rfl (fun _ _ _ => rfl) d).symm

theorem dictGet?_eq (d : List (Str × Str)) (k : Str) : HdrPy.dictGet? d k = Hdr.dictGet d k :=
  (Kit.eq_lookup (g := HdrPy.dictGet?) (fun _ => rfl) (fun _ _ _ _ => rfl) d k).trans (Hdr.dictGet_eq d k).symm

theorem dictSet_add (k v : Str) (m : Meta) : HdrPy.dictSet k (HdrPy.ddGet m k ++ [v]) m = Meta.add k v m := by
  induction m with
  | nil => simp [HdrPy.dictSet, HdrPy.ddGet, Meta.add]; rfl
  | cons p m ih =>
    obtain ⟨k', vs⟩ := p
    by_cases h : k' = k
    · subst h; simp [HdrPy.dictSet, HdrPy.ddGet, Meta.add]
    · simp only [HdrPy.dictSet, HdrPy.ddGet, Meta.add, h, if_false]
      rw [ih]

theorem join_colon (a b : Str) : HdrPy.join ":".toList [a, b] = a ++ ':' :: b := by
  simp [HdrPy.join, joinWith]

theorem dictGet?_map_find (g : Str → Str) (fs : List Str) (k : Str) :
    HdrPy.dictGet? (fs.map fun s => (g s, s)) k = fs.find? (fun f => g f = k) := by
  induction fs with
  | nil => rfl
  | cons f fs ih => by_cases h : g f = k <;> simp [HdrPy.dictGet?, List.find?, h, ih]

theorem keys_contains (M : Meta) (h : Str) : (PyKit.keys M).contains h = M.has h := by
  induction M with
  | nil => rfl
  | cons p M ih =>
    obtain ⟨k, vs⟩ := p
    simp only [PyKit.keys, List.map_cons, List.contains_cons, Meta.has, List.any_cons] at ih ⊢
    rw [ih]
    by_cases hk : k = h
    · subst hk; simp
    · have hk' : ¬ h = k := fun e => hk e.symm
      simp [hk, hk']

end I18n.Hdr.Gen
