import I18n.Lemmas.HdrAll
import I18n.Lemmas.DateSort
/-
C15 lemmas: on a header that follows every convention (`Conventional`) no rule of the rule set fires, and the header stages
return with nothing to report.
-/
namespace I18n.Hdr
open I18n.Spec.HeaderRules I18n.Date

theorem single_field_rule {fs : List (Str × Str)} {k : String} {v : Str} (hv : vals fs k = [v]) (a b : Prop) (P : Str → Prop) :
    ((cnt fs k = 0 ∧ a) ∨ (1 < cnt fs k ∧ b) ∨ ∃ w ∈ vals fs k, P w) ↔ P v := by
  unfold cnt
  rw [hv]
  simp

theorem conventional_silent (x : Ext) (cs : CharsetCheck) (now : Int) (f : File) (c : Conventional x cs now f)
    (t : TagCall) : ¬ Reported x cs now f t := by
  unfold Reported
  simp only []
  obtain ⟨e, he, hocc, hpl, hfl, hun⟩ := c.entry
  have hH : headerEntry f.entries = some (e, 0) := by unfold headerEntry; rw [he]; rfl
  rintro (h | h | h | h | h | h | h | h | h | h | h | h)
  · obtain ⟨line, hl, hit, _⟩ := h
    rw [c.comments line hl] at hit; cases hit
  · unfold EntryRule at h
    rw [he, hH] at h
    rcases h with ⟨h, _⟩ | ⟨e', i, heq, h⟩
    · simp at h
    · simp only [Option.some.injEq, Prod.mk.injEq] at heq
      obtain ⟨rfl, rfl⟩ := heq
      rcases h with ⟨h, _⟩ | ⟨h, _⟩ | ⟨h, _⟩ | ⟨h, _⟩ | ⟨fl, h, _⟩ | ⟨fl, h, _⟩ | ⟨text, h, _⟩
      · exact h rfl
      · exact h hocc
      · exact h hpl
      · rw [hfl] at h; simp at h
      · rw [hfl] at h; simp at h
      · rw [hfl] at h; simp [count] at h
      · rw [hun] at h; exact h rfl
  · unfold StrayRule at h
    rw [c.noStray] at h
    rcases h with ⟨l, hl, _⟩ | ⟨pre, l, post, hs, _⟩
    · simp at hl
    · have := congrArg List.length hs; simp at this
  · rcases h with ⟨k, hk, hx, hr, _⟩ | ⟨k, hk, hlen, _⟩
    · rcases (c.names k hk).1 with h | h
      · exact hx h
      · exact hr h
    · rw [(c.names k hk).2] at hlen; omega
  · rw [FixedRule, single_field_rule c.mime] at h
    exact h.1 rfl
  · rw [FixedRule, single_field_rule c.cte] at h
    exact h.1 rfl
  · obtain ⟨enc, kept, hv, hof, hcs⟩ := c.ctype
    rw [ContentTypeRule, single_field_rule hv] at h
    rcases h with ⟨hno, _⟩ | ⟨full, enc', ctags, kept', hof', hcs', h⟩
    · exact hno ⟨true, enc, hof.1⟩
    · obtain ⟨rfl, rfl⟩ := charsetOf_unique x.db _ hof hof'
      rw [hcs] at hcs'
      simp only [Except.ok.injEq, Prod.mk.injEq] at hcs'
      obtain ⟨rfl, _⟩ := hcs'
      rcases h with ⟨c', hc', _⟩ | ⟨h, _⟩
      · simp at hc'
      · cases h
  · obtain ⟨ds, hd, d, hm, _⟩ := h
    rw [c.dates] at hd
    injection hd with hd; subst hd; simp at hm
  · obtain ⟨v, hv, hnb, hl, hd⟩ := c.project
    rw [ProjectRule, single_field_rule hv] at h
    rcases h with ⟨h, _⟩ | ⟨_, ⟨h, _⟩ | ⟨h, _⟩⟩
    · exact hnb h
    · exact h hl
    · exact h hd
  · obtain ⟨v, hv, hne, hok⟩ := c.report
    -- the one value is not empty, so the field does not count as absent
    unfold ReportRule cnt at h
    simp only [hv, List.mem_singleton, forall_eq, exists_eq_left, List.length_singleton, Nat.lt_irrefl, false_and, false_or, hne] at h
    obtain ⟨_, h⟩ := h
    rcases hok with ⟨hna, s, hs, hsne⟩ | ⟨ha, hfine⟩
    · rcases h with ⟨_, hsch, _⟩ | ⟨ha, _⟩
      · rcases hsch with h1 | h1
        · rw [hs] at h1; cases h1
        · rw [hs] at h1; injection h1 with h1; exact hsne h1
      · exact hna ha
    · rcases h with ⟨hna, _⟩ | ⟨_, ⟨h, _⟩ | ⟨h, _⟩ | ⟨h, _⟩⟩
      · exact hna ha
      · exact nomatch addrIs_unique hfine h
      · exact nomatch addrIs_unique hfine h
      · exact nomatch addrIs_unique hfine h
  · obtain ⟨v, hv, ha, hfine⟩ := c.translator
    rw [TranslatorRule, single_field_rule hv] at h
    rcases h with ⟨hna, _⟩ | ⟨_, ⟨h, _⟩ | ⟨h, _⟩ | ⟨h, _⟩⟩
    · exact hna ha
    · exact nomatch addrIs_unique hfine h
    · exact nomatch addrIs_unique hfine h
    · exact nomatch addrIs_unique hfine h
  · obtain ⟨v, hv, hok⟩ := c.team
    rw [TeamRule, single_field_rule hv] at h
    obtain ⟨ha, h⟩ := h
    rcases hok with hna | ⟨hfine, hdiff⟩
    · exact hna ha
    · rcases h with ⟨h, _⟩ | ⟨h, _⟩ | ⟨h, _⟩ | ⟨_, tr, htr, _⟩
      · exact nomatch addrIs_unique hfine h
      · exact nomatch addrIs_unique hfine h
      · exact nomatch addrIs_unique hfine h
      · unfold SameTranslator at htr
        have := List.find?_some htr
        have hm := List.mem_of_find?_eq_some htr
        simp only [List.mem_reverse, mem_sortedSet] at hm
        simp only [decide_eq_true_eq] at this
        exact hdiff tr hm this

/-- on a file that follows every convention the header stages return and emit nothing, whatever the charset fragment
    does on other names: `Conventional.ctype` speaks of the one name `check_mime` asks about -/
theorem conventional_checkAll (x : Ext) (cs : CharsetCheck) (now : Int) (f : File) (c : Conventional x cs now f) :
    checkAll x cs now f = some [] := by
  obtain ⟨enc, kept, hv, hof, hcs⟩ := c.ctype
  obtain ⟨out, ho⟩ : ∃ out, checkMime x.db cs (buildMeta (headerLinesOf f.entries) []) = .ok out := by
    refine checkMime_ok_of x.db cs _ fun ct hct full' enc' hof' => ?_
    rw [meta_getS, hv, List.mem_singleton] at hct
    subst hct
    obtain ⟨-, rfl⟩ := charsetOf_unique x.db _ hof hof'
    exact ⟨_, hcs⟩
  obtain ⟨ts, hts⟩ : ∃ ts, checkAll x cs now f = some ts := by
    obtain ⟨pre, post, -, -, e⟩ := checkAll_eq x cs now f
    rw [ho] at e
    exact ⟨_, e⟩
  rw [hts, List.eq_nil_iff_forall_not_mem.2 fun t ht => conventional_silent x cs now f c t ((mem_checkAll hts t).1 ht)]

end I18n.Hdr
