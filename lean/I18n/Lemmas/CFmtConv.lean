import I18n.Lemmas.CFmtTables
/-!
# Recording warnings is inert

`erase` forgets the recorded warnings.  Every stage of the model's `Conversion.__init__` commutes with it
(`(stage w st).map erase = stage false (erase st)`), hence so does `steps`, and `parseW false` is `parseW w` with
`Result.warnings` erased (`parseW_erase`).
-/
namespace I18n.CFmt
open I18n.Spec.Printf

def erase (st : St) : St := { st with warnings := [] }

@[simp] theorem erase_next (st : St) : (erase st).next = st.next := rfl
@[simp] theorem erase_map (st : St) : (erase st).map = st.map := rfl
@[simp] theorem erase_nitems (st : St) : (erase st).nitems = st.nitems := rfl
@[simp] theorem erase_erase (st : St) : erase (erase st) = erase st := rfl
@[simp] theorem warn_false (st : St) (x : Warn) : warn false st x = st := rfl
@[simp] theorem erase_warn (w : Bool) (st : St) (x : Warn) : erase (warn w st x) = erase st := by
  cases w <;> rfl
theorem erase_warn_if (c : Prop) [Decidable c] (w : Bool) (st : St) (x : Warn) :
    erase (if c then warn w st x else st) = erase st := by
  rw [apply_ite erase, erase_warn, ite_self]
@[simp] theorem map_error {α β ε : Type} (f : α → β) (e : ε) : (Except.error e : Except ε α).map f = .error e := rfl
@[simp] theorem map_ok {α β ε : Type} (f : α → β) (a : α) : (Except.ok a : Except ε α).map f = .ok (f a) := rfl

/-- `add_argument` reads and writes `_next_arg_index` and `_argument_map` only -/
theorem addArgument_core (st : St) (n : Option Nat) (v : Entry) :
    addArgument st n v = (addArgument ⟨st.next, st.map, 0, []⟩ n v).map fun s => { st with next := s.next, map := s.map } := by
  fun_cases addArgument st n v
  all_goals simp only [addArgument, *, if_true, if_false, Bool.false_eq_true, map_ok, map_error]

theorem addArgument_nitems {st st' : St} {n : Option Nat} {v : Entry} (h : addArgument st n v = .ok st') :
    st'.nitems = st.nitems ∧ st'.warnings = st.warnings := by
  rw [addArgument_core] at h
  cases h' : addArgument ⟨st.next, st.map, 0, []⟩ n v with
  | error e => rw [h'] at h; cases h
  | ok s => rw [h'] at h; cases h; exact ⟨rfl, rfl⟩

theorem addArgument_erase (st : St) (n : Option Nat) (v : Entry) :
    (addArgument st n v).map erase = addArgument (erase st) n v := by
  rw [addArgument_core st, addArgument_core (erase st)]
  show (Except.map _ (addArgument ⟨st.next, st.map, 0, []⟩ n v)).map erase = (addArgument ⟨st.next, st.map, 0, []⟩ n v).map _
  cases addArgument ⟨st.next, st.map, 0, []⟩ n v <;> rfl

theorem flagLoop_erase (w : Bool) (flags : List Char) (conv : Char) : ∀ (fs : List Char) (st : St),
    (flagLoop w flags conv fs st).map erase = flagLoop false flags conv fs (erase st)
  | [], st => rfl
  | f :: fs, st => by
    simp only [flagLoop, warn_false, ite_self]
    cases flagErr f conv with
    | some e => rfl
    | none =>
      simp only
      rw [flagLoop_erase w flags conv fs, erase_warn_if]

theorem erase_seq {x x' : Except CErr St} {k k' : St → Except CErr St} :
    x.map erase = x' → (∀ s, (k s).map erase = k' (erase s)) →
    (match x with | .error e => Except.error e | .ok s => k s).map erase = match x' with | .error e => .error e | .ok s => k' s := by
  rintro rfl hk
  cases x with
  | error e => rfl
  | ok s => exact hk s

theorem checkFlags_erase (w : Bool) (st : St) (flags : List Char) (conv : Char) :
    (checkFlags w st flags conv).map erase = checkFlags false (erase st) flags conv := by
  refine erase_seq (flagLoop_erase w flags conv (distinct flags) st) fun st1 => ?_
  simp only [map_ok, warn_false, ite_self]
  rw [erase_warn_if, erase_warn_if]

theorem doWidth_erase (st : St) (width : Width) (conv : Char) (parent : Nat) :
    (doWidth st width conv parent).map erase = doWidth (erase st) width conv parent := by
  unfold doWidth
  cases width with
  | none => rfl
  | num ds =>
    simp only
    cases pyInt ds with
    | error e => rfl
    | ok v => rw [apply_ite (Except.map erase), apply_ite (Except.map erase)]; rfl
  | star idx =>
    simp only
    cases optIndex idx with
    | error e => rfl
    | ok i => exact erase_seq (addArgument_erase st i _) fun s => by split <;> rfl

/-- the common tail of the precision stage: a test, then at most a warning -/
theorem precTail_erase (c d : Prop) [Decidable c] [Decidable d] (w : Bool) (st : St) (x : Warn) (e : CErr) :
    (if c then Except.ok (if d then warn w st x else st) else Except.error e).map erase =
      if c then .ok (if d then warn false (erase st) x else erase st) else .error e := by
  rw [apply_ite (Except.map erase), map_ok, erase_warn_if, warn_false, ite_self]
  rfl

theorem doPrec_erase (w : Bool) (st : St) (prec : Prec) (flags : List Char) (conv : Char) (parent : Nat) :
    (doPrec w st prec flags conv parent).map erase = doPrec false (erase st) prec flags conv parent := by
  unfold doPrec
  cases prec with
  | none => rfl
  | num ds =>
    simp only
    cases pyInt (if ds.isEmpty then ['0'] else ds) with
    | error e => rfl
    | ok v =>
      rw [apply_ite (Except.map erase), precTail_erase]
      rfl
  | star idx =>
    simp only
    cases optIndex idx with
    | error e => rfl
    | ok i => exact erase_seq (addArgument_erase st i _) fun s => precTail_erase ..

theorem doIndex_erase (st : St) (index : Option (List Char)) (tp : String) (conv : Char) (parent : Nat) :
    (doIndex st index tp conv parent).map erase = doIndex (erase st) index tp conv parent := by
  unfold doIndex
  cases optIndex index with
  | error e => rfl
  | ok i =>
    simp only
    split
    · split <;> rfl
    · exact addArgument_erase st i _

theorem conversion_erase (w : Bool) (st : St) (d : Directive) :
    (conversion w st d).map erase = conversion false (erase st) d := by
  unfold conversion
  cases typeInfo d.body with
  | error e => rfl
  | ok ti =>
    obtain ⟨tp, integer, np⟩ := ti
    have e0 : erase (if np = true then warn w st .NonPortableConversion else st) = erase st := erase_warn_if ..
    simp only [warn_false, ite_self]
    exact erase_seq (e0 ▸ checkFlags_erase w _ d.flags d.body.conv) fun st1 =>
      erase_seq (doWidth_erase st1 ..) fun st2 => erase_seq (doPrec_erase w st2 ..) fun st3 => doIndex_erase st3 ..

theorem step_erase (w : Bool) (st : St) (it : Item) :
    (step w st it).map erase = step false (erase st) it := by
  cases it with
  | lit cs => rfl
  | dir d => exact erase_seq (k := fun s => .ok { s with nitems := s.nitems + 1 }) (conversion_erase w st d) fun _ => rfl

theorem steps_erase (w : Bool) : ∀ (items : List Item) (st : St),
    (steps w items st).map erase = steps false items (erase st)
  | [], _ => rfl
  | it :: rest, st => erase_seq (step_erase w st it) (steps_erase w rest)

/-- **Warnings are inert.**  The run that records no warnings is the run that records them with the warnings erased from its
    result: acceptance, the error raised, the argument list and the number of items do not depend on recording. -/
theorem parseW_erase (w : Bool) (s : List Char) :
    (parseW w s).map (fun r => { r with warnings := [] }) = parseW false s := by
  unfold parseW
  simp only
  have h : (steps w (scan s).1 St.init).map erase = steps false (scan s).1 St.init := steps_erase w (scan s).1 St.init
  rw [← h]
  cases steps w (scan s).1 St.init with
  | error e => rfl
  | ok st =>
    simp only [map_ok, erase_map, erase_nitems]
    split
    · rfl
    · cases collect Generated.CFormatTables.NL_ARGMAX 1 st.map with
      | error e => rfl
      | ok args => simp only; split <;> rfl

theorem parseW_arguments (w : Bool) (s : List Char) :
    (parseW w s).map (·.arguments) = (parseW false s).map (·.arguments) := by
  rw [← parseW_erase w s]
  cases parseW w s <;> rfl

end I18n.CFmt
