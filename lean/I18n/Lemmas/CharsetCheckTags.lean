import I18n.Lemmas.CharsetCheck
/-!
# C20: the charset fragment of `check_headers`, clause by clause: after the ASCII-compatibility test `checkCharset` is
# `classifyStep` followed by `unrepStep` (`checkCharset_known`).  Of each step: the few shapes it emits (`_shape`), which kinds
# of tag those carry (`classifyStep_flags`, `unrepStep_appends`), and when it cannot fail (`_total`).
-/
namespace I18n.Charset

def Tag.isUnknown : Tag → Bool | .unknownEncoding _ => true | _ => false
def Tag.isNonAscii : Tag → Bool | .nonAsciiCompatible _ => true | _ => false
def Tag.isNonPortable : Tag → Bool | .nonPortable _ _ => true | _ => false
def Tag.isUnrep : Tag → Bool | .unrepresentable _ _ => true | _ => false
def Tag.isBoilerplate : Tag → Bool | .boilerplate => true | _ => false

theorem checkCharset_unknown (env : Env) (encoding : Name) (isTemplate : Bool)
    (characters : Option (Option (List (List Nat))))
    (hac : isAsciiCompatible env.interestingStr (env.dec encoding) false = .error ()) :
    checkCharset env encoding isTemplate characters =
      .ok (if encoding = charsetLiteral then (if isTemplate then [] else [.boilerplate]) else [.unknownEncoding encoding], none) := by
  unfold checkCharset
  simp only [hac]
  split <;> rfl

/-- the chain `if not is_ascii_compatible: … elif is_portable_encoding(encoding): … else: …` of the fragment: its tag and the
    `encoding` it leaves -/
def classifyStep (env : Env) (encoding : Name) (compatible : Bool) : Except Unit (List Tag × Name) :=
  if !compatible then .ok ([.nonAsciiCompatible encoding], encoding)
  else if isPortable env.tbl true encoding then .ok ([], encoding)
  else match propose env.tbl env.c2e env.lookup encoding with
    | .error () => .error ()
    | .ok (some p) => .ok ([.nonPortable encoding (some p)], p)
    | .ok none => .ok ([.nonPortable encoding none], encoding)

/-- `if ctx.language is not None: …`: the `unrepresentable-characters` tag -/
def unrepStep (env : Env) (tags : List Tag) (enc : Name) (characters : Option (Option (List (List Nat)))) :
    Except Unit (List Tag × Option Name) :=
  match characters with
  | none | some none => .ok (tags, some enc)
  | some (some chars) =>
    match getUnrepresentable (env.encode enc) chars with
    | .error () => .error ()
    | .ok [] => .ok (tags, some enc)
    | .ok u => .ok (tags ++ [.unrepresentable enc (truncateChars u)], some enc)

theorem checkCharset_known (env : Env) (encoding : Name) (isTemplate : Bool)
    (characters : Option (Option (List (List Nat)))) (compatible : Bool)
    (hac : isAsciiCompatible env.interestingStr (env.dec encoding) false = .ok compatible) :
    checkCharset env encoding isTemplate characters =
      match classifyStep env encoding compatible with
      | .error () => .error ()
      | .ok (tags, enc) => unrepStep env tags enc characters := by
  unfold checkCharset classifyStep unrepStep
  simp only [hac]
  rfl

theorem classifyStep_shape (env : Env) (encoding : Name) (compatible : Bool) (tags : List Tag) (enc : Name)
    (h : classifyStep env encoding compatible = .ok (tags, enc)) :
    (compatible = false ∧ tags = [.nonAsciiCompatible encoding] ∧ enc = encoding) ∨
    (compatible = true ∧ isPortable env.tbl true encoding = true ∧ tags = [] ∧ enc = encoding) ∨
    (compatible = true ∧ isPortable env.tbl true encoding = false ∧ tags = [.nonPortable encoding none] ∧ enc = encoding ∧
      propose env.tbl env.c2e env.lookup encoding = .ok none) ∨
    (compatible = true ∧ isPortable env.tbl true encoding = false ∧ tags = [.nonPortable encoding (some enc)] ∧
      propose env.tbl env.c2e env.lookup encoding = .ok (some enc) ∧ isPortable env.tbl true enc = true) := by
  unfold classifyStep at h
  cases compatible with
  | false =>
    simp only [Bool.not_false, if_true] at h
    cases h
    exact .inl ⟨rfl, rfl, rfl⟩
  | true =>
    simp only [Bool.not_true, Bool.false_eq_true, if_false] at h
    split at h
    · next hp =>
      cases h
      exact .inr (.inl ⟨rfl, hp, rfl, rfl⟩)
    · next hp =>
      have hp' : isPortable env.tbl true encoding = false := by simpa using hp
      split at h
      · cases h
      · next p hprop =>
        cases h
        exact .inr (.inr (.inr ⟨rfl, hp', rfl, hprop, propose_portable _ _ _ _ _ hprop⟩))
      · next hprop =>
        cases h
        exact .inr (.inr (.inl ⟨rfl, hp', rfl, rfl, hprop⟩))

theorem classifyStep_flags (env : Env) (encoding : Name) (compatible : Bool) (tags : List Tag) (enc : Name)
    (h : classifyStep env encoding compatible = .ok (tags, enc)) :
    tags.any Tag.isUnknown = false ∧ tags.any Tag.isBoilerplate = false ∧
    (tags.any Tag.isNonAscii = true ↔ compatible = false) ∧
    (tags.any Tag.isNonPortable = true ↔ (compatible = true ∧ isPortable env.tbl true encoding = false)) ∧
    (∀ t ∈ tags, t.isUnrep = false) ∧
    (∀ e p, Tag.nonPortable e (some p) ∈ tags → e = encoding ∧ isPortable env.tbl true p = true ∧ enc = p) := by
  rcases classifyStep_shape env encoding compatible tags enc h with
    ⟨rfl, rfl, rfl⟩ | ⟨rfl, hp, rfl, rfl⟩ | ⟨rfl, hp, rfl, rfl, _⟩ | ⟨rfl, hp, rfl, _, hpp⟩
  · -- not ASCII-compatible: that tag alone
    simp [Tag.isUnknown, Tag.isBoilerplate, Tag.isNonAscii, Tag.isNonPortable, Tag.isUnrep]
  · -- portable: no tag
    simp [hp]
  · -- not portable, nothing to propose
    simp [Tag.isUnknown, Tag.isBoilerplate, Tag.isNonAscii, Tag.isNonPortable, Tag.isUnrep, hp]
  · -- not portable, `enc` proposed
    refine ⟨rfl, rfl, by simp [Tag.isNonAscii], by simp [Tag.isNonPortable, hp], by simp [Tag.isUnrep], fun e p hm => ?_⟩
    simp only [List.mem_singleton, Tag.nonPortable.injEq, Option.some.injEq] at hm
    obtain ⟨rfl, rfl⟩ := hm
    exact ⟨rfl, hpp, rfl⟩

theorem classifyStep_total (env : Env) (encoding : Name) (compatible : Bool)
    (hna : propose env.tbl env.c2e env.lookup encoding ≠ .error ()) :
    ∃ tags enc, classifyStep env encoding compatible = .ok (tags, enc) := by
  unfold classifyStep
  split
  · exact ⟨_, _, rfl⟩
  · split
    · exact ⟨_, _, rfl⟩
    · split
      · next hp => exact (hna hp).elim
      · exact ⟨_, _, rfl⟩
      · exact ⟨_, _, rfl⟩

theorem unrepStep_shape (env : Env) (tags1 : List Tag) (enc : Name) (characters : Option (Option (List (List Nat))))
    (tags : List Tag) (kept : Option Name) (h : unrepStep env tags1 enc characters = .ok (tags, kept)) :
    kept = some enc ∧
    ((tags = tags1 ∧ (characters = none ∨ characters = some none ∨
        ∃ chars, characters = some (some chars) ∧ getUnrepresentable (env.encode enc) chars = .ok [])) ∨
     (∃ chars u, characters = some (some chars) ∧ getUnrepresentable (env.encode enc) chars = .ok u ∧ u ≠ [] ∧
        tags = tags1 ++ [.unrepresentable enc (truncateChars u)])) := by
  unfold unrepStep at h
  split at h
  · cases h; exact ⟨rfl, .inl ⟨rfl, .inl rfl⟩⟩
  · cases h; exact ⟨rfl, .inl ⟨rfl, .inr (.inl rfl)⟩⟩
  · next chars =>
    split at h
    · cases h
    · next hg =>
      cases h; exact ⟨rfl, .inl ⟨rfl, .inr (.inr ⟨chars, rfl, hg⟩)⟩⟩
    · next u hne hg =>
      cases h
      refine ⟨rfl, .inr ⟨chars, u, rfl, hg, ?_, rfl⟩⟩
      intro hu; subst hu; exact hne rfl

theorem unrepStep_appends (env : Env) (tags1 : List Tag) (enc : Name) (characters : Option (Option (List (List Nat))))
    (tags : List Tag) (kept : Option Name) (h : unrepStep env tags1 enc characters = .ok (tags, kept)) :
    kept = some enc ∧ ∃ extra, tags = tags1 ++ extra ∧ ∀ t ∈ extra, ∃ cs, t = .unrepresentable enc cs := by
  obtain ⟨hk, ⟨rfl, _⟩ | ⟨_, u, _, _, _, rfl⟩⟩ := unrepStep_shape env tags1 enc characters tags kept h
  · exact ⟨hk, [], (List.append_nil _).symm, fun _ ht => nomatch ht⟩
  · exact ⟨hk, _, rfl, fun t ht => ⟨_, List.mem_singleton.1 ht⟩⟩

theorem any_append_unrep {p : Tag → Bool} (hp : ∀ e cs, p (.unrepresentable e cs) = false) {enc : Name} {tags1 extra : List Tag}
    (hex : ∀ t ∈ extra, ∃ cs, t = .unrepresentable enc cs) : (tags1 ++ extra).any p = tags1.any p := by
  have : extra.any p = false := List.any_eq_false.2 fun t ht => by
    obtain ⟨cs, rfl⟩ := hex t ht
    rw [hp]; exact Bool.false_ne_true
  rw [List.any_append, this, Bool.or_false]

theorem unrepStep_total (env : Env) (tags : List Tag) (enc : Name) (characters : Option (Option (List (List Nat))))
    (henc : ∀ chars, characters = some (some chars) → EncodeOk (env.encode enc) chars) :
    ∃ r, unrepStep env tags enc characters = .ok r := by
  unfold unrepStep
  split
  · exact ⟨_, rfl⟩
  · exact ⟨_, rfl⟩
  · next chars =>
    rw [getUnrepresentable_spec (env.encode enc) chars (henc chars rfl)]
    split
    · next hh => cases hh
    · exact ⟨_, rfl⟩
    · exact ⟨_, rfl⟩

theorem truncateChars_ne_nil (u : List (List Nat)) (h : u ≠ []) : truncateChars u ≠ [] := by
  unfold truncateChars
  split
  · simp
  · exact h

theorem checkCharset_known_shape (env : Env) (encoding : Name) (isTemplate : Bool)
    (characters : Option (Option (List (List Nat)))) (compatible : Bool) (tags : List Tag) (kept : Option Name)
    (hac : isAsciiCompatible env.interestingStr (env.dec encoding) false = .ok compatible)
    (h : checkCharset env encoding isTemplate characters = .ok (tags, kept)) :
    ∃ tags1 enc, classifyStep env encoding compatible = .ok (tags1, enc) ∧ unrepStep env tags1 enc characters = .ok (tags, kept) := by
  rw [checkCharset_known env encoding isTemplate characters compatible hac] at h
  cases hc : classifyStep env encoding compatible with
  | error u => cases u; simp [hc] at h
  | ok r => obtain ⟨tags1, enc⟩ := r; simp only [hc] at h; exact ⟨tags1, enc, rfl, h⟩

theorem checkCharset_unrep_shape (env : Env) (encoding : Name) (isTemplate : Bool) (chars : List (List Nat))
    (tags : List Tag) (kept : Name)
    (h : checkCharset env encoding isTemplate (some (some chars)) = .ok (tags, some kept)) :
    ∃ u, getUnrepresentable (env.encode kept) chars = .ok u ∧
      (u = [] → tags.any Tag.isUnrep = false) ∧
      (u ≠ [] → Tag.unrepresentable kept (truncateChars u) ∈ tags) ∧
      (∀ e cs, Tag.unrepresentable e cs ∈ tags → e = kept ∧ cs = truncateChars u ∧ u ≠ []) := by
  cases hac : isAsciiCompatible env.interestingStr (env.dec encoding) false with
  | error u =>
    cases u
    rw [checkCharset_unknown env encoding isTemplate _ hac] at h
    cases h
  | ok compatible =>
    obtain ⟨tags1, enc, hc, hu⟩ := checkCharset_known_shape env encoding isTemplate _ compatible tags _ hac h
    obtain ⟨hk, hshape⟩ := unrepStep_shape env tags1 enc _ tags _ hu
    obtain ⟨_, _, _, _, hun, _⟩ := classifyStep_flags env encoding compatible tags1 enc hc
    cases hk
    have h1 : tags1.any Tag.isUnrep = false ∧ ∀ e cs, Tag.unrepresentable e cs ∉ tags1 :=
      ⟨List.any_eq_false.2 fun t ht => by rw [hun t ht]; exact Bool.false_ne_true, fun e cs hm => nomatch hun _ hm⟩
    rcases hshape with ⟨rfl, hch⟩ | ⟨chars', u, hch, hg, hne, rfl⟩
    · rcases hch with hch | hch | ⟨chars', hch, hg⟩
      · cases hch
      · cases hch
      · cases hch
        exact ⟨[], hg, fun _ => h1.1, fun hne => (hne rfl).elim, fun e cs hm => (h1.2 e cs hm).elim⟩
    · cases hch
      refine ⟨u, hg, fun hu => (hne hu).elim, fun _ => by simp, ?_⟩
      intro e cs hm
      rw [List.mem_append] at hm
      rcases hm with hm | hm
      · exact (h1.2 e cs hm).elim
      · simp at hm
        exact ⟨hm.1, hm.2, hne⟩

theorem checkCharset_total (env : Env) (encoding : Name) (isTemplate : Bool) (characters : Option (Option (List (List Nat))))
    (hassert : ∀ kv ∈ env.c2e, isPortable env.tbl true kv.2 = true)
    (henc : ∀ enc chars, characters = some (some chars) → EncodeOk (env.encode enc) chars) :
    ∃ r, checkCharset env encoding isTemplate characters = .ok r := by
  cases hac : isAsciiCompatible env.interestingStr (env.dec encoding) false with
  | error u => cases u; exact ⟨_, checkCharset_unknown env encoding isTemplate characters hac⟩
  | ok compatible =>
    rw [checkCharset_known env encoding isTemplate characters compatible hac]
    obtain ⟨t, e, hcl⟩ := classifyStep_total env encoding compatible (propose_no_assert env.tbl env.c2e env.lookup hassert encoding)
    simp only [hcl]
    exact unrepStep_total env t e characters (henc e)

end I18n.Charset
