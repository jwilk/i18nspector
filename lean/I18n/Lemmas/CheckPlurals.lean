import I18n.Model.CheckPlurals
import I18n.Lemmas.EvalSpec
import I18n.Props.C05
import I18n.Props.C06
/-! The window and the gap analysis of `check_plurals`.  `Recorded` specifies what a pass of the window over a list of indices
    does to the table `plural_preimage`; `Recorded.keys`, `WindowKeys` and `CoversWindow` are read off it.

    The window `for i in range(codomain_limit)`: `WinRun` is what one run of it has done, whatever the index list and the
    registry (`window_spec`; on `range N`, `window_range`).  The gap analysis: what `gapRanges` claims is never produced is
    produced by no `m < 2^32` (`gapRanges_true`: C05's codomain, and the period analysis applied to the preimage of a completed
    window, `periodic_image`), every range it reports is non-empty, it raises nothing, and a declaration that is total, in
    range and onto on the window (`CleanOnWindow`) is given no gap (`gapRanges_clean`). -/
namespace I18n.CheckPlurals
open I18n I18n.Py I18n.Plural

theorem periodic_image {bits : Nat} {e : Expr} {O P : Int} (h : period bits e = .ok (some (O, P))) :
    ∀ m : Nat, (m : Int) < 2 ^ bits → ∃ i : Nat, (i : Int) < max (O + P) 1 ∧ i ≤ m ∧ outcome bits m e = outcome bits i e := by
  have hs := outcome_periodic h
  have hO := hs.offset_nonneg
  have hP := hs.period_pos
  intro m hm
  by_cases hsmall : (m : Int) < O + P
  · exact ⟨m, by omega, Nat.le_refl m, rfl⟩
  · -- m ≥ O + P: the residue of `m` in the first period
    have hr0 : 0 ≤ ((m : Int) - O) % P := Int.emod_nonneg _ (Int.ne_of_gt hP)
    have hrP : ((m : Int) - O) % P < P := Int.emod_lt_of_pos _ hP
    have hrm : ((m : Int) - O) % P ≤ (m : Int) - O := emod_le_self' (by omega) hP
    refine ⟨(O + ((m : Int) - O) % P).toNat, by omega, by omega, ?_⟩
    rw [Int.toNat_of_nonneg (by omega)]
    exact hs.reduce (by omega) hm

def keys (p : Preimage) : List Int := p.map (·.1)

theorem mem_keys_iff (p : Preimage) (k : Int) : k ∈ keys p ↔ (p.lookup k).isSome = true := by
  rw [List.lookup_isSome_iff]
  simp only [keys, List.mem_map, beq_iff_eq]
  exact ⟨fun ⟨q, hq, hk⟩ => ⟨q, hq, hk.symm⟩, fun ⟨q, hq, hk⟩ => ⟨q, hq, hk.symm⟩⟩

theorem lookup_map_append (k fi : Int) (i : Nat) (p : Preimage) :
    (p.map (fun q => if q.1 = fi then (q.1, q.2 ++ [i]) else q)).lookup k =
      if k = fi then (p.lookup k).map (· ++ [i]) else p.lookup k := by
  induction p with
  | nil => exact (ite_self none).symm
  | cons q rest ih =>
    obtain ⟨k', v⟩ := q
    rw [List.map_cons]
    by_cases hk : k = k'
    · subst hk
      by_cases h : k = fi
      · rw [if_pos h, if_pos h, List.lookup_cons_self, List.lookup_cons_self]
        rfl
      · rw [if_neg h, if_neg h, List.lookup_cons_self, List.lookup_cons_self]
    · have hb : (k == k') = false := beq_false_of_ne hk
      by_cases h : k' = fi
      · rw [if_pos h, List.lookup_cons, List.lookup_cons, hb, ih]
      · rw [if_neg h, List.lookup_cons, List.lookup_cons, hb, ih]

/-- `plural_preimage[fi] += [i]` -/
theorem Preimage.lookup_add (p : Preimage) (fi : Int) (i : Nat) (k : Int) :
    (p.add fi i).lookup k = if k = fi then some ((p.lookup k).getD [] ++ [i]) else p.lookup k := by
  have hany : p.any (fun q => decide (q.1 = fi)) = (p.lookup fi).isSome := by
    rw [Bool.eq_iff_iff, List.lookup_isSome_iff]
    simp only [List.any_eq_true, decide_eq_true_eq, beq_iff_eq]
    exact exists_congr fun q => and_congr_right fun _ => eq_comm
  unfold Preimage.add
  rw [hany]
  cases hfi : p.lookup fi with
  | some v =>
    rw [Option.isSome_some, if_pos rfl, lookup_map_append]
    by_cases hk : k = fi
    · rw [if_pos hk, if_pos hk, hk, hfi]
      rfl
    · rw [if_neg hk, if_neg hk]
  | none =>
    rw [Option.isSome_none, if_neg Bool.false_ne_true, List.lookup_append]
    by_cases hk : k = fi
    · rw [if_pos hk, hk, hfi, List.lookup_cons_self]
      rfl
    · rw [if_neg hk, List.lookup_cons, beq_false_of_ne hk]
      exact Option.or_none

theorem keys_add_nodup (p : Preimage) (fi : Int) (i : Nat) (h : (keys p).Nodup) : (keys (p.add fi i)).Nodup := by
  unfold Preimage.add
  split
  · rename_i hany
    have : keys (p.map fun q => if q.1 = fi then (q.1, q.2 ++ [i]) else q) = keys p := by
      unfold keys; rw [List.map_map]; apply List.map_congr_left; intro q _; simp only [Function.comp]; split <;> rfl
    rw [this]; exact h
  · rename_i hany
    unfold keys at *
    rw [List.map_append, List.nodup_append]
    refine ⟨h, by simp, ?_⟩
    intro a ha b hb
    simp at hb; subst hb
    intro hab; subst hab
    apply hany
    simp only [List.any_eq_true, decide_eq_true_eq]
    obtain ⟨q, hq, hqe⟩ := List.mem_map.mp ha
    exact ⟨q, hq, hqe⟩

theorem mem_insertInt (x : Int) (l : List Int) (k : Int) : k ∈ insertInt x l ↔ k = x ∨ k ∈ l := by
  induction l with
  | nil => simp [insertInt]
  | cons y ys ih =>
    simp only [insertInt]
    split
    · simp
    · simp only [List.mem_cons, ih]
      constructor
      · rintro (h | h | h) <;> simp [h]
      · rintro (h | h | h) <;> simp [h]

theorem mem_sortedKeys (p : Preimage) (k : Int) : k ∈ sortedKeys p ↔ k ∈ keys p := by
  unfold sortedKeys keys
  generalize p.map (·.1) = l
  have : ∀ (acc : List Int), k ∈ l.foldl (fun acc x => insertInt x acc) acc ↔ k ∈ acc ∨ k ∈ l := by
    induction l with
    | nil => intro acc; simp
    | cons x xs ih =>
      intro acc
      simp only [List.foldl_cons, ih, mem_insertInt, List.mem_cons]
      constructor
      · rintro ((h | h) | h) <;> simp [h]
      · rintro (h | h | h) <;> simp [h]
  simpa using this []

/-- what `analyse` hands to `gapRanges`: the preimage of a window that ran to completion -/
def completedOf (st : WinState) (fin : WinEnd) : Option Preimage :=
  match fin with
  | .completed => some st.pre
  | _ => none

theorem intStr_ofNat (m : Nat) : intStr (m : Int) = natStr m := by
  simp [intStr, natStr, toString, Int.repr]

/-- the diagnostic the window owes for index `i`, if any: its true outcome (the branch `.error _ => none` is unreachable:
    `Plural.evalAt_error_kinds` leaves only overflow and division by zero) -/
def badMsg (n : Nat) (e : Expr) (i : Nat) : Option (List Char) :=
  match evalAt 32 i e with
  | .error .Overflow => some ("f(".toList ++ natStr i ++ "): integer overflow".toList)
  | .error .ZeroDivision => some ("f(".toList ++ natStr i ++ "): division by zero".toList)
  | .error _ => none
  | .ok fi => if fi ≥ n then some ("f(".toList ++ natStr i ++ ") = ".toList ++ intStr fi ++ " >= ".toList ++ natStr n) else none

def badTagName (n : Nat) (e : Expr) (i : Nat) (hp : Bool) : String :=
  match evalAt 32 i e with
  | .ok _ => tagName "codomain-error-in" hp
  | .error _ => tagName "arithmetic-error-in" hp

theorem eval_err_cases {i : Nat} {e : Expr} {ex : Exc} (h : evalAt 32 i e = .error ex) :
    ex = .Overflow ∨ ex = .ZeroDivision := Plural.evalAt_error_kinds (by decide) i e ex h

theorem badMsg_none {n : Nat} {e : Expr} {i : Nat} : badMsg n e i = none → ∃ v, evalAt 32 i e = .ok v ∧ 0 ≤ v ∧ v < n := by
  fun_cases badMsg n e i with
  | case1 hev => nofun
  | case2 hev => nofun
  | case3 ex h1 h2 hev => exact ((eval_err_cases hev).elim h1 h2).elim
  | case4 v hev hge => nofun
  | case5 v hev hlt =>
    intro _
    exact ⟨v, hev, (Plural.evalAt_value_range (by decide) i e v hev).1, by omega⟩

/-- the registry's expression is total on the indices (a hypothesis discharged for the shipped registry) -/
def LcTotal (lc : Option (Nat × Expr)) (is : List Nat) : Prop :=
  ∀ ln le, lc = some (ln, le) → ∀ i ∈ is, ∃ v, evalAt 32 i le = .ok v

def isStopTag (hp : Bool) (t : TagCall) : Prop :=
  ∃ msg, t = ⟨tagName "arithmetic-error-in" hp, [.safe msg]⟩ ∨ t = ⟨tagName "codomain-error-in" hp, [.safe msg]⟩

/-- the declared expression and the one the window compares it with (the registry's, when exactly one of its declarations
    has the declared nplurals) have different outcomes at `j` -/
def DiffersAt (n : Nat) (e : Expr) (lc : Option (Nat × Expr)) (j : Nat) : Prop :=
  ∃ le, lc = some (n, le) ∧ evalAt 32 j e ≠ evalAt 32 j le

/-- why the window stops at `i` with the tag `t`: the outcome at `i` is bad and `t` states it, or (never, for a registry
    that is total on the window) the registry's expression fails there.  In the second case only the name of `t` is specified,
    not its message; under `LcTotal` that case is excluded and `StopsAt.bad` is the form to use. -/
def StopsAt (n : Nat) (e : Expr) (lc : Option (Nat × Expr)) (hp : Bool) (i : Nat) (t : TagCall) : Prop :=
  (∃ msg, badMsg n e i = some msg ∧ t = ⟨badTagName n e i hp, [.safe msg]⟩) ∨
  (isStopTag hp t ∧ ∃ le ex, lc = some (n, le) ∧ evalAt 32 i le = .error ex)

theorem outcome_eq_some {bits : Nat} {m : Int} {e : Expr} {k : Int} : outcome bits m e = some k ↔ evalAt bits m e = .ok k := by
  unfold outcome
  cases evalAt bits m e <;> simp

/-- what the window does to `plural_preimage` when it goes through the indices `is`: under every value `k` the indices at
    which `e` evaluates to `k` are appended, in order — to the old entry, or as a new one -/
def Recorded (e : Expr) (is : List Nat) (p p' : Preimage) : Prop :=
  ∀ k : Int, p'.lookup k = if is.filter (fun j : Nat => outcome 32 j e == some k) = [] then p.lookup k
    else some ((p.lookup k).getD [] ++ is.filter (fun j : Nat => outcome 32 j e == some k))

theorem Recorded.nil {e : Expr} {p : Preimage} : Recorded e [] p p :=
  fun _ => (if_pos rfl).symm

theorem Recorded.cons {e : Expr} {fi : Int} {i : Nat} {rest : List Nat} {p p' : Preimage} (hev : evalAt 32 i e = .ok fi)
    (h : Recorded e rest (p.add fi i) p') : Recorded e (i :: rest) p p' := by
  intro k
  have hsel : (outcome 32 i e == some k) = decide (k = fi) := by
    rw [outcome_eq_some.2 hev, Bool.eq_iff_iff, beq_iff_eq, decide_eq_true_iff, Option.some.injEq]
    exact eq_comm
  rw [h k, List.filter_cons, hsel, Preimage.lookup_add]
  by_cases hk : k = fi
  · rw [if_pos hk, if_pos (decide_eq_true hk), if_neg (List.cons_ne_nil _ _), Option.getD_some]
    by_cases hn : rest.filter (fun j : Nat => outcome 32 j e == some k) = []
    · rw [if_pos hn, hn]
    · rw [if_neg hn, List.append_assoc]
      rfl
  · simp only [if_neg hk, decide_eq_false hk, Bool.false_eq_true, if_false]

theorem Recorded.keys {e : Expr} {is : List Nat} {p p' : Preimage} (h : Recorded e is p p') (k : Int) :
    k ∈ keys p' ↔ k ∈ keys p ∨ ∃ j ∈ is, evalAt 32 j e = .ok k := by
  have hseen : is.filter (fun j : Nat => outcome 32 j e == some k) ≠ [] ↔ ∃ j ∈ is, evalAt 32 j e = .ok k := by
    simp only [ne_eq, List.filter_eq_nil_iff, beq_iff_eq, outcome_eq_some, Classical.not_forall, Classical.not_not, exists_prop]
  rw [mem_keys_iff, mem_keys_iff, h k, ← hseen]
  by_cases hnil : is.filter (fun j : Nat => outcome 32 j e == some k) = []
  · rw [if_pos hnil]
    exact ⟨Or.inl, fun h => h.resolve_right (not_not_intro hnil)⟩
  · rw [if_neg hnil]
    exact iff_of_true rfl (Or.inr hnil)

/-- The keys of the table a completed window over `[0, codomainLimit)` leaves when started empty: the values `e` takes on
    the window.  A reading of `Recorded` (`Recorded.windowKeys`). -/
def WindowKeys (e : Expr) (pre : Preimage) : Prop :=
  ∀ k, k ∈ keys pre ↔ ∃ i : Nat, i < codomainLimit ∧ evalAt 32 i e = .ok k

theorem Recorded.windowKeys {e : Expr} {pre : Preimage} (h : Recorded e (List.range codomainLimit) [] pre) : WindowKeys e pre := by
  intro k
  rw [h.keys k]
  simp only [List.mem_range]
  exact ⟨fun hk => hk.resolve_left (fun hnil : k ∈ CheckPlurals.keys [] => nomatch hnil), Or.inr⟩

theorem WindowKeys.nonneg {e : Expr} {pre : Preimage} (h : WindowKeys e pre) : ∀ k ∈ keys pre, 0 ≤ k := by
  intro k hk
  obtain ⟨i, _, hv⟩ := (h k).1 hk
  exact (Plural.evalAt_value_range (by decide) i e k hv).1

/-- All that the gap analysis uses of the table handed over: the value at every index of the window is a key, and no key is
    negative.  It holds of the table of a completed window (`completedOf_facts`). -/
structure CoversWindow (e : Expr) (pre : Preimage) : Prop where
  covers : ∀ i : Nat, i < codomainLimit → ∃ v, evalAt 32 i e = .ok v ∧ v ∈ keys pre
  nonneg : ∀ k ∈ keys pre, 0 ≤ k

theorem WindowKeys.coversWindow {e : Expr} {pre : Preimage} (h : WindowKeys e pre)
    (htotal : ∀ i : Nat, i < codomainLimit → ∃ v, evalAt 32 i e = .ok v) : CoversWindow e pre where
  covers i hi := by
    obtain ⟨v, hv⟩ := htotal i hi
    exact ⟨v, hv, (h v).2 ⟨i, hi, hv⟩⟩
  nonneg := h.nonneg

/-- what a run of the window over `is` from `st` to `(st', fin)` has done: it went through the indices `passed`, all with a
    valid form index as outcome, added the `unusual` tag (`mid`) iff it had not been added before and the two expressions
    differ at an index passed; then either the indices were exhausted and their values are recorded in the preimage, or it
    stopped at the next index with one more tag -/
def WinRun (n : Nat) (e : Expr) (lc : Option (Nat × Expr)) (hp : Bool) (ut : TagCall) (is : List Nat) (st st' : WinState)
    (fin : WinEnd) : Prop :=
  ∃ passed mid, (∀ j ∈ passed, badMsg n e j = none) ∧ (mid = [] ∨ mid = [ut]) ∧
    (mid = [ut] ↔ st.unusual = false ∧ ∃ j ∈ passed, DiffersAt n e lc j) ∧
    ((fin = .completed ∧ passed = is ∧ st'.tags = st.tags ++ mid ∧
        Recorded e is st.pre st'.pre) ∨
     (fin = .stopped ∧ ∃ i post t, is = passed ++ i :: post ∧ st'.tags = st.tags ++ mid ++ [t] ∧ StopsAt n e lc hp i t))

theorem WinRun.nil {n : Nat} {e : Expr} {lc : Option (Nat × Expr)} {hp : Bool} {ut : TagCall} {st : WinState} :
    WinRun n e lc hp ut [] st st .completed :=
  ⟨[], [], by simp, Or.inl rfl, by simp, Or.inl ⟨rfl, rfl, by simp, Recorded.nil⟩⟩

theorem WinRun.of_completed {n : Nat} {e : Expr} {lc : Option (Nat × Expr)} {hp : Bool} {ut : TagCall} {is : List Nat}
    {st st' : WinState} (h : WinRun n e lc hp ut is st st' .completed) :
    (∀ j ∈ is, badMsg n e j = none) ∧ Recorded e is st.pre st'.pre := by
  obtain ⟨passed, _, hgood, _, _, hfin⟩ := h
  rcases hfin with ⟨_, rfl, _, hrec⟩ | ⟨hs, _⟩
  · exact ⟨hgood, hrec⟩
  · cases hs

theorem WinRun.stop {n : Nat} {e : Expr} {lc : Option (Nat × Expr)} {hp : Bool} {ut : TagCall} {i : Nat} {rest : List Nat}
    {st base : WinState} {t : TagCall} (hb : base.tags = st.tags) (ht : StopsAt n e lc hp i t) :
    WinRun n e lc hp ut (i :: rest) st { base with tags := base.tags ++ [t] } .stopped :=
  ⟨[], [], by simp, Or.inl rfl, by simp, Or.inr ⟨rfl, i, rest, t, rfl, by simp [hb], ht⟩⟩

theorem WinRun.cons {n : Nat} {e : Expr} {lc : Option (Nat × Expr)} {hp : Bool} {ut : TagCall} {i : Nat} {rest : List Nat}
    {st st1 st' : WinState} {fin : WinEnd} {fi : Int} {new : List TagCall} (hev : evalAt 32 i e = .ok fi) (hfi : ¬ fi ≥ n)
    (hpre : st1.pre = st.pre.add fi i) (htags : st1.tags = st.tags ++ new)
    (hun : new = [] ∧ st1.unusual = st.unusual ∧ (st.unusual = false → ¬ DiffersAt n e lc i) ∨
      new = [ut] ∧ st1.unusual = true ∧ st.unusual = false ∧ DiffersAt n e lc i)
    (hw : WinRun n e lc hp ut rest st1 st' fin) : WinRun n e lc hp ut (i :: rest) st st' fin := by
  have hgood : badMsg n e i = none := by simp only [badMsg, hev, hfi, if_false]
  obtain ⟨passed, mid, hpass, hmid, hiff, hfin⟩ := hw
  have hpass' : ∀ j ∈ i :: passed, badMsg n e j = none := List.forall_mem_cons.2 ⟨hgood, hpass⟩
  have hfin' : (fin = .completed ∧ i :: passed = i :: rest ∧ st'.tags = st.tags ++ (new ++ mid) ∧
        Recorded e (i :: rest) st.pre st'.pre) ∨
      (fin = .stopped ∧ ∃ i' post t, i :: rest = (i :: passed) ++ i' :: post ∧ st'.tags = st.tags ++ (new ++ mid) ++ [t] ∧
        StopsAt n e lc hp i' t) := by
    rcases hfin with ⟨hc, hp', ht, hk⟩ | ⟨hs, i', post, t, his, ht, hst⟩
    · refine Or.inl ⟨hc, by rw [hp'], by rw [ht, htags, List.append_assoc], Recorded.cons hev ?_⟩
      rw [← hpre]
      exact hk
    · exact Or.inr ⟨hs, i', post, t, by rw [his]; rfl, by rw [ht, htags]; simp only [List.append_assoc], hst⟩
  rcases hun with ⟨rfl, hu, hnd⟩ | ⟨rfl, hu, hu0, hd⟩
  · refine ⟨i :: passed, mid, hpass', hmid, ?_, hfin'⟩
    rw [hiff, hu]
    constructor
    · rintro ⟨h0, j, hj, hdj⟩
      exact ⟨h0, j, List.mem_cons_of_mem _ hj, hdj⟩
    · rintro ⟨h0, j, hj, hdj⟩
      rcases List.mem_cons.mp hj with rfl | hj
      · exact absurd hdj (hnd h0)
      · exact ⟨h0, j, hj, hdj⟩
  · have hmid0 : mid = [] := by
      rcases hmid with h0 | h1
      · exact h0
      · rw [hu] at hiff; exact absurd (hiff.1 h1).1 (by simp)
    subst hmid0
    exact ⟨i :: passed, [ut], hpass', Or.inr rfl, iff_of_true rfl ⟨hu0, i, List.mem_cons_self, hd⟩, hfin'⟩

/-- what the `for i in range(codomain_limit)` loop of `check_plurals` has done when it ends, for any index list and registry -/
theorem window_spec (n : Nat) (e : Expr) (lc : Option (Nat × Expr)) (hp : Bool) (ut : TagCall) :
    ∀ (is : List Nat) (st st' : WinState) (fin : WinEnd), window n e lc hp ut is st = (st', fin) →
      WinRun n e lc hp ut is st st' fin := by
  intro is st
  fun_induction window n e lc hp ut is st with
  | case1 st =>
    rintro _ _ ⟨⟩
    exact WinRun.nil
  | case2 i rest st hev =>
    rintro _ _ ⟨⟩
    exact WinRun.stop rfl (Or.inl ⟨_, by rw [badMsg, hev], by rw [badTagName, hev]⟩)
  | case3 i rest st hev =>
    rintro _ _ ⟨⟩
    exact WinRun.stop rfl (Or.inl ⟨_, by rw [badMsg, hev], by rw [badTagName, hev]⟩)
  | case4 i rest st ex h1 h2 hev => exact ((eval_err_cases hev).elim h1 h2).elim
  | case5 i rest st fi hev hfi =>
    rintro _ _ ⟨⟩
    exact WinRun.stop rfl (Or.inl ⟨_, by rw [badMsg, hev]; exact if_pos hfi, by rw [badTagName, hev]⟩)
  | case6 i rest st fi hev hfi st1 le hle hlc =>
    rintro _ _ ⟨⟩
    exact WinRun.stop (base := st1) rfl (Or.inr ⟨⟨_, Or.inl rfl⟩, le, _, hlc, hle⟩)
  | case7 i rest st fi hev hfi st1 le hle hlc =>
    rintro _ _ ⟨⟩
    exact WinRun.stop (base := st1) rfl (Or.inr ⟨⟨_, Or.inl rfl⟩, le, _, hlc, hle⟩)
  | case8 i rest st fi hev hfi st1 le ex h1 h2 hle hlc => exact ((eval_err_cases hle).elim h1 h2).elim
  | case9 i rest st fi hev hfi st1 le v hle hne hlc ih =>
    subst hlc
    intro st' fin h
    have hd : DiffersAt n e (some (n, le)) i := ⟨le, rfl, by rw [hev, hle]; intro hc; cases hc; exact hne.1 rfl⟩
    exact WinRun.cons hev hfi (new := [ut]) rfl rfl (Or.inr ⟨rfl, rfl, by simpa [st1] using hne.2, hd⟩) (ih st' fin h)
  | case10 i rest st fi hev hfi st1 le v hle hne hlc ih =>
    subst hlc
    intro st' fin h
    refine WinRun.cons hev hfi (st1 := st1) (new := []) rfl (List.append_nil _).symm (Or.inl ⟨rfl, rfl, ?_⟩) (ih st' fin h)
    rintro hu0 ⟨le', hc, hd⟩
    cases hc
    rw [hev, hle] at hd
    exact hne ⟨fun hfv => hd (by rw [hfv]), by simp [st1, hu0]⟩
  | case11 i rest st fi hev hfi st1 ln le hlc hn ih =>
    subst hlc
    intro st' fin h
    exact WinRun.cons hev hfi (st1 := st1) (new := []) rfl (List.append_nil _).symm
      (Or.inl ⟨rfl, rfl, fun _ ⟨_, hc, _⟩ => by cases hc; exact hn rfl⟩) (ih st' fin h)
  | case12 i rest st fi hev hfi st1 hlc ih =>
    subst hlc
    intro st' fin h
    exact WinRun.cons hev hfi (st1 := st1) (new := []) rfl (List.append_nil _).symm
      (Or.inl ⟨rfl, rfl, fun _ ⟨_, hc, _⟩ => by cases hc⟩) (ih st' fin h)

theorem window_nocrash (n : Nat) (e : Expr) (lc : Option (Nat × Expr)) (hp : Bool) (ut : TagCall)
    (is : List Nat) (st st' : WinState) (ex : Exc) : window n e lc hp ut is st ≠ (st', .crashed ex) := by
  intro h
  obtain ⟨_, _, _, _, _, hfin⟩ := window_spec n e lc hp ut is st st' _ h
  rcases hfin with ⟨hc, _⟩ | ⟨hs, _⟩
  · cases hc
  · cases hs

theorem StopsAt.tag_isStopTag {n : Nat} {e : Expr} {lc : Option (Nat × Expr)} {hp : Bool} {i : Nat} {t : TagCall}
    (h : StopsAt n e lc hp i t) : isStopTag hp t := by
  rcases h with ⟨msg, _, rfl⟩ | ⟨h, _⟩
  · unfold badTagName
    cases evalAt 32 i e
    · exact ⟨msg, Or.inl rfl⟩
    · exact ⟨msg, Or.inr rfl⟩
  · exact h

theorem DiffersAt.false_of_none_or_self {n : Nat} {e : Expr} {lc : Option (Nat × Expr)} {j : Nat} (h : DiffersAt n e lc j)
    (hlc : lc = none ∨ lc = some (n, e)) : False := by
  obtain ⟨le, hle, hd⟩ := h
  rcases hlc with hnone | hself
  · rw [hnone] at hle
    cases hle
  · rw [hself] at hle
    cases hle
    exact hd rfl

theorem StopsAt.bad {n : Nat} {e : Expr} {lc : Option (Nat × Expr)} {hp : Bool} {i : Nat} {t : TagCall} {is : List Nat}
    (h : StopsAt n e lc hp i t) (hlc : LcTotal lc is) (hi : i ∈ is) :
    ∃ msg, badMsg n e i = some msg ∧ t = ⟨badTagName n e i hp, [.safe msg]⟩ := by
  rcases h with h | ⟨_, le, ex, hc, hle⟩
  · exact h
  · obtain ⟨v, hv⟩ := hlc n le hc i hi
    rw [hv] at hle
    cases hle

theorem range_split {N i : Nat} {pre post : List Nat} (h : List.range N = pre ++ i :: post) : pre = List.range i ∧ i < N := by
  have hlen : pre.length + (post.length + 1) = N := by simpa using (congrArg List.length h).symm
  have hi : (List.range N)[pre.length]? = some i := by rw [h]; simp
  rw [List.getElem?_range (by omega)] at hi
  cases hi
  have htake := congrArg (List.take pre.length) h
  rw [List.take_left' rfl, List.take_range, Nat.min_eq_left (by omega)] at htake
  exact ⟨htake.symm, by omega⟩

/-- the loop over `range N` when the registry's expression evaluates there: it stops at the least index with a bad outcome, if any -/
theorem window_range {n : Nat} {e : Expr} {lc : Option (Nat × Expr)} {hp : Bool} {ut : TagCall} {N : Nat} {st st' : WinState}
    {fin : WinEnd} (hlc : LcTotal lc (List.range N)) (hw : window n e lc hp ut (List.range N) st = (st', fin)) :
    ∃ m mid, (∀ j, j < m → badMsg n e j = none) ∧ (mid = [] ∨ mid = [ut]) ∧
      (mid = [ut] ↔ st.unusual = false ∧ ∃ j, j < m ∧ DiffersAt n e lc j) ∧
      ((fin = .completed ∧ m = N ∧ st'.tags = st.tags ++ mid) ∨
       (fin = .stopped ∧ m < N ∧ ∃ msg, badMsg n e m = some msg ∧
          st'.tags = st.tags ++ mid ++ [⟨badTagName n e m hp, [.safe msg]⟩])) := by
  obtain ⟨passed, mid, hpass, hmid, hiff, hfin⟩ := window_spec _ _ _ _ _ _ _ _ _ hw
  rcases hfin with ⟨hc, rfl, ht, _⟩ | ⟨hs, i, post, t, his, ht, hst⟩
  · simp only [List.mem_range] at hpass hiff
    exact ⟨N, mid, hpass, hmid, hiff, Or.inl ⟨hc, rfl, ht⟩⟩
  · obtain ⟨rfl, hi⟩ := range_split his
    simp only [List.mem_range] at hpass hiff
    obtain ⟨msg, hbad, rfl⟩ := hst.bad hlc (List.mem_range.2 hi)
    exact ⟨i, mid, hpass, hmid, hiff, Or.inr ⟨hs, hi, msg, hbad, ht⟩⟩

theorem completedOf_facts (n : Nat) (e : Expr) (lc : Option (Nat × Expr)) (hp : Bool) (ut : TagCall)
    (st0 st : WinState) (fin : WinEnd) (h0 : st0.pre = [])
    (hw : window n e lc hp ut (List.range codomainLimit) st0 = (st, fin)) :
    ∀ pre, completedOf st fin = some pre → CoversWindow e pre := by
  intro pre hpre
  cases fin with
  | completed =>
    cases hpre
    obtain ⟨hgood, hrec⟩ := (window_spec _ _ _ _ _ _ _ _ _ hw).of_completed
    rw [h0] at hrec
    refine hrec.windowKeys.coversWindow fun i hi => ?_
    obtain ⟨v, hv, _⟩ := badMsg_none (hgood i (List.mem_range.2 hi))
    exact ⟨v, hv⟩
  | stopped => cases hpre
  | crashed ex => cases hpre

theorem scanKeys_spec (n : Nat) (ks : List Int) : ∀ (l : List Int), (∀ i ∈ l, 0 ≤ i) →
    ∀ r ∈ scanKeys n ks l, ∃ j : Int, 0 ≤ j ∧ j ∉ ks ∧ r = (j.toNat, (j + 1).toNat) := by
  intro l
  induction l with
  | nil => intro _ r hr; simp [scanKeys] at hr
  | cons i rest ih =>
    intro hpos r hr
    simp only [scanKeys] at hr
    have hi := hpos i (by simp)
    split at hr
    next hbelow =>        -- `i - 1` is missing
      simp only [List.mem_singleton] at hr
      refine ⟨i - 1, by omega, by simpa using hbelow.2, ?_⟩
      rw [hr]; congr 1; congr 1; omega
    next =>
      split at hr
      next habove =>      -- `i + 1` is missing
        simp only [List.mem_singleton] at hr
        refine ⟨i + 1, by omega, by simpa using habove.2, ?_⟩
        rw [hr]; congr 1; congr 1; omega
      next => exact ih (fun j hj => hpos j (by simp [hj])) r hr

/-- `uncov_rngs` after the period test: unchanged, unless it was empty, the loop completed and `sum(period) < codomain_limit`;
    then it is what the scan over `sorted(ctx.plural_preimage)` finds -/
theorem gapTail_cases {n : Nat} {e : Expr} {completed : Option Preimage} {rs0 rs : List (Nat × Nat)}
    (h : gapTail n e completed rs0 = .ok rs) :
    rs = rs0 ∨ ∃ pre o p, completed = some pre ∧ period 32 e = .ok (some (o, p)) ∧ o + p < (codomainLimit : Int) ∧
      rs = scanKeys n (sortedKeys pre) (sortedKeys pre) := by
  unfold gapTail at h
  split at h
  · cases completed with
    | none => cases h; exact Or.inl rfl
    | some pre =>
      simp only at h
      cases hper : period 32 e with
      | error ex => rw [hper] at h; cases h
      | ok per =>
        rw [hper] at h
        cases per with
        | none => cases h; exact Or.inl rfl
        | some op =>
          obtain ⟨o, p⟩ := op
          simp only at h
          by_cases hsmall : o + p < (codomainLimit : Int)
          · simp only [hsmall, decide_true, ↓reduceIte] at h
            cases h
            exact Or.inr ⟨pre, o, p, rfl, rfl, hsmall, rfl⟩
          · simp only [hsmall, decide_false, Bool.false_eq_true, ↓reduceIte] at h
            cases h; exact Or.inl rfl
  · cases h; exact Or.inl rfl

/-- `uncov_rngs` after the codomain test: empty without a codomain, `codomainRanges` with one -/
theorem gapRanges_eq (n : Nat) (e : Expr) (completed : Option Preimage) :
    ∃ rs0, gapRanges n e completed = gapTail n e completed rs0 ∧
      ((codomain 32 e = .ok none ∧ rs0 = []) ∨ ∃ x y, codomain 32 e = .ok (some (x, y)) ∧ rs0 = codomainRanges x y n) := by
  obtain ⟨cd, hcd⟩ := I18n.Props.C05.codomain_nocrash 32 e
  rcases cd with _ | ⟨x, y⟩
  · exact ⟨[], by rw [gapRanges, hcd], Or.inl ⟨hcd, rfl⟩⟩
  · exact ⟨_, by rw [gapRanges, hcd], Or.inr ⟨x, y, hcd, rfl⟩⟩

theorem mem_codomainRanges {x y : Int} {n : Nat} {r : Nat × Nat} :
    r ∈ codomainRanges x y n ↔ (x > 0 ∧ r = (0, x.toNat)) ∨ (y + 1 < n ∧ r = ((y + 1).toNat, n)) := by
  rw [codomainRanges, List.mem_append, List.mem_ite_nil_right, List.mem_ite_nil_right, List.mem_singleton, List.mem_singleton]

/-- **Gap claims are true.**  Whatever ranges `gapRanges` reports, no `m < 2^32` produces a value in
    them — provided the preimage handed over (if any) is that of a completed window. -/
theorem gapRanges_true (n : Nat) (e : Expr) (completed : Option Preimage) (rs : List (Nat × Nat))
    (h : gapRanges n e completed = .ok rs)
    (hcomp : ∀ pre, completed = some pre → CoversWindow e pre) :
    ∀ r ∈ rs, ∀ k : Nat, r.1 ≤ k → k < r.2 → ∀ m : Nat, (m : Int) < 2 ^ 32 → evalAt 32 m e ≠ .ok (k : Int) := by
  obtain ⟨rs0, heq, h0⟩ := gapRanges_eq n e completed
  rw [heq] at h
  rcases gapTail_cases h with rfl | ⟨pre, o, p, hc, hper, hsmall, rfl⟩
  · -- outside the codomain (C05)
    rcases h0 with ⟨_, rfl⟩ | ⟨x, y, hcd, rfl⟩
    · simp
    · intro r hr k hk1 hk2 m hm hev
      have := I18n.Props.C05.codomain_sound 32 e x y hcd m hm k hev
      rcases mem_codomainRanges.1 hr with ⟨_, rfl⟩ | ⟨_, rfl⟩
      · simp only at hk2
        omega
      · simp only at hk1
        omega
  · obtain ⟨hall, hpos⟩ := hcomp pre hc
    intro r hr k hk1 hk2 m hm hev
    obtain ⟨j, hj0, hjk, rfl⟩ := scanKeys_spec n (sortedKeys pre) (sortedKeys pre)
      (fun i hi => hpos i ((mem_sortedKeys pre i).1 hi)) r hr
    simp only at hk1 hk2
    have hkj : (k : Int) = j := by omega
    -- by periodicity the value at `m` is already taken below `o + p < codomainLimit`, so it is a key
    obtain ⟨i', hi', _, hout⟩ := periodic_image hper m hm
    have hi200 : i' < codomainLimit := by
      have : codomainLimit = 200 := rfl
      omega
    obtain ⟨v, hv, hvk⟩ := hall i' hi200
    have : outcome 32 m e = some (k : Int) := outcome_eq_some.2 hev
    rw [hout] at this
    have := outcome_eq_some.1 this
    rw [hv] at this
    cases this
    exact hjk ((mem_sortedKeys pre _).2 (hkj ▸ hvk))

/-- the only leaf of `gapTail` that is not `.ok` hands on an exception of `period` -/
theorem gapTail_nocrash {e : Expr} {per : Option (Int × Int)} (hper : period 32 e = .ok per) (n : Nat)
    (completed : Option Preimage) (rs0 : List (Nat × Nat)) : ∃ rs, gapTail n e completed rs0 = .ok rs := by
  unfold gapTail
  by_cases hrs : rs0.isEmpty = true
  · rw [if_pos hrs]
    cases completed with
    | none => exact ⟨_, rfl⟩
    | some pre =>
      simp only [hper]
      rcases per with _ | ⟨o, p⟩
      · exact ⟨_, rfl⟩
      · dsimp only
        split
        · exact ⟨_, rfl⟩
        · exact ⟨_, rfl⟩
  · rw [if_neg hrs]
    exact ⟨_, rfl⟩

theorem gapRanges_nocrash (n : Nat) (e : Expr) (completed : Option Preimage) : ∃ rs, gapRanges n e completed = .ok rs := by
  obtain ⟨rs0, heq, _⟩ := gapRanges_eq n e completed
  obtain ⟨per, hper⟩ := I18n.Props.C06.period_nocrash 32 e
  rw [heq]
  exact gapTail_nocrash hper n completed rs0

theorem scanKeys_nonempty (n : Nat) (ks : List Int) : ∀ (l : List Int), (∀ i ∈ l, 0 ≤ i) → ∀ r ∈ scanKeys n ks l, r.1 < r.2 := by
  intro l hpos r hr
  obtain ⟨j, hj0, _, rfl⟩ := scanKeys_spec n ks l hpos r hr
  simp only
  omega

theorem codomainRanges_nonempty (x y : Int) (n : Nat) (hy : 0 ≤ y) : ∀ r ∈ codomainRanges x y n, r.1 < r.2 := by
  intro r hr
  rcases mem_codomainRanges.1 hr with ⟨_, rfl⟩ | ⟨_, rfl⟩
  · simp only
    omega
  · simp only
    omega

/-- so `format_range` is never applied to an empty range -/
theorem gapRanges_nonempty (n : Nat) (e : Expr) (completed : Option Preimage) (rs : List (Nat × Nat))
    (h : gapRanges n e completed = .ok rs) (hcomp : ∀ pre, completed = some pre → ∀ k ∈ keys pre, 0 ≤ k) :
    ∀ r ∈ rs, r.1 < r.2 := by
  obtain ⟨rs0, heq, h0⟩ := gapRanges_eq n e completed
  rw [heq] at h
  rcases gapTail_cases h with rfl | ⟨pre, _, _, hc, _, _, rfl⟩
  · rcases h0 with ⟨_, rfl⟩ | ⟨x, y, hcd, rfl⟩
    · simp
    · have hwf := I18n.Props.C05.codomain_interval_wf 32 e x y hcd
      exact codomainRanges_nonempty x y n (by omega)
  · exact scanKeys_nonempty n _ _ (fun i hi => hcomp pre hc i ((mem_sortedKeys pre i).1 hi))

theorem scanKeys_nil (n : Nat) (ks : List Int) : ∀ (l : List Int),
    (∀ i ∈ l, (i > 0 → (i - 1) ∈ ks) ∧ (i + 1 < n → (i + 1) ∈ ks)) → scanKeys n ks l = [] := by
  intro l
  induction l with
  | nil => intro _; rfl
  | cons i rest ih =>
    intro h
    obtain ⟨h1, h2⟩ := h i (by simp)
    simp only [scanKeys]
    have c1 : ¬ (i > 0 ∧ ¬ ks.contains (i - 1) = true) := by
      rintro ⟨hi, hc⟩; exact hc (by simpa using h1 hi)
    have c2 : ¬ (i + 1 < n ∧ ¬ ks.contains (i + 1) = true) := by
      rintro ⟨hi, hc⟩; exact hc (by simpa using h2 hi)
    rw [if_neg c1, if_neg c2]
    exact ih (fun j hj => h j (by simp [hj]))

/-- total on the window, in range, onto: the hypotheses of C07's "clean declaration" clause -/
structure CleanOnWindow (n : Nat) (e : Expr) : Prop where
  total : ∀ i : Nat, i < codomainLimit → ∃ v, evalAt 32 i e = .ok v ∧ v < n
  onto : ∀ k : Nat, k < n → ∃ i : Nat, i < codomainLimit ∧ evalAt 32 i e = .ok (k : Int)

theorem CleanOnWindow.badMsg_none {n : Nat} {e : Expr} (h : CleanOnWindow n e) (i : Nat) (hi : i < codomainLimit) : badMsg n e i = none := by
  obtain ⟨v, hv, hvn⟩ := h.total i hi
  simp only [badMsg, hv]
  rw [if_neg (by omega)]

theorem gapRanges_clean {n : Nat} {e : Expr} (h : CleanOnWindow n e) (pre : Preimage)
    (hkeys : WindowKeys e pre) : gapRanges n e (some pre) = .ok [] := by
  have hlim : codomainLimit = 200 := rfl
  -- every key is a valid index, and every valid index is a key
  have hrange : ∀ k, k ∈ keys pre → 0 ≤ k ∧ k < n := by
    intro k hk
    obtain ⟨i, hi, hv⟩ := (hkeys k).1 hk
    obtain ⟨v, hv', hvn⟩ := h.total i hi
    rw [hv] at hv'; cases hv'
    exact ⟨(Plural.evalAt_value_range (by decide) i e k hv).1, hvn⟩
  have hall : ∀ k : Int, 0 ≤ k → k < n → k ∈ keys pre := by
    intro k h0 hn
    obtain ⟨k', rfl⟩ : ∃ k' : Nat, k = (k' : Int) := ⟨k.toNat, by omega⟩
    obtain ⟨i, hi, hv⟩ := h.onto k' (by omega)
    exact (hkeys _).2 ⟨i, hi, hv⟩
  -- nothing lies outside the codomain: `0` and `n - 1` are produced
  obtain ⟨rs0, heq, h0⟩ := gapRanges_eq n e (some pre)
  have hrs0 : rs0 = [] := by
    rcases h0 with ⟨_, rfl⟩ | ⟨x, y, hcd, rfl⟩
    · rfl
    · have hsound := I18n.Props.C05.codomain_sound 32 e x y hcd
      have hn : n ≠ 0 := by
        intro hn
        obtain ⟨v, hv, hvn⟩ := h.total 0 (by omega)
        have := (Plural.evalAt_value_range (by decide) (0 : Nat) e v hv).1
        omega
      obtain ⟨i, hi, hv⟩ := h.onto 0 (by omega)
      obtain ⟨i', hi', hv'⟩ := h.onto (n - 1) (by omega)
      have h1 := hsound i (by omega) 0 hv
      have h2 := hsound i' (by omega) _ hv'
      have hx : ¬ x > 0 := by omega
      have hy : ¬ y + 1 < n := by omega
      simp only [codomainRanges, hx, hy, ↓reduceIte, List.append_nil]
  -- and no valid index is missing next to a key
  obtain ⟨rs, hrs⟩ := gapRanges_nocrash n e (some pre)
  rw [hrs]
  rw [heq, hrs0] at hrs
  rcases gapTail_cases hrs with rfl | ⟨pre', _, _, hpre, _, _, rfl⟩
  · rfl
  · cases hpre
    congr 1
    apply scanKeys_nil
    intro i hi
    have hik := (mem_sortedKeys pre i).1 hi
    obtain ⟨hi0, hin⟩ := hrange i hik
    exact ⟨fun hp => (mem_sortedKeys pre _).2 (hall _ (by omega) (by omega)),
           fun hp => (mem_sortedKeys pre _).2 (hall _ (by omega) (by omega))⟩

end I18n.CheckPlurals
