import I18n.Lemmas.CFmtRe
/-!
# The `finditer` loop of `FormatString.__init__` yields the model's segmentation

`findFrom` (the engine's search loop over the live tree) produces, while the matches are contiguous, exactly the matches
`scanItem` reads; `decodeMatch` rebuilds the item from the group spans; `walk` (the loop with its two `Error` tests) returns
`CFmt.scan`'s item list and completeness flag.
-/
namespace I18n.CFmtRe
open I18n.Spec.Printf I18n.Spec.BraceRe I18n.ReKit
open I18n.CFmt hiding St

/-! ## the search loop

`r` is any parse tree with `IsScanner db r` (for the live tree: `matchAt_live`). -/

theorem findFrom_eq (db : CharDB) {r : Re} (hr : IsScanner db r) (fuel : Nat) (cs : List Char) (pos : Nat) :
    findFrom db r (fuel + 1) cs pos =
      match scanItem cs with
      | some (it, rest) =>
        ⟨pos, ⟨rest, pos + it.render.length, itemCaps pos it⟩⟩ :: findFrom db r fuel rest (pos + it.render.length)
      | none =>
        match cs with
        | [] => []
        | _ :: t => findFrom db r fuel t (pos + 1) := by
  simp only [findFrom]
  rw [hr]
  cases h : scanItem cs with
  | none => rfl
  | some p =>
    obtain ⟨it, rest⟩ := p
    have := scanItem_pos h
    simp only [Option.map_some]
    rw [if_pos (by omega)]

theorem match_nonempty (db : CharDB) {r : Re} (hr : IsScanner db r) {cs : List Char} {pos : Nat} {st : St}
    (h : matchAt db r cs pos = some st) : pos < st.pos := by
  rw [hr] at h
  cases hs : scanItem cs with
  | none => simp [hs] at h
  | some p =>
    obtain ⟨it, rest⟩ := p
    simp only [hs, Option.map_some, Option.some.injEq] at h
    subst h
    have := scanItem_pos hs
    simp only; omega

theorem findFrom_start (db : CharDB) {r : Re} (hr : IsScanner db r) : ∀ (fuel : Nat) (cs : List Char) (pos : Nat),
    ∀ m ∈ findFrom db r fuel cs pos, pos ≤ m.start := by
  intro fuel
  induction fuel with
  | zero => intro cs pos m hm; simp [findFrom] at hm
  | succ fuel ih =>
    intro cs pos m hm
    rw [findFrom_eq db hr] at hm
    cases h : scanItem cs with
    | some p =>
      obtain ⟨it, rest⟩ := p
      simp only [h, List.mem_cons] at hm
      rcases hm with rfl | hm
      · exact Nat.le_refl _
      · exact Nat.le_trans (Nat.le_add_right _ _) (ih _ _ m hm)
    | none =>
      simp only [h] at hm
      cases cs with
      | nil => simp at hm
      | cons c t => exact Nat.le_trans (Nat.le_succ _) (ih _ _ m hm)

/-! ## what the loop body reads from a match -/

theorem drop_skip {s : List Char} {a : Nat} {x y : List Char} (h : s.drop a = x ++ y) : s.drop (a + x.length) = y := by
  rw [← List.drop_drop, h, List.drop_left]

theorem slice_pre {s : List Char} {a b : Nat} {mid post : List Char} (h : s.drop a = mid ++ post) (hb : b = a + mid.length) :
    slice s a b = mid := by
  subst hb
  unfold slice
  rw [h, Nat.add_sub_cancel_left, List.take_left]

/-- `St.span` on a bare capture list (`span_eq_lookup`): the captures of one piece (`widthCaps`, …) have no `St` around them -/
def lookup (caps : Caps) (g : Nat) : Option (Nat × Nat) := (caps.find? (·.1 == g)).map (·.2)

theorem span_eq_lookup (st : St) (g : Nat) : st.span g = lookup st.caps g := rfl

theorem lookup_append (l l' : Caps) (g : Nat) : lookup (l ++ l') g = (lookup l g).or (lookup l' g) := by
  simp only [lookup, List.find?_append]
  cases List.find? (fun x => x.1 == g) l <;> rfl

theorem lookup_cons (e : Nat × Nat × Nat) (l : Caps) (g : Nat) :
    lookup (e :: l) g = if e.1 = g then some e.2 else lookup l g := by
  simp only [lookup, List.find?_cons]
  by_cases h : e.1 = g
  · simp [h]
  · have : (e.1 == g) = false := by simpa using h
    simp [h, this]

theorem lookup_nil (g : Nat) : lookup [] g = none := rfl

theorem idxCaps_lookup (g pos : Nat) (idx : Option (List Char)) (g' : Nat) :
    lookup (idxCaps g pos idx) g' = if g = g' then idx.map (fun ds => (pos, pos + (ds.length + 1))) else none := by
  cases idx with
  | none => simp [idxCaps, lookup_nil]
  | some ds => simp [idxCaps, lookup_cons, lookup_nil]

/-- the text of an `index` group is `digits $`, and `rstrip('$')` gives the digits back -/
theorem idx_text {s : List Char} {a g : Nat} {post : List Char} {idx : Option (List Char)} (hw : IdxWf idx)
    (h : s.drop a = renderIdx idx ++ post) :
    ((lookup (idxCaps g a idx) g).map (fun p => slice s p.1 p.2)).map rstripDollar = idx := by
  cases idx with
  | none => rfl
  | some ds =>
    simp only [idxCaps, lookup_cons, if_true, Option.map_some]
    rw [slice_pre (mid := ds ++ ['$']) h (by simp), rstripDollar_digits hw.2]

/-! ### one piece at its position `p`: the groups the piece closes give the piece back -/

theorem decodeWidth_at {s : List Char} {p : Nat} {w : Width} {post : List Char} (hw : w.Wf) (h : s.drop p = w.render ++ post) :
    let tx := fun g => (lookup (widthCaps p w) g).map (fun q => slice s q.1 q.2)
    decodeWidth (tx 5) (tx 6) (tx 7) = w := by
  intro tx
  unfold decodeWidth
  simp only [tx]
  cases w with
  | none => rfl
  | num ds =>
    simp only [widthCaps, lookup_cons, if_true, Option.map_some]
    rw [slice_pre (mid := ds) h rfl]
  | star idx =>
    simp only [widthCaps, lookup_append, idxCaps_lookup 7 _ _ 5, idxCaps_lookup 7 _ _ 6, lookup_cons, lookup_nil, Nat.reduceEqDiff, if_false,
      if_true, Option.none_or, Option.or_none, Option.map_none, Option.map_some, Option.isSome_some]
    exact congrArg Width.star (idx_text hw (drop_skip (x := ['*']) h))

theorem decodePrec_at {s : List Char} {p : Nat} {pr : Prec} {post : List Char} (hw : pr.Wf) (h : s.drop p = pr.render ++ post) :
    let tx := fun g => (lookup (precCaps p pr) g).map (fun q => slice s q.1 q.2)
    decodePrec (tx 8) (tx 9) (tx 10) = pr := by
  intro tx
  unfold decodePrec
  simp only [tx]
  cases pr with
  | none => rfl
  | num ds =>
    simp only [precCaps, lookup_cons, if_true, Option.map_some]
    exact congrArg Prec.num (slice_pre (drop_skip (x := ['.']) h) rfl)
  | star idx =>
    simp only [precCaps, lookup_append, idxCaps_lookup 10 _ _ 8, idxCaps_lookup 10 _ _ 9, lookup_cons, lookup_nil, Nat.reduceEqDiff, if_false,
      if_true, Option.none_or, Option.or_none, Option.map_none, Option.map_some, Option.isSome_some]
    exact congrArg Prec.star (idx_text hw (drop_skip (x := ['.', '*']) h))

theorem decodeBody_at {s : List Char} {p : Nat} {b : Body} {post : List Char} (h : s.drop p = b.render ++ post) :
    let tx := fun g => (lookup (bodyCaps p b) g).map (fun q => slice s q.1 q.2)
    decodeBody (tx 11) (tx 12) (tx 13) (tx 14) = some b := by
  intro tx
  simp only [tx]
  cases b with
  | std len c =>
    cases len with
    | none =>
      have h12 : slice s p (p + 1) = [c] := slice_pre h rfl
      simp only [bodyCaps, lookup_cons, lookup_nil, Nat.reduceEqDiff, if_false, if_true, Option.map_none, Option.map_some, h12]
      rfl
    | some ln =>
      have h' : s.drop p = ln.chars ++ ([c] ++ post) := by rw [h, Body.render, renderLen, List.append_assoc]
      have h11 : slice s p (p + ln.chars.length) = ln.chars := slice_pre h' rfl
      have h12 : slice s (p + ln.chars.length) (p + ln.chars.length + 1) = [c] := slice_pre (drop_skip h') rfl
      simp only [bodyCaps, lookup_cons, lookup_nil, Nat.reduceEqDiff, if_false, if_true, Option.map_none, Option.map_some, h11, h12]
      simp [decodeBody, lenOfChars_chars]
  | pri c l =>
    have h' : s.drop p = ['<', 'P', 'R', 'I'] ++ ([c] ++ (l.chars ++ (['>'] ++ post))) := by
      rw [h, Body.render, List.append_assoc, List.append_assoc]
      rfl
    have h13 : slice s (p + 4) (p + 5) = [c] := slice_pre (drop_skip h') rfl
    have h14 : slice s (p + 5) (p + 5 + l.chars.length) = l.chars := slice_pre (drop_skip (x := [c]) (drop_skip h')) rfl
    simp only [bodyCaps, lookup_cons, lookup_nil, Nat.reduceEqDiff, if_false, if_true, Option.map_none, Option.map_some, h13, h14]
    simp [decodeBody, priLenOfChars_chars]

/-- positions of the pieces of a directive whose `%` is at `pos` -/
structure Layout (s : List Char) (pos : Nat) (d : Directive) (rest : List Char) : Prop where
  drop : s.drop pos = '%' :: (renderIdx d.index ++ (d.flags ++ (d.width.render ++ (d.prec.render ++ (d.body.render ++ rest)))))
  wf : d.Wf

section decode
variable {s : List Char} {pos : Nat} {d : Directive} {rest : List Char} (L : Layout s pos d rest)

include L in
theorem Layout.atIdx : s.drop (pos + 1) = renderIdx d.index ++ (d.flags ++ (d.width.render ++ (d.prec.render ++ (d.body.render ++ rest)))) :=
  drop_skip (x := ['%']) L.drop

include L in
theorem Layout.atFlags :
    s.drop (pos + 1 + (renderIdx d.index).length) = d.flags ++ (d.width.render ++ (d.prec.render ++ (d.body.render ++ rest))) :=
  drop_skip L.atIdx

include L in
theorem Layout.atWidth :
    s.drop (pos + 1 + (renderIdx d.index).length + d.flags.length) = d.width.render ++ (d.prec.render ++ (d.body.render ++ rest)) :=
  drop_skip L.atFlags

include L in
theorem Layout.atPrec :
    s.drop (pos + 1 + (renderIdx d.index).length + d.flags.length + d.width.render.length) = d.prec.render ++ (d.body.render ++ rest) :=
  drop_skip L.atWidth

include L in
theorem Layout.atBody :
    s.drop (pos + 1 + (renderIdx d.index).length + d.flags.length + d.width.render.length + d.prec.render.length) = d.body.render ++ rest :=
  drop_skip L.atPrec

/-- the group table of a directive match -/
def gt (s : List Char) (pos : Nat) (d : Directive) (rest : List Char) (g : Nat) : Option (List Char) :=
  groupText s ⟨pos, ⟨rest, pos + (Item.dir d).render.length, itemCaps pos (.dir d)⟩⟩ g

theorem groupText_dir (g : Nat) :
    groupText s ⟨pos, ⟨rest, pos + (Item.dir d).render.length, itemCaps pos (.dir d)⟩⟩ g = gt s pos d rest g := rfl

theorem gt_eq (g : Nat) : gt s pos d rest g = (lookup (dirCaps pos d) g).map (fun p => slice s p.1 p.2) := rfl

theorem bodyCaps_other (p : Nat) (b : Body) (g : Nat) (h11 : 11 ≠ g) (h12 : 12 ≠ g) (h13 : 13 ≠ g) (h14 : 14 ≠ g) :
    lookup (bodyCaps p b) g = none := by
  cases b with
  | std l c => cases l <;> simp [bodyCaps, lookup_cons, lookup_nil, h11, h12]
  | pri c l => simp [bodyCaps, lookup_cons, lookup_nil, h13, h14]

theorem precCaps_other (p : Nat) (pr : Prec) (g : Nat) (h8 : 8 ≠ g) (h9 : 9 ≠ g) (h10 : 10 ≠ g) : lookup (precCaps p pr) g = none := by
  cases pr with
  | none => rfl
  | num ds => simp [precCaps, lookup_cons, lookup_nil, h8]
  | star idx => simp [precCaps, lookup_append, idxCaps_lookup, lookup_cons, lookup_nil, h9, h10]

theorem widthCaps_other (p : Nat) (w : Width) (g : Nat) (h5 : 5 ≠ g) (h6 : 6 ≠ g) (h7 : 7 ≠ g) : lookup (widthCaps p w) g = none := by
  cases w with
  | none => rfl
  | num ds => simp [widthCaps, lookup_cons, lookup_nil, h5]
  | star idx => simp [widthCaps, lookup_append, idxCaps_lookup, lookup_cons, lookup_nil, h6, h7]

/-! A group is looked up in the captures of the piece that closes it: 2 the directive, 3 `index`, 4 `flags`, 5–7 the width,
    8–10 the precision, 11–14 the body. The side condition of `lookup_dirCaps_*` lists the groups closed outside the piece. -/

theorem lookup_dirCaps_lit : lookup (dirCaps pos d) 1 = none := by
  simp [dirCaps, tailCaps, lookup_cons, lookup_append, bodyCaps_other, precCaps_other, widthCaps_other, idxCaps_lookup]

theorem lookup_dirCaps_idx (g : Nat) (h : ∀ x ∈ [2, 4, 5, 6, 7, 8, 9, 10, 11, 12, 13, 14], x ≠ g := by decide) :
    lookup (dirCaps pos d) g = lookup (idxCaps 3 (pos + 1) d.index) g := by
  simp only [List.mem_cons, List.mem_nil_iff, or_false, forall_eq_or_imp, forall_eq] at h
  obtain ⟨h2, h4, h5, h6, h7, h8, h9, h10, h11, h12, h13, h14⟩ := h
  simp only [dirCaps, tailCaps, lookup_cons, lookup_append, h2, h4, if_false, bodyCaps_other _ _ g h11 h12 h13 h14,
    precCaps_other _ _ g h8 h9 h10, widthCaps_other _ _ g h5 h6 h7, Option.none_or]

theorem lookup_dirCaps_flags :
    lookup (dirCaps pos d) 4 =
      some (pos + 1 + (renderIdx d.index).length, pos + 1 + (renderIdx d.index).length + d.flags.length) := by
  simp only [dirCaps, tailCaps, lookup_cons, lookup_append, Nat.reduceEqDiff, if_false, if_true,
    bodyCaps_other _ _ 4 (by decide) (by decide) (by decide) (by decide), precCaps_other _ _ 4 (by decide) (by decide) (by decide),
    widthCaps_other _ _ 4 (by decide) (by decide) (by decide), Option.none_or]

theorem lookup_dirCaps_width (g : Nat) (h : ∀ x ∈ [2, 3, 4, 8, 9, 10, 11, 12, 13, 14], x ≠ g := by decide) :
    lookup (dirCaps pos d) g = lookup (widthCaps (pos + 1 + (renderIdx d.index).length + d.flags.length) d.width) g := by
  simp only [List.mem_cons, List.mem_nil_iff, or_false, forall_eq_or_imp, forall_eq] at h
  obtain ⟨h2, h3, h4, h8, h9, h10, h11, h12, h13, h14⟩ := h
  simp only [dirCaps, tailCaps, lookup_cons, lookup_append, h2, h4, h3, if_false, bodyCaps_other _ _ g h11 h12 h13 h14,
    precCaps_other _ _ g h8 h9 h10, idxCaps_lookup, Option.none_or, Option.or_none]

theorem lookup_dirCaps_prec (g : Nat) (h : ∀ x ∈ [2, 3, 4, 5, 6, 7, 11, 12, 13, 14], x ≠ g := by decide) :
    lookup (dirCaps pos d) g =
      lookup (precCaps (pos + 1 + (renderIdx d.index).length + d.flags.length + d.width.render.length) d.prec) g := by
  simp only [List.mem_cons, List.mem_nil_iff, or_false, forall_eq_or_imp, forall_eq] at h
  obtain ⟨h2, h3, h4, h5, h6, h7, h11, h12, h13, h14⟩ := h
  simp only [dirCaps, tailCaps, lookup_cons, lookup_append, h2, h4, h3, if_false, bodyCaps_other _ _ g h11 h12 h13 h14,
    widthCaps_other _ _ g h5 h6 h7, idxCaps_lookup, Option.none_or, Option.or_none]

theorem lookup_dirCaps_body (g : Nat) (h : ∀ x ∈ [2, 3, 4, 5, 6, 7, 8, 9, 10], x ≠ g := by decide) :
    lookup (dirCaps pos d) g =
      lookup (bodyCaps (pos + 1 + (renderIdx d.index).length + d.flags.length + d.width.render.length + d.prec.render.length) d.body) g := by
  simp only [List.mem_cons, List.mem_nil_iff, or_false, forall_eq_or_imp, forall_eq] at h
  obtain ⟨h2, h3, h4, h5, h6, h7, h8, h9, h10⟩ := h
  simp only [dirCaps, tailCaps, lookup_cons, lookup_append, h2, h4, h3, if_false, precCaps_other _ _ g h8 h9 h10,
    widthCaps_other _ _ g h5 h6 h7, idxCaps_lookup, Option.or_none]

theorem gt_lit : gt s pos d rest 1 = none := by rw [gt_eq, lookup_dirCaps_lit]; rfl

include L in
theorem gt_index : (gt s pos d rest 3).map rstripDollar = d.index := by
  rw [gt_eq, lookup_dirCaps_idx 3]
  exact idx_text L.wf.index L.atIdx

include L in
theorem gt_flags : gt s pos d rest 4 = some d.flags := by
  rw [gt_eq, lookup_dirCaps_flags, Option.map_some, slice_pre L.atFlags rfl]

include L in
theorem decode_width : decodeWidth (gt s pos d rest 5) (gt s pos d rest 6) (gt s pos d rest 7) = d.width := by
  simp only [gt_eq, lookup_dirCaps_width (pos := pos) (d := d) 5, lookup_dirCaps_width (pos := pos) (d := d) 6, lookup_dirCaps_width (pos := pos) (d := d) 7]
  exact decodeWidth_at L.wf.width L.atWidth

include L in
theorem decode_prec : decodePrec (gt s pos d rest 8) (gt s pos d rest 9) (gt s pos d rest 10) = d.prec := by
  simp only [gt_eq, lookup_dirCaps_prec (pos := pos) (d := d) 8, lookup_dirCaps_prec (pos := pos) (d := d) 9, lookup_dirCaps_prec (pos := pos) (d := d) 10]
  exact decodePrec_at L.wf.prec L.atPrec

include L in
theorem decode_body : decodeBody (gt s pos d rest 11) (gt s pos d rest 12) (gt s pos d rest 13) (gt s pos d rest 14) = some d.body := by
  simp only [gt_eq, lookup_dirCaps_body (pos := pos) (d := d) 11, lookup_dirCaps_body (pos := pos) (d := d) 12, lookup_dirCaps_body (pos := pos) (d := d) 13,
    lookup_dirCaps_body (pos := pos) (d := d) 14]
  exact decodeBody_at L.atBody

include L in
theorem decodeDirective_ok :
    decodeDirective s ⟨pos, ⟨rest, pos + (Item.dir d).render.length, itemCaps pos (.dir d)⟩⟩ = some d := by
  unfold decodeDirective
  simp only [groupText_dir, gt_index L, gt_flags L, Option.getD_some, decode_width L, decode_prec L, decode_body L, Option.map_some]

include L in
theorem decodeMatch_dir :
    decodeMatch s ⟨pos, ⟨rest, pos + (Item.dir d).render.length, itemCaps pos (.dir d)⟩⟩ = some (.dir d) := by
  unfold decodeMatch
  rw [groupText_dir, gt_lit, decodeDirective_ok L]
  rfl

end decode

theorem decodeMatch_lit {s : List Char} {pos : Nat} {cs rest : List Char} (h : s.drop pos = cs ++ rest) :
    decodeMatch s ⟨pos, ⟨rest, pos + (Item.lit cs).render.length, itemCaps pos (.lit cs)⟩⟩ = some (.lit cs) := by
  unfold decodeMatch groupText
  simp only [span_eq_lookup, itemCaps, lookup_cons, if_true, Option.map_some]
  rw [slice_pre h rfl]

/-! ## the loop -/

theorem scanItem_dir_wf {cs : List Char} {d : Directive} {rest : List Char} (h : scanItem cs = some (.dir d, rest)) : d.Wf :=
  (scanItem_spec h).2.1

theorem decodeMatch_item {s : List Char} {pos : Nat} {cs : List Char} {it : Item} {rest : List Char}
    (hs : s.drop pos = cs) (h : scanItem cs = some (it, rest)) :
    decodeMatch s ⟨pos, ⟨rest, pos + it.render.length, itemCaps pos it⟩⟩ = some it := by
  obtain ⟨e, _⟩ := scanItem_spec h
  cases it with
  | lit l => exact decodeMatch_lit (by rw [hs, e]; rfl)
  | dir d =>
    refine decodeMatch_dir ⟨?_, scanItem_dir_wf h⟩
    rw [hs, e]
    simp [Item.render, Directive.render, Directive.renderTail]

theorem walk_findFrom (db : CharDB) {r : Re} (hr : IsScanner db r) (s : List Char) : ∀ (fuel : Nat) (cs : List Char) (pos : Nat),
    cs.length < fuel → s.drop pos = cs → pos + cs.length = s.length →
    (walk s (findFrom db r fuel cs pos) pos).1 = (scanAll cs.length cs).1 ∧
    (walk s (findFrom db r fuel cs pos) pos).2.1 = (scanAll cs.length cs).2 ∧
    ((walk s (findFrom db r fuel cs pos) pos).2.1 = false →
      (s.drop (walk s (findFrom db r fuel cs pos) pos).2.2).head? = some '%') := by
  intro fuel
  induction fuel with
  | zero => intro cs pos h; exact absurd h (Nat.not_lt_zero _)
  | succ fuel ih =>
    intro cs pos hf hs hl
    rw [findFrom_eq db hr]
    cases h : scanItem cs with
    | some p =>
      obtain ⟨it, rest⟩ := p
      obtain ⟨e, _, _, hpos⟩ := scanItem_spec h
      have hlen : cs.length = rest.length + it.render.length := by rw [e]; simp; omega
      have hdrop : s.drop (pos + it.render.length) = rest := by
        rw [← List.drop_drop, hs, e]; simp
      obtain ⟨i1, i2, i3⟩ := ih rest (pos + it.render.length) (by omega) hdrop (by omega)
      have hcs : cs.length = (rest.length + it.render.length - 1) + 1 := by omega
      have hsa : scanAll cs.length cs = (it :: (scanAll rest.length rest).1, (scanAll rest.length rest).2) := by
        rw [hcs, scanAll_succ, h]
        simp only
        rw [scanAll_fuel (rest.length + it.render.length - 1) rest.length rest (by omega) (Nat.le_refl _)]
      simp only [walk, bne_self_eq_false, Bool.false_eq_true, if_false, decodeMatch_item hs h, hsa]
      exact ⟨by rw [i1], i2, i3⟩
    | none =>
      cases cs with
      | nil =>
        simp only [walk, List.length_nil, scanAll]
        have : pos = s.length := by simpa using hl
        simp [this]
      | cons c t =>
        have hc := scanItem_none_head h
        subst hc
        have hsa : scanAll ('%' :: t).length ('%' :: t) = ([], false) := by
          rw [List.length_cons, scanAll_succ, h]; rfl
        simp only [hsa]
        have hne : (pos == s.length) = false := by
          simp only [List.length_cons] at hl
          simp only [beq_eq_false_iff_ne]; omega
        cases hL : findFrom db r fuel t (pos + 1) with
        | nil => simp [walk, hne, hs]
        | cons m ms =>
          have hm := findFrom_start db hr fuel t (pos + 1) m (by rw [hL]; exact List.mem_cons_self)
          have : (m.start != pos) = true := by simp only [bne_iff_ne]; omega
          simp [walk, this, hs]

/-- `FormatString.__init__`'s loop over `_directive_re.finditer(s)` -/
theorem walk_finditer (db : CharDB) {r : Re} (hr : IsScanner db r) (s : List Char) :
    (walk s (finditer db r s) 0).1 = (scan s).1 ∧ (walk s (finditer db r s) 0).2.1 = (scan s).2 ∧
    ((walk s (finditer db r s) 0).2.1 = false → (s.drop (walk s (finditer db r s) 0).2.2).head? = some '%') :=
  walk_findFrom db hr s (s.length + 1) s 0 (Nat.lt_succ_self _) rfl (by simp)

end I18n.CFmtRe
