import I18n.Lemmas.PyBraceSpecRe
/-
The python-brace scanner (`scanLiteral`, `scanField` and their parts) IS the first match of the live parse tree of
`pybrace._field_re` under the backtracking semantics; likewise `scanSimple` and `_simple_field_re`.  Each piece `re…` of the
pattern is its scanner in front of every continuation that fails on the characters the piece could still take (`FailsOn`):
that is what makes the greedy reading the first successful path.  The repetitions whose body is not a single class (name
tail, format body, literal run) are fuel loops of one-step readers (`Loops`, `starLoop_reads`).
-/
namespace I18n.PyBrace
open I18n.BraceChars I18n.Spec.BraceRe

def reIdent : Re := .seq (.cls true [.notWord, .digit]) (.star (.cls false [.word]))
def reHead : Re := .alt (.plus (.cls false [.digit])) reIdent
def reAttr : Re := .seq (chr '.') reIdent
def reIndex (br : List ClsItem) : Re := .seq (chr '[') (.seq (.plus (.cls true br)) (chr ']'))
def reTail (br : List ClsItem) : Re := .star (.alt reAttr (reIndex br))
def reName (br : List ClsItem) : Re := .seq reHead (reTail br)
def reSimple : Re := .seq (chr '{') (.seq (.opt (reName [.lit 93, .lit 123, .lit 125])) (chr '}'))
def reFmt : Re := .seq (chr ':') (.star (.alt (.cls true [.lit 123, .lit 125]) reSimple))
def reConv : Re := .seq (chr '!') (.plus (.cls false [.word]))
def reLit : Re := .alt (.cls true [.lit 123, .lit 125]) (.alt (.seq (chr '{') (chr '{')) (.seq (chr '}') (chr '}')))
def reField : Re :=
  .seq (chr '{') (.seq (.opt (.group 2 (reName [.lit 93]))) (.seq (.opt (.group 3 reConv)) (.seq (.opt (.group 4 reFmt)) (chr '}'))))

theorem pinned_field_split : pinnedFieldRe = .alt (.group 1 (.plus reLit)) reField := rfl
theorem pinned_simple_split : pinnedSimpleFieldRe = reSimple := rfl

theorem cls_top_br (c : Char) : clsTest liveDB true [.lit 93] c = topBr c :=
  (cls_none_of liveDB [']'] c).trans (by simp [topBr])

theorem cls_nested_br (c : Char) : clsTest liveDB true [.lit 93, .lit 123, .lit 125] c = nestedBr c :=
  (cls_none_of liveDB [']', '{', '}'] c).trans (by simp [nestedBr, Bool.and_assoc])

theorem cls_nonbrace (c : Char) : clsTest liveDB true [.lit 123, .lit 125] c = (c != '{' && c != '}') :=
  (cls_none_of liveDB ['{', '}'] c).trans (by simp [bne, Bool.beq_eq_decide_eq])

theorem bt_ident {β : Type} (st : St) (k : St → Option β) (hk : FailsOn isWord k) :
    bt liveDB reIdent st k =
      match scanIdent st.rest with
      | some (id, r) => k ⟨r, st.pos + id.length, st.caps⟩
      | none => none := by
  obtain ⟨rest, pos, caps⟩ := st
  cases rest with
  | nil => rfl
  | cons c r =>
    simp only [reIdent, bt_seq, bt_cls_cons, cls_idstart, bt_star_cls liveDB false _ _ cls_word k hk.greedy, scanIdent]
    by_cases hc : isIdStart c = true
    · simp only [hc, if_true, List.length_cons, Nat.add_assoc, Nat.add_comm 1]
    · simp [hc]

theorem bt_head {β : Type} (st : St) (k : St → Option β) (hw : FailsOn isWord k) (hd : FailsOn isDigit k) :
    bt liveDB reHead st k =
      match scanNameHead st.rest with
      | some (h, r) => k ⟨r, st.pos + h.length, st.caps⟩
      | none => none := by
  obtain ⟨rest, pos, caps⟩ := st
  rw [reHead, bt_alt_or, bt_plus_cls liveDB false _ _ cls_digit k hd.greedy, bt_ident _ k hw]
  cases rest with
  | nil => rfl
  | cons c r =>
    by_cases hc : isDigit c = true
    · simp [scanNameHead, scanIdent, isIdStart, hc]
    · simp [scanNameHead, hc]

/-- `[.] [^\W\d]\w*` or `\[ X+ \]` at the start: the text and the rest -/
def tailRead (inBr : Char → Bool) : List Char → Option (List Char × List Char)
  | '.' :: r => (scanIdent r).map fun p => ('.' :: p.1, p.2)
  | '[' :: r => (scanIndex inBr r).map fun p => ('[' :: p.1 ++ [']'], p.2)
  | _ => none

theorem tailRead_none_of {inBr : Char → Bool} {c : Char} (h1 : c ≠ '.') (h2 : c ≠ '[') (r : List Char) :
    tailRead inBr (c :: r) = none := by
  simp only [tailRead]
  split <;> simp_all

theorem tailLoops (inBr : Char → Bool) : Loops (tailRead inBr) (scanNameTail inBr) where
  zero _ := rfl
  succ n cs := by
    fun_cases tailRead inBr cs with
    | case1 r => cases h : scanIdent r <;> simp [scanNameTail, h]        -- `.`
    | case2 r => cases h : scanIndex inBr r <;> simp [scanNameTail, h]   -- `[`
    | case3 cs h1 h2 => simp_all [scanNameTail]
  split cs p h := by
    revert h
    fun_cases tailRead inBr cs with
    | case1 r =>
      cases h : scanIdent r <;> simp
      rintro rfl
      simp [(scanIdent_some h).1]
    | case2 r =>
      cases h : scanIndex inBr r <;> simp
      rintro rfl
      simp [(scanIndex_some h).1]
    | case3 => simp

theorem bt_attr {β : Type} (inBr : Char → Bool) (r : List Char) (pos : Nat) (caps : Caps) (k : St → Option β) (hw : FailsOn isWord k) :
    bt liveDB reAttr ⟨'.' :: r, pos, caps⟩ k = ((tailRead inBr ('.' :: r)).map (adv ⟨'.' :: r, pos, caps⟩)).bind k := by
  rw [reAttr, bt_seq_chr_cons, if_pos rfl, bt_ident _ k hw]
  cases h : scanIdent r <;> simp [tailRead, h, adv_cons]

/-- `\[ X+ \]` for a class `X` that excludes `]` (no condition on the continuation: the closing bracket delimits) -/
theorem bt_index {β : Type} (br : List ClsItem) (inBr : Char → Bool) (hbr : ∀ c, clsTest liveDB true br c = inBr c)
    (hnot : inBr ']' = false) (r : List Char) (pos : Nat) (caps : Caps) (k : St → Option β) :
    bt liveDB (reIndex br) ⟨'[' :: r, pos, caps⟩ k = ((tailRead inBr ('[' :: r)).map (adv ⟨'[' :: r, pos, caps⟩)).bind k := by
  rw [reIndex, bt_seq_chr_cons, if_pos rfl, bt_seq,
    bt_plus_cls liveDB true br inBr hbr _ (failsOn_chr liveDB ']' inBr hnot k).greedy]
  simp only [tailRead]
  cases htw : r.takeWhile inBr with
  | nil => rw [scanIndex_empty htw]; rfl
  | cons x xs =>
    cases hdw : r.dropWhile inBr with
    | nil => rw [scanIndex_unclosed (by simp [hdw])]; rfl
    | cons e r' =>
      rw [List.isEmpty_cons, if_neg Bool.false_ne_true, bt_chr_cons]
      by_cases he : e = ']'
      · subst he
        rw [if_pos rfl, scanIndex_closed htw hdw]
        simp [adv_cons, Nat.add_assoc]
      · rw [if_neg he, scanIndex_unclosed fun r'' h => he (List.cons.inj (hdw.symm.trans h)).1]
        rfl

theorem bt_tail_body {β : Type} (br : List ClsItem) (inBr : Char → Bool) (hbr : ∀ c, clsTest liveDB true br c = inBr c)
    (hnot : inBr ']' = false) (st : St) (k : St → Option β) (hw : FailsOn isWord k) :
    bt liveDB (.alt reAttr (reIndex br)) st k = ((tailRead inBr st.rest).map (adv st)).bind k := by
  obtain ⟨rest, pos, caps⟩ := st
  rw [bt_alt_or]
  cases rest with
  | nil => rfl
  | cons c r =>
    by_cases h1 : c = '.'
    · subst h1
      rw [bt_attr inBr r pos caps k hw, reIndex, bt_seq_chr_cons, if_neg (by decide), Option.or_none]
    · rw [reAttr, bt_seq_chr_cons, if_neg h1, Option.none_or]
      by_cases h2 : c = '['
      · subst h2
        exact bt_index br inBr hbr hnot r pos caps k
      · rw [reIndex, bt_seq_chr_cons, if_neg h2, tailRead_none_of h1 h2]
        rfl

theorem bt_tail {β : Type} (br : List ClsItem) (inBr : Char → Bool) (hbr : ∀ c, clsTest liveDB true br c = inBr c)
    (hnot : inBr ']' = false) (st : St) (K : St → Option β) (hw : FailsOn isWord K)
    (hdot : FailsOn (fun c => c == '.' || c == '[') K) :
    bt liveDB (reTail br) st K = K (adv st (scanNameTail inBr st.rest.length st.rest)) := by
  rw [reTail, bt_star]
  apply starLoop_reads (tailLoops inBr) isWord _ K
  · intro st k hk; exact bt_tail_body br inBr hbr hnot st k hk
  · intro c r pos caps k hc
    rw [bt_alt_or, reAttr, bt_seq_chr_cons, if_neg (word_ne_dot hc), reIndex, bt_seq_chr_cons, if_neg (word_ne_lbracket hc)]
    rfl
  · exact hw
  · left
    intro ⟨rest, pos, caps⟩ hs
    cases rest with
    | nil => cases hs
    | cons c r =>
      by_cases hc : (c == '.' || c == '[') = true
      · exact hdot c r pos caps hc
      · simp only [Bool.or_eq_true, beq_iff_eq, not_or] at hc
        rw [tailRead_none_of hc.1 hc.2] at hs
        cases hs
  · exact Nat.le_refl _

theorem bt_name {β : Type} (br : List ClsItem) (inBr : Char → Bool) (hbr : ∀ c, clsTest liveDB true br c = inBr c)
    (hnot : inBr ']' = false) (st : St) (K : St → Option β) (hw : FailsOn isWord K) (hd : FailsOn isDigit K)
    (hdot : FailsOn (fun c => c == '.' || c == '[') K) :
    bt liveDB (reName br) st K =
      match scanName inBr st.rest with
      | some (nm, r) => K ⟨r, st.pos + nm.length, st.caps⟩
      | none => none := by
  simp only [reName, bt_seq, funext fun st' => bt_tail br inBr hbr hnot st' K hw hdot]
  rw [bt_head]
  · obtain ⟨rest, pos, caps⟩ := st
    simp only [scanName]
    cases scanNameHead rest with
    | none => rfl
    | some p => simp [adv_mk, Nat.add_assoc]
  · intro c r pos caps hc
    simp only [List.length_cons, (tailLoops inBr).succ, tailRead_none_of (word_ne_dot hc) (word_ne_lbracket hc)]
    exact hw c r pos caps hc
  · intro c r pos caps hc
    simp only [List.length_cons, (tailLoops inBr).succ, tailRead_none_of (digit_ne_dot hc) (digit_ne_lbracket hc)]
    exact hd c r pos caps hc

/-- SIMPLE, for every continuation: the closing brace delimits -/
theorem bt_simple {β : Type} (st : St) (k : St → Option β) :
    bt liveDB reSimple st k =
      match scanSimple st.rest with
      | some (nm, r) => k ⟨r, st.pos + nm.length + 2, st.caps⟩
      | none => none := by
  obtain ⟨rest, pos, caps⟩ := st
  cases rest with
  | nil => rfl
  | cons c r =>
    rw [reSimple, bt_seq_chr_cons]
    by_cases hc : c = '{'
    · subst hc
      -- what follows the name is `}`: no word character, no digit, neither `.` nor `[`
      have hword := failsOn_chr liveDB '}' isWord (by decide) k
      have hdigit := failsOn_chr liveDB '}' isDigit (by decide) k
      have hdot := failsOn_chr liveDB '}' (fun c => c == '.' || c == '[') (by decide) k
      rw [if_pos rfl, bt_seq, bt_opt_or, bt_name _ nestedBr cls_nested_br (by decide) _ _ hword hdigit hdot]
      cases hn : scanName nestedBr r with
      | none =>
        cases r with
        | nil => rw [scanSimple_noname hn nofun]; rfl
        | cons d r' =>
          rw [Option.none_or, bt_chr_cons]
          by_cases hd : d = '}'
          · subst hd
            rw [if_pos rfl, scanSimple_empty hn]
            rfl
          · rw [if_neg hd, scanSimple_noname hn fun _ h => hd (List.cons.inj h).1]
      | some p =>
        obtain ⟨nm, r'⟩ := p
        -- where a name was read, declining it leaves a character that is not `}`
        obtain ⟨c0, r0, rfl, hc0, _, _⟩ := scanName_head_ne_close hn
        rw [bt_chr_cons (c := c0), if_neg hc0, Option.or_none]
        dsimp only
        cases r' with
        | nil => rw [scanSimple_unclosed hn nofun]; rfl
        | cons d r'' =>
          rw [bt_chr_cons]
          by_cases hd : d = '}'
          · subst hd
            rw [if_pos rfl, scanSimple_named hn]
            simp only [Nat.add_assoc, Nat.add_comm 1]
          · rw [if_neg hd, scanSimple_unclosed hn fun _ h => hd (List.cons.inj h).1]
    · rw [if_neg hc, scanSimple_other hc]

/-- `[^{}]` or SIMPLE at the start: the text and the rest -/
def fmtRead : List Char → Option (List Char × List Char)
  | [] => none
  | '{' :: r => (scanSimple ('{' :: r)).map fun p => ('{' :: p.1 ++ ['}'], p.2)
  | '}' :: _ => none
  | c :: r => some ([c], r)

theorem fmtLoops : Loops fmtRead (fun n cs => ((scanFormatBody n cs).1, (scanFormatBody n cs).2.2)) where
  zero _ := rfl
  succ n cs := by
    fun_cases fmtRead cs with
    | case1 => rfl
    | case2 r => cases h : scanSimple ('{' :: r) <;> simp [scanFormatBody, h]   -- `{`: a nested field or the end of the body
    | case3 => rfl                                                               -- `}`
    | case4 c r h1 h2 => simp_all [scanFormatBody]
  split cs p h := by
    revert h
    fun_cases fmtRead cs with
    | case1 => simp
    | case2 r =>
      cases h : scanSimple ('{' :: r) <;> simp
      rintro rfl
      simp [(scanSimple_some h).1]
    | case3 => simp
    | case4 =>
      rintro ⟨⟩
      simp

theorem bt_fmt_body {β : Type} (st : St) (k : St → Option β) :
    bt liveDB (.alt (.cls true [.lit 123, .lit 125]) reSimple) st k = ((fmtRead st.rest).map (adv st)).bind k := by
  obtain ⟨rest, pos, caps⟩ := st
  rw [bt_alt_or, bt_simple]
  cases rest with
  | nil => rfl
  | cons c r =>
    rw [bt_cls_cons, cls_nonbrace]
    by_cases h1 : c = '{'
    · subst h1
      cases h : scanSimple ('{' :: r) <;> simp [fmtRead, h, adv_mk, Nat.add_assoc]
    · by_cases h2 : c = '}'
      · subst h2
        simp [scanSimple, fmtRead]
      · simp [h1, h2, scanSimple_other h1, fmtRead, adv_cons]

theorem bt_fmt {β : Type} (r : List Char) (pos : Nat) (caps : Caps) (K : St → Option β)
    (hnil : ∀ pos caps, K ⟨[], pos, caps⟩ = none) (hK : FailsOn (· != '}') K) :
    bt liveDB reFmt ⟨':' :: r, pos, caps⟩ K =
      K ⟨(scanFormatBody r.length r).2.2, pos + 1 + (scanFormatBody r.length r).1.length, caps⟩ := by
  rw [reFmt, bt_seq_chr_cons, if_pos rfl, bt_star]
  apply starLoop_reads fmtLoops (fun _ => false) _ K
  · intro st k _; exact bt_fmt_body st k
  · intro c r pos caps k h; cases h
  · intro c r pos caps h; cases h
  · left
    intro ⟨rest, pos, caps⟩ hs
    -- a step applies, so the text does not start with `}`
    cases rest with
    | nil => exact hnil pos caps
    | cons c r =>
      by_cases hc : c = '}'
      · subst hc
        cases hs
      · exact hK c r pos caps (by simpa using hc)
  · exact Nat.le_refl _

theorem bt_conv {β : Type} (r : List Char) (pos : Nat) (caps : Caps) (K : St → Option β) (hw : FailsOn isWord K) :
    bt liveDB reConv ⟨'!' :: r, pos, caps⟩ K =
      match r.takeWhile isWord with
      | [] => none
      | w => K ⟨r.dropWhile isWord, pos + 1 + w.length, caps⟩ := by
  rw [reConv, bt_seq_chr_cons, if_pos rfl, bt_plus_cls liveDB false _ _ cls_word K hw.greedy]
  cases r.takeWhile isWord <;> rfl

/-- the captures of a scanned replacement field that starts at `pos` (most recent first: format, conversion, name) -/
def fieldCaps (pos : Nat) (f : RawField) : Caps :=
  let n := (f.name.getD []).length
  let c := (f.conversion.getD []).length
  let m := (f.format.getD []).length
  (if f.format.isSome then [(4, pos + 1 + n + c, pos + 1 + n + c + m)] else []) ++
  (if f.conversion.isSome then [(3, pos + 1 + n, pos + 1 + n + c)] else []) ++
  (if f.name.isSome then [(2, pos + 1, pos + 1 + n)] else [])

/-- the state after an optional group `g` that read `x` (or was declined) and left `r` -/
def took (g : Nat) (st : St) (x : Option (List Char)) (r : List Char) : St :=
  ⟨r, st.pos + (x.getD []).length, (if x.isSome then [(g, st.pos, st.pos + (x.getD []).length)] else []) ++ st.caps⟩

/- After the opening brace the pattern is three optional groups and `}`.  `kf` is whatever continuation follows the whole field;
   `K4 kf`, `K3 kf`, `K2 kf` are the deterministic readings of the rest of the pattern from the format, the conversion and the name
   on, each handing the state `took g …` of its group to the next, so that `bt_K4`, `bt_K3`, `bt_K2` can be proved from the back:
   each needs to know where the continuation behind it fails. -/
section chain
variable {β : Type} (kf : St → Option β)

def K4 (st : St) : Option β := bt liveDB (chr '}') (took 4 st (scanFmt st.rest).1 (scanFmt st.rest).2.2) kf

def K3 (st : St) : Option β := K4 kf (took 3 st (scanConv st.rest).1 (scanConv st.rest).2)

def K2 (st : St) : Option β := K3 kf (took 2 st (scanNameOpt topBr st.rest).1 (scanNameOpt topBr st.rest).2)

theorem K4_other {c : Char} (h1 : c ≠ ':') (h2 : c ≠ '}') (r : List Char) (pos : Nat) (caps : Caps) :
    K4 kf ⟨c :: r, pos, caps⟩ = none := by
  rw [K4, scanFmt_other h1]
  exact (bt_chr_cons ..).trans (if_neg h2)

theorem K3_other {c : Char} (h0 : c ≠ '!') (h1 : c ≠ ':') (h2 : c ≠ '}') (r : List Char) (pos : Nat) (caps : Caps) :
    K3 kf ⟨c :: r, pos, caps⟩ = none := by
  rw [K3, scanConv_other h0]
  exact K4_other kf h1 h2 r _ _

theorem bt_K4 (st : St) : bt liveDB (.seq (.opt (.group 4 reFmt)) (chr '}')) st kf = K4 kf st := by
  obtain ⟨rest, pos, caps⟩ := st
  rw [bt_seq, bt_opt_or, bt_group]
  cases rest with
  | nil => rfl
  | cons c r =>
    by_cases hc : c = ':'
    · subst hc
      -- what follows the format is `}`; declining the group leaves `:`, which is not
      rw [bt_fmt r pos caps _ (fun _ _ => rfl) ((failsOn_chr liveDB '}' _ (by decide) kf).group 4 pos),
        bt_chr_cons (c := ':'), if_neg (by decide), Option.or_none]
      simp only [K4, scanFmt, took, Option.getD_some, List.length_cons, Option.isSome_some, if_true,
          List.singleton_append, Nat.add_assoc, Nat.add_comm 1]
    · rw [reFmt, bt_seq_chr_cons, if_neg hc, Option.none_or, K4, scanFmt_other hc]
      rfl

theorem bt_K3 (st : St) :
    bt liveDB (.seq (.opt (.group 3 reConv)) (.seq (.opt (.group 4 reFmt)) (chr '}'))) st kf = K3 kf st := by
  obtain ⟨rest, pos, caps⟩ := st
  rw [bt_seq, bt_opt_or, bt_group]
  simp only [bt_K4 kf]
  cases rest with
  | nil => rfl
  | cons c r =>
    by_cases hc : c = '!'
    · subst hc
      -- what follows the conversion starts with `:` or `}`: not a word character, and not the declined `!`
      have hw : FailsOn isWord (K4 kf) := fun c r p cp hc => K4_other kf (word_ne_colon hc) (word_ne_close hc) r p cp
      rw [bt_conv r pos caps _ (hw.group 3 pos), K4_other kf (c := '!') (by decide) (by decide), Option.or_none, K3, scanConv]
      cases r.takeWhile isWord with
      | nil => exact (K4_other kf (c := '!') (by decide) (by decide) r pos caps).symm
      | cons w ws => simp only [took, Option.getD_some, List.length_cons, Option.isSome_some, if_true, List.singleton_append,
          Nat.add_assoc, Nat.add_comm 1]
    · rw [reConv, bt_seq_chr_cons, if_neg hc, Option.none_or, K3, scanConv_other hc]
      rfl

theorem bt_K2 (st : St) :
    bt liveDB (.seq (.opt (.group 2 (reName [.lit 93]))) (.seq (.opt (.group 3 reConv))
      (.seq (.opt (.group 4 reFmt)) (chr '}')))) st kf = K2 kf st := by
  obtain ⟨rest, pos, caps⟩ := st
  rw [bt_seq, bt_opt_or, bt_group]
  simp only [bt_K3 kf]
  -- what follows the name starts with `!`, `:` or `}`: it fails in front of every class that has none of them
  have hK (p : Char → Bool) (h : p '!' = false ∧ p ':' = false ∧ p '}' = false) : FailsOn p (K3 kf) :=
    fun c r ps cp hc => K3_other kf (ne_of_class hc h.1) (ne_of_class hc h.2.1) (ne_of_class hc h.2.2) r ps cp
  have hword := (hK isWord (by decide)).group 2 pos
  have hdigit := (hK isDigit (by decide)).group 2 pos
  have hdot := (hK (fun c => c == '.' || c == '[') (by decide)).group 2 pos
  rw [bt_name [.lit 93] topBr cls_top_br (by decide) _ _ hword hdigit hdot]
  simp only [K2, scanNameOpt]
  cases hn : scanName topBr rest with
  | none => rfl
  | some p =>
    -- where a name was read, declining it leaves a character that starts a name: not `!`, `:` or `}`
    obtain ⟨c0, r0, rfl, h1, h2, h3⟩ := scanName_head_ne_close hn
    rw [K3_other kf h2 h3 h1, Option.or_none]
    rfl

theorem bt_field (st : St) :
    bt liveDB reField st kf =
      match scanField st.rest with
      | some (f, rest) => kf ⟨rest, st.pos + f.text.length, fieldCaps st.pos f ++ st.caps⟩
      | none => none := by
  obtain ⟨rest, pos, caps⟩ := st
  cases rest with
  | nil => rfl
  | cons c r =>
    rw [reField, bt_seq_chr_cons]
    by_cases hc : c = '{'
    · subst hc
      rw [if_pos rfl, bt_K2]
      simp only [K2, K3, K4, took]
      cases h3 : (scanFmt (scanConv (scanNameOpt topBr r).2).2).2.2 with
      | nil => rw [scanField_unclosed (by simp [h3])]; rfl
      | cons e rest =>
        rw [bt_chr_cons]
        by_cases he : e = '}'
        · subst he
          simp only [scanField, h3, if_true, fieldCaps, List.length_cons, List.length_append, List.length_nil, List.append_assoc, Nat.add_assoc,
            Nat.add_comm 1]
        · rw [if_neg he, scanField_unclosed fun _ h => he (List.cons.inj (h3.symm.trans h)).1]
    · rw [if_neg hc, scanField_other hc]

end chain

/-- `[^{}]`, `{{` or `}}` at the start: the text and the rest -/
def litRead : List Char → Option (List Char × List Char)
  | [] => none
  | '{' :: '{' :: r => some (['{', '{'], r)
  | '}' :: '}' :: r => some (['}', '}'], r)
  | '{' :: _ => none
  | '}' :: _ => none
  | c :: r => some ([c], r)

theorem litLoops : Loops litRead scanLiteral where
  zero _ := rfl
  succ n cs := by fun_cases litRead cs <;> simp_all [scanLiteral]
  split cs p := by
    fun_cases litRead cs
    all_goals rintro ⟨⟩
    all_goals simp

theorem bt_lit {β : Type} (st : St) (k : St → Option β) : bt liveDB reLit st k = ((litRead st.rest).map (adv st)).bind k := by
  obtain ⟨rest, pos, caps⟩ := st
  rw [reLit, bt_alt_or, bt_alt_or]
  fun_cases litRead rest with
  | case1 => rfl
  | case2 r => simp [bt_cls_cons, cls_nonbrace, bt_seq_chr_cons, bt_chr_cons, adv_cons]   -- `{{`
  | case3 r => simp [bt_cls_cons, cls_nonbrace, bt_seq_chr_cons, bt_chr_cons, adv_cons]   -- `}}`
  | case4 tail h =>   -- `{` not followed by `{`: no alternative takes it
    have h2 : ∀ d r, tail = d :: r → d ≠ '{' := fun d r ht hd => h r (hd ▸ ht)
    cases tail with
    | nil => simp [bt_cls_cons, cls_nonbrace, bt_seq_chr_cons, bt_chr_nil]
    | cons d r => simp [bt_cls_cons, cls_nonbrace, bt_seq_chr_cons, bt_chr_cons, h2 d r rfl]
  | case5 tail h =>   -- `}` not followed by `}`
    have h2 : ∀ d r, tail = d :: r → d ≠ '}' := fun d r ht hd => h r (hd ▸ ht)
    cases tail with
    | nil => simp [bt_cls_cons, cls_nonbrace, bt_seq_chr_cons, bt_chr_nil]
    | cons d r => simp [bt_cls_cons, cls_nonbrace, bt_seq_chr_cons, bt_chr_cons, h2 d r rfl]
  | case6 c r _ _ h1 h2 =>   -- any other character: the class takes it
    have h1 : c ≠ '{' := h1
    have h2 : c ≠ '}' := h2
    simp [bt_cls_cons, cls_nonbrace, bt_seq_chr_cons, adv_cons, h1, h2]

theorem matchAt_fieldRe (cs : List Char) (pos : Nat) :
    matchAt liveDB I18n.Generated.PyBraceTables.fieldRe cs pos =
      match scanLiteral cs.length cs with
      | (t :: ts, rest) => some ⟨rest, pos + (t :: ts).length, [(1, pos, pos + (t :: ts).length)]⟩
      | ([], _) => (scanField cs).map (fun p => ⟨p.2, pos + p.1.text.length, fieldCaps pos p.1⟩) := by
  rw [fieldRe_pin.1, pinned_field_split]
  -- nothing follows the literal alternative (its continuation never fails), so its loop runs to exhaustion
  have hloop (st' : St) := starLoop_reads litLoops (bad := fun _ => false) (body := bt liveDB reLit)
    (K := fun st'' => (some { st'' with caps := (1, pos, st''.pos) :: st''.caps } : Option St))
    (hb := fun st k _ => bt_lit st k) (hbadbody := fun _ _ _ _ _ h => nomatch h) (hK := fun _ _ _ _ h => nomatch h)
    (hdisj := .inr fun _ => Option.some_ne_none _) _ st' (Nat.le_refl _)
  simp only [matchAt, bt_alt_or, bt_group, bt_plus, bt_lit, bt_field, hloop]
  cases cs with
  | nil => rfl
  | cons c r =>
    rw [List.length_cons, litLoops.succ]
    cases hs : litRead (c :: r) with
    | none => cases scanField (c :: r) <;> simp
    | some p =>
      obtain ⟨hne, -⟩ := litLoops.split _ _ hs
      have hlen := litLoops.rest_lt hs
      rw [List.length_cons] at hlen
      cases hp : p.1 with
      | nil => exact absurd hp hne
      | cons t ts =>
        simp [adv_mk, hp, litLoops.fuel p.2.length r.length p.2 (Nat.le_refl _) (by omega), Nat.add_assoc, Nat.add_comm 1]

theorem matchAt_simpleFieldRe (cs : List Char) (pos : Nat) :
    matchAt liveDB I18n.Generated.PyBraceTables.simpleFieldRe cs pos =
      (scanSimple cs).map (fun p => ⟨p.2, pos + p.1.length + 2, []⟩) := by
  rw [simpleFieldRe_pin.1, pinned_simple_split, matchAt, bt_simple]
  cases scanSimple cs <;> rfl

end I18n.PyBrace
