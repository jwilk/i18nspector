import I18n.Lemmas.ParseComplete
import I18n.Spec.PluralAmb
/-! The stratified C grammar `D` and plural.y's ambiguous grammar `Amb` generate the same token lists.
    `L(D) ⊆ Amb` is a direct induction.  For `Amb ⊆ L(D)`: `Amb ⊆ Flat`, the right-linear grammar
    `E → U | U op E | U ? E : E`, `U → ! U | n | INT | ( E )` (closure of `Flat` under the `Amb` rules),
    and `Flat ⊆ L(D)` by the left-insertion lemma: a unary operand and an operator can be put in front of any
    derivable list (the new operator sinks to the place its precedence gives it). -/
namespace I18n.PluralParse
open I18n I18n.Spec

theorem D_amb {k ts e} (d : D k ts e) : Amb ts := by
  induction d with
  | var => exact .var
  | int n => exact .int n
  | paren _ ih => exact .paren ih
  | not _ ih => exact .not ih
  | bin t mk _ _ hbi _ _ ihl ihr => exact .bin t (by simp [isBinary, hbi]) ihl ihr
  | up _ _ _ ih => exact ih
  | cond _ _ _ ihc iha ihb => exact .cond ihc iha ihb
  | up0 _ ih => exact ih

/-- `Flat true` = unary operands `U`, `Flat false` = expressions `E` -/
inductive Flat : Bool → List Tok → Prop
  | var : Flat true [.var]
  | int (n : Nat) : Flat true [.int n]
  | paren {ts} : Flat false ts → Flat true (.lpar :: (ts ++ [.rpar]))
  | not {ts} : Flat true ts → Flat true (.not :: ts)
  | u {ts} : Flat true ts → Flat false ts
  | bin {u r} (t : Tok) : isBinary t = true → Flat true u → Flat false r → Flat false (u ++ t :: r)
  | cond {u a b} : Flat true u → Flat false a → Flat false b → Flat false (u ++ .qm :: (a ++ .colon :: b))

theorem Flat.toE {b ts} (h : Flat b ts) : Flat false ts := by
  cases b
  · exact h
  · exact .u h

theorem Flat.notE {b ts} (h : Flat b ts) : Flat false (.not :: ts) := by
  cases h with
  | var => exact .u (.not .var)
  | int n => exact .u (.not (.int n))
  | paren h => exact .u (.not (.paren h))
  | not h => exact .u (.not (.not h))
  | u h => exact .u (.not h)
  | bin t ht hu hr => exact .bin (u := .not :: _) t ht (.not hu) hr
  | cond hu ha hb => exact .cond (u := .not :: _) (.not hu) ha hb

/-- what can follow every unary operand can follow every expression: it goes behind the last operand -/
theorem Flat.append {s : List Tok} (hs : ∀ {u}, Flat true u → Flat false (u ++ s)) {b l} (hl : Flat b l) :
    Flat false (l ++ s) := by
  induction hl with
  | var => exact hs .var
  | int n => exact hs (.int n)
  | paren h _ => exact hs (.paren h)
  | not h _ => exact hs (.not h)
  | u h ih => exact ih
  | @bin u r t ht hu _ _ ih2 =>
    have := Flat.bin t ht hu ih2
    simpa using this
  | @cond u a b hu ha _ _ _ ih3 =>
    have := Flat.cond hu ha ih3
    simpa using this

theorem Flat.binE {b l r} (t : Tok) (ht : isBinary t = true) (hl : Flat b l) (hr : Flat false r) :
    Flat false (l ++ t :: r) :=
  Flat.append (fun hu => .bin t ht hu hr) hl

theorem Flat.condE {b c a b'} (hc : Flat b c) (ha : Flat false a) (hb : Flat false b') :
    Flat false (c ++ .qm :: (a ++ .colon :: b')) :=
  Flat.append (fun hu => .cond hu ha hb) hc

theorem amb_flat {ts} (h : Amb ts) : Flat false ts := by
  induction h with
  | var => exact .u .var
  | int n => exact .u (.int n)
  | paren _ ih => exact .u (.paren ih)
  | not _ ih => exact ih.notE
  | bin t ht _ _ ihl ihr => exact Flat.binE t ht ihl ihr
  | cond _ _ _ ihc iha ihb => exact Flat.condE ihc iha ihb

theorem D_level_le {k ts e} (d : D k ts e) : k ≤ 7 := by induction d <;> omega

theorem D_lower {k ts e} (d : D k ts e) : ∀ k', 1 ≤ k' → k' ≤ k → D k' ts e := by
  intro k' hk' hle
  obtain ⟨n, rfl⟩ : ∃ n, k = k' + n := ⟨k - k', by omega⟩
  clear hle
  induction n with
  | zero => exact d
  | succ n ih =>
    have hk7 : k' + (n + 1) ≤ 7 := D_level_le d
    exact ih (D.up (by omega) (by omega) d)

theorem D_lower0 {k ts e} (d : D k ts e) : D 0 ts e := by
  rcases Nat.eq_zero_or_pos k with rfl | hk
  · exact d
  · exact .up0 (D_lower d 1 (Nat.le_refl 1) hk)

theorem D_insert_left {j u eu t mk} (du : D 7 u eu) (hbi : binInfo t = some (j, mk)) :
    ∀ {k r er}, D k r er → ∃ e, D (min k j) (u ++ t :: r) e := by
  obtain ⟨hj1, hj6⟩ := binInfo_level hbi
  -- a whole operand of a tighter level becomes the right operand of the new operator
  have whole : ∀ {k r er}, D k r er → j < k → ∃ e, D (min k j) (u ++ t :: r) e := by
    intro k r er d hjk
    have : min k j = j := by omega
    rw [this]
    exact ⟨_, D.bin t mk hj1 hj6 hbi (D_lower du j hj1 (by omega)) (D_lower d (j + 1) (by omega) (by omega))⟩
  intro k r er d
  induction d with
  | var => exact whole .var (by omega)
  | int n => exact whole (.int n) (by omega)
  | paren d _ => exact whole (.paren d) (by omega)
  | not d _ => exact whole (.not d) (by omega)
  | @bin k l r' a b t' mk' hk hk6 hbi' dl dr ihl _ =>
    by_cases hjk : j < k
    · exact whole (.bin t' mk' hk hk6 hbi' dl dr) hjk
    · obtain ⟨e, de⟩ := ihl
      have hm : min k j = k := by omega
      rw [hm] at de ⊢
      have := D.bin t' mk' hk hk6 hbi' de dr
      exact ⟨_, by simpa using this⟩
  | @up k ts e hk hk6 d ih =>
    obtain ⟨e', de⟩ := ih
    exact ⟨e', D_lower de _ (by omega) (by omega)⟩
  | @cond c a b ec ea eb dc da db ihc _ _ =>
    obtain ⟨e, de⟩ := ihc
    have := D.cond (D_lower de 1 (Nat.le_refl 1) (by omega)) da db
    exact ⟨_, by simpa using this⟩
  | @up0 ts e d ih =>
    obtain ⟨e', de⟩ := ih
    exact ⟨e', by simpa using D_lower0 de⟩

theorem flat_D {b ts} (h : Flat b ts) : ∃ e, D (if b then 7 else 0) ts e := by
  induction h with
  | var => exact ⟨_, .var⟩
  | int n => exact ⟨_, .int n⟩
  | paren _ ih => obtain ⟨e, d⟩ := ih; exact ⟨_, .paren d⟩
  | not _ ih => obtain ⟨e, d⟩ := ih; exact ⟨_, .not d⟩
  | u _ ih => obtain ⟨e, d⟩ := ih; exact ⟨_, D_lower0 d⟩
  | @bin u r t ht _ _ ihu ihr =>
    obtain ⟨eu, du⟩ := ihu
    obtain ⟨er, dr⟩ := ihr
    simp only [isBinary, Option.isSome_iff_exists] at ht
    obtain ⟨⟨j, mk⟩, hbi⟩ := ht
    obtain ⟨e, d⟩ := D_insert_left du hbi dr
    exact ⟨e, by simpa using d⟩
  | @cond u a b _ _ _ ihu iha ihb =>
    obtain ⟨eu, du⟩ := ihu
    obtain ⟨ea, da⟩ := iha
    obtain ⟨eb, db⟩ := ihb
    -- the induction hypotheses are stated with `if true then 7 else 0`, `if false then 7 else 0`
    have du : D 7 u eu := du
    have da : D 0 a ea := da
    have db : D 0 b eb := db
    exact ⟨_, .cond (D_lower du 1 (Nat.le_refl 1) (by omega)) da db⟩

theorem derivable_iff_amb (ts : List Tok) : (∃ e, D 0 ts e) ↔ Amb ts :=
  ⟨fun ⟨_, d⟩ => D_amb d, fun h => by simpa using flat_D (amb_flat h)⟩

theorem accept_iff_amb (ts : List Tok) : (∃ e, parseToks ts = some e) ↔ Amb ts := by
  rw [← derivable_iff_amb]
  exact exists_congr (parseToks_iff ts)

end I18n.PluralParse
