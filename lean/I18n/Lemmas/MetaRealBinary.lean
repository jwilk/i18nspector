import I18n.Lemmas.MetaReal
import I18n.Lemmas.PoFsm
import I18n.Lemmas.MetaBinary
import I18n.Lemmas.MsgLoop
import I18n.Lemmas.HdrExempt
/-!
PO versus MO for the composed checker (`Real.pipeline`): what `ctx.is_binary` can change.  The eight `lift`ed stages cannot
see the flag (their models do not take it); `Date.checkDates` (C18) and `Msg.trace` (C16) do take it, and what they do
with it is proved here from their definitions (the loop of `Msg.trace` does not read it: `Msg.messageLoop_blind`).  Then: every
tag of a stage carries that stage's constructor (`…Stage_tags`, `messagesOut_all`: for `pipeline_clean` here and for the output
order in `Lemmas/MetaWhole.lean`); and the loader side of PO versus MO — `poOfMo`, the PO entry of an MO message, which lib/check/
cannot tell from the MO loader's (`observe_poOfMo`; `observe_content`, about `Lemmas.PoCatalog.content` of `Lemmas/PoFsm.lean`,
drops the line number).

In this namespace `isExempt`, `notExempt`, `checkDates_binary`, `dates_respects`, `messages_respects`, `pipeline_respects`,
`pipeline_clean` are the `Real.` ones.  Their namesakes in `I18n.Meta` (`Lemmas/MetaBinary.lean`) are about the abstract
`Meta.pipeline`, of which `Real.pipeline` is not an instance (see the head of that file).
-/
namespace I18n.Meta.Real
open I18n I18n.Check I18n.Meta

/-- the documented format-specific line: the `no-date-header-field POT-Creation-Date` of `check_dates` -/
def isExempt : RTag → Bool
  | .date t => t == Hdr.noDate .pot
  | _ => false

def notExempt (t : RTag) : Bool := !isExempt t

def keepD (t : Date.Tag) : Bool := !(t == Hdr.noDate .pot)

theorem keepD_of_ne {t : Date.Tag} (h : t ≠ Hdr.noDate .pot) : keepD t = true := by
  simpa only [keepD, Bool.not_eq_true', beq_eq_false_iff_ne] using h

theorem perDate_keep (now : Int) (f : Date.Field) (tpl pub : Bool) (ds : List (List Char)) :
    (Date.perDate now f tpl pub ds).filter keepD = Date.perDate now f tpl pub ds :=
  List.filter_eq_self.mpr fun t ht => keepD_of_ne fun e => Hdr.perDate_names now f tpl pub ds t ht (by rw [e]; rfl)

theorem fieldTags_binary (c : Date.Ctx) (f : Date.Field) (dates : List (List Char)) :
    Date.fieldTags { c with isBinary := true } f dates = (Date.fieldTags { c with isBinary := false } f dates).filter keepD := by
  unfold Date.fieldTags
  by_cases h1 : dates.length > 1
  · have hd : ("duplicate-header-field-date" : String) ≠ "no-date-header-field" := by decide +kernel
    rw [if_pos h1, if_pos h1, List.filter_cons_of_pos (keepD_of_ne fun e => hd (congrArg Date.Tag.name e)), perDate_keep]
  · rw [if_neg h1, if_neg h1]
    by_cases h0 : dates.length = 0
    · rw [if_pos h0, if_pos h0]
      cases f
      · rw [if_pos ⟨rfl, rfl⟩, if_neg fun h => nomatch h.2]
        exact (List.filter_cons_of_neg (l := []) (by simp only [keepD, Hdr.noDate, beq_self_eq_true, Bool.not_true, Bool.false_eq_true, not_false_eq_true])).symm
      · have hf : ∀ b : Bool, ¬(Date.Field.po = .pot ∧ b = true) := fun _ h => nomatch h.1
        rw [if_neg (hf _), if_neg (hf _)]
        exact (List.filter_cons_of_pos (l := []) (keepD_of_ne fun e => absurd (congrArg Date.Tag.args e) (by decide))).symm
    · rw [if_neg h0, if_neg h0, perDate_keep]

/-- **C18's `check_dates`, binary versus text**: exactly the PO run's tags minus `no-date-header-field POT-Creation-Date` -/
theorem checkDates_binary (c : Date.Ctx) :
    Date.checkDates { c with isBinary := true } = some (((Date.checkDates { c with isBinary := false }).getD []).filter keepD) := by
  rw [Date.checkDates_eq, Date.checkDates_eq]
  simp only [Option.getD_some, List.filter_append, fieldTags_binary]

theorem checkDates_dateCtx (tpl : Bool) (m : Hdr.Meta) (now : Int) :
    Date.checkDates (Hdr.dateCtx ⟨tpl, true⟩ m now)
      = some (((Date.checkDates (Hdr.dateCtx ⟨tpl, false⟩ m now)).getD []).filter keepD) :=
  checkDates_binary (Hdr.dateCtx ⟨tpl, false⟩ m now)

/-- **C16's `check_messages`, binary versus text**: an MO file whose revision hides nothing is treated like a PO file -/
theorem trace_binary (env : Msg.Env) (tpl h enc : Bool) (file : List Msg.Entry) :
    Msg.trace env ⟨tpl, true, false, enc⟩ file = Msg.trace env ⟨tpl, false, h, enc⟩ file := by
  unfold Msg.trace
  rw [Msg.messageLoop_blind env tpl true false false h enc]
  simp only [Msg.emptyFileCheck_text tpl h enc]

/-- any revision: the per-entry part is the same, only the `empty-file` decision can differ -/
theorem trace_binary_entries (env : Msg.Env) (tpl b h b' h' enc : Bool) (file : List Msg.Entry) :
    (Msg.trace env ⟨tpl, b, h, enc⟩ file).1 = (Msg.trace env ⟨tpl, b', h', enc⟩ file).1 := by
  unfold Msg.trace
  rw [Msg.messageLoop_blind env tpl b h b' h' enc]

theorem lift_respects (hiddenOk : Bool) (keep : RTag → Bool) (f : Blind RCtx RTag) :
    Respects (BinRel hiddenOk) keep (lift f) (lift f) :=
  respects_of_snd hiddenOk keep _ fun _ _ _ => ⟨rfl, rfl, rfl⟩

theorem filter_notExempt_date (ts : List Date.Tag) : (ts.map RTag.date).filter notExempt = (ts.filter keepD).map RTag.date := by
  rw [List.filter_map]
  rfl

theorem dates_respects (hiddenOk : Bool) (w : World) : Respects (BinRel hiddenOk) notExempt (datesStage w) (datesStage w) := by
  rintro ⟨fl, k⟩ ⟨fl', k'⟩ ⟨h1, h2, h3, h4⟩
  cases (show k = k' from h3)
  replace h1 : fl.isBinary = true := h1
  replace h2 : fl'.isBinary = false := h2
  -- the text run's `check_dates` returns some `ts`, the binary run's then `ts.filter keepD`
  obtain ⟨ts, hts⟩ : ∃ ts, Date.checkDates (Hdr.dateCtx ⟨k.isTemplate, false⟩ k.metadata w.now) = some ts := ⟨_, Date.checkDates_eq _⟩
  have hb : Date.checkDates (Hdr.dateCtx ⟨k.isTemplate, true⟩ k.metadata w.now) = some (ts.filter keepD) := by
    rw [checkDates_dateCtx, hts, Option.getD_some]
  have e1 : datesStage w (fl, k) = ((fl, k), (ts.filter keepD).map .date, false) := by simp only [datesStage, h1, hb]
  have e2 : datesStage w (fl', k) = ((fl', k), ts.map .date, false) := by simp only [datesStage, h2, hts]
  rw [e1, e2]
  refine ⟨⟨h1, h2, rfl, h4⟩, ?_, rfl⟩
  show ((ts.filter keepD).map RTag.date).filter notExempt = (ts.map RTag.date).filter notExempt
  rw [filter_notExempt_date, filter_notExempt_date, List.filter_filter]
  simp only [Bool.and_self]

theorem messages_respects (w : World) : Respects (BinRel true) notExempt (messagesStage w) (messagesStage w) := by
  intro s s' ⟨h1, h2, h3, h4⟩
  obtain ⟨⟨b, h⟩, k⟩ := s
  obtain ⟨⟨b', h'⟩, k'⟩ := s'
  simp only at h1 h2 h3
  subst h1 h2 h3
  cases h4 rfl
  have key : messagesOut w ⟨true, false⟩ k = messagesOut w ⟨false, h'⟩ k := by
    simp only [messagesOut, msgCtx, trace_binary w.menv k.isTemplate h' k.encoding.isSome]
  simp only [messagesStage, key]
  exact ⟨⟨rfl, rfl, rfl, fun _ => rfl⟩, trivial, trivial⟩

theorem pipeline_respects (w : World) : RespectsAll (BinRel true) notExempt (pipeline w) (pipeline w) := by
  unfold pipeline
  refine .cons (lift_respects _ _ _) <| .cons (lift_respects _ _ _) <| .cons (lift_respects _ _ _) <|
    .cons (lift_respects _ _ _) <| .cons (lift_respects _ _ _) <| .cons (lift_respects _ _ _) <|
    .cons (dates_respects _ w) <| .cons (lift_respects _ _ _) <| .cons (lift_respects _ _ _) <|
    .cons (messages_respects w) .nil

/-! ### the tags of a stage carry the stage's constructor

The stages that may raise print nothing when they do. -/

theorem lift_tags (f : Blind RCtx RTag) (s : BinFlags × RCtx) : (lift f s).2.1 = (f s.2).2.1 := rfl

theorem commentsStage_tags (w : World) (s : BinFlags × RCtx) : ∃ ts : List TagCall, (lift (commentsStage w) s).2.1 = ts.map .comments :=
  ⟨_, rfl⟩

theorem projectStage_tags (w : World) (s : BinFlags × RCtx) : ∃ ts : List TagCall, (lift (projectStage w) s).2.1 = ts.map .project :=
  ⟨_, rfl⟩

theorem translatorStage_tags (w : World) (s : BinFlags × RCtx) : ∃ ts : List TagCall, (lift (translatorStage w) s).2.1 = ts.map .translator :=
  ⟨_, rfl⟩

theorem headersStage_tags (w : World) (s : BinFlags × RCtx) : ∃ ts : List TagCall, (lift (headersStage w) s).2.1 = ts.map .headers := by
  simp only [lift, headersStage]
  split
  · exact ⟨[], rfl⟩
  · exact ⟨_, rfl⟩

theorem languageStage_tags (w : World) (s : BinFlags × RCtx) : ∃ ts : List TagCall, (lift (languageStage w) s).2.1 = ts.map .language := by
  simp only [lift, languageStage]
  split
  · exact ⟨[], rfl⟩
  · exact ⟨_, rfl⟩

theorem pluralsStage_tags (w : World) (s : BinFlags × RCtx) : ∃ ts : List TagCall, (lift (pluralsStage w) s).2.1 = ts.map .plurals := by
  simp only [lift, pluralsStage]
  split
  · exact ⟨[], rfl⟩
  · exact ⟨_, rfl⟩

theorem mimeStage_tags (w : World) (s : BinFlags × RCtx) : ∃ ts : List TagCall, (lift (mimeStage w) s).2.1 = ts.map .mime := by
  simp only [lift, mimeStage]
  split
  · exact ⟨[], rfl⟩
  · exact ⟨_, rfl⟩

theorem datesStage_tags (w : World) (s : BinFlags × RCtx) : ∃ ts : List Date.Tag, (datesStage w s).2.1 = ts.map .date := by
  unfold datesStage
  split
  · exact ⟨[], rfl⟩
  · exact ⟨_, rfl⟩

theorem messagesOut_all (w : World) (fl : BinFlags) (k : RCtx) (P : RTag → Prop) (h1 : ∀ m ex, P (.msg m ex)) (h2 : ∀ x, P (.fmt x)) :
    ∀ t ∈ (messagesOut w fl k).1, P t := by
  intro t ht
  rw [messagesOut_eq] at ht
  obtain ⟨p, hp, hm⟩ := seqEmits_mem _ t ht
  obtain ⟨e, -, ⟨o, rfl⟩ | rfl⟩ := mem_messagesOut_lines hp
  · cases e with
    | tag m ex => cases List.mem_singleton.1 hm; exact h1 m ex
    | crash _ => cases hm
    | fmt name info =>
      simp only [expandEmit] at hm
      split at hm
      · obtain ⟨x, _, rfl⟩ := List.mem_map.1 hm
        exact h2 x
      · cases hm
  · cases e with
    | tag m ex => cases List.mem_singleton.1 hm; exact h1 m ex
    | crash _ => cases hm
    | fmt _ _ => cases hm

theorem datesStage_clean (w : World) : Clean isExempt (datesStage w) := by
  intro s
  refine ⟨by simp only [datesStage]; split <;> rfl, fun hb t ht => ?_⟩
  simp only [datesStage, hb, checkDates_dateCtx, List.mem_map, List.mem_filter] at ht
  obtain ⟨d, ⟨_, hk⟩, rfl⟩ := ht
  simpa [isExempt, keepD] using hk

theorem pipeline_clean (w : World) : ∀ st ∈ pipeline w, Clean isExempt st := by
  intro st hm
  simp only [pipeline, List.mem_cons, List.not_mem_nil, or_false] at hm
  rcases hm with rfl | rfl | rfl | rfl | rfl | rfl | rfl | rfl | rfl | rfl
  · exact clean_of_map (fun _ => rfl) (commentsStage_tags w) fun _ => rfl
  · exact clean_of_map (fun _ => rfl) (headersStage_tags w) fun _ => rfl
  · exact clean_of_map (fun _ => rfl) (languageStage_tags w) fun _ => rfl
  · exact clean_of_map (fun _ => rfl) (pluralsStage_tags w) fun _ => rfl
  · exact clean_of_map (fun _ => rfl) (mimeStage_tags w) fun _ => rfl
  · exact fun s => ⟨rfl, fun _ _ ht => nomatch ht⟩
  · exact datesStage_clean w
  · exact clean_of_map (fun _ => rfl) (projectStage_tags w) fun _ => rfl
  · exact clean_of_map (fun _ => rfl) (translatorStage_tags w) fun _ => rfl
  · exact fun s => ⟨rfl, fun _ => messagesOut_all w s.1 s.2 _ (fun _ _ => rfl) fun _ => rfl⟩

/-- the PO entry (C10's `Po.Entry`) of a message without PO-only features, from the message as an MO file holds it -/
def poOfMo (e : Mo.Entry) : Po.Entry :=
  match e.body with
  | .singular s => { msgctxt := e.msgctxt, msgid := e.msgid, msgstr := some s }
  | .plural p fs => { msgctxt := e.msgctxt, msgid := e.msgid, msgidPlural := some p, msgstrPlural := enumerate 0 fs }

/-- the two descriptions of the PO spelling of an MO message agree: `Meta.ofPo` writes the polib entry down, `poOfMo` goes
    through C10's `Po.Entry` -/
theorem ofPoEntry_poOfMo (e : Mo.Entry) : ofPoEntry (poOfMo e) = ofPo e := by
  unfold poOfMo ofPoEntry ofPo Po.translated poTranslated
  cases e.body with
  | singular s => cases s <;> rfl
  | plural p fs =>
    have : (fun kv : Nat × Text => !kv.2.isEmpty) = fun kv => kv.2 != [] := funext fun kv => by cases kv.2 <;> rfl
    simp only [this]
    rfl

/-- lib/check/ cannot tell the two loaders' entries apart, for a translated message -/
theorem observe_poOfMo (e : Mo.Entry) (h : Translated e) : observe (ofPoEntry (poOfMo e)) = observe (ofMo e) := by
  rw [ofPoEntry_poOfMo]
  unfold Translated at h
  unfold ofMo ofPo observe
  cases hb : e.body with
  | singular s =>
    rw [hb] at h
    simp [poTranslated, h]
  | plural p fs =>
    rw [hb] at h
    simp [poTranslated, enumerate_any (fun x => x != []) 0 fs, h]

theorem observe_content (e : Po.Entry) : observe (ofPoEntry (Lemmas.PoCatalog.content e)) = observe (ofPoEntry e) := rfl

end I18n.Meta.Real
