import I18n.Model.Locale
import I18n.Lemmas.Kit.List
/-
`basename` and `splitext` on paths: each returns a suffix of its argument (`basename_suffix`, `splitext_suffix`).
`check_language` reads the base name as a locale only when
`os.path.splitext(self.path)[-1] == '.po'`.  A path that merely ends in `.po` need not pass that test: its base name may be dots
followed by `po` (`assertion_paths`), and `Checker.check()` lets such a file through only under the hidden `--file-type` option
(`ext_po_of_gate`).
-/
namespace I18n.Locale

theorem splitOn_eq (sep : Char) (s : List Char) : splitOn sep s = s.splitOn sep :=
  Kit.eq_splitOn rfl (fun c cs w ws h => by rw [splitOn, h]) s

theorem basename_cons (c : Char) (r : List Char) :
    basename (c :: r) = if c = '/' ∨ '/' ∈ r then basename r else c :: r := by
  unfold basename
  rw [splitOn_eq, splitOn_eq, List.splitOn_cons_eq_if_modifyHead]
  cases hs : r.splitOn '/' with
  | nil => exact absurd hs (List.splitOn_ne_nil '/' r)
  | cons w ws =>
    by_cases hc : c = '/'
    · simp [hc, List.getLast?_cons]
    · by_cases hr : '/' ∈ r
      · -- a second piece exists: a single piece would be `r` itself, which contains `/`
        cases ws with
        | nil =>
          have hw : w = r := by simpa [hs, List.intercalate] using List.intercalate_splitOn (xs := r) '/'
          exact absurd (hw ▸ hr) (Kit.not_mem_of_mem_splitOn (hs ▸ List.mem_cons_self))
        | cons w' ws' => simp [hc, hr, List.getLast?_cons]
      · rw [List.splitOn_eq_singleton hr] at hs
        cases hs
        simp [hc, hr]

theorem basename_suffix (p : List Char) : basename p <:+ p := by
  induction p with
  | nil => exact List.suffix_refl _
  | cons c r ih =>
    rw [basename_cons]
    split
    · exact ih.trans (List.suffix_cons c r)
    · exact List.suffix_refl _

theorem splitext_suffix (b : List Char) : (splitext b).2 <:+ b := by
  unfold splitext
  simp only
  split
  · exact List.nil_suffix
  · split
    · exact List.nil_suffix
    · exact List.drop_suffix _ _

/-- the extensions `Checker.check()` accepts when it derives the file type from the name -/
def knownExtension (path : List Char) : Bool :=
  [".po".toList, ".pot".toList, ".mo".toList, ".gmo".toList].contains (splitext (basename path)).2

theorem ext_po_of_gate (path : List Char) (hg : knownExtension path = true) (hsuf : ".po".toList.isSuffixOf path = true) :
    (splitext (basename path)).2 = ".po".toList := by
  have h1 : (splitext (basename path)).2 <:+ path := (splitext_suffix _).trans (basename_suffix path)
  have h2 : ".po".toList <:+ path := List.isSuffixOf_iff_suffix.1 hsuf
  unfold knownExtension at hg
  simp only [List.contains_cons, List.contains_nil, Bool.or_false, Bool.or_eq_true, beq_iff_eq] at hg
  rcases hg with hg | hg | hg | hg
  · exact hg
  · rw [hg] at h1
    exact absurd (List.suffix_of_suffix_length_le h2 h1 (by decide)) (by decide)
  · rw [hg] at h1
    exact absurd (List.suffix_of_suffix_length_le h1 h2 (by decide)) (by decide)
  · rw [hg] at h1
    exact absurd (List.suffix_of_suffix_length_le h2 h1 (by decide)) (by decide)

theorem splitext_append_dot (root ext : List Char) (h : '.' ∉ ext) :
    splitext (root ++ '.' :: ext) = if root.all (· = '.') then (root ++ '.' :: ext, []) else (root, '.' :: ext) := by
  have htw : (root ++ '.' :: ext).reverse.takeWhile (· ≠ '.') = ext.reverse := by
    rw [List.reverse_append, List.reverse_cons, List.append_assoc]
    refine (Kit.span_append (fun c hc => ?_) (by simp)).1
    rw [decide_eq_true_eq]
    rintro rfl
    exact h (List.mem_reverse.1 hc)
  have hlen : (root ++ '.' :: ext).length = root.length + 1 + ext.reverse.length := by
    rw [List.length_append, List.length_cons, List.length_reverse]; omega
  unfold splitext
  simp only [htw]
  rw [if_neg (by omega), show (root ++ '.' :: ext).length - ext.reverse.length - 1 = root.length by omega,
    List.take_left' rfl, List.drop_left' rfl]

theorem splitext_po_failure (b : List Char) (hs : ".po".toList <:+ b) (he : (splitext b).2 ≠ ".po".toList) :
    ∃ n, b = List.replicate (n + 1) '.' ++ "po".toList := by
  obtain ⟨root, rfl⟩ := hs
  rw [show ".po".toList = '.' :: "po".toList from rfl, splitext_append_dot root _ (by decide)] at he
  by_cases hall : root.all (· = '.') = true
  · have hdots : root = List.replicate root.length '.' :=
      List.eq_replicate_iff.2 ⟨rfl, fun c hc => by simpa using List.all_eq_true.1 hall c hc⟩
    refine ⟨root.length, ?_⟩
    rw [List.replicate_succ', List.append_assoc, ← hdots]
    rfl
  · rw [if_neg hall] at he
    exact absurd rfl he

theorem suffix_basename (s p : List Char) (hs : ∀ x ∈ s, x ≠ '/') (h : s <:+ p) : s <:+ basename p := by
  induction p with
  | nil => exact h
  | cons c r ih =>
    rw [basename_cons]
    by_cases hsl : c = '/' ∨ '/' ∈ r
    · rw [if_pos hsl]
      rcases List.suffix_cons_iff.1 h with rfl | hsr
      · -- `s` is `c :: r`, which holds a `/`
        rcases hsl with rfl | hm
        · exact absurd rfl (hs '/' List.mem_cons_self)
        · exact absurd rfl (hs '/' (List.mem_cons_of_mem _ hm))
      · exact ih hsr
    · rw [if_neg hsl]
      exact h

theorem assertion_paths (path : List Char) (hsuf : ".po".toList.isSuffixOf path = true)
    (hext : (splitext (basename path)).2 ≠ ".po".toList) :
    ∃ n, basename path = List.replicate (n + 1) '.' ++ "po".toList :=
  splitext_po_failure (basename path)
    (suffix_basename _ _ (by decide) (List.isSuffixOf_iff_suffix.1 hsuf)) hext

end I18n.Locale
