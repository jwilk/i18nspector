import I18n.Generated.Domains
import I18n.Lemmas.HdrPyKit
/-!
# `lib/domains.py` regenerated = `Model/Domains.lean`

`I18n.Generated.Domains` is rewritten by `tools/translate/domains2lean.py` from the current source on every run.  The proofs unfold
the generated definitions through the macro the translator emits (`unfold_generated_domains`: every definition of the file, so a
helper split off in the source is unfolded too) and never name a bound variable of the generated text.
-/
namespace I18n.Domains.Gen
open I18n I18n.Generated

theorem is_email_in_special_domain_eq (lower : Str → Str) (email : Str) :
    Generated.Domains.is_email_in_special_domain lower email =
      if '@' ∈ email then .ok (isEmailInSpecialDomain lower email) else .error .ValueError := by
  by_cases h : '@' ∈ email
  · obtain ⟨loc, e⟩ := HdrPy.rsplit1_at email h
    unfold_generated_domains
    simp only [e, h, if_true]
    rfl
  · unfold_generated_domains
    simp only [HdrPy.rsplit1_of_not_mem _ _ h, h, if_false]

theorem is_email_in_dotless_domain_eq (email : Str) :
    Generated.Domains.is_email_in_dotless_domain email =
      if '@' ∈ email then .ok (isEmailInDotlessDomain email) else .error .ValueError := by
  by_cases h : '@' ∈ email
  · obtain ⟨loc, e⟩ := HdrPy.rsplit1_at email h
    unfold_generated_domains
    simp only [e, h, if_true]
    rfl
  · unfold_generated_domains
    simp only [HdrPy.rsplit1_of_not_mem _ _ h, h, if_false]

end I18n.Domains.Gen
