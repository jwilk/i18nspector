import I18n.Lemmas.CharsetCnsPlanes
import I18n.Lemmas.CharsetCnsPages
/-!
# C20: what the kernel's pass over the generated CNS 11643 tables means for the model's `cnsReal` / `invReal`
# (`cnsReal_canonical`, `invReal_sound`: `unitFast` / `charFast` of `Lemmas/CharsetCnsCheck`, for every unit and character)
-/
namespace I18n.Charset.Cns
open I18n.Generated.CharsetCns

theorem beq_of_ne {a b : Nat} (h : ¬ a = b) : Nat.beq a b = false := by
  cases hb : Nat.beq a b
  · rfl
  · exact (h (Nat.eq_of_beq_eq_true hb)).elim

theorem cnsPlane_other (p : Nat) (h : planesAccepted.contains p = false) : cnsPlane p = 0 := by
  simp only [planesAccepted, List.contains_cons, List.contains_nil, Bool.or_false, Bool.or_eq_false_iff, beq_eq_false_iff_ne, ne_eq] at h
  simp only [cnsPlane, h, not_false_eq_true, beq_of_ne, cond_false]

theorem invPage_other (k : Nat) (h : invPages.contains k = false) : invPage k = 0 := by
  simp only [invPages, List.contains_cons, List.contains_nil, Bool.or_false, Bool.or_eq_false_iff, beq_eq_false_iff_ne, ne_eq] at h
  simp only [invPage, h, not_false_eq_true, beq_of_ne, cond_false]

theorem inRange_iff (x : Nat) : inRange x = true ↔ 0xA1 ≤ x ∧ x ≤ 0xFE := by
  simp [inRange, Nat.ble_eq]

theorem cnsReal_eq_some_iff {p r c ch : Nat} : cnsReal p r c = some ch ↔
    (0xA1 ≤ r ∧ r ≤ 0xFE) ∧ (0xA1 ≤ c ∧ c ≤ 0xFE) ∧ ch ≠ 0 ∧ tableEntry (cnsPlane p) ((r - 0xA1) * 94 + (c - 0xA1)) = ch := by
  unfold cnsReal
  rw [← and_assoc, ← inRange_iff, ← inRange_iff, ← Bool.and_eq_true]
  cases inRange r && inRange c
  · simp
  · simp only [cond_true, true_and]
    generalize tableEntry (cnsPlane p) ((r - 0xA1) * 94 + (c - 0xA1)) = v
    cases hv : Nat.beq v 0
    · have hne : v ≠ 0 := Nat.ne_of_beq_eq_false hv
      simp only [cond_false, Option.some.injEq]
      constructor
      · rintro rfl; exact ⟨hne, rfl⟩
      · exact fun h => h.2
    · have h0 : v = 0 := Nat.eq_of_beq_eq_true hv
      simp only [cond_true]
      constructor
      · nofun
      · rintro ⟨hne, rfl⟩; exact (hne h0).elim

theorem cnsReal_plane (p r c ch : Nat) (h : cnsReal p r c = some ch) : planesAccepted.contains p = true := by
  obtain ⟨_, _, h0, he⟩ := cnsReal_eq_some_iff.1 h
  cases hc : planesAccepted.contains p
  · rw [cnsPlane_other p hc, show tableEntry 0 _ = 0 by simp [tableEntry]] at he
    exact (h0 he.symm).elim
  · rfl

theorem unit_pos (p r c : Nat) (hr : 0xA1 ≤ r ∧ r ≤ 0xFE) (hc : 0xA1 ≤ c ∧ c ≤ 0xFE) :
    p * 65536 + 0xA1A1 + ((r - 0xA1) * 94 + (c - 0xA1)) / 94 * 256 + ((r - 0xA1) * 94 + (c - 0xA1)) % 94 =
      p * 65536 + r * 256 + c := by
  omega

theorem pos_split (p r c : Nat) (hr : r < 256) (hc : c < 256) :
    (p * 65536 + r * 256 + c) / 65536 = p ∧ (p * 65536 + r * 256 + c) / 256 % 256 = r ∧
      (p * 65536 + r * 256 + c) % 256 = c := by
  omega

theorem cnsReal_canonical (p r c ch : Nat) (h : cnsReal p r c = some ch) :
    scalarOk ch = true ∧ (invReal ch = some (p, r, c) ∨ (p = 3 ∧ r = 0xA1 ∧ c = 0xB8)) := by
  have hp := cnsReal_plane p r c ch h
  obtain ⟨hr, hc, h0, he⟩ := cnsReal_eq_some_iff.1 h
  have hall := planes_all
  rw [checkPlanes, List.all_eq_true] at hall
  have hpl := hall p (by simpa using hp)
  have hidx : (r - 0xA1) * 94 + (c - 0xA1) < 8836 := by omega
  have hu := allBelow_sound _ _ hpl _ hidx
  simp only [unitFast, atLit_eq, he, Bool.or_eq_true, Bool.and_eq_true] at hu
  -- the shift-and-mask term of `unitFast` is `invEntry ch`, by definition
  change _ ∨ _ ∧ (Nat.beq (invEntry ch) _ = true ∨ _) at hu
  rcases hu with hz | ⟨hs, hu⟩
  · exact (h0 (Nat.eq_of_beq_eq_true hz)).elim
  · refine ⟨hs, ?_⟩
    rcases hu with hinv | hdup
    · left
      have hinv := Nat.eq_of_beq_eq_true hinv
      rw [unit_pos p r c hr hc] at hinv
      unfold invReal
      simp only [hinv]
      have hw : Nat.beq (p * 65536 + r * 256 + c) 0 = false := beq_of_ne (by omega)
      simp only [hw, cond_false]
      obtain ⟨a1, a2, a3⟩ := pos_split p r c (by omega) (by omega)
      rw [a1, a2, a3]
    · right
      simp only [isDup, Bool.and_eq_true] at hdup
      have hp3 := Nat.eq_of_beq_eq_true hdup.1
      have hi := Nat.eq_of_beq_eq_true hdup.2
      exact ⟨hp3, by omega, by omega⟩

theorem invReal_sound (ch p r c : Nat) (h : invReal ch = some (p, r, c)) : cnsReal p r c = some ch ∧ 0x80 ≤ ch := by
  unfold invReal at h
  cases hw : Nat.beq (invEntry ch) 0
  · simp only [hw, cond_false, Option.some.injEq, Prod.mk.injEq] at h
    obtain ⟨rfl, rfl, rfl⟩ := h
    have hw0 : invEntry ch ≠ 0 := Nat.ne_of_beq_eq_false hw
    cases hk : invPages.contains (ch / 4096)
    · exfalso; apply hw0
      simp [invEntry, invPage_other _ hk]
    · have hall := pages_all
      rw [checkPages, List.all_eq_true] at hall
      have hpg := hall (ch / 4096) (by simpa using hk)
      have hlo : ch % 4096 < 4096 := Nat.mod_lt _ (by omega)
      have hu := allBelow_sound _ _ hpg _ hlo
      have hch : ch / 4096 * 4096 + ch % 4096 = ch := by omega
      simp only [charFast, atLit_eq, hch] at hu
      -- the shift-and-mask term of `charFast` is `invEntry ch`, by definition
      change (Nat.beq (invEntry ch) 0 || _) = true at hu
      simp only [hw, Bool.false_or, Bool.and_eq_true, Nat.ble_eq, inRange_iff] at hu
      obtain ⟨⟨⟨h80, hr⟩, hc⟩, he⟩ := hu
      have he := Nat.eq_of_beq_eq_true he
      exact ⟨cnsReal_eq_some_iff.2 ⟨hr, hc, by omega, he⟩, h80⟩
  · simp [hw] at h

/-- the duplicate: U+5344 stands at `A4 BF` (plane 1) and at `8E A3 A1 B8`; the encoder writes the former -/
theorem dup_fact : cnsReal 3 0xA1 0xB8 = some 0x5344 ∧ cnsReal 1 0xA4 0xBF = some 0x5344 ∧ invReal 0x5344 = some (1, 0xA4, 0xBF) := by
  decide +kernel

theorem dup_char (ch : Nat) (h : cnsReal 3 0xA1 0xB8 = some ch) : ch = 0x5344 := by
  rw [dup_fact.1] at h
  exact (Option.some.inj h).symm

/-- glibc drops exactly the 128 TAG characters (the sweep over U+0080..U+10FFFF found no other character converted to nothing) -/
theorem ignored_pin : ignoredRanges = [(0xE0000, 0xE007F)] ∧ (∀ c, isTag c = true ↔ 0xE0000 ≤ c ∧ c ≤ 0xE007F) := by
  refine ⟨by decide, fun c => ?_⟩
  simp only [isTag, beq_iff_eq]
  omega

end I18n.Charset.Cns
