import I18n.Model.PyBrace
import I18n.Lemmas.PerlBraceChars
import I18n.Lemmas.Kit.List
/-
python-brace: what the scanner functions return, as decompositions of their input (`input = text ++ rest`) with inductive
descriptions of the text, and their one-step equations (by the first character, or by what closes an index, a nested or a
whole field; likewise for the stage functions of `_format_spec_re`).  Everything else about the scanners, on the CPython
side and on the regex side, is derived from these.
-/
namespace I18n.PyBrace
open I18n.BraceChars
open I18n.Generated.PyBraceTables (digitRanges)

/-- `[^\W\d]\w*` -/
def IdentText (w : List Char) : Prop := ∃ c t, w = c :: t ∧ isIdStart c = true ∧ ∀ d ∈ t, isWord d = true

/-- `\d+` -/
def DigitsText (w : List Char) : Prop := w ≠ [] ∧ ∀ d ∈ w, isDigit d = true

/-- `(?: [.] [^\W\d]\w* | \[ X+ \] )*` -/
inductive NameTail (inBr : Char → Bool) : List Char → Prop where
  | nil : NameTail inBr []
  | attr {id t : List Char} : IdentText id → NameTail inBr t → NameTail inBr ('.' :: (id ++ t))
  | index {x t : List Char} : x ≠ [] → (∀ c ∈ x, inBr c = true) → NameTail inBr t → NameTail inBr ('[' :: (x ++ ']' :: t))

/-- NAME -/
def NameText (inBr : Char → Bool) (nm : List Char) : Prop :=
  ∃ h t, nm = h ++ t ∧ (DigitsText h ∨ IdentText h) ∧ NameTail inBr t

theorem idStart_not_digit {c : Char} (h : isIdStart c = true) : isDigit c = false := by
  simp only [isIdStart, Bool.and_eq_true, Bool.not_eq_true'] at h
  exact h.2

theorem scanIdent_some {cs id r : List Char} (h : scanIdent cs = some (id, r)) :
    cs = id ++ r ∧ IdentText id := by
  revert h
  fun_cases scanIdent cs with
  | case1 | case3 => rintro ⟨⟩
  | case2 c cs hc =>
    rintro ⟨⟩
    exact ⟨by simp, c, _, rfl, hc, Kit.takeWhile_all isWord cs⟩

theorem scanIdent_none {cs : List Char} (h : scanIdent cs = none) : ∀ c r, cs = c :: r → isIdStart c = false := by
  rintro c r rfl
  simpa [scanIdent] using h

theorem scanNameHead_some {cs hd r : List Char} (h : scanNameHead cs = some (hd, r)) :
    cs = hd ++ r ∧ (DigitsText hd ∨ IdentText hd) := by
  revert h
  fun_cases scanNameHead cs with
  | case1 => rintro ⟨⟩
  | case2 c cs hc =>
    rintro ⟨⟩
    refine ⟨by simp, Or.inl ⟨by simp, ?_⟩⟩
    simpa [hc] using Kit.takeWhile_all isDigit cs
  | case3 =>
    intro h
    exact ⟨(scanIdent_some h).1, Or.inr (scanIdent_some h).2⟩

theorem scanNameHead_none {cs : List Char} (h : scanNameHead cs = none) :
    ∀ c r, cs = c :: r → isDigit c = false ∧ isIdStart c = false := by
  rintro c r rfl
  simp only [scanNameHead] at h
  split at h
  · cases h
  · rename_i h'
    exact ⟨by simpa using h', scanIdent_none h c r rfl⟩

theorem scanIndex_some {inBr : Char → Bool} {r x r' : List Char} (h : scanIndex inBr r = some (x, r')) :
    r = x ++ ']' :: r' ∧ x ≠ [] ∧ (∀ c ∈ x, inBr c = true) ∧ x = r.takeWhile inBr := by
  revert h
  fun_cases scanIndex inBr r with
  | case1 x xs r' hdw htw =>
    rintro ⟨⟩
    refine ⟨?_, by simp, htw ▸ Kit.takeWhile_all inBr r, htw.symm⟩
    rw [← htw, ← hdw, List.takeWhile_append_dropWhile]
  | case2 => rintro ⟨⟩

theorem scanNameTail_spec (inBr : Char → Bool) : ∀ (fuel : Nat) (cs t r : List Char), scanNameTail inBr fuel cs = (t, r) →
    cs = t ++ r ∧ NameTail inBr t := by
  intro fuel cs
  fun_induction scanNameTail inBr fuel cs with
  | case1 | case3 | case5 | case6 =>
    rintro _ _ ⟨⟩
    exact ⟨rfl, .nil⟩
  | case2 _ _ _ _ hid _ _ hrec ih =>
    rintro _ _ ⟨⟩
    obtain ⟨rfl, hid'⟩ := scanIdent_some hid
    obtain ⟨rfl, ht⟩ := ih _ _ hrec
    exact ⟨by simp, .attr hid' ht⟩
  | case4 _ _ _ _ hidx _ _ hrec ih =>
    rintro _ _ ⟨⟩
    obtain ⟨rfl, hne, hall, _⟩ := scanIndex_some hidx
    obtain ⟨rfl, ht⟩ := ih _ _ hrec
    exact ⟨by simp, .index hne hall ht⟩

theorem scanName_some {inBr : Char → Bool} {cs nm r : List Char} (h : scanName inBr cs = some (nm, r)) :
    cs = nm ++ r ∧ NameText inBr nm := by
  revert h
  fun_cases scanName inBr cs with
  | case1 => rintro ⟨⟩
  | case2 hd _ hhead t _ hrec =>
    rintro ⟨⟩
    obtain ⟨rfl, hh⟩ := scanNameHead_some hhead
    obtain ⟨rfl, ht⟩ := scanNameTail_spec inBr _ _ _ _ hrec
    exact ⟨by simp, hd, t, rfl, hh, ht⟩

theorem scanSimple_some {cs nm r : List Char} (h : scanSimple cs = some (nm, r)) :
    cs = '{' :: (nm ++ '}' :: r) ∧ (nm = [] ∨ NameText nestedBr nm) := by
  revert h
  fun_cases scanSimple cs with
  | case1 r nm r' hn =>
    rintro ⟨⟩
    exact ⟨by rw [(scanName_some hn).1], Or.inr (scanName_some hn).2⟩
  | case3 =>
    rintro ⟨⟩
    exact ⟨rfl, Or.inl rfl⟩
  | case2 | case4 | case5 => rintro ⟨⟩

/-- `(?: [^{}] | SIMPLE )*`: the text and the names of the nested fields -/
inductive FormatBody : List Char → List (List Char) → Prop where
  | nil : FormatBody [] []
  | chr {c : Char} {t : List Char} {ns : List (List Char)} : c ≠ '{' → c ≠ '}' → FormatBody t ns → FormatBody (c :: t) ns
  | simple {nm t : List Char} {ns : List (List Char)} : (nm = [] ∨ NameText nestedBr nm) → FormatBody t ns →
      FormatBody ('{' :: (nm ++ '}' :: t)) (nm :: ns)

theorem scanFormatBody_spec : ∀ (fuel : Nat) (cs t r : List Char) (ns : List (List Char)),
    scanFormatBody fuel cs = (t, ns, r) → cs = t ++ r ∧ FormatBody t ns := by
  intro fuel cs
  fun_induction scanFormatBody fuel cs with
  | case1 | case2 | case5 =>
    rintro _ _ _ ⟨⟩
    exact ⟨rfl, .nil⟩
  | case3 _ _ _ _ _ _ _ hrec hs ih =>
    simp only [hs, hrec]
    rintro _ _ _ ⟨⟩
    obtain ⟨h1, hnm⟩ := scanSimple_some hs
    obtain ⟨rfl, ht⟩ := ih _ _ _ hrec
    exact ⟨by simp [h1], .simple hnm ht⟩
  | case4 _ _ hs =>
    simp only [hs]
    rintro _ _ _ ⟨⟩
    exact ⟨rfl, .nil⟩
  | case6 _ _ _ h1 h2 _ _ _ hrec ih =>
    rintro _ _ _ ⟨⟩
    obtain ⟨rfl, ht⟩ := ih _ _ _ hrec
    exact ⟨rfl, .chr h1 h2 ht⟩

/-- what `scanField cs = some (f, rest)` says of `f`: its parts spell the input, and each part present has the shape of its group -/
structure FieldShape (cs : List Char) (f : RawField) (rest : List Char) : Prop where
  input : cs = '{' :: (f.name.getD [] ++ f.conversion.getD [] ++ f.format.getD [] ++ '}' :: rest)
  text : f.text = '{' :: (f.name.getD [] ++ f.conversion.getD [] ++ f.format.getD [] ++ ['}'])
  name : ∀ nm, f.name = some nm → NameText topBr nm
  conversion : ∀ c, f.conversion = some c → ∃ w, c = '!' :: w ∧ w ≠ [] ∧ ∀ d ∈ w, isWord d = true
  format : ∀ fm, f.format = some fm → ∃ t, fm = ':' :: t ∧ FormatBody t f.nested
  noFormat : f.format = none → f.nested = []

theorem scanNameOpt_spec {inBr : Char → Bool} {cs r : List Char} {name : Option (List Char)} (h : scanNameOpt inBr cs = (name, r)) :
    cs = name.getD [] ++ r ∧ (∀ nm, name = some nm → NameText inBr nm) := by
  revert h
  fun_cases scanNameOpt inBr cs with
  | case1 _ _ hs =>
    rintro ⟨⟩
    exact ⟨(scanName_some hs).1, fun _ h => Option.some.inj h ▸ (scanName_some hs).2⟩
  | case2 =>
    rintro ⟨⟩
    exact ⟨rfl, nofun⟩

theorem scanConv_spec {cs r : List Char} {conv : Option (List Char)} (h : scanConv cs = (conv, r)) :
    cs = conv.getD [] ++ r ∧ (∀ c, conv = some c → ∃ w, c = '!' :: w ∧ w ≠ [] ∧ ∀ d ∈ w, isWord d = true) := by
  revert h
  fun_cases scanConv cs with
  | case1 | case3 =>
    rintro ⟨⟩
    exact ⟨rfl, nofun⟩
  | case2 r0 hne =>
    rintro ⟨⟩
    refine ⟨by simp, ?_⟩
    rintro _ ⟨⟩
    exact ⟨_, rfl, hne, Kit.takeWhile_all isWord r0⟩

theorem scanFmt_spec {cs r : List Char} {fmt : Option (List Char)} {nested : List (List Char)} (h : scanFmt cs = (fmt, nested, r)) :
    cs = fmt.getD [] ++ r ∧ (∀ fm, fmt = some fm → ∃ t, fm = ':' :: t ∧ FormatBody t nested) ∧ (fmt = none → nested = []) := by
  revert h
  fun_cases scanFmt cs with
  | case1 _ t _ _ hrec =>
    rintro ⟨⟩
    obtain ⟨rfl, hb⟩ := scanFormatBody_spec _ _ _ _ _ hrec
    refine ⟨rfl, ?_, nofun⟩
    rintro _ ⟨⟩
    exact ⟨t, rfl, hb⟩
  | case2 =>
    rintro ⟨⟩
    exact ⟨rfl, nofun, fun _ => rfl⟩

theorem scanField_some {cs rest : List Char} {f : RawField} (h : scanField cs = some (f, rest)) : FieldShape cs f rest := by
  revert h
  fun_cases scanField cs with
  | case1 _ _ _ hname _ _ hconv _ _ _ hfmt =>
    rintro ⟨⟩
    obtain ⟨rfl, hn⟩ := scanNameOpt_spec hname
    obtain ⟨rfl, hc⟩ := scanConv_spec hconv
    obtain ⟨rfl, hf, hnf⟩ := scanFmt_spec hfmt
    exact ⟨by simp, rfl, hn, hc, hf, hnf⟩
  | case2 | case3 => rintro ⟨⟩

theorem scanned_format {cs rest : List Char} {f : RawField} (h : scanField cs = some (f, rest)) :
    ∀ fm, f.format = some fm → ∃ t, fm = ':' :: t := by
  intro fm hfm
  obtain ⟨t, ht, _⟩ := (scanField_some h).format fm hfm
  exact ⟨t, ht⟩

/-- `(?: [^{}] | [{]{2} | [}]{2} )*` -/
inductive LiteralText : List Char → Prop where
  | nil : LiteralText []
  | chr {c : Char} {t : List Char} : c ≠ '{' → c ≠ '}' → LiteralText t → LiteralText (c :: t)
  | open_ {t : List Char} : LiteralText t → LiteralText ('{' :: '{' :: t)
  | close {t : List Char} : LiteralText t → LiteralText ('}' :: '}' :: t)

theorem scanLiteral_spec : ∀ (fuel : Nat) (cs t r : List Char), scanLiteral fuel cs = (t, r) → cs = t ++ r ∧ LiteralText t := by
  intro fuel cs
  fun_induction scanLiteral fuel cs with
  | case1 | case2 | case5 | case6 =>
    rintro _ _ ⟨⟩
    exact ⟨rfl, .nil⟩
  | case3 _ _ _ _ hrec ih =>
    rintro _ _ ⟨⟩
    obtain ⟨rfl, ht⟩ := ih _ _ hrec
    exact ⟨rfl, .open_ ht⟩
  | case4 _ _ _ _ hrec ih =>
    rintro _ _ ⟨⟩
    obtain ⟨rfl, ht⟩ := ih _ _ hrec
    exact ⟨rfl, .close ht⟩
  | case7 _ _ _ _ _ h1 h2 _ _ hrec ih =>
    rintro _ _ ⟨⟩
    obtain ⟨rfl, ht⟩ := ih _ _ hrec
    exact ⟨rfl, .chr h1 h2 ht⟩

theorem scanLiteral_stop (fuel : Nat) (cs : List Char) (h : cs = [] ∨ ∃ c r, cs = '{' :: c :: r ∧ c ≠ '{') :
    scanLiteral fuel cs = ([], cs) := by
  cases fuel with
  | zero => rfl
  | succ fuel =>
    obtain rfl | ⟨c, r, rfl, hc⟩ := h
    · rfl
    · rw [scanLiteral]
      exact fun _ h => hc (List.cons.inj h).1

theorem scanLiteral_char (fuel : Nat) {c : Char} (r : List Char) (h1 : c ≠ '{') (h2 : c ≠ '}') :
    scanLiteral (fuel + 1) (c :: r) = (c :: (scanLiteral fuel r).1, (scanLiteral fuel r).2) := by
  rw [scanLiteral]
  · exact fun _ h => (h1 h).elim
  · exact fun _ h => (h2 h).elim
  · exact h1
  · exact h2

theorem scanLiteral_nil {n : Nat} {c : Char} {cs r : List Char} (h : scanLiteral (n + 1) (c :: cs) = ([], r)) : c = '{' ∨ c = '}' := by
  by_cases h1 : c = '{'
  · exact .inl h1
  by_cases h2 : c = '}'
  · exact .inr h2
  rw [scanLiteral_char n cs h1 h2] at h
  cases h

theorem scanIndex_closed {inBr : Char → Bool} {r xs r' : List Char} {x : Char} (ht : r.takeWhile inBr = x :: xs)
    (hd : r.dropWhile inBr = ']' :: r') : scanIndex inBr r = some (x :: xs, r') := by
  simp only [scanIndex, ht, hd]

theorem scanIndex_empty {inBr : Char → Bool} {r : List Char} (ht : r.takeWhile inBr = []) : scanIndex inBr r = none := by
  simp only [scanIndex, ht]

theorem scanIndex_unclosed {inBr : Char → Bool} {r : List Char} (hd : ∀ r', r.dropWhile inBr ≠ ']' :: r') :
    scanIndex inBr r = none := by
  unfold scanIndex
  split
  next _ _ _ _ hdw => exact absurd hdw (hd _)
  next => rfl

theorem scanName_head_ne_close {inBr : Char → Bool} {r nm r' : List Char} (h : scanName inBr r = some (nm, r')) :
    ∃ c r0, r = c :: r0 ∧ c ≠ '}' ∧ c ≠ '!' ∧ c ≠ ':' := by
  cases r with
  | nil => simp [scanName, scanNameHead] at h
  | cons c r0 =>
    refine ⟨c, r0, rfl, ?_⟩
    by_cases hd : isDigit c = true
    · exact ⟨digit_ne_close hd, digit_ne_bang hd, digit_ne_colon hd⟩
    · cases hw : isWord c with
      | false => simp [scanName, scanNameHead, scanIdent, isIdStart, hd, hw] at h
      | true => exact ⟨word_ne_close hw, word_ne_bang hw, word_ne_colon hw⟩

theorem scanSimple_other {c : Char} (hc : c ≠ '{') (r : List Char) : scanSimple (c :: r) = none := by
  unfold scanSimple
  split <;> simp_all

theorem scanSimple_named {r nm r' : List Char} (hn : scanName nestedBr r = some (nm, '}' :: r')) :
    scanSimple ('{' :: r) = some (nm, r') := by
  simp only [scanSimple, hn]

theorem scanSimple_unclosed {r nm r' : List Char} (hn : scanName nestedBr r = some (nm, r')) (h : ∀ r'', r' ≠ '}' :: r'') :
    scanSimple ('{' :: r) = none := by
  simp only [scanSimple, hn]
  split
  next heq => cases heq; exact absurd rfl (h _)
  next => rfl
  next heq => cases heq

theorem scanSimple_empty {r' : List Char} (hn : scanName nestedBr ('}' :: r') = none) :
    scanSimple ('{' :: '}' :: r') = some ([], r') := by
  simp only [scanSimple, hn]

theorem scanSimple_noname {r : List Char} (hn : scanName nestedBr r = none) (h : ∀ r', r ≠ '}' :: r') :
    scanSimple ('{' :: r) = none := by
  simp only [scanSimple, hn]   -- `h` is the side condition of the arm `none, _`

theorem scanField_other {c : Char} (hc : c ≠ '{') (r : List Char) : scanField (c :: r) = none := by
  unfold scanField
  split <;> simp_all

theorem scanField_unclosed {r : List Char} (h : ∀ rest, (scanFmt (scanConv (scanNameOpt topBr r).2).2).2.2 ≠ '}' :: rest) :
    scanField ('{' :: r) = none := by
  simp only [scanField]   -- `h` is the side condition of the arm `_`

theorem scanFmt_other {c : Char} (hc : c ≠ ':') (r : List Char) : scanFmt (c :: r) = (none, [], c :: r) := by
  simp only [scanFmt]
  split <;> simp_all

theorem scanConv_other {c : Char} (hc : c ≠ '!') (r : List Char) : scanConv (c :: r) = (none, c :: r) := by
  simp only [scanConv]
  split <;> simp_all

theorem scanSpec_chain {cs : List Char} {f : Spec} (h : scanSpec cs = some f) :
    ∃ r1 r2 r3 r4 r5 r6 r7, sFillAlign cs = (f.fill, f.align, r1) ∧ sSign r1 = (f.sign, r2) ∧ sLit '#' r2 = (f.alt, r3) ∧
      sLit '0' r3 = (f.zero, r4) ∧ sWidth r4 = (f.width, r5) ∧ sLit ',' r5 = (f.comma, r6) ∧ sPrec r6 = (f.precision, r7) ∧
      sType r7 = (f.type, []) := by
  revert h
  fun_cases scanSpec cs with
  | case1 _ _ _ h1 _ _ h2 _ _ h3 _ _ h4 _ _ h5 _ _ h6 _ _ h7 _ h8 =>
    rintro ⟨⟩
    exact ⟨_, _, _, _, _, _, _, h1, h2, h3, h4, h5, h6, h7, h8⟩
  | case2 => rintro ⟨⟩

theorem scanSpec_nil : scanSpec [] = some ⟨none, none, none, false, false, none, false, none, none⟩ := by rfl

theorem sType_nil {r7 : List Char} {type : Option Char} (h : sType r7 = (type, [])) :
    (r7 = [] ∧ type = none) ∨ (∃ t, r7 = [t] ∧ type = some t) := by
  revert h
  fun_cases sType r7 with
  | case1 c =>
    rintro ⟨⟩
    exact Or.inr ⟨c, rfl, rfl⟩
  | case2 => rintro ⟨⟩
  | case3 =>
    rintro ⟨⟩
    exact Or.inl ⟨rfl, rfl⟩

theorem sLit_cons_ne {x d : Char} (h : d ≠ x) (r : List Char) : sLit x (d :: r) = (false, d :: r) := by
  simp [sLit, h]

theorem sLit_eq (x : Char) (r : List Char) : sLit x (x :: r) = (true, r) := by simp [sLit]

theorem sLit_split {x : Char} {r r' : List Char} {b : Bool} (h : sLit x r = (b, r')) : r = (if b then [x] else []) ++ r' := by
  revert h
  fun_cases sLit x r <;> rintro ⟨⟩ <;> rfl

theorem sPrec_cons_ne {d : Char} (h : d ≠ '.') (r : List Char) : sPrec (d :: r) = (none, d :: r) := by
  unfold sPrec
  split
  · rename_i heq
    cases heq
    exact absurd rfl h
  · rfl

theorem sPrec_dot_nodigit {r : List Char} (h : ∀ d r', r = d :: r' → isDigit d = false) : sPrec ('.' :: r) = (none, '.' :: r) := by
  cases r with
  | nil => simp [sPrec]
  | cons d r' => simp [sPrec, h d r' rfl]

theorem asciiDigit_isDigit {c : Char} (h : isAsciiDigit c = true) : isDigit c = true := by
  simp only [isAsciiDigit, Bool.and_eq_true, decide_eq_true_eq] at h
  have h1 : ¬ c.toNat < 0x30 := Nat.not_lt.2 h.1
  have h2 : c.toNat ≤ 0x39 := h.2
  -- the first range of the table is `0`–`9`
  rw [isDigit, digitRanges, inSorted, if_neg h1, if_pos h2]

theorem sWidth_split {r4 r5 : List Char} {w : Option (List Char)} (h : sWidth r4 = (w, r5)) :
    r4 = w.getD [] ++ r5 ∧ (∀ c ∈ w.getD [], isDigit c = true) := by
  revert h
  fun_cases sWidth r4 with
  | case1 =>
    rintro ⟨⟩
    exact ⟨rfl, fun _ hc => nomatch hc⟩
  | case2 =>
    rintro ⟨⟩
    exact ⟨List.takeWhile_append_dropWhile.symm, fun c hc => asciiDigit_isDigit (Kit.takeWhile_all isAsciiDigit r4 c hc)⟩

theorem sWidth_nodigit {c : Char} (h : isAsciiDigit c = false) (r : List Char) : sWidth (c :: r) = (none, c :: r) := by
  simp [sWidth, h]

theorem sWidth_digit {c : Char} (h : isAsciiDigit c = true) (r : List Char) :
    sWidth (c :: r) = (some (c :: r.takeWhile isAsciiDigit), r.dropWhile isAsciiDigit) := by
  simp [sWidth, h]

theorem sWidth_snd (r : List Char) : (sWidth r).2 = r.dropWhile isAsciiDigit := by
  have h := List.takeWhile_append_dropWhile (p := isAsciiDigit) (l := r)
  unfold sWidth
  split
  · rename_i h0
    rw [h0] at h
    exact h.symm
  · rfl

theorem sSign_no {c : Char} (h : isSign c = false) (r : List Char) : sSign (c :: r) = (none, c :: r) := by simp [sSign, h]
theorem sSign_yes {c : Char} (h : isSign c = true) (r : List Char) : sSign (c :: r) = (some c, r) := by simp [sSign, h]

theorem align_cases {a : Char} (h : isAlign a = true) : a = '<' ∨ a = '>' ∨ a = '=' ∨ a = '^' := by
  simpa [isAlign, or_assoc] using h

theorem sign_cases {s : Char} (h : isSign s = true) : s = ' ' ∨ s = '+' ∨ s = '-' := by
  simpa [isSign, or_assoc] using h

end I18n.PyBrace
