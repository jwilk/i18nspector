import I18n.Generated.ChkLang
import I18n.Lemmas.LingGenerated
import I18n.Lemmas.PyKitLemmas
/-!
# The path-derived part of `Checker.check_language` regenerated from `lib/check/__init__.py` equals the model's `Locale.stagePath`

The language comes from the `-l` option, else from the path component before `LC_MESSAGES`, else from the base name of a `.po` file; the
code keeps three locals `(language, source, quality)`, the model a record (`ofStage` reads one as the other).  Each `except LanguageError:`
is `PyKit.tryExcept` on one side and `if e.isLanguageError` on the other.
-/
namespace I18n.Locale.Gen
open I18n I18n.Locale I18n.Locale.Py I18n.Generated I18n.PyKit

/-- the result of the model's `stagePath` as the three locals of the code -/
def ofStage (r : Except LErr PathStage) : Except LErr (Option Language × List Char × Nat) :=
  r.map (fun ps => (ps.language, ps.source.toList, ps.quality))

theorem listIndex_eq (xs : List (List Char)) (x : List Char) :
    PyKit.tryExcept (listIndex xs x) (fun e => e == .valueError) (.ok 0) =
      .ok (if xs.findIdx (· = x) < xs.length then xs.findIdx (· = x) else 0) := by
  unfold listIndex
  split <;> rfl

theorem path_language_eq (opt : Option Language) (path : List Char) :
    ChkLang.path_language opt path = ofStage (stagePath opt path) := by
  unfold ChkLang.path_language stagePath ofStage
  simp only [parse_language_eq, fix_codes_eq, remove_encoding_eq, remove_nonlinguistic_modifier_eq, listIndex_eq, bind_ok]
  cases opt with
  | some l => rfl
  | none =>
    simp only [lcMessagesLanguage, basenameLanguage]
    generalize splitOn '/' (normpath path) = comps
    generalize List.findIdx (fun x => decide (x = "LC_MESSAGES".toList)) comps = i
    generalize splitext (basename path) = se
    obtain ⟨stem, ext⟩ := se
    generalize ".po".toList = po
    simp only []
    -- the two stages are decided one after the other: first the `LC_MESSAGES` stage of the code (`A`) against the model's (`a`),
    -- with the base-name stage untouched, then the base-name stage where the first has found nothing
    generalize hA : (if decide (_ > 0) = true then _ else _ : Except LErr (Option Language × List Char)) = A
    generalize ha : (if i < comps.length ∧ i > 0 then _ else _ : Except LErr (Option Language)) = a
    have hrel : A = a.map fun o => (o, match o with | some _ => "pathname".toList | none => "command-line".toList) := by
      subst hA ha
      by_cases hi : i < comps.length ∧ i > 0
      · simp only [hi, if_true, decide_true, and_self]
        cases parseLanguageE (comps.getD (i - 1) []) with
        | error e =>
          simp only [bind_error, tryExcept_error, Except.map]
          cases e.isLanguageError <;> rfl
        | ok l =>
          simp only [bind_ok]
          cases fixCodes l with
          | error e =>
            simp only [bind_error, tryExcept_error, Except.map]
            cases e.isLanguageError <;> rfl
          | ok r => obtain ⟨l', f⟩ := r; simp only [bind_ok, tryExcept_ok, Except.map]
      · have hz : ¬ ((if i < comps.length then i else 0) > 0) := by
          intro h; apply hi; split at h <;> omega
        simp only [hz, hi, decide_false, Bool.false_eq_true, if_false, Except.map]
    rw [hrel]
    clear hrel hA ha
    cases a with
    | error e => rfl
    | ok o =>
      cases o with
      | some l => rfl
      | none =>
        dsimp only [Except.map, Except.bind]
        by_cases hext : ext = po
        · subst hext
          rw [if_neg (not_not_intro rfl)]
          simp only [decide_true, if_true]
          cases parseLanguageE stem with
          | error e =>
            simp only [tryExcept_error]
            cases e.isLanguageError <;> rfl
          | ok l =>
            dsimp only
            cases hen : l.enc with
            | some en =>
              simp only [tryExcept_error, LErr.isLanguageError, Option.isSome_some, if_true]
            | none =>
              simp only [Option.isSome_none, Bool.false_eq_true, if_false]
              cases fixCodes l with
              | error e =>
                simp only [tryExcept_error]
                cases e.isLanguageError <;> rfl
              | ok r =>
                obtain ⟨l', f⟩ := r
                simp only [tryExcept_ok]
        · simp only [hext, decide_false, Bool.false_eq_true, if_false]

end I18n.Locale.Gen
