import I18n.Model.Meta
/-!
The composition law behind every clause of C17: if two runs start in related states and every stage maps related states
to related states while printing the same tags up to a set of ignored ones (`Respects`; `Exact`: none ignored), the whole runs
print the same tags up to that set and raise alike (`runStages_sim`).  Lifted through `Checker.check` (loader outcomes,
`broken-encoding`, the tag-only exits): `check_sim`, `check_sim_first_ok`.  About ONE run: what of the loader's answers, the
extension and the loaded file it depends on (`check_congr_load`, `check_first_ok`, `check_same_view`, `check_ext`, `check_map_load`).
-/
namespace I18n.Meta
open I18n.Check

theorem enumerate_map_snd (i : Nat) (fs : List Text) : (enumerate i fs).map (·.2) = fs := by
  induction fs generalizing i with
  | nil => rfl
  | cons f rest ih => simp [enumerate, ih]

theorem enumerate_any (p : Text → Bool) (i : Nat) (fs : List Text) : (enumerate i fs).any (fun kv => p kv.2) = fs.any p := by
  induction fs generalizing i with
  | nil => rfl
  | cons f rest ih => simp [enumerate, ih]

def Respects {σ₁ σ₂ τ : Type} (R : σ₁ → σ₂ → Prop) (keep : τ → Bool) (st1 : Stage σ₁ τ) (st2 : Stage σ₂ τ) : Prop :=
  ∀ s s', R s s' →
    R (st1 s).1 (st2 s').1 ∧ (st1 s).2.1.filter keep = (st2 s').2.1.filter keep ∧ (st1 s).2.2 = (st2 s').2.2

inductive RespectsAll {σ₁ σ₂ τ : Type} (R : σ₁ → σ₂ → Prop) (keep : τ → Bool) :
    List (Stage σ₁ τ) → List (Stage σ₂ τ) → Prop where
  | nil : RespectsAll R keep [] []
  | cons {a b as bs} : Respects R keep a b → RespectsAll R keep as bs → RespectsAll R keep (a :: as) (b :: bs)

theorem runStages_sim {σ₁ σ₂ τ : Type} (R : σ₁ → σ₂ → Prop) (keep : τ → Bool)
    (l1 : List (Stage σ₁ τ)) (l2 : List (Stage σ₂ τ)) (h : RespectsAll R keep l1 l2) (s : σ₁) (s' : σ₂) (hR : R s s') :
    (runStages l1 s).1.filter keep = (runStages l2 s').1.filter keep ∧ (runStages l1 s).2 = (runStages l2 s').2 := by
  induction h generalizing s s' with
  | nil => exact ⟨rfl, rfl⟩
  | @cons a b as bs hab _ ih =>
    obtain ⟨h1, h2, h3⟩ := hab s s' hR
    unfold runStages
    rcases ha : a s with ⟨s1, o1, r1⟩
    rcases hb : b s' with ⟨s2, o2, r2⟩
    rw [ha, hb] at h1 h2 h3
    simp only at h1 h2 h3
    subst h3
    cases r1 with
    | true => exact ⟨h2, rfl⟩
    | false =>
      obtain ⟨i1, i2⟩ := ih s1 s2 h1
      simp only [List.filter_append]
      exact ⟨by rw [h2, i1], i2⟩

/-- which lines of a run are compared: the tags `keep` selects, and every line `check` prints itself -/
def keepLine {τ : Type} (keep : τ → Bool) : Line τ → Bool
  | .tag t => keep t
  | _ => true

theorem filter_keepLine_map_tag {τ : Type} (keep : τ → Bool) (l : List τ) :
    (l.map Line.tag).filter (keepLine keep) = (l.filter keep).map Line.tag := by
  rw [List.filter_map]
  rfl

theorem afterLoad_sim {σ₁ σ₂ τ : Type} (R : σ₁ → σ₂ → Prop) (keep : τ → Bool) (pre : List (Line τ))
    (l1 : List (Stage σ₁ τ)) (l2 : List (Stage σ₂ τ)) (h : RespectsAll R keep l1 l2) (s : σ₁) (s' : σ₂) (hR : R s s') :
    (afterLoad pre l1 s).lines.filter (keepLine keep) = (afterLoad pre l2 s').lines.filter (keepLine keep) ∧
    (afterLoad pre l1 s).uncaught = (afterLoad pre l2 s').uncaught := by
  obtain ⟨h1, h2⟩ := runStages_sim R keep l1 l2 h s s' hR
  unfold afterLoad
  simp only [List.filter_append, filter_keepLine_map_tag, h1, h2, and_self]

def LoadAlike {F₁ F₂ : Type} (Rf : F₁ → F₂ → Prop) : Except LoadErr F₁ → Except LoadErr F₂ → Prop
  | .ok f, .ok g => Rf f g
  | .error e, .error e' => e = e'
  | _, _ => False

theorem LoadAlike.cases {F₁ F₂ : Type} {Rf : F₁ → F₂ → Prop} {a : Except LoadErr F₁} {b : Except LoadErr F₂}
    (h : LoadAlike Rf a b) : (∃ e, a = .error e ∧ b = .error e) ∨ ∃ f g, a = .ok f ∧ b = .ok g ∧ Rf f g := by
  cases a with
  | ok f =>
    cases b with
    | ok g => exact .inr ⟨f, g, rfl, rfl, h⟩
    | error _ => exact False.elim h
  | error e =>
    cases b with
    | ok _ => exact False.elim h
    | error e' => exact .inl ⟨e, rfl, congrArg _ (Eq.symm h)⟩

/-- `check_sim` attempt by attempt: the retries have to be alike only if the first attempt ended in `UnicodeDecodeError`
    (otherwise no retry is made), and `Rf` is told which attempt delivered the files (`broken`). -/
theorem check_sim_attempts {F₁ F₂ σ₁ σ₂ τ : Type} (R : σ₁ → σ₂ → Prop) (Rf : Bool → F₁ → F₂ → Prop) (keep : τ → Bool)
    (statOk : Bool) (ext : Ext)
    (load1 : Bool → Except LoadErr F₁) (load2 : Bool → Except LoadErr F₂)
    (init1 : F₁ → Bool → σ₁) (init2 : F₂ → Bool → σ₂)
    (l1 : List (Stage σ₁ τ)) (l2 : List (Stage σ₂ τ))
    (hfirst : LoadAlike (Rf false) (load1 false) (load2 false))
    (hretry : load1 false = .error .unicodeDecode → LoadAlike (Rf true) (load1 true) (load2 true))
    (hinit : ∀ f g broken, Rf broken f g → R (init1 f broken) (init2 g broken))
    (hst : RespectsAll R keep l1 l2) :
    (check statOk ext load1 init1 l1).lines.filter (keepLine keep) = (check statOk ext load2 init2 l2).lines.filter (keepLine keep) ∧
    (check statOk ext load1 init1 l1).uncaught = (check statOk ext load2 init2 l2).uncaught := by
  unfold check
  by_cases hs : (!statOk) = true
  · rw [if_pos hs, if_pos hs]
    exact ⟨rfl, rfl⟩
  rw [if_neg hs, if_neg hs]
  by_cases he : ext = .other
  · rw [if_pos he, if_pos he]
    exact ⟨rfl, rfl⟩
  rw [if_neg he, if_neg he]
  rcases hfirst.cases with ⟨e0, a0, b0⟩ | ⟨f0, g0, a0, b0, r0⟩
  · rw [a0, b0]
    cases e0
    case unicodeDecode =>
      rcases (hretry a0).cases with ⟨e1, a1, b1⟩ | ⟨f1, g1, a1, b1, r1⟩
      · rw [a1, b1]
        cases e1
        all_goals exact ⟨rfl, rfl⟩
      · rw [a1, b1]
        exact afterLoad_sim R keep _ l1 l2 hst _ _ (hinit f1 g1 true r1)
    all_goals exact ⟨rfl, rfl⟩
  · rw [a0, b0]
    exact afterLoad_sim R keep _ l1 l2 hst _ _ (hinit f0 g0 false r0)

/-- **`Checker.check` on two inputs**: loaders alike on both attempts, initial contexts of alike files related, stages
    respecting the relation ⇒ the two runs print the same lines up to the ignored tags, and end alike. -/
theorem check_sim {F₁ F₂ σ₁ σ₂ τ : Type} (R : σ₁ → σ₂ → Prop) (Rf : F₁ → F₂ → Prop) (keep : τ → Bool)
    (statOk : Bool) (ext : Ext)
    (load1 : Bool → Except LoadErr F₁) (load2 : Bool → Except LoadErr F₂)
    (init1 : F₁ → Bool → σ₁) (init2 : F₂ → Bool → σ₂)
    (l1 : List (Stage σ₁ τ)) (l2 : List (Stage σ₂ τ))
    (hload : ∀ retry, LoadAlike Rf (load1 retry) (load2 retry))
    (hinit : ∀ f g broken, Rf f g → R (init1 f broken) (init2 g broken))
    (hst : RespectsAll R keep l1 l2) :
    (check statOk ext load1 init1 l1).lines.filter (keepLine keep) = (check statOk ext load2 init2 l2).lines.filter (keepLine keep) ∧
    (check statOk ext load1 init1 l1).uncaught = (check statOk ext load2 init2 l2).uncaught :=
  check_sim_attempts R (fun _ => Rf) keep statOk ext load1 load2 init1 init2 l1 l2 (hload false) (fun _ => hload true)
    hinit hst

theorem check_sim_first_ok {F₁ F₂ σ₁ σ₂ τ : Type} (R : σ₁ → σ₂ → Prop) (keep : τ → Bool) (statOk : Bool) (ext : Ext)
    (load1 : Bool → Except LoadErr F₁) (load2 : Bool → Except LoadErr F₂) (f1 : F₁) (f2 : F₂)
    (h1 : load1 false = .ok f1) (h2 : load2 false = .ok f2) (init1 : F₁ → Bool → σ₁) (init2 : F₂ → Bool → σ₂)
    (l1 : List (Stage σ₁ τ)) (l2 : List (Stage σ₂ τ))
    (hinit : R (init1 f1 false) (init2 f2 false)) (hst : RespectsAll R keep l1 l2) :
    (check statOk ext load1 init1 l1).lines.filter (keepLine keep) = (check statOk ext load2 init2 l2).lines.filter (keepLine keep) ∧
    (check statOk ext load1 init1 l1).uncaught = (check statOk ext load2 init2 l2).uncaught := by
  refine check_sim_attempts R (fun broken f g => broken = false ∧ f = f1 ∧ g = f2) keep statOk ext load1 load2
    init1 init2 l1 l2 ?_ ?_ ?_ hst
  · rw [h1, h2]
    exact ⟨rfl, rfl, rfl⟩
  · intro hdecode
    rw [h1] at hdecode
    cases hdecode
  · rintro f g broken ⟨rfl, rfl, rfl⟩
    exact hinit

theorem check_sim_ok {F₁ F₂ σ₁ σ₂ τ : Type} (R : σ₁ → σ₂ → Prop) (keep : τ → Bool) (statOk : Bool) (ext : Ext)
    (f1 : F₁) (f2 : F₂) (init1 : F₁ → Bool → σ₁) (init2 : F₂ → Bool → σ₂)
    (l1 : List (Stage σ₁ τ)) (l2 : List (Stage σ₂ τ))
    (hinit : ∀ broken, R (init1 f1 broken) (init2 f2 broken)) (hst : RespectsAll R keep l1 l2) :
    (check statOk ext (fun _ => .ok f1) init1 l1).lines.filter (keepLine keep)
      = (check statOk ext (fun _ => .ok f2) init2 l2).lines.filter (keepLine keep) ∧
    (check statOk ext (fun _ => .ok f1) init1 l1).uncaught = (check statOk ext (fun _ => .ok f2) init2 l2).uncaught :=
  check_sim_first_ok R keep statOk ext _ _ f1 f2 rfl rfl init1 init2 l1 l2 (hinit false) hst

theorem check_congr_load {F σ τ : Type} (statOk : Bool) (ext : Ext) (load1 load2 : Bool → Except LoadErr F)
    (init : F → Bool → σ) (stages : List (Stage σ τ)) (h : ∀ retry, load1 retry = load2 retry) :
    check statOk ext load1 init stages = check statOk ext load2 init stages := by
  have : load1 = load2 := funext h
  rw [this]

theorem check_first_ok {F σ τ : Type} (statOk : Bool) (ext : Ext) (load : Bool → Except LoadErr F) (init : F → Bool → σ)
    (stages : List (Stage σ τ)) (f : F) (h : load false = .ok f) :
    check statOk ext load init stages = check statOk ext (fun _ => .ok f) init stages := by
  unfold check
  simp only [h]

theorem check_same_view {F V σ τ : Type} (statOk : Bool) (ext : Ext) (load1 load2 : Bool → Except LoadErr F) (view : F → V)
    (init : V → Bool → σ) (stages : List (Stage σ τ)) (f1 f2 : F) (h1 : load1 false = .ok f1) (h2 : load2 false = .ok f2)
    (hv : view f1 = view f2) :
    check statOk ext load1 (fun f b => init (view f) b) stages = check statOk ext load2 (fun f b => init (view f) b) stages := by
  rw [check_first_ok statOk ext load1 _ stages f1 h1, check_first_ok statOk ext load2 _ stages f2 h2]
  unfold check
  simp only [hv]

theorem check_ext {F σ τ : Type} (statOk : Bool) (ext ext' : Ext) (h : ext ≠ .other) (h' : ext' ≠ .other)
    (load : Bool → Except LoadErr F) (init : F → Bool → σ) (stages : List (Stage σ τ)) :
    check statOk ext load init stages = check statOk ext' load init stages := by
  unfold check
  simp only [h, h', if_false]

abbrev Exact {σ₁ σ₂ τ : Type} (R : σ₁ → σ₂ → Prop) (st1 : Stage σ₁ τ) (st2 : Stage σ₂ τ) : Prop :=
  Respects R (fun _ => true) st1 st2

theorem Respects.mono {σ₁ σ₂ τ : Type} {R : σ₁ → σ₂ → Prop} {keep keep' : τ → Bool} {st1 : Stage σ₁ τ} {st2 : Stage σ₂ τ}
    (hk : ∀ t, keep' t = true → keep t = true) (h : Respects R keep st1 st2) : Respects R keep' st1 st2 := by
  intro s s' hR
  obtain ⟨a, b, c⟩ := h s s' hR
  have key : ∀ l : List τ, l.filter keep' = (l.filter keep).filter keep' := by
    intro l
    rw [List.filter_filter]
    exact List.filter_congr fun t _ => by cases h' : keep' t <;> simp [hk t, h']
  exact ⟨a, by rw [key (st1 s).2.1, key (st2 s').2.1, b], c⟩

theorem exact_respects {σ₁ σ₂ τ : Type} (R : σ₁ → σ₂ → Prop) (keep : τ → Bool) (st1 : Stage σ₁ τ) (st2 : Stage σ₂ τ)
    (h : Exact R st1 st2) : Respects R keep st1 st2 :=
  h.mono fun _ _ => rfl

theorem respectsAll_append {σ₁ σ₂ τ : Type} (R : σ₁ → σ₂ → Prop) (keep : τ → Bool)
    {a1 b1 : List (Stage σ₁ τ)} {a2 b2 : List (Stage σ₂ τ)}
    (ha : RespectsAll R keep a1 a2) (hb : RespectsAll R keep b1 b2) : RespectsAll R keep (a1 ++ b1) (a2 ++ b2) := by
  induction ha with
  | nil => exact hb
  | cons h _ ih => exact .cons h ih

theorem respectsAll_of_exact {σ τ : Type} (R : σ → σ → Prop) (keep : τ → Bool) (l : List (Stage σ τ))
    (h : ∀ st ∈ l, Exact R st st) : RespectsAll R keep l l := by
  induction l with
  | nil => exact .nil
  | cons a as ih =>
    exact .cons (exact_respects R keep a a (h a List.mem_cons_self)) (ih fun st hm => h st (List.mem_cons_of_mem _ hm))

def mapLoad {F V : Type} (view : F → V) : Except LoadErr F → Except LoadErr V
  | .ok f => .ok (view f)
  | .error e => .error e

/-- if `ctx` is built from a VIEW of the loaded file (e.g. the entries without `linenum`), `check` only sees the view -/
theorem check_map_load {F V σ τ : Type} (statOk : Bool) (ext : Ext) (load : Bool → Except LoadErr F) (view : F → V)
    (init : V → Bool → σ) (stages : List (Stage σ τ)) :
    check statOk ext load (fun f b => init (view f) b) stages
      = check statOk ext (fun retry => mapLoad view (load retry)) init stages := by
  unfold check
  dsimp only
  cases load false with
  | ok f => rfl
  | error e =>
    cases e
    case unicodeDecode =>
      cases load true with
      | ok f => rfl
      | error e =>
        cases e
        all_goals rfl
    all_goals rfl

end I18n.Meta
