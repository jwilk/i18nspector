import I18n.Lemmas.PerlBraceChars
import I18n.Lemmas.Kit.List
/-
perl-brace: the scanner accepts exactly the well-formed strings of `Spec.PerlBraceRef`, reports exactly their arguments,
raises only `Error`, and its items spell the input.  The reference predicates quantify over all splits of the string;
`wf_cons` and `arg_cons` turn them into recursions on it, which `loop_spec` follows one scanned item at a time.
-/
namespace I18n.PerlBrace
open I18n.BraceChars I18n.Spec.PerlBraceRef

theorem append_cons_inj {α : Type} {e : α} {a b x y : List α} (ha : e ∉ a) (hb : e ∉ b) (h : a ++ e :: x = b ++ e :: y) : a = b := by
  rcases List.append_eq_append_iff.1 h with ⟨c, rfl, h'⟩ | ⟨c, rfl, h'⟩
  · cases c with
    | nil => exact (List.append_nil a).symm
    | cons d p => cases h'; exact absurd (List.mem_append_right a List.mem_cons_self) hb
  · cases c with
    | nil => exact List.append_nil b
    | cons d p => cases h'; exact absurd (List.mem_append_right b List.mem_cons_self) ha

theorem isIdent_iff (w : List Char) : IsIdent w ↔ ∃ c t, w = c :: t ∧ isIdStart c = true ∧ ∀ d ∈ t, isWord d = true := by
  simp only [IsIdent, isIdStart_iff, isWord_iff]

theorem ident_word {w : List Char} (h : IsIdent w) : ∀ d ∈ w, isWord d = true := by
  obtain ⟨c, t, rfl, hc, ht⟩ := (isIdent_iff w).1 h
  exact List.forall_mem_cons.2 ⟨idStart_word hc, ht⟩

theorem ident_no_open {w : List Char} (h : IsIdent w) : '{' ∉ w :=
  fun hm => word_ne_open (ident_word h _ hm) rfl

theorem ident_no_close {w : List Char} (h : IsIdent w) : '}' ∉ w :=
  fun hm => word_ne_close (ident_word h _ hm) rfl

theorem scanItem_field {post : List Char} {w rest : List Char} (hw : IsIdent w) (h : post = w ++ '}' :: rest) :
    scanItem ('{' :: post) = some (.field w, rest) := by
  obtain ⟨c, t, rfl, hc, ht⟩ := (isIdent_iff w).1 hw
  subst h
  have := Kit.span_append (b := '}' :: rest) ht (by rintro _ ⟨⟩; decide)
  simp [scanItem, hc, this.1, this.2]

theorem scanItem_other {c : Char} (cs : List Char) (hc : c ≠ '{') :
    scanItem (c :: cs) = some (.lit (c :: cs.takeWhile (· ≠ '{')), cs.dropWhile (· ≠ '{')) := by
  simp [scanItem, hc]

theorem wf_nil : WellFormed [] := by
  intro pre post h; simp at h

theorem wf_cons (c : Char) (s : List Char) :
    WellFormed (c :: s) ↔ (c = '{' → ∃ w rest, IsIdent w ∧ s = w ++ '}' :: rest) ∧ WellFormed s := by
  constructor
  · intro h
    constructor
    · rintro rfl
      exact h [] s rfl
    · intro pre post hs
      exact h (c :: pre) post (by rw [hs]; rfl)
  · rintro ⟨h0, h⟩ pre post hs
    cases pre with
    | nil => cases hs; exact h0 rfl
    | cons d pre => exact h pre post (List.cons.inj hs).2

theorem wf_append_lit (t : List Char) (ht : '{' ∉ t) (s : List Char) : WellFormed (t ++ s) ↔ WellFormed s := by
  induction t with
  | nil => rfl
  | cons c t ih =>
    rw [List.cons_append, wf_cons, ih (List.not_mem_of_not_mem_cons ht)]
    exact and_iff_right fun hc => absurd (hc ▸ List.mem_cons_self) ht

theorem wf_field {w : List Char} (hw : IsIdent w) (rest : List Char) : WellFormed ('{' :: w ++ '}' :: rest) ↔ WellFormed rest := by
  have ht : '{' ∉ w ++ ['}'] := by simp [ident_no_open hw]
  rw [List.cons_append, wf_cons, and_iff_right fun _ => ⟨w, rest, hw, rfl⟩, List.append_cons, wf_append_lit _ ht]

theorem arg_nil (w : List Char) : ¬ IsArgument [] w := by
  rintro ⟨-, pre, rest, h⟩
  simp at h

theorem arg_cons (c : Char) (s w : List Char) :
    IsArgument (c :: s) w ↔ (IsIdent w ∧ c = '{' ∧ ∃ rest, s = w ++ '}' :: rest) ∨ IsArgument s w := by
  constructor
  · rintro ⟨hw, pre, rest, hs⟩
    cases pre with
    | nil => exact .inl ⟨hw, (List.cons.inj hs).1, rest, (List.cons.inj hs).2⟩
    | cons d pre => exact .inr ⟨hw, pre, rest, (List.cons.inj hs).2⟩
  · rintro (⟨hw, rfl, rest, rfl⟩ | ⟨hw, pre, rest, rfl⟩)
    · exact ⟨hw, [], rest, rfl⟩
    · exact ⟨hw, c :: pre, rest, rfl⟩

theorem arg_append_lit (t : List Char) (ht : '{' ∉ t) (s w : List Char) : IsArgument (t ++ s) w ↔ IsArgument s w := by
  induction t with
  | nil => rfl
  | cons c t ih =>
    rw [List.cons_append, arg_cons, ih (List.not_mem_of_not_mem_cons ht)]
    exact or_iff_right fun h => ht (h.2.1 ▸ List.mem_cons_self)

theorem arg_field {n : List Char} (hn : IsIdent n) (rest w : List Char) :
    IsArgument ('{' :: n ++ '}' :: rest) w ↔ (w = n ∨ IsArgument rest w) := by
  have ht : '{' ∉ n ++ ['}'] := by simp [ident_no_open hn]
  rw [List.cons_append, arg_cons, List.append_cons, arg_append_lit _ ht]
  refine or_congr_left ⟨?_, ?_⟩
  · rintro ⟨hw, -, rest', h⟩
    rw [← List.append_cons] at h
    exact append_cons_inj (ident_no_close hw) (ident_no_close hn) h.symm
  · rintro rfl
    exact ⟨hn, rfl, rest, (List.append_cons ..).symm⟩

theorem scanItem_some {cs : List Char} {it : Item} {rest : List Char} (h : scanItem cs = some (it, rest)) :
    cs = it.text ++ rest ∧ rest.length < cs.length ∧
    (WellFormed cs ↔ WellFormed rest) ∧ (∀ w, IsArgument cs w ↔ (it = .field w ∨ IsArgument rest w)) := by
  revert h
  fun_cases scanItem cs with
  | case1 | case3 | case5 | case6 => rintro ⟨⟩
  | case2 c cs hc =>
    rintro ⟨⟩
    have hsplit : c :: cs = (c :: cs.takeWhile (· ≠ '{')) ++ cs.dropWhile (· ≠ '{') := by
      rw [List.cons_append, List.takeWhile_append_dropWhile]
    have hno : '{' ∉ c :: cs.takeWhile (· ≠ '{') := by
      rw [List.mem_cons, not_or]
      exact ⟨Ne.symm hc, fun hm => of_decide_eq_true (Kit.takeWhile_all _ cs _ hm) rfl⟩
    refine ⟨hsplit, Nat.lt_succ_of_le ((List.dropWhile_sublist _).length_le), ?_, fun w => ?_⟩
    · rw [hsplit]
      exact wf_append_lit _ hno _
    · rw [hsplit, arg_append_lit _ hno]
      exact (or_iff_right Item.noConfusion).symm
  | case4 c hc d ds hd rest' hdw =>
    rintro ⟨⟩
    obtain rfl : c = '{' := Decidable.not_not.1 hc
    have hw : IsIdent (d :: ds.takeWhile isWord) := (isIdent_iff _).2 ⟨d, _, rfl, hd, Kit.takeWhile_all isWord ds⟩
    have hds : ds = ds.takeWhile isWord ++ '}' :: rest := by rw [← hdw, List.takeWhile_append_dropWhile]
    generalize ds.takeWhile isWord = t at hw hds ⊢
    subst hds
    refine ⟨?_, ?_, wf_field hw rest, fun w => ?_⟩
    · rw [Item.text, List.append_assoc]
      rfl
    · simp only [List.length_cons, List.length_append]
      omega
    · rw [Item.field.injEq, eq_comm]
      exact arg_field hw rest w

theorem scanItem_none {c : Char} {cs : List Char} (h : scanItem (c :: cs) = none) : c = '{' ∧ ¬ WellFormed (c :: cs) := by
  by_cases hc : c = '{'
  · subst hc
    refine ⟨rfl, fun hwf => ?_⟩
    obtain ⟨w, rest, hw, hp⟩ := hwf [] cs rfl
    rw [scanItem_field hw hp] at h
    cases h
  · rw [scanItem_other cs hc] at h; cases h

theorem printablePrefix_open (cs : List Char) : ∃ p, printablePrefix ('{' :: cs) = some p := by
  have : isPrintableAscii '{' = true := by decide
  simp [printablePrefix, this]

theorem mem_addName (w : List Char) (it : Item) (names : List (List Char)) :
    w ∈ it.addName names ↔ w ∈ names ∨ it = .field w := by
  cases it with
  | lit t => exact (or_iff_left Item.noConfusion).symm
  | field n => rw [Item.addName, List.mem_cons, Item.field.injEq, or_comm, eq_comm]

/-- the text the items spell, in order (`Props.C14` states the round trip of `parse` with it) -/
def itemsText (items : List Item) : List Char := (items.map Item.text).flatten

theorem itemsText_eq (items : List Item) : itemsText items = (items.map Item.text).flatten := rfl

theorem itemsText_nil : itemsText [] = [] := rfl

theorem itemsText_cons (it : Item) (items : List Item) : itemsText (it :: items) = it.text ++ itemsText items := rfl

theorem itemsText_append (xs ys : List Item) : itemsText (xs ++ ys) = itemsText xs ++ itemsText ys := by
  rw [itemsText_eq, List.map_append, List.flatten_append]
  rfl

theorem loop_spec : ∀ (fuel : Nat) (cs : List Char) (items : List Item) (names : List (List Char)), cs.length ≤ fuel →
    (WellFormed cs → ∃ r, loop fuel cs items names = .ok r ∧
        (∀ w, w ∈ r.names ↔ (w ∈ names ∨ IsArgument cs w)) ∧ itemsText r.items = itemsText items.reverse ++ cs) ∧
    (¬ WellFormed cs → ∃ p, loop fuel cs items names = .error (.error p)) := by
  intro fuel cs items names
  fun_induction loop fuel cs items names with
  | case1 _ items names =>
    refine fun _ => ⟨fun _ => ⟨_, rfl, fun w => ?_, (List.append_nil _).symm⟩, fun h => absurd wf_nil h⟩
    rw [List.mem_reverse, or_iff_left (arg_nil w)]
  | case2 => exact fun h => absurd h (Nat.not_succ_le_zero _)
  | case3 _ c cs _ _ hsc hp =>
    obtain ⟨rfl, -⟩ := scanItem_none hsc
    obtain ⟨p, hp'⟩ := printablePrefix_open cs
    rw [hp] at hp'
    cases hp'
  | case4 _ c cs _ _ hsc p =>
    exact fun _ => ⟨fun h => absurd h (scanItem_none hsc).2, fun _ => ⟨p, rfl⟩⟩
  | case5 fuel c cs items names it rest hsc ih =>
    intro hlen
    obtain ⟨htext, hlt, hwf, hargs⟩ := scanItem_some hsc
    have ih := ih (Nat.le_of_lt_succ (Nat.lt_of_lt_of_le hlt hlen))
    refine ⟨fun h => ?_, fun h => ih.2 (fun h' => h (hwf.2 h'))⟩
    obtain ⟨r, hr, hn, hi⟩ := ih.1 (hwf.1 h)
    refine ⟨r, hr, fun w => ?_, ?_⟩
    · rw [hn w, hargs w, mem_addName, or_assoc]
    · rw [hi, htext, List.reverse_cons, itemsText_append, itemsText_cons, itemsText_nil, List.append_nil, List.append_assoc]

theorem parse_spec (s : List Char) :
    (WellFormed s ∧ ∃ r, parse s = .ok r ∧ (∀ w, w ∈ r.names ↔ IsArgument s w) ∧ itemsText r.items = s) ∨
    (¬ WellFormed s ∧ ∃ p, parse s = .error (.error p)) := by
  have h := loop_spec s.length s [] [] (Nat.le_refl _)
  by_cases hwf : WellFormed s
  · obtain ⟨r, hr, hn, hi⟩ := h.1 hwf
    exact .inl ⟨hwf, r, hr, fun w => (hn w).trans (or_iff_right List.not_mem_nil), hi⟩
  · exact .inr ⟨hwf, h.2 hwf⟩

end I18n.PerlBrace
