import I18n.Lemmas.PyFmtEffect
/-!
# The two loops in lock step

What the specifications of a string record (`Adds ds S M`) against what CPython does with the same specifications
(`steps ds c`): one structural induction per observation, and what each says of `parse` against `format`.
-/
namespace I18n.PyFmt
open I18n.Spec.CPyPercent I18n.Spec.PyFmtArgs

/-- **Arguments of the reported shape and types are formatted**: `Fits` is kept from specification to specification, and
    at the end nothing is left unfetched -/
theorem Adds.accept {ds : List Directive} {S : List Entry} {M : List (List Char × Entry)} (t : Adds ds S M)
    (hp : ∀ d ∈ ds, d.plain = true) {c : Ctx} (hc : Fits S M c) : formatDs ds c = .ok () := by
  induction t generalizing c with
  | nil =>
    -- the final test: with a mapping it passes, without one no value is left
    rw [formatDs_nil]
    cases hd : c.dict with
    | some m => exact if_neg (by rw [Option.isNone_some, Bool.and_false]; exact Bool.false_ne_true)
    | none =>
      have hcur : c.cur.toList = [] := okAll_nil ((fits_of_none hd).1 hc).2
      exact if_neg (by rw [unconverted_eq, hcur]; exact Bool.false_ne_true)
  | @cons d ds tp parent S M hl hin t ih =>
    obtain ⟨c1, hs, hc1⟩ := step_fits hl hin (hp d List.mem_cons_self) hc
    rw [formatDs_cons_ok hs]
    exact ih (fun x hx => hp x (List.mem_cons_of_mem _ hx)) hc1

/-- **What a successful run of CPython over the specifications did**, whatever the context: every key they recorded is
    in the mapping, and without a mapping it took exactly one value per unnamed argument they recorded. -/
theorem Adds.steps_inv {ds : List Directive} {S : List Entry} {M : List (List Char × Entry)} (t : Adds ds S M)
    {c c' : Ctx} (h : steps ds c = .ok c') : c'.dict = c.dict ∧
    (∀ k e, (k, e) ∈ M → ∃ m, c.dict = some m ∧ (Spec.CPyPercent.lookup m k).isSome = true) ∧
    (c.dict = none → ∃ taken, c.cur.toList = taken ++ c'.cur.toList ∧ taken.length = S.length) := by
  induction t generalizing c with
  | nil => cases h; exact ⟨rfl, nofun, fun _ => ⟨[], rfl, rfl⟩⟩
  | @cons d ds tp parent S M hl hin t ih =>
    obtain ⟨c1, hs, h⟩ := steps_cons_ok.1 h
    obtain ⟨a1, a2, a3⟩ := step_inv (parent := parent) hl hs
    obtain ⟨b1, b2, b3⟩ := ih h
    refine ⟨b1.trans a1, fun k e hke => ?_, fun hc => ?_⟩
    · rcases List.mem_append.1 hke with r | r
      · exact a2 k e r
      · exact a1 ▸ b2 k e r
    · obtain ⟨t1, x1, y1⟩ := a3 hc
      obtain ⟨t2, x2, y2⟩ := b3 (a1.trans hc)
      exact ⟨t1 ++ t2, by rw [x1, x2, List.append_assoc], by rw [List.length_append, List.length_append, y1, y2]⟩

theorem Adds.positional_exact {ds : List Directive} {S : List Entry} {M : List (List Char × Entry)} (t : Adds ds S M)
    {c c' : Ctx} (hc : c.dict = none) (h : steps ds c = .ok c') (hu : (c'.unconverted && c'.dict.isNone) = false) :
    M = [] ∧ S.length = c.cur.toList.length := by
  obtain ⟨hd, hM, hS⟩ := t.steps_inv h
  obtain ⟨taken, a, b⟩ := hS hc
  have hnil : c'.cur.toList = [] := by simpa [unconverted_eq, hd, hc] using hu
  refine ⟨List.eq_nil_iff_forall_not_mem.2 fun ⟨k, e⟩ hke => ?_, ?_⟩
  · obtain ⟨_, hm, _⟩ := hM k e hke
    rw [hc] at hm
    cases hm
  · rw [a, hnil, List.append_nil, b]

/-- an accepted string that CPython formats with an argument that is no mapping: no named argument is reported, and
    one unnamed argument per value offered — per item of a tuple (`'%s %d' % (x, y)`), exactly one for a bare value
    (`'%s' % x`).  Every string: outside the domain `PlainPercent` CPython formats nothing. -/
theorem parse_positional_exact {s : List Char} {r : Result} {a : Args} (h : parse s = .ok r)
    (ha : (Ctx.init a).dict = none) (hf : format s a = .ok ()) :
    r.map = [] ∧ r.seq.length = (Ctx.init a).cur.toList.length := by
  obtain ⟨S, M, t, _, rfl, hmap, _⟩ := parse_adds h
  obtain ⟨_, c', hs, hu⟩ := run_ok hf
  obtain ⟨rfl, l⟩ := t.positional_exact ha hs hu
  exact ⟨hmap, l⟩

/-- a specification outside the domain makes `unicode_format_arg` raise, if nothing raised before
    (CPython 3.12: "unsupported format character '%'") -/
theorem steps_nonplain {ds : List Directive} {d : Directive} (hd : d ∈ ds) (hp : d.plain = false) (c : Ctx) :
    ∃ e, steps ds c = .error e := by
  induction ds generalizing c with
  | nil => cases hd
  | cons x xs ih =>
    simp only [steps]
    cases hs : step x c with
    | error e => exact ⟨e, rfl⟩
    | ok c1 =>
      rcases List.mem_cons.1 hd with rfl | hd
      · obtain ⟨hcv, hne⟩ := Directive.plain_eq_false hp
        obtain ⟨e, he⟩ := effect_percent_fails hcv c
        rw [step_of_ne hne, he] at hs
        cases hs
      · exact ih hd c1

theorem plainPercent_of_format_ok {s : List Char} {a : Args} (hf : format s a = .ok ()) : PlainPercent s := by
  obtain ⟨_, c', hs, _⟩ := run_ok hf
  refine (plainPercent_iff _ _).2 fun d hd => ?_
  cases hpd : d.plain with
  | true => rfl
  | false =>
    obtain ⟨e, he⟩ := steps_nonplain hd hpd (Ctx.init a)
    cases he.symm.trans hs

end I18n.PyFmt
