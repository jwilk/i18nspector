import I18n.Lemmas.CheckPluralsRegistry
/-!
The report of `check_plurals` about a single header value, said once: `Window` (what the 200-window and the gap analysis
contribute, in terms of the declaration the value contains, the registry's declarations with its nplurals and the least bad
index) and `report_spec` (every tag of the report, by its name).  The clauses of Props/C07 are read off these two: one about
the report for a given declaration `d` starts from `report_window`, one that goes from a tag's name to where it came from
starts from `report_spec` (which gives `Origin` for every tag, and the `Window` of every `d`).
Also `format_range`'s items (`rangeItems`) and the helpers of the test vectors of Props/C07.
-/
namespace I18n.CheckPlurals
open I18n I18n.Py I18n.Plural I18n.PluralParse I18n.Spec.PluralForms

/-- The report about a value that contains the declaration `d`: the window passed the indices below `m` (all of them, or up to
    the least one it had to stop at), added the `unusual` tag (`mid`) iff the declared expression differs from the compared one
    at an index passed, stopped with `last`; `rs` are the ranges claimed never to be produced; a table is left only when there
    is neither, and it is what the window records (`Recorded`) on `[0, codomainLimit)` from the empty table. -/
structure Window (inp : Input) (pf : List Char) (d : Decl) (out : Output) (m : Nat) (mid last : List TagCall)
    (rs : List (Nat × Nat)) : Prop where
  tags : out.tags = tags0Of inp ++ junkTags d.ljunk d.rjunk ++ nplTags d.n (expectedOf inp) ++ (compared inp pf d.n).1 ++ mid ++ last
    ++ gapTags (hasPlurals inp) rs
  good : ∀ j, j < m → badMsg d.n d.e j = none
  mid_cases : mid = [] ∨ mid = [unusualTag (hasPlurals inp) pf (hintOf inp)]
  mid_iff : mid = [unusualTag (hasPlurals inp) pf (hintOf inp)] ↔ ∃ j, j < m ∧ DiffersAt d.n d.e (compared inp pf d.n).2 j
  last_cases : m = codomainLimit ∧ last = [] ∨
    m < codomainLimit ∧ ∃ t, last = [t] ∧ StopsAt d.n d.e (compared inp pf d.n).2 (hasPlurals inp) m t
  gaps : ∀ r ∈ rs, r.1 < r.2 ∧ ∀ k : Nat, r.1 ≤ k → k < r.2 → ∀ i : Nat, (i : Int) < 2 ^ 32 → evalAt 32 i d.e ≠ .ok (k : Int)
  preimage : out.preimage = none ∧ (last ≠ [] ∨ rs ≠ []) ∨
    last = [] ∧ rs = [] ∧ ∃ pre, out.preimage = some pre ∧ Recorded d.e (List.range codomainLimit) [] pre
  /-- `gapRanges_clean`, kept here so that `Window.clean` needs no access to `gapRanges` -/
  onto : m = codomainLimit → (∀ k : Nat, k < d.n → ∃ i : Nat, i < codomainLimit ∧ evalAt 32 i d.e = .ok (k : Int)) → rs = []

theorem report_window (inp : Input) (pf : List Char) (out : Output) (hv : headerValues inp = [pf]) (ht : inp.isTemplate = false)
    (d : Decl) (hd : declOf pf = some d) (h : checkPlurals inp = .ok out) : ∃ m mid last rs, Window inp pf d out m mid last rs := by
  obtain ⟨n, e, lj, rj⟩ := d
  obtain ⟨lcs, st, fin, rs, hl, hw, hg, hout⟩ := report_ok inp pf out hv ht n e lj rj (parsePluralForms_eq_ok_iff.2 hd) h
  cases lcsOf_eq hl
  have hfacts := completedOf_facts _ _ _ _ _ _ st fin (st0Of_pre ..) hw
  have hgaps : ∀ r ∈ rs, r.1 < r.2 ∧ ∀ k : Nat, r.1 ≤ k → k < r.2 → ∀ i : Nat, (i : Int) < 2 ^ 32 → evalAt 32 i e ≠ .ok (k : Int) :=
    fun r hr => ⟨gapRanges_nonempty n e _ rs hg (fun pre hpre => (hfacts pre hpre).nonneg) r hr, gapRanges_true n e _ rs hg hfacts r hr⟩
  obtain ⟨passed, mid, hpass, hmid, hiff, hfin⟩ := window_spec _ _ _ _ _ _ _ _ _ hw
  simp only [st0Of_unusual, true_and] at hiff
  rcases hfin with ⟨rfl, rfl, htags, hrec⟩ | ⟨rfl, i, post, t, his, htags, hst⟩
  · -- all indices passed: the preimage is that of the window, and an onto declaration leaves no gap
    rw [st0Of_pre] at hrec
    simp only [List.mem_range] at hpass hiff
    have honto : (∀ k : Nat, k < n → ∃ i : Nat, i < codomainLimit ∧ evalAt 32 i e = .ok (k : Int)) → rs = [] := by
      intro ho
      have hclean : CleanOnWindow n e := by
        refine ⟨fun i hi => ?_, ho⟩
        obtain ⟨v, hv, _, hvn⟩ := badMsg_none (hpass i hi)
        exact ⟨v, hv, hvn⟩
      rw [completedOf, gapRanges_clean hclean st.pre hrec.windowKeys] at hg
      cases hg
      rfl
    exact ⟨codomainLimit, mid, [], rs, {
      tags := by rw [hout, htags, st0Of_tags, List.append_nil]; rfl
      good := hpass
      mid_cases := hmid
      mid_iff := hiff
      last_cases := Or.inl ⟨rfl, rfl⟩
      gaps := hgaps
      preimage := by
        rw [hout]
        cases rs with
        | nil => exact Or.inr ⟨rfl, rfl, st.pre, rfl, hrec⟩
        | cons a b => exact Or.inl ⟨rfl, Or.inr (List.cons_ne_nil a b)⟩
      onto := fun _ => honto }⟩
  · obtain ⟨rfl, hi⟩ := range_split his
    simp only [List.mem_range] at hpass hiff
    have hnopre : out.preimage = none := by rw [hout]; exact ite_self _
    exact ⟨i, mid, [t], rs, {
      tags := by rw [hout, htags, st0Of_tags]; rfl
      good := hpass
      mid_cases := hmid
      mid_iff := hiff
      last_cases := Or.inr ⟨hi, t, rfl, hst⟩
      gaps := hgaps
      preimage := Or.inl ⟨hnopre, Or.inl (List.cons_ne_nil t [])⟩
      onto := fun h => absurd h (Nat.ne_of_lt hi) }⟩

section
variable {inp : Input} {pf : List Char} {d : Decl} {out : Output} {m : Nat} {mid last : List TagCall} {rs : List (Nat × Nat)}

theorem Window.le (W : Window inp pf d out m mid last rs) : m ≤ codomainLimit := by
  rcases W.last_cases with ⟨h, _⟩ | ⟨h, _⟩ <;> omega

theorem Window.mem_of_tags0 (W : Window inp pf d out m mid last rs) {t : TagCall} (h : t ∈ tags0Of inp) : t ∈ out.tags := by
  rw [W.tags]
  simp [h]

theorem Window.mem_of_junk (W : Window inp pf d out m mid last rs) {t : TagCall} (h : t ∈ junkTags d.ljunk d.rjunk) :
    t ∈ out.tags := by
  rw [W.tags]
  simp [h]

theorem Window.mem_of_npl (W : Window inp pf d out m mid last rs) {t : TagCall} (h : t ∈ nplTags d.n (expectedOf inp)) :
    t ∈ out.tags := by
  rw [W.tags]
  simp [h]

theorem Window.mem_of_compared (W : Window inp pf d out m mid last rs) {t : TagCall} (h : t ∈ (compared inp pf d.n).1) :
    t ∈ out.tags := by
  rw [W.tags]
  simp [h]

theorem Window.mem_of_mid (W : Window inp pf d out m mid last rs) {t : TagCall} (h : t ∈ mid) : t ∈ out.tags := by
  rw [W.tags]
  simp [h]

theorem Window.mem_mid (W : Window inp pf d out m mid last rs) : ∀ t ∈ mid, t = unusualTag (hasPlurals inp) pf (hintOf inp) := by
  rcases W.mid_cases with h | h <;> simp [h]

theorem Window.mem_last (W : Window inp pf d out m mid last rs) : ∀ t ∈ last, isStopTag (hasPlurals inp) t := by
  rcases W.last_cases with ⟨_, rfl⟩ | ⟨_, t', rfl, hst⟩
  · simp
  · simpa using hst.tag_isStopTag

theorem Window.stop (W : Window inp pf d out m mid last rs) (hlc : LcTotal (compared inp pf d.n).2 (List.range codomainLimit))
    (hm : m < codomainLimit) :
    ∃ msg, badMsg d.n d.e m = some msg ∧ last = [⟨badTagName d.n d.e m (hasPlurals inp), [.safe msg]⟩] := by
  rcases W.last_cases with ⟨h, _⟩ | ⟨_, t, rfl, hst⟩
  · omega
  · obtain ⟨msg, hbad, rfl⟩ := hst.bad hlc (List.mem_range.2 hm)
    exact ⟨msg, hbad, rfl⟩

theorem Window.lt_iff (W : Window inp pf d out m mid last rs) (hlc : LcTotal (compared inp pf d.n).2 (List.range codomainLimit))
    (i : Nat) : i < m ↔ i < codomainLimit ∧ ∀ j, j ≤ i → badMsg d.n d.e j = none := by
  constructor
  · exact fun hi => ⟨Nat.lt_of_lt_of_le hi W.le, fun j hj => W.good j (by omega)⟩
  · rintro ⟨hi, hall⟩
    apply Nat.lt_of_not_le
    intro hmi
    obtain ⟨msg, hbad, _⟩ := W.stop hlc (by omega)
    rw [hall m hmi] at hbad
    cases hbad

theorem Window.clean (W : Window inp pf d out m mid last rs) (hlc : LcTotal (compared inp pf d.n).2 (List.range codomainLimit))
    (hclean : CleanOnWindow d.n d.e) :
    last = [] ∧ rs = [] ∧ ∃ pre, out.preimage = some pre ∧ Recorded d.e (List.range codomainLimit) [] pre := by
  have hm : m = codomainLimit :=
    Nat.le_antisymm W.le (Nat.le_of_not_lt fun hm => by
      obtain ⟨msg, hbad, _⟩ := W.stop hlc hm
      rw [hclean.badMsg_none m hm] at hbad
      cases hbad)
  have hlast : last = [] := by
    rcases W.last_cases with ⟨_, h⟩ | ⟨h, _⟩
    · exact h
    · omega
  have hrs : rs = [] := W.onto hm hclean.onto
  rcases W.preimage with ⟨_, h | h⟩ | ⟨_, _, h⟩
  · exact absurd hlast h
  · exact absurd hrs h
  · exact ⟨hlast, hrs, h⟩

theorem Window.mid_nil (W : Window inp pf d out m mid last rs)
    (h : (compared inp pf d.n).2 = none ∨ (compared inp pf d.n).2 = some (d.n, d.e)) : mid = [] := by
  rcases W.mid_cases with h' | h'
  · exact h'
  · obtain ⟨j, _, hj⟩ := W.mid_iff.1 h'
    exact (hj.false_of_none_or_self h).elim

end

/-- where a tag of the report about a single header value comes from, by its name -/
def Origin (inp : Input) (pf : List Char) (mid last : List TagCall) (rs : List (Nat × Nat)) (t : TagCall) : Prop :=
  (t.name = "duplicate-header-field-plural-forms" ∧ t ∈ dupTags inp) ∨
  (t.name = "inconsistent-number-of-plural-forms" ∧ t ∈ inconsistentTags (expectedOf inp)) ∨
  (isSyntaxName t.name ∧ declOf pf = none ∧ t = syntaxTag (hasPlurals inp) pf (hintOf inp)) ∨
  ∃ d, declOf pf = some d ∧ TagOrigin inp d.ljunk d.rjunk d.n (hasPlurals inp) (unusualTag (hasPlurals inp) pf (hintOf inp))
    (compared inp pf d.n).1 mid last rs t

section
variable {inp : Input} {pf : List Char} {mid last : List TagCall} {rs : List (Nat × Nat)} {t : TagCall}

/- Inversion by name.  The alternatives of `Origin` and `TagOrigin` carry pairwise different string literals as names, so once
   the name of `t` is known `simp` refutes every other alternative by comparing literals, and what is left is the one that
   speaks of that name. -/
attribute [local simp] Origin TagOrigin isSyntaxName isUnusualName isArithName isCodomainName

theorem Origin.of_inconsistent (h : Origin inp pf mid last rs t) (hn : t.name = "inconsistent-number-of-plural-forms") :
    t ∈ inconsistentTags (expectedOf inp) := by
  simpa [hn] using h

theorem Origin.of_syntax (h : Origin inp pf mid last rs t) (hn : isSyntaxName t.name) :
    declOf pf = none ∧ t = syntaxTag (hasPlurals inp) pf (hintOf inp) := by
  rcases hn with hn | hn <;> simpa [hn] using h

theorem Origin.of_leading (h : Origin inp pf mid last rs t) (hn : t.name = "leading-junk-in-plural-forms") :
    ∃ d, declOf pf = some d ∧ d.ljunk ≠ [] ∧ t = ⟨"leading-junk-in-plural-forms", [.str d.ljunk]⟩ := by
  simpa [hn] using h

theorem Origin.of_trailing (h : Origin inp pf mid last rs t) (hn : t.name = "trailing-junk-in-plural-forms") :
    ∃ d, declOf pf = some d ∧ d.rjunk ≠ [] ∧ t = ⟨"trailing-junk-in-plural-forms", [.str d.rjunk]⟩ := by
  simpa [hn] using h

theorem Origin.of_incorrect (h : Origin inp pf mid last rs t) (hn : t.name = "incorrect-number-of-plural-forms") :
    ∃ d, declOf pf = some d ∧ t ∈ nplTags d.n (expectedOf inp) := by
  simpa [hn] using h

theorem Origin.of_unusual (h : Origin inp pf mid last rs t) (hn : isUnusualName t.name) :
    ∃ d, declOf pf = some d ∧ t = unusualTag (hasPlurals inp) pf (hintOf inp) ∧ (t ∈ (compared inp pf d.n).1 ∨ t ∈ mid) := by
  rcases hn with hn | hn <;> simpa [hn] using h

theorem Origin.of_stop (h : Origin inp pf mid last rs t) (hn : isArithName t.name ∨ isCodomainName t.name) :
    ∃ d, declOf pf = some d ∧ (t ∈ last ∨ t ∈ gapTags (hasPlurals inp) rs) := by
  rcases hn with (hn | hn) | (hn | hn) <;> simpa [hn] using h

/-- Inversion by the value: if it contains the declaration `d`, the tag is not the syntax error, and `TagOrigin` speaks of `d`. -/
theorem Origin.of_decl {d : Decl} (h : Origin inp pf mid last rs t) (hd : declOf pf = some d) :
    (t.name = "duplicate-header-field-plural-forms" ∧ t ∈ dupTags inp) ∨
    (t.name = "inconsistent-number-of-plural-forms" ∧ t ∈ inconsistentTags (expectedOf inp)) ∨
    TagOrigin inp d.ljunk d.rjunk d.n (hasPlurals inp) (unusualTag (hasPlurals inp) pf (hintOf inp)) (compared inp pf d.n).1 mid last rs t := by
  rcases h with h' | h' | ⟨_, hnone, _⟩ | ⟨d', hd', ho⟩
  · exact Or.inl h'
  · exact Or.inr (Or.inl h')
  · cases hd.symm.trans hnone
  · cases hd.symm.trans hd'
    exact Or.inr (Or.inr ho)

end

theorem origin_of_decl {inp : Input} {pf : List Char} {d : Decl} (hd : declOf pf = some d) (mid last : List TagCall)
    (rs : List (Nat × Nat)) (hmid : ∀ t ∈ mid, t = unusualTag (hasPlurals inp) pf (hintOf inp))
    (hlast : ∀ t ∈ last, isStopTag (hasPlurals inp) t) :
    ∀ t ∈ tags0Of inp ++ junkTags d.ljunk d.rjunk ++ nplTags d.n (expectedOf inp) ++ (compared inp pf d.n).1 ++ mid ++ last
      ++ gapTags (hasPlurals inp) rs, Origin inp pf mid last rs t := by
  intro t htm
  rcases origin_of_parts inp d.ljunk d.rjunk d.n _ _ (name_unusualTag _ pf (hintOf inp)) _ mid last rs
    (mem_pickLc _ _) hmid hlast t htm with h' | h' | h'
  · exact Or.inl h'
  · exact Or.inr (Or.inl h')
  · exact Or.inr (Or.inr (Or.inr ⟨d, hd, h'⟩))

/-- An `unusual-[unused-]plural-forms` tag is in the report iff the comparison with the registry added one (the registry has no
    declaration with the declared nplurals) or the window passed an index at which the declared expression and the compared one
    differ.  Nothing is assumed about the registry. -/
theorem Window.unusual_iff {inp : Input} {pf : List Char} {d : Decl} {out : Output} {m : Nat} {mid last : List TagCall}
    {rs : List (Nat × Nat)} (W : Window inp pf d out m mid last rs) (hd : declOf pf = some d)
    (horig : ∀ t ∈ out.tags, Origin inp pf mid last rs t) :
    (∃ t ∈ out.tags, isUnusualName t.name) ↔
      (compared inp pf d.n).1 ≠ [] ∨ ∃ j, j < m ∧ DiffersAt d.n d.e (compared inp pf d.n).2 j := by
  have hun := name_unusualTag (hasPlurals inp) pf (hintOf inp)
  have hmid : mid ≠ [] ↔ ∃ j, j < m ∧ DiffersAt d.n d.e (compared inp pf d.n).2 j := by
    rw [← W.mid_iff]
    rcases W.mid_cases with h' | h'
    · simp [h']
    · simp [h']
  rw [← hmid]
  constructor
  · -- a tag named `unusual` is in one of the two places where the `unusual` tag is added
    rintro ⟨t, htm, hn⟩
    obtain ⟨d', hd', -, hmem⟩ := (horig t htm).of_unusual hn
    cases hd.symm.trans hd'
    exact hmem.imp List.ne_nil_of_mem List.ne_nil_of_mem
  · rintro (hne | hne)
    · obtain ⟨t, ht'⟩ := List.exists_mem_of_ne_nil _ hne
      refine ⟨t, W.mem_of_compared ht', ?_⟩
      rw [mem_pickLc _ _ _ ht']
      exact hun
    · obtain ⟨t, ht'⟩ := List.exists_mem_of_ne_nil _ hne
      refine ⟨t, W.mem_of_mid ht', ?_⟩
      rw [W.mem_mid t ht']
      exact hun

/-- **The report about a single header value**: every tag, by its name, as a function of the declaration the value contains
    (`declOf`), the catalog (`expectedOf`), the registry (`compared`) and the window (`Window`). -/
theorem report_spec (inp : Input) (pf : List Char) (out : Output) (hv : headerValues inp = [pf]) (ht : inp.isTemplate = false)
    (h : checkPlurals inp = .ok out) :
    ∃ mid last rs, (∀ t ∈ out.tags, Origin inp pf mid last rs t) ∧ (∀ t ∈ tags0Of inp, t ∈ out.tags) ∧
      (declOf pf = none → out = ⟨tags0Of inp ++ [syntaxTag (hasPlurals inp) pf (hintOf inp)], none⟩) ∧
      ∀ d, declOf pf = some d → ∃ m, Window inp pf d out m mid last rs := by
  cases hd : declOf pf with
  | none =>
    have hout := report_syntax inp pf out hv ht (parsePluralForms_eq_syntaxError_iff.2 hd) h
    have horig : ∀ t ∈ out.tags, Origin inp pf [] [] [] t := by
      intro t htm
      rw [hout] at htm
      rcases origin_syntax inp pf t htm with h' | h' | ⟨h1, h2⟩
      · exact Or.inl h'
      · exact Or.inr (Or.inl h')
      · exact Or.inr (Or.inr (Or.inl ⟨h1, hd, h2⟩))
    have hsub : ∀ t ∈ tags0Of inp, t ∈ out.tags := by
      intro t htm
      rw [hout]
      exact List.mem_append_left _ htm
    exact ⟨[], [], [], horig, hsub, fun _ => hout, nofun⟩
  | some d =>
    obtain ⟨m, mid, last, rs, W⟩ := report_window inp pf out hv ht d hd h
    have horig : ∀ t ∈ out.tags, Origin inp pf mid last rs t := by
      rw [W.tags]
      exact origin_of_decl hd mid last rs W.mem_mid W.mem_last
    have hwin : ∀ d', some d = some d' → ∃ m, Window inp pf d' out m mid last rs := by
      rintro _ ⟨⟩
      exact ⟨m, W⟩
    exact ⟨mid, last, rs, horig, fun t htm => W.mem_of_tags0 htm, nofun, hwin⟩


/-- the items `format_range` joins with `", "` -/
def rangeItems (a b : Nat) : List (List Char) :=
  if b - a ≤ 5 then (List.range (b - a)).map (fun k => natStr (k + a))
  else (List.range 3).map (fun k => natStr (k + a)) ++ ["...".toList, natStr (b - 1)]


theorem formatRange_eq (a b : Nat) : formatRange a b = ", ".toList.intercalate (rangeItems a b) := rfl

def names (r : Except Py.Exc Output) : List String :=
  match r with
  | .ok out => out.tags.map (·.name)
  | .error _ => ["<exception>"]

def extrasOf (r : Except Py.Exc Output) : List (List Extra) :=
  match r with
  | .ok out => out.tags.map (·.extras)
  | .error _ => []

/-- a translated, non-obsolete plural message with `k` forms -/
def plMsg (k : Nat) : MsgFacts := ⟨false, true, true, k, "(m)".toList⟩
/-- the registry's declaration for English -/
def en : List Char := "nplurals=2; plural=n != 1;".toList

end I18n.CheckPlurals
