import I18n.Lemmas.LRTables
import I18n.Spec.PluralAmb
/-! The grammar's action functions against the productions they belong to: what an action returns spans a sentence of
    plural.y when its arguments do (`applyAction_ok`), is of the kind of the production's left-hand side
    (`applyAction_kind`, `tf_lhs`), and exists whenever the arguments have the kinds of the production's right-hand side
    (`applyAction_defined`). -/
namespace I18n.PluralLR
open I18n I18n.PluralParse I18n.Spec

def ValOK : Val → List Tok → Prop
  | .bottom, w => w = []
  | .tok t, w => w = [t]
  | .node _, w => Amb w
  | .expr _, w => Amb w

/-- symbol values, bottom first, span `w` -/
def SpansV : List Val → List Tok → Prop
  | [], w => w = []
  | v :: vs, w => ∃ w1 w2, w = w1 ++ w2 ∧ ValOK v w1 ∧ SpansV vs w2

theorem SpansV_nil {w : List Tok} : SpansV [] w ↔ w = [] := Iff.rfl

theorem SpansV_cons {v : Val} {vs : List Val} {w : List Tok} :
    SpansV (v :: vs) w ↔ ∃ w1 w2, w = w1 ++ w2 ∧ ValOK v w1 ∧ SpansV vs w2 := Iff.rfl

theorem SpansV_tok_cons {t : Tok} {vs : List Val} {w : List Tok} :
    SpansV (.tok t :: vs) w ↔ ∃ w', w = t :: w' ∧ SpansV vs w' :=
  ⟨fun ⟨_, w', hw, ht, h⟩ => ⟨w', by rw [hw, ht]; rfl, h⟩, fun ⟨w', hw, h⟩ => ⟨[t], w', hw, rfl, h⟩⟩

theorem SpansV_singleton {v : Val} {w : List Tok} : SpansV [v] w ↔ ValOK v w :=
  ⟨fun ⟨w1, _, hw, hv, hnil⟩ => by rw [hw, hnil, List.append_nil]; exact hv, fun hv => ⟨w, [], by simp, hv, rfl⟩⟩

theorem SpansV_append {a b : List Val} {w : List Tok} :
    SpansV (a ++ b) w ↔ ∃ w1 w2, w = w1 ++ w2 ∧ SpansV a w1 ∧ SpansV b w2 := by
  induction a generalizing w with
  | nil =>
    constructor
    · intro h; exact ⟨[], w, rfl, rfl, h⟩
    · rintro ⟨w1, w2, rfl, h1, h2⟩
      cases h1
      simpa using h2
  | cons v vs ih =>
    constructor
    · rintro ⟨w1, w2, rfl, hv, h⟩
      obtain ⟨w3, w4, rfl, h3, h4⟩ := ih.1 h
      exact ⟨w1 ++ w3, w4, by simp, ⟨w1, w3, rfl, hv, h3⟩, h4⟩
    · rintro ⟨w1, w2, rfl, ⟨w3, w4, rfl, hv, h4⟩, h2⟩
      exact ⟨w3, w4 ++ w2, by simp, hv, ih.2 ⟨w4, w2, rfl, h4, h2⟩⟩

theorem SpansV_snoc {vs : List Val} {v : Val} {w : List Tok} :
    SpansV (vs ++ [v]) w ↔ ∃ w1 w2, w = w1 ++ w2 ∧ SpansV vs w1 ∧ ValOK v w2 := by
  simp only [SpansV_append, SpansV_singleton]

theorem spans_bin {l r : Expr} {t : Tok} {w : List Tok} (ht : isBinary t = true)
    (hs : SpansV [.node l, .tok t, .node r] w) : Amb w := by
  obtain ⟨wl, _, rfl, hl, h1⟩ := SpansV_cons.1 hs
  obtain ⟨wr, rfl, hr⟩ := SpansV_tok_cons.1 h1
  exact Amb.bin t ht hl (SpansV_singleton.1 hr)

/-- by the equations of `applyAction`, one action function each: the symbols are taken off the front of the span one
    by one, and the rule of `Amb` for the production applies (`ValOK (.node e) w` is `Amb w` and `ValOK (.tok t) w` is
    `w = [t]`, by definition) -/
theorem applyAction_ok {act : Action} {args : List Val} {v : Val} {w : List Tok}
    (h : applyAction act args = some v) (hs : SpansV args w) : ValOK v w := by
  revert h hs
  fun_cases applyAction act args
  case case1 e =>        -- eval_start
    rintro ⟨⟩ hs
    exact SpansV_singleton.1 hs
  case case2 c a b =>    -- expr_ifelse
    rintro ⟨⟩ hs
    obtain ⟨wc, _, rfl, hc, h1⟩ := SpansV_cons.1 hs
    obtain ⟨_, rfl, h2⟩ := SpansV_tok_cons.1 h1
    obtain ⟨wa, _, rfl, ha, h3⟩ := SpansV_cons.1 h2
    obtain ⟨wb, rfl, hb⟩ := SpansV_tok_cons.1 h3
    exact Amb.cond hc ha (SpansV_singleton.1 hb)
  case case3 l op r =>   -- expr_bool
    rintro ⟨⟩ hs
    exact spans_bin (by cases op <;> rfl) hs
  case case4 l op r =>   -- expr_cmp
    rintro ⟨⟩ hs
    exact spans_bin (by cases op <;> rfl) hs
  case case5 l op r =>   -- expr_arithmetic
    rintro ⟨⟩ hs
    exact spans_bin (by cases op <;> rfl) hs
  case case6 e =>        -- expr_not
    rintro ⟨⟩ hs
    obtain ⟨we, rfl, he⟩ := SpansV_tok_cons.1 hs
    exact Amb.not (SpansV_singleton.1 he)
  case case7 e =>        -- expr_par
    rintro ⟨⟩ hs
    obtain ⟨_, rfl, h1⟩ := SpansV_tok_cons.1 hs
    obtain ⟨we, _, rfl, he, h2⟩ := SpansV_cons.1 h1
    obtain rfl : _ = [Tok.rpar] := SpansV_singleton.1 h2
    exact Amb.paren he
  case case8 =>          -- expr_var
    rintro ⟨⟩ hs
    obtain rfl : w = [Tok.var] := SpansV_singleton.1 hs
    exact Amb.var
  case case9 n =>        -- expr_int
    rintro ⟨⟩ hs
    obtain rfl : w = [Tok.int n] := SpansV_singleton.1 hs
    exact Amb.int n
  case case10 => rintro ⟨⟩  -- any other action or shape of arguments

/-- the kind of value an action returns agrees with the left-hand side of its productions -/
theorem tf_lhs : ∀ p, p < 13 → ∀ pr, T.prods[p]? = some pr →
    (pr.act = .evalStart → pr.lhs = 1) ∧ (pr.act ≠ .evalStart → pr.act ≠ .none → pr.lhs = 0) := by decide +kernel

theorem prods_lt {p : Nat} {pr : Prod} (h : T.prods[p]? = some pr) : p < 13 := by
  have := (List.getElem?_eq_some_iff.1 h).1
  simpa [T] using this

theorem applyAction_kind {act : Action} {args : List Val} {v : Val} (h : applyAction act args = some v) :
    (act = .evalStart ∧ ∃ e, v = .expr e) ∨ (act ≠ .evalStart ∧ act ≠ .none ∧ ∃ e, v = .node e) := by
  revert h
  fun_cases applyAction act args
  case case1 =>          -- eval_start
    rintro ⟨⟩
    exact .inl ⟨rfl, _, rfl⟩
  case case10 => rintro ⟨⟩  -- any other action or shape of arguments
  all_goals              -- the eight `expr_*` functions
    rintro ⟨⟩
    exact .inr ⟨by simp, by simp, _, rfl⟩

theorem applyAction_kind_lhs {p : Nat} {pr : Prod} {args : List Val} {v : Val} (hp : T.prods[p]? = some pr)
    (h : applyAction pr.act args = some v) : kind v = some (.nt pr.lhs) := by
  obtain ⟨hl1, hl0⟩ := tf_lhs p (prods_lt hp) pr hp
  rcases applyAction_kind h with ⟨ha, e, rfl⟩ | ⟨ha, ha', e, rfl⟩
  · rw [hl1 ha]
    rfl
  · rw [hl0 ha ha']
    rfl

/-- right-hand sides of the productions, as symbols (pinned to the dump below) -/
def rhsOf : Nat → List Sym
  | 0 => [.nt 1]
  | 1 => [.t 12]
  | 2 => [.t 9, .nt 0, .t 10]
  | 3 => [.t 8, .nt 0]
  | 4 => [.t 11]
  | 5 => [.nt 0, .t 6, .nt 0]
  | 6 => [.nt 0, .t 3, .nt 0]
  | 7 => [.nt 0, .t 5, .nt 0]
  | 8 => [.nt 0, .t 4, .nt 0]
  | 9 => [.nt 0, .t 0, .nt 0, .t 1, .nt 0]
  | 10 => [.nt 0, .t 7, .nt 0]
  | 11 => [.nt 0, .t 2, .nt 0]
  | 12 => [.nt 0]
  | _ => []

def symOfName (n : String) : Sym :=
  if n ∈ Generated.PluralLR.nonterminals then .nt (Generated.PluralLR.nonterminals.idxOf n)
  else .t (Generated.PluralLR.terminals.idxOf n)

theorem symOfName_terminal {n : String} {c : Nat} (h : Generated.PluralLR.terminals[c]? = some n) :
    symOfName n = .t c := by
  have hdisjoint : ∀ m ∈ Generated.PluralLR.terminals, m ∉ Generated.PluralLR.nonterminals := by decide +kernel
  have hnodup : Generated.PluralLR.terminals.Nodup := by decide +kernel
  obtain ⟨hc, rfl⟩ := List.getElem?_eq_some_iff.1 h
  rw [symOfName, if_neg (hdisjoint _ (List.getElem_mem hc)), hnodup.idxOf_getElem c hc]

theorem rhs_pin : Generated.PluralLR.productions.map (fun p => p.2.1.map symOfName) = (List.range 13).map rhsOf := by
  decide +kernel

/-- what a token in column `c` of the action table is.  Columns 4, 5 (`EQ`, `CMP`) and 6, 7 (`ADDSUB`, `MULDIV`) say
    only "a comparison", "an arithmetic operator": `expr_cmp` and `expr_arithmetic` take any operator of the class, so
    `applyAction_defined` needs no more. -/
def colTok : Nat → Tok → Prop
  | 0, t => t = .qm
  | 1, t => t = .colon
  | 2, t => t = .bool .or
  | 3, t => t = .bool .and
  | 4, t | 5, t => ∃ op, t = .cmp op
  | 6, t | 7, t => ∃ op, t = .bin op
  | 8, t => t = .not
  | 9, t => t = .lpar
  | 10, t => t = .rpar
  | 11, t => t = .var
  | 12, t => ∃ n, t = .int n
  | _, _ => True

theorem col_inv (t : Tok) : colTok (col (some t)) t := by
  cases t with
  | bool op => cases op <;> rfl
  | cmp op => cases op <;> exact ⟨_, rfl⟩
  | bin op => cases op <;> exact ⟨_, rfl⟩
  | int n => exact ⟨_, rfl⟩
  | _ => rfl

theorem kinds_nt {args : List Val} {xs : List (Option Sym)} (h : args.map kind = some (.nt 0) :: xs) :
    ∃ e as, args = .node e :: as ∧ as.map kind = xs := by
  cases args with
  | nil => cases h
  | cons a as =>
    obtain ⟨ha, has⟩ := List.cons.inj h
    cases a <;> cases ha
    exact ⟨_, _, rfl, has⟩

theorem kinds_t {args : List Val} {c : Nat} {xs : List (Option Sym)} (h : args.map kind = some (.t c) :: xs) :
    ∃ t as, args = .tok t :: as ∧ colTok c t ∧ as.map kind = xs := by
  cases args with
  | nil => cases h
  | cons a as =>
    obtain ⟨ha, has⟩ := List.cons.inj h
    cases a <;> cases ha
    exact ⟨_, _, rfl, col_inv _, has⟩

theorem applyAction_defined : ∀ p, 1 ≤ p → p < 13 → ∀ args : List Val, args.map kind = (rhsOf p).map some →
    ∃ pr v, T.prods[p]? = some pr ∧ applyAction pr.act args = some v := by
  intro p hp1 hp13 args h
  -- the binary productions: the operator token is the one of its column, or any of its class
  have bin : ∀ c, args.map kind = [some (.nt 0), some (.t c), some (.nt 0)] →
      ∃ e1 t e3, args = [.node e1, .tok t, .node e3] ∧ colTok c t := by
    intro c h
    obtain ⟨e1, as, rfl, h1⟩ := kinds_nt h
    obtain ⟨t, as, rfl, ht, h2⟩ := kinds_t h1
    obtain ⟨e3, as, rfl, h3⟩ := kinds_nt h2
    cases List.map_eq_nil_iff.1 h3
    exact ⟨e1, t, e3, rfl, ht⟩
  have hcases : p = 1 ∨ p = 2 ∨ p = 3 ∨ p = 4 ∨ p = 5 ∨ p = 6 ∨ p = 7 ∨ p = 8 ∨ p = 9 ∨ p = 10 ∨ p = 11 ∨ p = 12 := by omega
  rcases hcases with rfl | rfl | rfl | rfl | rfl | rfl | rfl | rfl | rfl | rfl | rfl | rfl
  · -- INT
    obtain ⟨_, as, rfl, ⟨n, rfl⟩, h1⟩ := kinds_t h
    cases List.map_eq_nil_iff.1 h1
    exact ⟨_, _, rfl, rfl⟩
  · -- LPAR exp RPAR
    obtain ⟨_, as, rfl, rfl, h1⟩ := kinds_t h
    obtain ⟨e, as, rfl, h2⟩ := kinds_nt h1
    obtain ⟨_, as, rfl, rfl, h3⟩ := kinds_t h2
    cases List.map_eq_nil_iff.1 h3
    exact ⟨_, _, rfl, rfl⟩
  · -- NOT exp
    obtain ⟨_, as, rfl, rfl, h1⟩ := kinds_t h
    obtain ⟨e, as, rfl, h2⟩ := kinds_nt h1
    cases List.map_eq_nil_iff.1 h2
    exact ⟨_, _, rfl, rfl⟩
  · -- VAR
    obtain ⟨_, as, rfl, rfl, h1⟩ := kinds_t h
    cases List.map_eq_nil_iff.1 h1
    exact ⟨_, _, rfl, rfl⟩
  · -- exp ADDSUB exp
    obtain ⟨e1, _, e3, rfl, op, rfl⟩ := bin _ h
    exact ⟨_, _, rfl, rfl⟩
  · -- exp AND exp
    obtain ⟨e1, _, e3, rfl, rfl⟩ := bin _ h
    exact ⟨_, _, rfl, rfl⟩
  · -- exp CMP exp
    obtain ⟨e1, _, e3, rfl, op, rfl⟩ := bin _ h
    exact ⟨_, _, rfl, rfl⟩
  · -- exp EQ exp
    obtain ⟨e1, _, e3, rfl, op, rfl⟩ := bin _ h
    exact ⟨_, _, rfl, rfl⟩
  · -- exp IF exp ELSE exp
    obtain ⟨e1, as, rfl, h1⟩ := kinds_nt h
    obtain ⟨_, as, rfl, rfl, h2⟩ := kinds_t h1
    obtain ⟨e3, as, rfl, h3⟩ := kinds_nt h2
    obtain ⟨_, as, rfl, rfl, h4⟩ := kinds_t h3
    obtain ⟨e5, as, rfl, h5⟩ := kinds_nt h4
    cases List.map_eq_nil_iff.1 h5
    exact ⟨_, _, rfl, rfl⟩
  · -- exp MULDIV exp
    obtain ⟨e1, _, e3, rfl, op, rfl⟩ := bin _ h
    exact ⟨_, _, rfl, rfl⟩
  · -- exp OR exp
    obtain ⟨e1, _, e3, rfl, rfl⟩ := bin _ h
    exact ⟨_, _, rfl, rfl⟩
  · -- start : exp
    obtain ⟨e, as, rfl, h1⟩ := kinds_nt h
    cases List.map_eq_nil_iff.1 h1
    exact ⟨_, _, rfl, rfl⟩

end I18n.PluralLR
