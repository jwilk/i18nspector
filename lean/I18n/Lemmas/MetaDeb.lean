import I18n.Model.Deb
import I18n.Lemmas.Kit.List
/-!
The packaging layer (`Model/Deb.lean`, `--unpack-deb`): under what `TemporaryDirectory` and `os.walk` are assumed to deliver (`WalkOK`),
every path `check_deb` hands to `check_regular_file` lies below `real_root`, so that `fakePath` shows it as `<package>/<member>`
(`checkRegular_member`); with `checkDeb_eq` and the `runAll` lemmas this is what `deb_output` of `Props/C17.lean` is read off.
-/
namespace I18n.Deb

theorem endsWithSep_append_singleton (a : Str) : endsWithSep (a ++ [sep]) = true := by
  simp [endsWithSep]

theorem endsWithSep_of_ne_nil_append (a b : Str) (hb : b ≠ []) : endsWithSep (a ++ b) = endsWithSep b := by
  unfold endsWithSep
  rw [Kit.getLast?_append_ne_nil a b hb]

theorem join_empty (a : Str) (ha : a ≠ []) : join a [] = if endsWithSep a then a else a ++ [sep] := by
  unfold join
  have : a.isEmpty = false := by cases a <;> simp_all
  simp only [List.head?_nil, this, Bool.false_or, List.append_nil]
  split
  · rename_i h; cases h
  · rfl

theorem join_empty_endsWithSep (a : Str) (ha : a ≠ []) : endsWithSep (join a []) = true := by
  rw [join_empty a ha]
  split
  · assumption
  · exact endsWithSep_append_singleton a

theorem join_name (root name : Str) (hr : root ≠ []) (hs : endsWithSep root = false) (hn : name.head? ≠ some sep) :
    join root name = root ++ sep :: name := by
  unfold join
  have h1 : (name.head? == some sep) = false := by simpa using hn
  have h2 : root.isEmpty = false := by cases root <;> simp_all
  simp [h1, h2, hs]

theorem fakePath_under (realRoot fakeRoot m : Str) (h1 : endsWithSep realRoot = true) (h2 : endsWithSep fakeRoot = true) :
    fakePath (some (realRoot, fakeRoot)) (realRoot ++ m) = .ok (fakeRoot ++ m) := by
  simp [fakePath, h1, h2, List.isPrefixOf_iff_prefix.2 (List.prefix_append realRoot m)]

theorem fakePath_outside (realRoot fakeRoot path : Str) (h1 : endsWithSep realRoot = true) (h2 : endsWithSep fakeRoot = true)
    (h : realRoot.isPrefixOf path = false) :
    fakePath (some (realRoot, fakeRoot)) path = .ok path := by
  simp [fakePath, h1, h2, h]

theorem fakePath_none (path : Str) : fakePath none path = .ok path := rfl

theorem fakePath_error_iff (realRoot fakeRoot path : Str) :
    fakePath (some (realRoot, fakeRoot)) path = .error .valueError ↔ (endsWithSep realRoot = false ∨ endsWithSep fakeRoot = false) := by
  unfold fakePath
  cases h1 : endsWithSep realRoot <;> cases h2 : endsWithSep fakeRoot <;> simp [h1, h2]
  split <;> simp

/-- Because `real_root` ends in a separator, the prefix test cannot be fooled by a sibling whose NAME merely starts
    like the root's last component (`/tmp/x.deb.ab` vs `/tmp/x.deb.abc/…`): a path that the test accepts really
    lies below the root directory. -/
theorem fakePath_prefix_is_directory (dir fakeRoot path : Str) (h2 : endsWithSep fakeRoot = true)
    (h : fakePath (some (dir ++ [sep], fakeRoot)) path ≠ .ok path) :
    ∃ m, path = dir ++ sep :: m := by
  unfold fakePath at h
  simp only [endsWithSep_append_singleton, h2, Bool.not_true, Bool.false_eq_true, if_false] at h
  split at h
  · rename_i hp
    obtain ⟨t, ht⟩ := List.isPrefixOf_iff_prefix.mp hp
    exact ⟨t, by rw [← ht]; simp⟩
  · exact absurd rfl h

theorem endsWith_getLast (s suffix : Str) (c : Char) (hc : suffix.getLast? = some c) (h : endsWith s suffix = true) :
    s.getLast? = some c := by
  unfold endsWith at h
  obtain ⟨t, ht⟩ := List.isPrefixOf_iff_prefix.mp h
  have hs : s = t.reverse ++ suffix := by
    have := congrArg List.reverse ht
    simpa using this.symm
  have hne : suffix ≠ [] := by intro h0; subst h0; simp at hc
  rw [hs, Kit.getLast?_append_ne_nil _ _ hne, hc]

theorem endsWith_nosep (s suffix : Str) (c : Char) (hc : suffix.getLast? = some c) (hsep : c ≠ sep)
    (h : endsWith s suffix = true) : s ≠ [] ∧ endsWithSep s = false := by
  have hl := endsWith_getLast s suffix c hc h
  refine ⟨fun hn => ?_, ?_⟩
  · rw [hn] at hl
    cases hl
  · rw [endsWithSep, hl]
    exact beq_eq_false_iff_ne.2 fun e => hsep (Option.some.inj e)

/-- a name the suffix dispatch accepts is non-empty and does not end in a separator: `join(filename, '')` = `filename/` -/
theorem join_package (filename : Str) (h : kindOf filename ≠ .unsupported) : join filename [] = filename ++ [sep] := by
  have key : filename ≠ [] ∧ endsWithSep filename = false := by
    by_cases hd : endsWith filename debSuffix = true
    · exact endsWith_nosep _ _ 'b' (by decide) (by decide) hd
    · by_cases hc : endsWith filename dscSuffix = true
      · exact endsWith_nosep _ _ 'c' (by decide) (by decide) hc
      · rw [kindOf, if_neg hd, if_neg hc] at h
        exact absurd rfl h
  rw [join_empty filename key.1]
  simp [key.2]

theorem runAll_normal (f : Str → Run) (ps : List Str) (h : ∀ p ∈ ps, (f p).exit = .normal) :
    runAll f ps = ⟨ps.flatMap (fun p => (f p).lines), .normal⟩ := by
  induction ps with
  | nil => rfl
  | cons p ps ih =>
    have hp := h p (by simp)
    have := ih (fun q hq => h q (List.mem_cons_of_mem _ hq))
    simp only [runAll, hp, this, List.flatMap_cons]

theorem runAll_exit (f : Str → Run) (ps : List Str) :
    (runAll f ps).exit = .normal ∨ ∃ p ∈ ps, (runAll f ps).exit = (f p).exit := by
  induction ps with
  | nil => exact .inl rfl
  | cons p ps ih =>
    simp only [runAll]
    split
    · exact ih.imp id fun ⟨q, hq, e⟩ => ⟨q, List.mem_cons_of_mem _ hq, e⟩
    · exact .inr ⟨p, List.mem_cons_self, rfl⟩

theorem runAll_congr (f g : Str → Run) (ps : List Str) (h : ∀ p ∈ ps, f p = g p) : runAll f ps = runAll g ps := by
  induction ps with
  | nil => rfl
  | cons p ps ih =>
    have hp := h p (by simp)
    have := ih (fun q hq => h q (List.mem_cons_of_mem _ hq))
    simp only [runAll, hp, this]

theorem runAll_lines_prefix (f : Str → Run) (ps : List Str) :
    (runAll f ps).lines <+: ps.flatMap (fun p => (f p).lines) := by
  induction ps with
  | nil => simp [runAll]
  | cons p ps ih =>
    simp only [runAll, List.flatMap_cons]
    split
    · exact (List.prefix_append_right_inj _).mpr ih
    · exact List.prefix_append _ _

/-- the directory the members live in: `tmpdir` for a binary package, `tmpdir/s` for a source package -/
def baseDir (w : World) : Kind → Str
  | .dsc => w.tmpdir ++ sep :: ['s']
  | _ => w.tmpdir

/-- what `TemporaryDirectory` and `os.walk` are assumed to deliver: an absolute name without trailing separator;
    every directory that has files is the base directory or lies below it and carries no trailing separator;
    file names are non-empty and relative -/
structure WalkOK (w : World) (k : Kind) : Prop where
  tmp_ne : w.tmpdir ≠ []
  tmp_nosep : endsWithSep w.tmpdir = false
  roots : ∀ rf ∈ w.walk, rf.2 = [] ∨ rf.1 = baseDir w k ∨
    (∃ t, rf.1 = baseDir w k ++ sep :: t ∧ endsWithSep rf.1 = false)
  names : ∀ rf ∈ w.walk, ∀ n ∈ rf.2, n.head? ≠ some sep

theorem baseDir_ne (w : World) (k : Kind) (h : w.tmpdir ≠ []) : baseDir w k ≠ [] := by
  cases k <;> simp [baseDir, h]

theorem baseDir_nosep (w : World) (k : Kind) (h : endsWithSep w.tmpdir = false) : endsWithSep (baseDir w k) = false := by
  cases k
  · exact h
  · show endsWithSep (w.tmpdir ++ sep :: ['s']) = false
    rw [endsWithSep_of_ne_nil_append _ _ (by simp)]
    decide
  · exact h

theorem realRoot_eq (w : World) (k : Kind) (h1 : w.tmpdir ≠ []) (h2 : endsWithSep w.tmpdir = false) :
    realRoot w k = baseDir w k ++ [sep] := by
  cases k
  · simp [realRoot, baseDir, join_empty _ h1, h2]
  · have hj : join w.tmpdir ['s'] = w.tmpdir ++ sep :: ['s'] := join_name _ _ h1 h2 (by decide)
    have hn : endsWithSep (w.tmpdir ++ sep :: ['s']) = false := baseDir_nosep w .dsc h2
    simp only [realRoot, baseDir, hj]
    rw [join_empty _ (by simp)]
    simp [hn]
  · simp [realRoot, baseDir, join_empty _ h1, h2]

theorem walkPaths_under (w : World) (k : Kind) (hw : WalkOK w k) :
    ∀ p ∈ walkPaths w, ∃ m, p = (baseDir w k ++ [sep]) ++ m := by
  intro p hp
  unfold walkPaths at hp
  obtain ⟨hp, -⟩ := List.mem_filter.mp hp
  obtain ⟨rf, hrf, hp⟩ := List.mem_flatMap.mp hp
  obtain ⟨n, hn, rfl⟩ := List.mem_map.mp hp
  have hname := hw.names rf hrf n hn
  rcases hw.roots rf hrf with h | h | ⟨t, h, hs⟩
  · rw [h] at hn; cases hn
  · rw [h, join_name _ _ (baseDir_ne w k hw.tmp_ne) (baseDir_nosep w k hw.tmp_nosep) hname]
    exact ⟨n, by simp⟩
  · rw [join_name _ _ (by rw [h]; simp) hs hname, h]
    exact ⟨t ++ sep :: n, by simp⟩

def member (w : World) (k : Kind) (p : Str) : Str := p.drop ((baseDir w k).length + 1)

theorem member_under (w : World) (k : Kind) (m : Str) : member w k ((baseDir w k ++ [sep]) ++ m) = m := by
  unfold member
  rw [show (baseDir w k).length + 1 = (baseDir w k ++ [sep]).length by rw [List.length_append]; rfl, List.drop_left]

/-- how one member is reported: its own tag calls, minus the ignored tags and `unknown-file-type`, under `<package>/<member>` -/
def memberRun (w : World) (raw : Str → List TagCall × Bool) (o : Options) (k : Kind) (filename p : Str) : Run :=
  ⟨cliTags (unknownFileType :: o.ignoreTags) (filename ++ sep :: member w k p) (raw p).1,
   if (raw p).2 then .raised else .normal⟩

theorem checkRegular_member (w : World) (raw : Str → List TagCall × Bool) (o : Options) (k : Kind) (filename m : Str)
    (hk : kindOf filename ≠ .unsupported) (h1 : w.tmpdir ≠ []) (h2 : endsWithSep w.tmpdir = false) :
    checkRegular raw (memberOptions w o k filename) ((baseDir w k ++ [sep]) ++ m)
      = memberRun w raw o k filename ((baseDir w k ++ [sep]) ++ m) := by
  unfold checkRegular memberOptions copyOptions memberRun
  simp only
  rw [member_under, realRoot_eq w k h1 h2, join_package filename hk,
    fakePath_under _ _ _ (endsWithSep_append_singleton _) (endsWithSep_append_singleton _)]
  -- `fake_path` answered `<package>/` followed by the member
  rw [List.append_assoc filename, List.singleton_append]

theorem checkDeb_eq (w : World) (raw : Str → List TagCall × Bool) (o : Options) (filename : Str) (hk : kindOf filename ≠ .unsupported) :
    checkDeb w raw o filename =
      if !w.unpackOk then none
      else some (runAll (checkRegular raw (memberOptions w o (kindOf filename) filename)) (walkPaths w)) := by
  unfold checkDeb
  cases h : kindOf filename with
  | unsupported => exact absurd h hk
  | deb => rfl
  | dsc => rfl

end I18n.Deb
