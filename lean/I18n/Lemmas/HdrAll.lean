import I18n.Lemmas.HdrEntry
import I18n.Lemmas.HdrMime
import I18n.Lemmas.HdrAddr
import I18n.Lemmas.HdrExempt
/-
C15 lemmas: the header stages of `Checker.check` as one equation.  `check_comments`, `check_headers`, `check_dates`, `check_project`
and `check_translator` always return and say what their rules say; the charset fragment inside `check_mime` is the only place
where an exception can escape.  Hence what `checkAll` returns is what `Reported` prescribes (`mem_checkAll`).  Stage by stage
`checkAll` is the calls `Checker.check` makes (`Meta.Real.checkAll_decomposes`, named for the composed checker, whose stages these are).
-/
namespace I18n.Hdr
open I18n.Spec.HeaderRules I18n.Date

theorem checkAll_eq (x : Ext) (cs : CharsetCheck) (now : Int) (f : File) :
    ∃ pre post : List TagCall,
      (∀ t, t ∈ pre ↔ CommentRule x f t ∨ EntryRule x f t ∨ StrayRule (headerLinesOf f.entries) t
        ∨ NameRule x (fieldLines (headerLinesOf f.entries)) t) ∧
      (∀ t, t ∈ post ↔ DateRule now f (fieldLines (headerLinesOf f.entries)) t ∨ ProjectRule x (fieldLines (headerLinesOf f.entries)) t
        ∨ ReportRule x (fieldLines (headerLinesOf f.entries)) t ∨ TranslatorRule x f (fieldLines (headerLinesOf f.entries)) t
        ∨ TeamRule x f (fieldLines (headerLinesOf f.entries)) t) ∧
      checkAll x cs now f = match checkMime x.db cs (buildMeta (headerLinesOf f.entries) []) with
        | .ok mime => some (pre ++ mime.tags ++ post)
        | .error () => none := by
  obtain ⟨hts, hh, hmem⟩ := checkHeaders_total x f
  obtain ⟨ds, hd, hds⟩ : ∃ ds, checkDates (dateCtx f.kind (buildMeta (headerLinesOf f.entries) []) now) = some ds ∧
      ∀ t, DateRule now f (fieldLines (headerLinesOf f.entries)) t ↔ ∃ d ∈ ds, t = ofDateTag d :=
    ⟨_, checkDates_eq _, fun t => dateRule_iff now f _ t _ (by simp only [dateCtx, meta_getS])⟩
  refine ⟨checkComments x.db f.kind.isTemplate f.comments ++ hts, ds.map ofDateTag ++ checkProject x (buildMeta (headerLinesOf f.entries) [])
    ++ checkTranslator x f.kind.isTemplate (buildMeta (headerLinesOf f.entries) []), fun t => ?_, fun t => ?_, ?_⟩
  · rw [List.mem_append, mem_checkComments, hmem]
  · unfold checkProject
    simp only [List.mem_append, List.mem_map, mem_projectIdTags, mem_reportTags, mem_checkTranslator_rule, or_assoc, hds,
      eq_comm (a := t)]
  · unfold checkAll
    simp only [hh, hd]
    cases checkMime x.db cs (buildMeta (headerLinesOf f.entries) []) with
    | error u => rfl
    | ok mime => simp only [List.append_assoc]

theorem checkAll_eq_none_iff (x : Ext) (cs : CharsetCheck) (now : Int) (f : File) :
    checkAll x cs now f = none ↔
      ∃ ct ∈ vals (fieldLines (headerLinesOf f.entries)) "Content-Type", ∃ full enc,
        CharsetOf x.db ct full enc ∧ cs (toName enc) = .error () := by
  obtain ⟨pre, post, _, _, e⟩ := checkAll_eq x cs now f
  rw [e, ← meta_getS, ← checkMime_error_iff]
  cases checkMime x.db cs (buildMeta (headerLinesOf f.entries) []) with
  | error u => exact iff_of_true rfl rfl
  | ok mime => exact iff_of_false nofun nofun

theorem mem_checkAll {x : Ext} {cs : CharsetCheck} {now : Int} {f : File} {ts : List TagCall}
    (h : checkAll x cs now f = some ts) (t : TagCall) : t ∈ ts ↔ Reported x cs now f t := by
  obtain ⟨pre, post, hpre, hpost, e⟩ := checkAll_eq x cs now f
  rw [e] at h
  cases hm : checkMime x.db cs (buildMeta (headerLinesOf f.entries) []) with
  | error u => rw [hm] at h; cases h
  | ok mime =>
    rw [hm] at h
    obtain rfl := Option.some.inj h
    -- `Reported` lists its disjuncts in the order of `checkAll`'s appends, so regrouping the disjunction closes the goal
    simp only [List.mem_append, hpre, hpost, mem_checkMime x cs _ mime hm, or_assoc]
    exact Iff.rfl

theorem checkAll_isSome (x : Ext) (cs : CharsetCheck) (hcs : ∀ n, ∃ r, cs n = .ok r) (now : Int) (f : File) :
    (checkAll x cs now f).isSome = true := by
  rw [Option.isSome_iff_ne_none, Ne, checkAll_eq_none_iff]
  rintro ⟨_, _, _, enc, _, he⟩
  obtain ⟨r, hr⟩ := hcs (toName enc)
  rw [hr] at he
  cases he

end I18n.Hdr

namespace I18n.Meta.Real

/-- `Hdr.checkAll` (the model C15's `header_tags_eq` / `hdr_nocrash` are about) returns exactly the calls the pipeline's
    `check_comments`, `check_headers`, `check_mime`, `check_dates`, `check_project`, `check_translator` stages make on the same
    `ctx`, in that order (in the pipeline `check_language` and `check_plurals` run between `check_headers` and `check_mime`,
    and what `check_language` leaves in `ctx.language` selects the charset fragment `cs`) -/
theorem checkAll_decomposes (x : Hdr.Ext) (cs : Hdr.CharsetCheck) (now : Int) (f : Hdr.File) (ts : List TagCall) :
    Hdr.checkAll x cs now f = some ts ↔
      ∃ h mime dates, Hdr.checkHeaders x f.kind.isTemplate f.entries = some h ∧ Hdr.checkMime x.db cs h.metadata = .ok mime ∧
        Date.checkDates (Hdr.dateCtx f.kind h.metadata now) = some dates ∧
        ts = Hdr.checkComments x.db f.kind.isTemplate f.comments ++ h.tags ++ mime.tags ++ dates.map Hdr.ofDateTag
              ++ Hdr.checkProject x h.metadata ++ Hdr.checkTranslator x f.kind.isTemplate h.metadata := by
  constructor
  · fun_cases Hdr.checkAll x cs now f
    -- the arm that returns: `check_headers`, `check_mime` and `check_dates` all did; the other three end in `none`
    case case4 h hh mime hm dates hd =>
      rintro ⟨rfl⟩
      exact ⟨h, mime, dates, hh, hm, hd, rfl⟩
    all_goals nofun
  · rintro ⟨h, mime, dates, hh, hm, hd, rfl⟩
    simp only [Hdr.checkAll, hh, hm, hd]

end I18n.Meta.Real
