/-
Python dictionaries kept as association lists (keys distinct, in insertion order).  The model has several `get`s and
`set`s with the same recursion; `eq_lookup`, `eq_set`, `eq_set'` identify any function with those recursion equations
(for a model definition they hold by `rfl`: `eq_lookup (fun _ => rfl) (fun _ _ _ _ => rfl)`) with core's `List.lookup`
and with `Kit.set`, about which the facts are then proved once.  Keys are compared by any lawful `BEq`, so that the
lemmas apply whichever instance a `lookup` was elaborated with (`List.instBEq` for `List Char` keys, `instBEqOfDecidableEq`
under a `[DecidableEq κ]` binder); the `DecidableEq` of the three `eq_*` is that of the `if k' = k` in the function at hand.

Identified in a lemma file by `eq_lookup`: `HdrPy.dictGet?` (HdrPyKit), `Msg.assocGet` (MsgBasic), `Po.dictGet?` (PoFsm),
`Tags.lookupKw` (TagsLine), `Charset.assoc?` (CharsetCheck), `FmtCheck.lookupKey`, `Spec.FmtCompare.valueAt` (FmtCheckNamed);
by `eq_set` (the new key object is written): `Msg.assocSet`, `Po.dictSet`; by `eq_set'` (the old key object stays):
`HdrPy.dictSet`, `Hdr.dictSet` (HdrPyKit).  The same recursion, identified nowhere: `PyKit.dictGet?`, `Po.lookupKw`,
`CliState.cacheGet`, `PyKit.dictSet`, `Charset.dictSet`.
A table searched by `find?` on the key, `(l.find? (·.1 == a)).map (·.2)`, is `List.lookup` as well (`find?_key_eq_lookup`:
`Date.lookupTz` in DateTable, `Hdr.dictGet` in HdrAddr); `find?_key_some` and `find?_key_of_nodup` say which entry is found
(also used for `offsets`, `keptBy` of `Spec.TimezonesRef`, in DateTzRef).
Not instances: `PyKit.dictGet` (raises `KeyError`: `PyKit.dictGet_eq_lookup` is its own induction), `HashOrder.dictGet`
(the last entry with the key), `Locale.assocSet` (rewrites every entry with the key, not the first), `Hdr.Meta.add` and
`Preimage.add` (append to the value).
-/
namespace I18n.Kit
variable {α β : Type} [BEq α] [LawfulBEq α]

omit [LawfulBEq α] in
/-- core's `List.lookup_cons` with an `if` for its `match` on `k == a`, as `lookup_set` states it and `if_pos` / `if_neg` rewrite it -/
theorem lookup_cons_ite (a : α) (b : β) (es : List (α × β)) (k : α) :
    ((a, b) :: es).lookup k = if k == a then some b else es.lookup k := by
  rw [List.lookup_cons]
  cases k == a <;> rfl

theorem eq_lookup [DecidableEq α] {g : List (α × β) → α → Option β} (nil : ∀ k, g [] k = none)
    (cons : ∀ k' v rest k, g ((k', v) :: rest) k = if k' = k then some v else g rest k) :
    ∀ d k, g d k = d.lookup k
  | [], k => by simp [nil]
  | (k', v) :: rest, k => by
    rw [cons, lookup_cons_ite, eq_lookup nil cons rest k]
    by_cases h : k' = k
    · rw [if_pos h, if_pos (beq_iff_eq.2 h.symm)]
    · rw [if_neg h, if_neg fun e => h (beq_iff_eq.1 e).symm]

/-- `d[k] = v`: the value of an existing key is replaced where it stands, a new key goes to the end -/
def set (k : α) (v : β) : List (α × β) → List (α × β)
  | [] => [(k, v)]
  | p :: rest => if p.1 == k then (k, v) :: rest else p :: set k v rest

omit [LawfulBEq α] in
theorem set_cons_of_ne {k : α} {p : α × β} (h : (p.1 == k) = false) (v : β) (rest : List (α × β)) :
    set k v (p :: rest) = p :: set k v rest := by
  rw [set, h]; rfl

theorem eq_set [DecidableEq α] {k : α} {v : β} {s : List (α × β) → List (α × β)} (nil : s [] = [(k, v)])
    (cons : ∀ k' v' rest, s ((k', v') :: rest) = if k' = k then (k, v) :: rest else (k', v') :: s rest) :
    ∀ d, s d = set k v d
  | [] => nil
  | (k', v') :: rest => by
    rw [cons, eq_set nil cons rest, set]
    by_cases h : k' = k
    · rw [if_pos h, if_pos (beq_iff_eq.2 h)]
    · rw [if_neg h, if_neg fun e => h (beq_iff_eq.1 e)]

/-- for a `set` that keeps the old key object (the same list, the keys being equal) -/
theorem eq_set' [DecidableEq α] {k : α} {v : β} {s : List (α × β) → List (α × β)} (nil : s [] = [(k, v)])
    (cons : ∀ k' v' rest, s ((k', v') :: rest) = if k' = k then (k', v) :: rest else (k', v') :: s rest) :
    ∀ d, s d = set k v d :=
  eq_set nil fun k' v' rest => by
    rw [cons]
    by_cases h : k' = k
    · rw [if_pos h, if_pos h, h]
    · rw [if_neg h, if_neg h]

theorem lookup_mem {l : List (α × β)} {k : α} {v : β} (h : l.lookup k = some v) : (k, v) ∈ l := by
  obtain ⟨l₁, l₂, rfl, -⟩ := List.lookup_eq_some_iff.1 h
  simp

theorem lookup_of_mem (k : α) (v : β) : ∀ (l : List (α × β)), (∀ v', (k, v') ∈ l → v' = v) → (k, v) ∈ l → l.lookup k = some v
  | [], _, h => nomatch h
  | (a, x) :: t, hf, h => by
    rw [List.lookup_cons]
    cases hb : k == a
    · exact lookup_of_mem k v t (fun v' hv' => hf v' (List.mem_cons_of_mem _ hv'))
        ((List.mem_cons.1 h).resolve_left (by rintro ⟨rfl, rfl⟩; simp at hb))
    · rw [hf x (eq_of_beq hb ▸ List.mem_cons_self)]

theorem isSome_lookup {d : List (α × β)} {k : α} : (d.lookup k).isSome = true ↔ k ∈ d.map (·.1) := by
  rw [List.lookup_isSome_iff, List.mem_map]
  exact exists_congr fun p => and_congr_right fun _ => beq_iff_eq.trans eq_comm

theorem lookup_set (k : α) (v : β) (d : List (α × β)) (k' : α) :
    (set k v d).lookup k' = if k' == k then some v else d.lookup k' := by
  induction d with
  | nil => rw [set, lookup_cons_ite]
  | cons p rest ih =>
    obtain ⟨a, b⟩ := p
    by_cases hp : a = k
    · subst hp
      rw [set, if_pos (beq_self_eq_true a), lookup_cons_ite, lookup_cons_ite]
      split <;> rfl
    · rw [set_cons_of_ne (by simpa using hp), lookup_cons_ite, lookup_cons_ite, ih]
      by_cases h : k' = a
      · rw [if_pos (beq_iff_eq.2 h), if_neg fun e => hp (h ▸ beq_iff_eq.1 e), if_pos (beq_iff_eq.2 h)]
      · rw [if_neg fun e => h (beq_iff_eq.1 e), if_neg fun e => h (beq_iff_eq.1 e)]

theorem mem_keys_set (k : α) (v : β) (d : List (α × β)) (k' : α) :
    k' ∈ (set k v d).map (·.1) ↔ k' = k ∨ k' ∈ d.map (·.1) := by
  induction d with
  | nil => simp [set]
  | cons p rest ih =>
    by_cases hp : p.1 = k
    · simp [set, hp]
    · rw [set_cons_of_ne (by simpa using hp), List.map_cons, List.mem_cons, ih, List.map_cons, List.mem_cons]
      exact or_left_comm

theorem nodup_keys_set (k : α) (v : β) {d : List (α × β)} (h : (d.map (·.1)).Nodup) : ((set k v d).map (·.1)).Nodup := by
  induction d with
  | nil => simp [set]
  | cons p rest ih =>
    rw [List.map_cons, List.nodup_cons] at h
    by_cases hp : p.1 = k
    · simpa [set, hp] using h
    · rw [set_cons_of_ne (by simpa using hp), List.map_cons, List.nodup_cons, mem_keys_set]
      exact ⟨fun hm => hm.elim hp h.1, ih h.2⟩

theorem set_set (k : α) (v w : β) (d : List (α × β)) : set k w (set k v d) = set k w d := by
  induction d with
  | nil => simp [set]
  | cons p rest ih =>
    by_cases hp : p.1 = k
    · simp [set, hp]
    · have hp' : (p.1 == k) = false := by simpa using hp
      rw [set_cons_of_ne hp', set_cons_of_ne hp', set_cons_of_ne hp', ih]

theorem set_fresh (k : α) (v : β) {d : List (α × β)} (h : ∀ kv ∈ d, kv.1 ≠ k) : set k v d = d ++ [(k, v)] := by
  induction d with
  | nil => rfl
  | cons p rest ih =>
    rw [set_cons_of_ne (by simpa using h p List.mem_cons_self), List.cons_append,
      ih fun kv hkv => h kv (List.mem_cons_of_mem _ hkv)]

theorem find?_key_some {l : List (α × β)} {a : α} {e : α × β} (h : l.find? (fun x => x.1 == a) = some e) : e ∈ l ∧ e.1 = a :=
  ⟨List.mem_of_find?_eq_some h, eq_of_beq (List.find?_some (p := fun x : α × β => x.1 == a) h)⟩

theorem find?_key_of_nodup {l : List (α × β)} (hd : (l.map (·.1)).Nodup) {e : α × β} (he : e ∈ l) :
    l.find? (fun x => x.1 == e.1) = some e := by
  induction l with
  | nil => cases he
  | cons x xs ih =>
    rw [List.map_cons, List.nodup_cons] at hd
    rcases List.mem_cons.mp he with rfl | he
    · rw [List.find?_cons_of_pos (by exact beq_self_eq_true _)]
    · have hne : x.1 ≠ e.1 := fun h => hd.1 (h ▸ List.mem_map_of_mem he)
      rw [List.find?_cons_of_neg (by simpa using hne), ih hd.2 he]

theorem find?_key_eq_lookup (l : List (α × β)) (a : α) : (l.find? (fun x => x.1 == a)).map (·.2) = l.lookup a := by
  induction l with
  | nil => rfl
  | cons x xs ih =>
    obtain ⟨k, v⟩ := x
    rw [List.find?_cons, List.lookup_cons, BEq.comm (a := a)]
    cases k == a
    · exact ih
    · rfl

end I18n.Kit
