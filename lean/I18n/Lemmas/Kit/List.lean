/-
Facts about lists that core does not state, or states in another form: the longest prefix passing a test
(`takeWhile`/`dropWhile`), the last element of `a ++ b` for non-empty `b`, decompositions `a :: l = pre ++ x :: post`, duplicate-free
lists, and the Python string functions the model defines more than once (`startswith`-and-strip, `split(sep)`, keys in
first-occurrence order).  For the latter a lemma is stated for any function `f` with the recursion equations of the model's
definitions.  `split(sep)` is core's
`List.splitOn` (`eq_splitOn`), and what is known of it is core's (`List.splitOn_ne_nil`, `splitOn_eq_singleton`,
`splitOn_append_cons_self_of_not_mem`, `intercalate_splitOn`, `splitOn_intercalate`); only `not_mem_of_mem_splitOn` is added.

Instances of `stripPrefix_iff`: `Date.stripPre`, `Hdr.stripPrefix`, `Domains.stripPrefix`, and `CheckPlurals.stripPrefix`
(an `isPrefixOf` and a `drop`: its third equation takes a case split); of `mem_distinct` / `nodup_distinct`:
`CFmt.distinct`, `PyFmt.distinct`, `PyFmt.distinctKeys`; of `eq_splitOn`: `Po.splitOn`, `Hdr.splitOn`, `Locale.splitOn`,
`Mo.splitAll`, `Msg.splitLines`.
-/
namespace I18n.Kit
variable {α : Type}

theorem forall_head?_iff {P : α → Prop} {l : List α} : (∀ c ∈ l.head?, P c) ↔ ∀ c r, l = c :: r → P c :=
  ⟨fun h _ _ e => h _ (e ▸ rfl), fun h c hc => by obtain ⟨r, rfl⟩ := List.head?_eq_some_iff.1 hc; exact h c r rfl⟩

theorem getLast?_append_ne_nil (a b : List α) (hb : b ≠ []) : (a ++ b).getLast? = b.getLast? := by
  cases b with
  | nil => contradiction
  | cons x xs =>
    rw [List.getLast?_append]
    cases h : (x :: xs).getLast? with
    | none => simp at h
    | some v => rfl

theorem takeWhile_all (p : α → Bool) (l : List α) : ∀ c ∈ l.takeWhile p, p c = true :=
  List.all_eq_true.1 List.all_takeWhile

/-- core's `List.head?_dropWhile_not`, which is a `match` on the `head?`, in the form `span_append` takes -/
theorem dropWhile_head (p : α → Bool) (l : List α) : ∀ c ∈ (l.dropWhile p).head?, p c = false := by
  intro c hc
  have := List.head?_dropWhile_not p l
  rwa [Option.mem_def.1 hc] at this

theorem span_append {p : α → Bool} {a b : List α} (ha : ∀ c ∈ a, p c = true) (hb : ∀ c ∈ b.head?, p c = false) :
    (a ++ b).takeWhile p = a ∧ (a ++ b).dropWhile p = b := by
  rw [List.takeWhile_append_of_pos ha, List.dropWhile_append_of_pos ha]
  cases b with
  | nil => exact ⟨List.append_nil a, rfl⟩
  | cons d r =>
    have hd : ¬ p d = true := by rw [hb d rfl]; exact Bool.false_ne_true
    rw [List.takeWhile_cons_of_neg hd, List.dropWhile_cons_of_neg hd]
    exact ⟨List.append_nil a, rfl⟩

theorem span_iff {p : α → Bool} {s a b : List α} :
    (s.takeWhile p = a ∧ s.dropWhile p = b) ↔ s = a ++ b ∧ (∀ c ∈ a, p c = true) ∧ ∀ c ∈ b.head?, p c = false := by
  constructor
  · rintro ⟨rfl, rfl⟩
    exact ⟨List.takeWhile_append_dropWhile.symm, takeWhile_all p s, dropWhile_head p s⟩
  · rintro ⟨rfl, ha, hb⟩
    exact span_append ha hb

theorem take_length_takeWhile (p : α → Bool) (s : List α) : s.take (s.takeWhile p).length = s.takeWhile p := by
  have h : (s.takeWhile p ++ s.dropWhile p).take (s.takeWhile p).length = s.takeWhile p := List.take_left
  rwa [List.takeWhile_append_dropWhile] at h

theorem drop_length_takeWhile (p : α → Bool) (s : List α) : s.drop (s.takeWhile p).length = s.dropWhile p := by
  have h : (s.takeWhile p ++ s.dropWhile p).drop (s.takeWhile p).length = s.dropWhile p := List.drop_left
  rwa [List.takeWhile_append_dropWhile] at h

theorem exists_split_cons (a : α) (l : List α) (P : List α → α → List α → Prop) :
    (∃ pre x post, a :: l = pre ++ x :: post ∧ P pre x post) ↔
      P [] a l ∨ ∃ pre x post, l = pre ++ x :: post ∧ P (a :: pre) x post := by
  constructor
  · rintro ⟨pre, x, post, h, hp⟩
    cases pre with
    | nil => obtain ⟨rfl, rfl⟩ := List.cons.inj h; exact .inl hp
    | cons b pre => obtain ⟨rfl, rfl⟩ := List.cons.inj h; exact .inr ⟨pre, x, post, rfl, hp⟩
  · rintro (hp | ⟨pre, x, post, rfl, hp⟩)
    · exact ⟨[], a, l, rfl, hp⟩
    · exact ⟨a :: pre, x, post, rfl, hp⟩

theorem exists_split_cons_at (a c : α) (l : List α) (P : List α → List α → Prop) :
    (∃ pre post, a :: l = pre ++ c :: post ∧ P pre post) ↔
      (a = c ∧ P [] l) ∨ ∃ pre post, l = pre ++ c :: post ∧ P (a :: pre) post := by
  constructor
  · rintro ⟨pre, post, h, hp⟩
    cases pre with
    | nil => obtain ⟨rfl, rfl⟩ := List.cons.inj h; exact .inl ⟨rfl, hp⟩
    | cons b pre => obtain ⟨rfl, rfl⟩ := List.cons.inj h; exact .inr ⟨pre, post, rfl, hp⟩
  · rintro (⟨rfl, hp⟩ | ⟨pre, post, rfl, hp⟩)
    · exact ⟨[], l, rfl, hp⟩
    · exact ⟨a :: pre, post, rfl, hp⟩

theorem exists_split_append (a : α) (l : List α) (P : List α → List α → Prop) :
    (∃ pre rest, a :: l = pre ++ rest ∧ P pre rest) ↔
      P [] (a :: l) ∨ ∃ pre rest, l = pre ++ rest ∧ P (a :: pre) rest := by
  constructor
  · rintro ⟨pre, rest, h, hp⟩
    cases pre with
    | nil => exact .inl (h ▸ hp)
    | cons b pre => obtain ⟨rfl, rfl⟩ := List.cons.inj h; exact .inr ⟨pre, rest, rfl, hp⟩
  · rintro (hp | ⟨pre, rest, rfl, hp⟩)
    · exact ⟨[], a :: l, rfl, hp⟩
    · exact ⟨a :: pre, rest, rfl, hp⟩

theorem forall_mem_of_eq_map {α β : Type} {c : α → β} {l : List β} (h : ∃ ts : List α, l = ts.map c) {P : β → Prop}
    (hP : ∀ x, P (c x)) : ∀ t ∈ l, P t := by
  obtain ⟨ts, rfl⟩ := h
  exact List.forall_mem_map.2 fun x _ => hP x

theorem nodup_eraseDups [BEq α] [LawfulBEq α] (l : List α) : l.eraseDups.Nodup := by
  generalize hn : l.length = n
  induction n using Nat.strongRecOn generalizing l with
  | _ n ih =>
    cases l with
    | nil => simp
    | cons a l =>
      rw [List.eraseDups_cons, List.nodup_cons]
      refine ⟨fun hm => ?_, ih _ ?_ _ rfl⟩
      · have := (List.mem_filter.1 (List.mem_eraseDups.1 hm)).2
        simp at this
      · have := List.length_filter_le (fun b => !b == a) l
        simp only [List.length_cons] at hn
        omega

theorem Nodup.length_le_one_of_forall_eq {l : List α} (h : l.Nodup) (hall : ∀ a ∈ l, ∀ b ∈ l, a = b) : l.length ≤ 1 := by
  match l, h, hall with
  | [], _, _ => simp
  | [_], _, _ => simp
  | a :: b :: r, h, hall =>
    have hab : a = b := hall a (by simp) b (by simp)
    exact absurd (hab ▸ List.mem_cons_self) (List.nodup_cons.1 h).1

theorem Nodup.eq_singleton_of_forall_eq {l : List α} {k : α} (h : l.Nodup) (hk : k ∈ l) (hall : ∀ x ∈ l, x = k) : l = [k] := by
  have hlen := Nodup.length_le_one_of_forall_eq h fun a ha b hb => (hall a ha).trans (hall b hb).symm
  match l, hk, hall, hlen with
  | [x], _, hall, _ => rw [hall x (by simp)]
  | _ :: _ :: _, _, _, hlen => simp at hlen

section distinct
variable [BEq α] [LawfulBEq α] {f : List α → List α} (nil : f [] = [])
  (cons : ∀ c cs, f (c :: cs) = c :: (f cs).filter (fun x => x != c))
include nil cons

/-- `f l`: the keys of `dict.fromkeys(l)` / `collections.Counter(l)`, which come in first-occurrence order -/
theorem mem_distinct {x : α} : ∀ {l : List α}, x ∈ f l ↔ x ∈ l
  | [] => by simp [nil]
  | c :: cs => by
    rw [cons, List.mem_cons, List.mem_cons, List.mem_filter, mem_distinct (l := cs)]
    by_cases h : x = c <;> simp [h]

theorem nodup_distinct : ∀ l : List α, (f l).Nodup
  | [] => by simp [nil]
  | c :: cs => by
    rw [cons, List.nodup_cons]
    exact ⟨by simp, (nodup_distinct cs).filter _⟩
end distinct

/-- `f p s`: `s[len(p):] if s.startswith(p) else None` -/
theorem stripPrefix_iff [DecidableEq α] {f : List α → List α → Option (List α)} (nil : ∀ s, f [] s = some s)
    (cons_nil : ∀ a p, f (a :: p) [] = none)
    (cons_cons : ∀ a p b s, f (a :: p) (b :: s) = if a = b then f p s else none) :
    ∀ {p s r}, f p s = some r ↔ s = p ++ r := by
  intro p
  induction p with
  | nil => intro s r; simp [nil]
  | cons a p ih =>
    intro s r
    cases s with
    | nil => simp [cons_nil]
    | cons b s =>
      rw [cons_cons]
      by_cases h : a = b
      · subst h; simp [ih]
      · simp [h]; exact fun e => (h e.symm).elim

section splitOn
variable [DecidableEq α] {sep : α}

/-- The model's `split`s recurse first and then look at the head of the result, with a branch for an empty result;
    that branch is never taken (`List.splitOn_ne_nil`), so `cons` asks only for the other one. -/
theorem eq_splitOn {f : List α → List (List α)} (nil : f [] = [[]])
    (cons : ∀ c cs w ws, f cs = w :: ws → f (c :: cs) = if c = sep then [] :: w :: ws else (c :: w) :: ws) :
    ∀ s, f s = s.splitOn sep
  | [] => nil
  | c :: cs => by
    obtain ⟨w, ws, h⟩ := List.exists_cons_of_ne_nil (List.splitOn_ne_nil sep cs)
    rw [cons c cs w ws ((eq_splitOn nil cons cs).trans h), List.splitOn_cons_eq_if_modifyHead, h]
    simp only [beq_iff_eq]
    rfl

theorem not_mem_of_mem_splitOn {s l : List α} (h : l ∈ s.splitOn sep) : sep ∉ l := by
  induction s generalizing l with
  | nil => rw [List.splitOn_nil, List.mem_singleton] at h; simp [h]
  | cons c cs ih =>
    obtain ⟨w, ws, hs⟩ := List.exists_cons_of_ne_nil (List.splitOn_ne_nil sep cs)
    rw [List.splitOn_cons_eq_if_modifyHead, hs] at h
    rw [hs] at ih
    by_cases hc : (c == sep) = true
    · rw [if_pos hc] at h
      rcases List.mem_cons.1 h with rfl | h
      · exact List.not_mem_nil
      · exact ih h
    · rw [if_neg hc] at h
      rcases List.mem_cons.1 h with rfl | h
      · rw [List.mem_cons, not_or]
        exact ⟨fun e => hc (beq_iff_eq.2 e.symm), ih List.mem_cons_self⟩
      · exact ih (List.mem_cons_of_mem _ h)

end splitOn

end I18n.Kit
