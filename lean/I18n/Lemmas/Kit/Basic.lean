/-
Characters through their code points, and `Nat` values read as `Int` next to a numeral (what `len(xs) > 1`, `n == 1`
become in the translated Python).  The cast lemmas are stated for an arbitrary numeral `OfNat.ofNat k` (under `no_index`:
simp's index would otherwise look for that literal term), so that `simp only [Kit.natCast_eq_ofNat]` rewrites `↑n = 1`
and `↑n = 21` alike.
-/
namespace I18n.Kit

theorem Char.toNat_beq (c d : Char) : (c.toNat == d.toNat) = (c == d) := by
  by_cases h : c = d
  · simp [h]
  · have : c.toNat ≠ d.toNat := fun e => h (Char.toNat_inj.1 e)
    rw [beq_eq_false_iff_ne.2 this, beq_eq_false_iff_ne.2 h]

theorem Char.le_iff_toNat (a b : Char) : a ≤ b ↔ a.toNat ≤ b.toNat := by
  rw [Char.le_def, UInt32.le_iff_toNat_le]; rfl

theorem Char.toNat_ofNat {n : Nat} (h : n < 0xd800) : (Char.ofNat n).toNat = n := by
  rw [Char.ofNat, dif_pos (Or.inl h)]
  rfl

theorem natCast_eq_ofNat (n k : Nat) : ((n : Int) = (no_index (OfNat.ofNat k) : Int)) ↔ n = (OfNat.ofNat k : Nat) :=
  Int.ofNat_inj (m := n) (n := k)

theorem natCast_gt_ofNat (n k : Nat) : ((n : Int) > (no_index (OfNat.ofNat k) : Int)) ↔ n > (OfNat.ofNat k : Nat) :=
  Int.ofNat_lt (n := k) (m := n)

end I18n.Kit
