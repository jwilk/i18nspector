import I18n.Lemmas.HdrChkGenerated
import I18n.Lemmas.HdrMime
import I18n.Lemmas.CharsetCheck
/-!
# `Checker.check_mime` regenerated = `Hdr.checkMime` with C20's charset fragment

The `lib.encodings` / `lib.ling` calls of the charset fragment are the kit functions `HdrPy.isAsciiCompatible / isPortable / propose /
getUnrepresentable` (C20's model functions over `Charset.Env`); the model's `CharsetCheck` parameter is instantiated with
`Charset.checkCharset env · isTemplate language`.  Which exception escaped is forgotten on both sides (`erase`).
-/
namespace I18n.Hdr.Gen
open I18n I18n.Hdr I18n.Generated

/-- forget which exception it was (the model has one crash outcome) -/
def erase {α : Type} : Except Py.Exc α → Except Unit α
  | .ok v => .ok v
  | .error _ => .error ()

@[simp] theorem erase_ok {α : Type} (v : α) : erase (.ok v : Except Py.Exc α) = .ok v := rfl
@[simp] theorem erase_error {α : Type} (e : Py.Exc) : erase (.error e : Except Py.Exc α) = .error () := rfl

theorem replace_hint (e : Str) :
    HdrPy.replace "text/plain; charset=<encoding>".toList "<encoding>".toList e = "text/plain; charset=".toList ++ e := by
  repeat rw [String.toList_ofList]
  conv => rhs; rw [← List.append_nil e]
  rfl

theorem noContentType_hint :
    "Content-Type: ".toList ++ "text/plain; charset=<encoding>".toList = "Content-Type: text/plain; charset=<encoding>".toList := by
  repeat rw [String.toList_ofList]
  rfl

theorem erase_eq_map {α β : Type} {a : Except Py.Exc α} {b : Except Unit β} {f : β → α} (h : erase a = b.map f) :
    (∃ e, a = .error e ∧ b = .error ()) ∨ ∃ v, a = .ok (f v) ∧ b = .ok v := by
  rcases a with e | v <;> rcases b with ⟨⟨⟩⟩ | w
  · exact Or.inl ⟨e, rfl, rfl⟩
  · cases h
  · cases h
  · injection h with h
    exact Or.inr ⟨w, by rw [h], rfl⟩

theorem eq_ok_of_erase {α : Type} {a : Except Py.Exc α} {v : α} (h : erase a = .ok v) : a = .ok v := by
  cases a with
  | error e => cases h
  | ok w => injection h with h; rw [h]

theorem forEach_ct (db : UDB) (cs : CharsetCheck) (body : Str → List TagCall × List Str → Except Py.Exc (List TagCall × List Str))
    (hb : ∀ ct s, erase (body ct s) = (contentTypeOne db cs ct).map fun r => (s.1 ++ r.1, s.2 ++ r.2.toList))
    (cts : List Str) (s : List TagCall × List Str) :
    erase (PyKit.forEach cts body s) = (contentTypeLoop db cs cts).map fun r => (s.1 ++ r.1, s.2 ++ r.2) := by
  induction cts generalizing s with
  | nil => simp only [PyKit.forEach, contentTypeLoop, erase_ok, Except.map, List.append_nil]
  | cons ct cts ih =>
    unfold PyKit.forEach contentTypeLoop
    rcases erase_eq_map (hb ct s) with ⟨e, h1, h2⟩ | ⟨⟨t, e⟩, h1, h2⟩
    · rw [h1, h2]
      rfl
    · rw [h1, h2]
      simp only [ih]
      cases contentTypeLoop db cs cts with
      | error u => rfl
      | ok r => cases e <;> simp only [Except.map, Option.toList, List.append_assoc, List.cons_append, List.nil_append]

theorem erase_match_ok {α β : Type} (a : Except Py.Exc α) (k : α → Except Py.Exc β) :
    erase (match a with | .error e => .error e | .ok v => k v) =
      match erase a with | .error () => .error () | .ok v => erase (k v) := by
  cases a <;> rfl

theorem flatMap_ite_singleton {α : Type} (p : α → Prop) [DecidablePred p] (g : α → TagCall) (xs : List α) :
    xs.flatMap (fun v => if p v then [g v] else []) = (xs.filter (fun v => decide (p v))).map g := by
  induction xs with
  | nil => rfl
  | cons x xs ih => by_cases h : p x <;> simp [List.flatMap_cons, h, ih]

theorem trunc_cons (h : List Nat) (t : List (List Nat)) :
    List.map (fun c => sx (ofName c)) (Charset.truncateChars (h :: t)) =
      List.map Extra.str (if ((ofName h :: List.map ofName t).length : Int) > 5 then
        List.take 4 (ofName h :: List.map ofName t) ++ ["...".toList] else ofName h :: List.map ofName t) := by
  have e : (fun c => sx (ofName c)) = Extra.str ∘ ofName := rfl
  rw [e, ← List.map_map, map_ofName_truncate]
  rfl

/-- closes one leaf of the case analysis of the charset fragment -/
macro "mime_leaf" : tactic => `(tactic| (
  simp only [erase_ok, erase_error, if_true, if_false, Bool.false_eq_true, Bool.not_true, Bool.not_false, Option.isNone_none,
    Option.isNone_some, Option.map_some, Option.map_none, Option.toList_some, Option.toList_none, List.map_cons, List.map_nil, List.map_append,
    ofCharsetTag, ofName_toName, List.append_assoc, List.cons_append, List.nil_append, replace_hint, List.append_nil, trunc_cons,
    List.isEmpty_cons, List.isEmpty_nil, Bool.true_eq_false]
  try rfl))

/-- the part of one iteration after the encoding to go on with is known: `ctx.language`, the unrepresentable characters, the hint -/
macro "mime_lang_cases" pfx:ident lang:ident : tactic => `(tactic| (
  rcases $lang:ident with _ | _ | chars
  · cases $pfx:ident <;> mime_leaf
  · simp only [HdrPy.getUnrepresentable]
    cases $pfx:ident <;> mime_leaf
  · simp only [HdrPy.getUnrepresentable, ofName_toName, Option.map_none, Option.map_some, if_true, if_false, Bool.false_eq_true]
    generalize Charset.getUnrepresentable _ _ = gu
    rcases gu with u | us
    · cases u; cases $pfx:ident <;> mime_leaf
    · cases us <;> cases $pfx:ident <;> mime_leaf))

theorem flatMap_ne_singleton (L : Str) (g : Str → TagCall) (xs : List Str) :
    xs.flatMap (fun v => if v ≠ L then [g v] else []) = (xs.filter (· ≠ L)).map g :=
  flatMap_ite_singleton (· ≠ L) g xs

theorem mv_good : HeaderFields.mimeVersionGood.toList = "1.0".toList := rfl
theorem cte_good : HeaderFields.cteGood.toList = "8bit".toList := rfl

/-- The model's charset fragment works on code-point lists, the code on `str`; `hrt` asks that an encoding name which
    `propose_portable_encoding` proposes survives `str` ↔ code points (`toName ∘ ofName`), which is all the proof needs of the tables:
    `hrt_live` has it for the live one. -/
theorem check_mime_eq (x : Ext) (env : Charset.Env) (m : Meta) (tmpl : Bool) (lang : Option (Option (List (List Nat)))) (out : List TagCall)
    (hrt : ∀ e n, Charset.propose env.tbl env.c2e env.lookup e = .ok (some n) → toName (ofName n) = n) :
    erase (HdrChk.check_mime x env m tmpl lang out) =
      match checkMime x.db (fun n => Charset.checkCharset env n tmpl lang) m with
      | .ok o => .ok (out ++ o.tags, o.encoding)
      | .error () => .error () := by
  unfold_generated_hdrchk
  -- the body of `for ct in cts` stands twice in the generated text (the rest of the function is copied into both branches of the
  -- `if` that rebinds `cts`): name it, and show once that it is the model's `contentTypeOne`
  generalize hB : (fun ct (s : List TagCall × List Str) => (_ : Except Py.Exc (List TagCall × List Str))) = body
  have hb : ∀ ct s, erase (body ct s) =
      (contentTypeOne x.db (fun n => Charset.checkCharset env n tmpl lang) ct).map fun r => (s.1 ++ r.1, s.2 ++ r.2.toList) := by
    subst hB
    intro ct s
    obtain ⟨o, encs⟩ := s
    simp only [contentTypeOne]
    cases hm : matchContentType x.db ct with
    | none => simp only [erase_ok, Except.map, Option.toList_none, List.append_nil]; rfl
    | some mm =>
      obtain ⟨pfx, enc⟩ := mm
      simp only []
      -- the charset fragment (`try … except EncodingLookupError … else …`) is C20's `Charset.checkCharset`
      generalize hS : PyKit.tryExceptElse _ _ _ _ = S
      have h1 : erase S = (Charset.checkCharset env (toName enc) tmpl lang).map fun r =>
          (o ++ r.1.map (ofCharsetTag ct), r.2.map ofName) := by
        subst hS
        simp only [PyKit.tryExceptElse, HdrPy.isAsciiCompatible, Charset.checkCharset]
        cases hd : Charset.isAsciiCompatible env.interestingStr (env.dec (toName enc)) false with
        | error u =>
          cases u
          simp only [decide_true, if_true, toName_eq_charset, decide_eq_true_eq]
          by_cases hcs : enc = "CHARSET".toList
          · cases tmpl <;> simp only [hcs, if_true, Bool.not_true, Bool.not_false, Bool.false_eq_true, if_false, erase_ok, Except.map,
              List.map_cons, List.map_nil, List.append_nil, Option.map_none] <;> rfl
          · simp only [hcs, if_false, erase_ok, Except.map, List.map_cons, List.map_nil, ofCharsetTag, ofName_toName, Option.map_none]
            rfl
        | ok compat =>
          simp only []
          -- the encoding to go on with, on both sides; on the model's side it is a code-point list that survives `str` ↔ code points
          generalize hS1 : (if (!compat) = true then _ else _ : Except Py.Exc (List TagCall × List Char)) = S1
          generalize hM1 : (if (!compat) = true then _ else _ : Except Unit (List Charset.Tag × Charset.Name)) = M1
          have h2 : erase S1 = M1.map (fun r => (o ++ r.1.map (ofCharsetTag ct), ofName r.2)) ∧
              ∀ r, M1 = .ok r → toName (ofName r.2) = r.2 := by
            subst hS1 hM1
            simp only [HdrPy.isPortable, HdrPy.propose]
            -- in every case but the last the encoding kept is the one read from the field, `toName enc`, which survives the round trip
            have keep : ∀ tags r, (Except.ok (tags, toName enc) : Except Unit (List Charset.Tag × Charset.Name)) = .ok r →
                toName (ofName r.2) = r.2 := by
              rintro _ _ ⟨⟩; simp only [ofName_toName]
            cases compat
            · exact ⟨by simp only [Bool.not_false, if_true, erase_ok, Except.map, List.map_cons, List.map_nil, ofCharsetTag, ofName_toName]; rfl,
                keep _⟩
            · by_cases hp : Charset.isPortable env.tbl true (toName enc) = true
              · exact ⟨by simp only [Bool.not_true, Bool.false_eq_true, if_false, hp, if_true, erase_ok, Except.map, List.map_nil, List.append_nil, ofName_toName],
                  by simp only [Bool.not_true, Bool.false_eq_true, if_false, hp, if_true]; exact keep _⟩
              · simp only [Bool.not_true, Bool.false_eq_true, if_false, hp]
                cases hpr : Charset.propose env.tbl env.c2e env.lookup (toName enc) with
                | error u => cases u; exact ⟨rfl, by rintro _ ⟨⟩⟩
                | ok po =>
                  cases po with
                  | none => exact ⟨by simp only [Option.map_none, erase_ok, Except.map, List.map_cons, List.map_nil, ofCharsetTag, ofName_toName]; rfl,
                      keep _⟩
                  | some p => exact ⟨by simp only [Option.map_some, erase_ok, Except.map, List.map_cons, List.map_nil, ofCharsetTag, ofName_toName]; rfl,
                      by rintro _ ⟨⟩; exact hrt _ _ hpr⟩
          clear hS1 hM1
          rcases erase_eq_map h2.1 with ⟨e, rfl, rfl⟩ | ⟨⟨tags, e'⟩, rfl, rfl⟩
          · rfl
          · have he := h2.2 _ rfl
            simp only [] at he ⊢
            clear h2
            rcases lang with _ | _ | chars
            · rfl
            · rfl
            · simp only [HdrPy.getUnrepresentable, he]
              cases Charset.getUnrepresentable (env.encode e') chars with
              | error u => cases u; rfl
              | ok u =>
                cases u with
                | nil => rfl
                | cons h t =>
                  simp only [List.map_cons, List.isEmpty_cons, Bool.not_false, if_true, decide_eq_true_eq, ite_ok, erase_ok, Except.map,
                    List.map_append, List.map_nil, ofCharsetTag, trunc_cons, Option.map_some, List.append_assoc]
                  rfl
      rcases erase_eq_map h1 with ⟨e, rfl, h⟩ | ⟨⟨ctags, kept⟩, rfl, h⟩
      · rw [h]; rfl
      · rw [h]
        clear hS h1 h
        cases pfx <;> cases kept <;>
          simp only [HdrPy.ctGroup1, if_true, if_false, Bool.false_eq_true, Option.isNone_none, Option.isNone_some, Option.map_none,
            Option.map_some, replace_hint, erase_ok, Except.map, Option.toList_none, Option.toList_some, List.append_nil,
            List.append_assoc] <;> rfl
  clear hB
  -- the two loops over the values of a field call nothing that can fail: each is a `flatMap`, hence a `filter`
  simp only [ddGet_getS, cast_gt_one, cast_eq_zero, decide_eq_true_eq, ite_ok, ite_fst, ite_snd, ite_append_tail, ite_sortedSet,
    PyKit.forEach_ok, PyKit.foldl_append_flatMap, flatMap_ite_singleton]
  generalize hpre : (_ ++ (if (dedup (m.getS "Content-Transfer-Encoding")).length = 0 then _ else []) : List TagCall) = pre
  have hp : pre = out ++ (mimeVersionTags m ++ cteTags m) := by
    rw [← hpre]
    simp only [mimeVersionTags, cteTags, mv_good, cte_good, List.append_assoc]
    rfl
  clear hpre
  subst hp
  simp only [checkMime]
  by_cases hc0 : (m.getS "Content-Type").length = 0
  · have hc1 : ¬ (m.getS "Content-Type").length > 1 := by omega
    simp only [if_neg hc1, if_pos hc0, erase_ok, List.append_assoc, noContentType_hint]
    rfl
  · simp only [if_neg hc0]
    by_cases hc1 : (m.getS "Content-Type").length > 1
    · simp only [if_pos hc1, dedup]
      rcases erase_eq_map (forEach_ct x.db _ body hb (sortedSet (m.getS "Content-Type")) _) with ⟨e, h1, h2⟩ | ⟨⟨ts, es⟩, h1, h2⟩
      · rw [h1, h2]
        rfl
      · rw [h1, h2]
        simp only [List.nil_append, HdrPy.distinct, sortedSet, cast_eq_one]
        -- `[ctx.encoding] = encodings` stands under `if len(encodings) == 1`, so its `ValueError` arm is dead: by the length of the set
        rcases Date.sortedSet es with _ | ⟨e, _ | ⟨e2, rest⟩⟩ <;> simp [tag, List.append_assoc]
    · simp only [if_neg hc1, dedup]
      rcases erase_eq_map (forEach_ct x.db _ body hb (m.getS "Content-Type") _) with ⟨e, h1, h2⟩ | ⟨⟨ts, es⟩, h1, h2⟩
      · rw [h1, h2]
        rfl
      · rw [h1, h2]
        simp only [List.nil_append, HdrPy.distinct, sortedSet, cast_eq_one]
        rcases Date.sortedSet es with _ | ⟨e, _ | ⟨e2, rest⟩⟩ <;> simp [List.append_assoc]

theorem check_mime_of_checkMime_ok (x : Ext) (env : Charset.Env) (m : Meta) (tmpl : Bool) (lang : Option (Option (List (List Nat))))
    (out : List TagCall) (hrt : ∀ e n, Charset.propose env.tbl env.c2e env.lookup e = .ok (some n) → toName (ofName n) = n)
    (o : MimeOut) (ho : checkMime x.db (fun n => Charset.checkCharset env n tmpl lang) m = .ok o) :
    HdrChk.check_mime x env m tmpl lang out = .ok (out ++ o.tags, o.encoding) := by
  have tie := check_mime_eq x env m tmpl lang out hrt
  rw [ho] at tie
  exact eq_ok_of_erase tie

/-! ### the side condition `hrt` for the live tables -/

/-- every proposal `propose_portable_encoding` can make from the live table is ASCII, so it survives `str` ↔ code points -/
theorem live_proposals_ascii : Generated.Charset.pycodecToEncoding.all (fun p => (Charset.upper p.2).all (· < 128)) = true := by decide +kernel

theorem hrt_live (env : Charset.Env) (hc2e : env.c2e = Generated.Charset.pycodecToEncoding) (e n : Charset.Name)
    (h : Charset.propose env.tbl env.c2e env.lookup e = .ok (some n)) : toName (ofName n) = n := by
  unfold Charset.propose at h
  cases hl : env.lookup e with
  | none => rw [hl] at h; cases h
  | some codec =>
    rw [hl] at h
    simp only at h
    cases ha : Charset.assoc? codec env.c2e with
    | none => rw [ha] at h; cases h
    | some ne =>
      rw [ha] at h
      simp only at h
      split at h
      · injection h with h; injection h with h; subst h
        apply toName_ofName_of_small
        have hm := Charset.assoc?_mem _ _ _ ha
        rw [hc2e] at hm
        have := List.all_eq_true.1 live_proposals_ascii _ hm
        intro c hc
        have := List.all_eq_true.1 this c hc
        simpa using this
      · cases h

end I18n.Hdr.Gen
