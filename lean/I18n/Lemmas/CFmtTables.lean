import I18n.Model.CFmt
import I18n.Lemmas.Kit.Assoc
/-!
# The probed tables of `lib.strformat.c` are the tables of `Spec.Printf`

The `expected…` tables are the graphs of the `Spec.Printf` functions over all keys; that the regenerated
`Generated.CFormatTables` equal them is `decide +kernel` (here for the two type tables and the three constants, in
`Props.C11.ctables_pin` for the rest). `typeInfo_spec` is what the model proofs use: the model's lookup is the specification's
function. The last section does the same for the tests the model writes out instead of looking up (`flagErr`, the width, precision
and argument-number tests, `void`); `Props.C11.model_checks_pin` collects them.
-/
namespace I18n.CFmt
open I18n.Spec.Printf
open I18n.Generated

def encType : Option TypeInfo → Option String × Bool × Bool
  | some ti => (some ti.type, ti.integer, ti.nonportable)
  | none => (none, false, false)

def typeKeys : List (Option Len × Char) := allLens.flatMap fun l => convChars.map fun c => (l, c)

/-- what `tools/translate/cfmt2lean.py` must have probed if the module implements `Spec.Printf.stdType` -/
def expectedTypeTable : List ((String × Char) × Option String × Bool × Bool) :=
  typeKeys.map fun k => ((lenName k.1, k.2), encType (stdType k.1 k.2))

def priKeys : List (Char × PriLen) := priConvChars.flatMap fun c => allPriLens.map fun l => (c, l)

def expectedPriTable : List ((Char × String) × String) :=
  priKeys.map fun k => ((k.1, k.2.name), priType k.1 k.2)

def expectedFlagTable : List ((Char × Char) × String) :=
  flagChars.flatMap fun f => convChars.map fun c => ((f, c), if c ∈ flagConvs f then "ok" else "FlagError")

def expectedWidthTable : List ((String × Char) × String) :=
  ["num", "star"].flatMap fun k => convChars.map fun c => ((k, c), if c ∈ widthConvs then "ok" else "WidthError")

def expectedPrecTable : List ((String × Char) × String) :=
  ["num", "empty", "star"].flatMap fun k => convChars.map fun c => ((k, c), if c ∈ precConvs then "ok" else "PrecisionError")

def expectedIndexTable : List ((String × Char) × String) :=
  convChars.map fun c => (("1$", c), if c ∈ indexConvs then "ok" else "ForbiddenArgumentIndex")

def expectedConsumes : List (Char × Nat) :=
  convChars.map fun c => (c, if c ∈ consuming then 1 else 0)

theorem typeTable_pin : CFormatTables.typeTable = expectedTypeTable := by decide +kernel
theorem priTable_pin : CFormatTables.priTable = expectedPriTable := by decide +kernel
theorem nl_argmax_pin : CFormatTables.NL_ARGMAX = Spec.Printf.NL_ARGMAX := by decide
theorem int_max_pin : CFormatTables.INT_MAX = Spec.Printf.INT_MAX := by decide
theorem star_type_pin : CFormatTables.variableWidthType = "int" ∧ CFormatTables.variablePrecisionType = "int" := by decide

theorem lookup_graph {α β γ : Type} [BEq γ] [LawfulBEq γ] (key : α → γ) (f : α → β) (keys : List α) (k : α) (hk : k ∈ keys)
    (hinj : ∀ k' ∈ keys, key k' = key k → f k' = f k) : (keys.map fun k => (key k, f k)).lookup (key k) = some (f k) :=
  Kit.lookup_of_mem _ _ _ (fun v' hv' => by
      obtain ⟨k', hk', e⟩ := List.mem_map.1 hv'
      rw [Prod.mk.injEq] at e
      exact e.2 ▸ hinj k' hk' e.1)
    (List.mem_map.2 ⟨k, hk, rfl⟩)

theorem lenName_inj : ∀ a ∈ allLens, ∀ b ∈ allLens, lenName a = lenName b → a = b := by decide +kernel

theorem priName_inj : ∀ a ∈ allPriLens, ∀ b ∈ allPriLens, a.name = b.name → a = b := by decide +kernel

theorem mem_allLens (l : Option Len) : l ∈ allLens := by
  cases l with
  | none => decide
  | some ln => cases ln <;> decide

theorem mem_allPriLens (l : PriLen) : l ∈ allPriLens := by
  cases l with
  | max => decide
  | ptr => decide
  | sized k b => cases k <;> cases b <;> decide

theorem typeInfo_spec {b : Body} (hb : b.Wf) :
    typeInfo b = match b.typeInfo with
      | some ti => .ok (ti.type, ti.integer, ti.nonportable)
      | none => .error .LengthError := by
  cases b with
  | std len conv =>
    have hk : (len, conv) ∈ typeKeys := by
      simp only [typeKeys, List.mem_flatMap, List.mem_map]
      exact ⟨len, mem_allLens len, conv, hb, rfl⟩
    have hl := lookup_graph (fun k : Option Len × Char => (lenName k.1, k.2)) (fun k => encType (stdType k.1 k.2))
      typeKeys (len, conv) hk (by
        intro k' hk' he
        simp only [typeKeys, List.mem_flatMap, List.mem_map] at hk'
        obtain ⟨l', hl', c', _, rfl⟩ := hk'
        simp only [Prod.mk.injEq] at he
        have := lenName_inj l' hl' len (mem_allLens len) he.1
        rw [this, he.2])
    simp only [typeInfo, typeTable_pin, expectedTypeTable, hl, Body.typeInfo]
    cases stdType len conv with
    | none => simp [encType]
    | some ti => simp [encType]
  | pri conv len =>
    have hk : (conv, len) ∈ priKeys := by
      simp only [priKeys, List.mem_flatMap, List.mem_map]
      exact ⟨conv, hb, len, mem_allPriLens len, rfl⟩
    have hl := lookup_graph (fun k : Char × PriLen => (k.1, k.2.name)) (fun k => priType k.1 k.2)
      priKeys (conv, len) hk (by
        intro k' hk' he
        simp only [priKeys, List.mem_flatMap, List.mem_map] at hk'
        obtain ⟨c', _, l', hl', rfl⟩ := hk'
        simp only [Prod.mk.injEq] at he
        have := priName_inj l' hl' len (mem_allPriLens len) he.2
        rw [this, he.1])
    have hb' : conv ∈ priConvChars := hb
    simp only [typeInfo, priTable_pin, expectedPriTable, hl, Body.typeInfo, hb', if_true]

/-! ## the tests the model makes are the specification's tables -/

theorem flagErr_spec : ∀ f ∈ flagChars, ∀ c ∈ convChars,
    (flagErr f c = none ↔ c ∈ flagConvs f) ∧ (flagErr f c = none ∨ flagErr f c = some .FlagError) := by decide +kernel

theorem width_conv_spec : ∀ c ∈ convChars, ((c == '%' || c == 'n') = false ↔ c ∈ widthConvs) := by decide +kernel

theorem prec_conv_spec : ∀ c ∈ convChars,
    ((Generated.CFormatTables.intCvt ++ Generated.CFormatTables.floatCvt ++ Generated.CFormatTables.strCvt).contains c = true
      ↔ c ∈ precConvs) := by decide +kernel

theorem index_conv_spec : ∀ c ∈ convChars, (c ∈ indexConvs ↔ c ≠ '%') ∧ (c ∈ consuming → c ∈ indexConvs) := by decide +kernel

theorem indexConvs_iff {c : Char} (h : c ∈ convChars) : c ∈ indexConvs ↔ c ≠ '%' := (index_conv_spec c h).1
theorem consuming_indexConvs {c : Char} (h : c ∈ convChars) (hc : c ∈ consuming) : c ∈ indexConvs := (index_conv_spec c h).2 hc

/-- `void_spec` as a Boolean, for `decide`: a typed standard conversion has type `void` exactly when it consumes no argument -/
def voidOK (len : Option Len) (c : Char) : Bool :=
  match stdType len c with
  | some ti => decide (ti.type = "void") == !decide (c ∈ consuming)
  | none => true

theorem void_spec : ∀ len ∈ allLens, ∀ c ∈ convChars, voidOK len c = true := by decide +kernel

theorem pri_facts : ∀ c ∈ priConvChars, ∀ l ∈ allPriLens, priType c l ≠ "void" ∧ c ∈ consuming ∧ c ∈ convChars := by
  decide +kernel

theorem pri_not_void {c : Char} (h : c ∈ priConvChars) (l : PriLen) : priType c l ≠ "void" := (pri_facts c h l (mem_allPriLens l)).1
theorem pri_consuming {c : Char} (h : c ∈ priConvChars) : c ∈ consuming := (pri_facts c h .max (by decide)).2.1
theorem pri_conv_mem {c : Char} (h : c ∈ priConvChars) : c ∈ convChars := (pri_facts c h .max (by decide)).2.2

theorem body_conv_mem {b : Body} (hb : b.Wf) : b.conv ∈ convChars := by
  cases b with
  | std len conv => exact hb
  | pri conv len => exact pri_conv_mem hb

theorem body_void {b : Body} (hb : b.Wf) {ti : TypeInfo} (h : b.typeInfo = some ti) :
    ti.type = "void" ↔ b.conv ∉ consuming := by
  cases b with
  | std len conv =>
    have := void_spec len (mem_allLens len) conv hb
    simp only [Body.typeInfo] at h
    simp only [voidOK, h] at this
    simp only [Body.conv]
    constructor
    · intro hv hc; simp [hv, hc] at this
    · intro hc; simpa [hc] using this
  | pri conv len =>
    have hb' : conv ∈ priConvChars := hb
    simp only [Body.typeInfo, hb', if_true, Option.some.injEq] at h
    subst h
    simp only [Body.conv]
    constructor
    · intro hv; exact absurd hv (pri_not_void hb' len)
    · intro hc; exact absurd (pri_consuming hb') hc

end I18n.CFmt
