import I18n.Lemmas.PoLines
import I18n.Lemmas.PoPre
import I18n.Lemmas.PoNoCrash
/-! The last line of a spelled catalog is a message line; after a message line `finish` keeps the entry under construction;
`Codecs.open` does not hold a message line back, and holds back noise and comments in the first column.  At the end
`encodeText_pairs`: a text the codec can encode is encoded character by character (for `C10.decode_file_of_codec`). -/
namespace I18n.Lemmas.PoFile
open I18n I18n.Po I18n.Spec.PoSpelling I18n.Lemmas.PoKit I18n.Lemmas.PoLines I18n.Lemmas.PoPre

/-- the shape of `l` that `stepLine_msg` wants: a line that reaches `dispatch` with a first token that is not a comment marker -/
def IsMsgLine (l : Text) : Prop :=
  ∃ lpad pre t0 rest rpad, l = lpad ++ (Prefix.render pre ++ (t0 ++ rest)) ++ rpad ∧ Blank lpad ∧ MsgPrefix pre ∧
    (∀ x ∈ rpad, pyIsSpace x = true) ∧ Tok t0 rest ∧ t0.head? ≠ some bom ∧ t0.head? ≠ some '#'

theorem kwLine_isMsg (pre : Prefix) (hpre : MsgPrefix pre) (kw sep : Text) (hsep : sep ≠ []) (hbl : Blank sep) (g : Seg) (hl : Blank g.lpad)
    (hr : ∀ x ∈ g.rpad, pyIsSpace x = true) (hkw : KwHead kw) : IsMsgLine (kwLine pre kw sep g) :=
  have ht : Tok kw (sep ++ quoted g.choices) := Tok.word hkw.ne hkw.nonspace sep hsep hbl g.choices
  ⟨g.lpad, pre, kw, _, g.rpad, rfl, hl, hpre, hr, ht, hkw.head⟩

theorem contLine_isMsg (pre : Prefix) (hpre : MsgPrefix pre) (g : Seg) (hl : Blank g.lpad) (hr : ∀ x ∈ g.rpad, pyIsSpace x = true) :
    IsMsgLine (contLine pre g) := by
  obtain ⟨t, rest, e, ht⟩ := Tok.of_cons '"' (render g.choices ++ ['"']) (by decide) (quoted_lastNot g.choices)
  exact ⟨g.lpad, pre, _, rest, g.rpad, by rw [← e]; rfl, hl, hpre, hr, ht, by simp; decide⟩

/-- `tokens[0]` of the last line read is not a comment marker: `finish` then appends the entry under construction -/
def TokOk (s : PState) : Prop := ∃ t, s.lastTok = some t ∧ t.head? ≠ some '#'

theorem finish_tokOk (s : PState) (h : TokOk s) : finish s = { header := s.header, entries := s.entries ++ [s.cur] } := by
  obtain ⟨t, ht, hh⟩ := h
  have : startsWith ['#'] t = false := by
    cases t with
    | nil => rfl
    | cons c r => simp at hh; simp [startsWith, hh]
  simp [finish, ht, this]

theorem msgLine_tokOk (env : Env) (hsp : env.isSpace = pyIsSpace) (enc : Bytes) (l : Text) (h : IsMsgLine l) (n : Nat) (s s' : PState)
    (hs : stepLine env enc n l s = .ok s') : TokOk s' := by
  obtain ⟨lpad, pre, t0, rest, rpad, rfl, hl, hpre, hr, ht, hhead⟩ := h
  rw [stepLine_msg hsp enc n pre hpre lpad t0 rest rpad hl hr ht hhead s] at hs
  exact ⟨_, dispatch_lastTok hs, hhead.2⟩

theorem blank_ne_hash {s : Text} (hl : Blank s) (x : Char) (hx : x ∈ s) : x ≠ '#' := by
  rcases hl x hx with rfl | rfl <;> decide

theorem not_held_msg (env : Env) (hsp : env.isSpace = pyIsSpace) (l : Text) (h : IsMsgLine l) : holdBack env l = false := by
  obtain ⟨lpad, pre, t0, rest, rpad, rfl, hl, hpre, hr, ht, _, hh⟩ := h
  obtain ⟨c, r', rfl⟩ := List.exists_cons_of_ne_nil ht.ne
  have hc : pyIsSpace c = false := ht.nonspace c (by simp)
  have hc' : c ≠ '#' := by simpa using hh
  have hlsp := blank_space lpad hl
  -- the first token is the keyword's, or `#~`
  have htok : ∃ t0 ts, splitWs pyIsSpace 1 (lpad ++ (pre.render ++ (c :: r' ++ rest)) ++ rpad) = t0 :: ts ∧
      t0 ≠ ['#', '~', '|'] ∧ t0 ≠ ['#', '.'] ∧ t0 ≠ ['#', ':'] ∧ t0 ≠ ['#', ','] := by
    rcases hpre with rfl | ⟨sep, rfl, hsep, hbl⟩
    · have hne : ∀ r, c :: r' ≠ '#' :: r := fun r e => hc' (List.cons.inj e).1
      exact ⟨_, _, ht.split_pad 0 lpad rpad hlsp hr, hne _, hne _, hne _, hne _⟩
    · exact ⟨_, _, (ht.marked '~' (by decide) sep hsep hbl).split_pad 0 lpad rpad hlsp hr, by decide, by decide, by decide, by decide⟩
  obtain ⟨t0, ts, hsplit, h1, h2, h3, h4⟩ := htok
  rw [List.cons_append] at hsplit ⊢
  generalize r' ++ rest = r at hsplit ⊢
  have htake : ((lpad ++ (pre.render ++ (c :: r)) ++ rpad).take 2 == ['#', ' ']) = false := by
    cases lpad with
    | cons x xs =>
      have hx : x ≠ '#' := blank_ne_hash hl x List.mem_cons_self
      simp [hx]
    | nil =>
      rcases hpre with rfl | ⟨sep, rfl, hsep, hbl⟩
      · simp [Prefix.render, hc']
      · simp [Prefix.render]
  have hne : ((lpad ++ (pre.render ++ (c :: r)) ++ rpad).take 2 == []) = false := by
    simp [List.take_eq_nil_iff]
  have hall : allIn pyIsSpace (lpad ++ (pre.render ++ (c :: r)) ++ rpad) = false := by
    simp only [allIn, Bool.and_eq_false_iff]
    right
    simp only [List.all_eq_false]
    exact ⟨c, by simp, by simp [hc]⟩
  simp only [holdBack, hsp, htake, hne, hall, isIgnoredComment, hsplit, Bool.false_or]
  simp [h1, h2, h3, h4]

theorem strsp_last (E : Codec) (pre : Prefix) (hpre : MsgPrefix pre) (kw : Text) (hkw : KwHead kw)
    (x : StrSp) (hx : x.Valid E) (hend : x.EndsReal) : ∃ b l, x.lines pre kw = b ++ [l] ∧ IsMsgLine l := by
  unfold StrSp.EndsReal at hend
  cases hm : x.more.getLast? with
  | none =>
    rw [hm] at hend
    have hmore : x.more = [] := by simpa [List.getLast?_eq_none_iff] using hm
    refine ⟨[], kwLine pre kw x.sep x.first, ?_, kwLine_isMsg pre hpre kw x.sep hx.sep_ne hx.sep_blank x.first hx.first.lpad hx.first.rpad hkw⟩
    simp [StrSp.lines, hend, hmore, contLines]
  | some gn =>
    rw [hm] at hend
    obtain ⟨init, hinit⟩ := List.getLast?_eq_some_iff.1 hm
    have hgn := (hx.more gn (by rw [hinit]; simp)).1
    refine ⟨kwLine pre kw x.sep x.first :: (x.firstNoise.map Noise.render ++ contLines pre init), contLine pre gn.1, ?_,
      contLine_isMsg pre hpre gn.1 hgn.lpad hgn.rpad⟩
    simp [StrSp.lines, hinit, contLines, hend]

theorem forms_last (E : Codec) (pre : Prefix) (hpre : MsgPrefix pre) (forms : List StrSp) (hne : forms ≠ [])
    (hv : ∀ x ∈ forms, x.Valid E) (hend : ∀ x, forms.getLast? = some x → x.EndsReal) (j : Nat) (hj : j + forms.length ≤ 10) :
    ∃ b l, formsLines pre j forms = b ++ [l] ∧ IsMsgLine l := by
  induction forms generalizing j with
  | nil => exact absurd rfl hne
  | cons x rest ih =>
    cases rest with
    | nil =>
      obtain ⟨b, l, h1, h2⟩ := strsp_last E pre hpre (mxKw j) (mxKw_head ⟨j, by simp at hj; omega⟩) x (hv x (by simp)) (hend x rfl)
      exact ⟨b, l, by simp [formsLines, h1], h2⟩
    | cons y ys =>
      obtain ⟨b, l, h1, h2⟩ := ih (by simp) (fun z hz => hv z (by simp [hz]))
        (fun z hz => hend z (by simpa [List.getLast?_cons_cons] using hz)) (j + 1) (by simp at hj ⊢; omega)
      exact ⟨x.lines pre (mxKw j) ++ b, l, by rw [formsLines, h1, List.append_assoc], h2⟩

theorem msg_last (E : Codec) (m : MsgSp) (hm : m.Valid E) (hend : m.EndsReal) : ∃ b l, m.lines = b ++ [l] ∧ IsMsgLine l := by
  have hpre : MsgPrefix m.pre := hm.pre
  obtain ⟨mpre, mctxt, mid, mbody⟩ := m
  obtain ⟨-, -, -, hbody⟩ := hm
  cases mbody with
  | singular x =>
    obtain ⟨b, l, h1, h2⟩ := strsp_last E mpre hpre _ isKw_msgstr.kwHead x hbody hend
    exact ⟨ctxtLines mpre mctxt ++ (mid.lines mpre "msgid".toList ++ b), l, by simp only [MsgSp.lines, bodyLines, h1, List.append_assoc], h2⟩
  | plural p forms =>
    obtain ⟨hp, hne, hlen, hfv⟩ := hbody
    obtain ⟨b, l, h1, h2⟩ := forms_last E mpre hpre forms hne hfv hend 0 (by omega)
    exact ⟨ctxtLines mpre mctxt ++ (mid.lines mpre "msgid".toList ++ (p.lines mpre "msgid_plural".toList ++ b)), l,
      by simp only [MsgSp.lines, bodyLines, h1, List.append_assoc], h2⟩

theorem catalog_last (E : Codec) (cat : CatalogSp) (hv : cat.Valid E) : ∃ b l, cat.lines = b ++ [l] ∧ IsMsgLine l := by
  obtain ⟨_, _, _, hEs, hne, _, hlast⟩ := hv
  obtain ⟨e, he⟩ : ∃ e, cat.entries.getLast? = some e := ⟨_, List.getLast?_eq_some_getLast hne⟩
  obtain ⟨init, hinit⟩ := List.getLast?_eq_some_iff.1 he
  obtain ⟨b, l, h1, h2⟩ := msg_last E e.msg (hEs e (by rw [hinit]; simp)).msg (hlast e he)
  refine ⟨cat.noiseA.map Noise.render ++ (cat.header.map HeaderLine.render ++ (cat.noiseB.map Noise.render ++
    (init.flatMap EntrySp.lines ++ (e.comments.flatMap CommentSp.lines ++ b)))), l, ?_, h2⟩
  simp [CatalogSp.lines, hinit, EntrySp.lines, h1]

theorem noise_held (env : Env) (hsp : env.isSpace = pyIsSpace) (z : Noise) (hz : z.Valid) : Held env z.render := by
  -- a noise line is in normal form (`hn`), and `holdBack` has a clause for each kind
  cases z with
  | blank ws =>
    have hn : normalise ws = ws := normalise_of_head_ne_hash ws (by
      intro c r e hc; have := hz c (by rw [e]; simp); rw [hc] at this; exact absurd this (by decide))
    refine held_of_normalise hn ?_
    simp only [holdBack, hsp]
    cases ws with
    | nil => simp
    | cons a as =>
      have : allIn pyIsSpace (a :: as) = true := by
        simp only [allIn, List.isEmpty_cons, Bool.not_false, Bool.true_and, List.all_eq_true]
        exact fun x hx => hz x hx
      simp [this]
  | ignoredPrev lpad mid rpad =>
    obtain ⟨hl, hr, hm1, hm2⟩ := hz
    have hn : normalise (lpad ++ ('#' :: '~' :: '|' :: mid) ++ rpad) = lpad ++ ('#' :: '~' :: '|' :: mid) ++ rpad := by
      cases lpad with
      | nil => simp [normalise, atypical]
      | cons x xs => exact normalise_of_head_ne_hash _ fun c r e => (List.cons.inj e).1 ▸ blank_ne_hash hl x List.mem_cons_self
    refine held_of_normalise hn ?_
    have hsplit := (Tok.ignoredPrev hm1 hm2).split_pad 0 lpad rpad (blank_space lpad hl) hr
    simp only [List.cons_append, List.nil_append] at hsplit
    simp only [holdBack, hsp, isIgnoredComment, hsplit]
    simp
  | bare lpad k rpad =>
    obtain ⟨hl, hr, hk⟩ := hz
    have hksp : pyIsSpace k = false := by rcases hk with rfl | rfl | rfl <;> decide
    have hn : normalise (lpad ++ ['#', k] ++ rpad) = lpad ++ ['#', k] ++ rpad := by
      cases lpad with
      | nil => rcases hk with rfl | rfl | rfl <;> simp [normalise, atypical]
      | cons x xs => exact normalise_of_head_ne_hash _ fun c r e => (List.cons.inj e).1 ▸ blank_ne_hash hl x List.mem_cons_self
    refine held_of_normalise hn ?_
    have hsplit : splitWs pyIsSpace 1 (lpad ++ ['#', k] ++ rpad) = [['#', k]] := by
      have := (Tok.bare hksp).split_pad 0 lpad rpad (blank_space lpad hl) hr
      rwa [List.append_nil, List.nil_append, splitWs_blank 0 rpad hr] at this
    simp only [holdBack, hsp, isIgnoredComment, hsplit]
    rcases hk with rfl | rfl | rfl <;> simp

/-- the translator comments that start in the first column: `# …`, `#` alone before its line feed, atypical `#text` -/
theorem tcomment_held (env : Env) (rest : Text) (h : ∀ c r, rest = c :: r → c = ' ' ∨ ¬ (c = '.' ∨ c = ':' ∨ c = ',' ∨ c = '|' ∨ c = '~'))
    (hne : rest ≠ []) : Held env ('#' :: rest) := by
  obtain ⟨c, r, rfl⟩ := List.exists_cons_of_ne_nil hne
  -- either way the normalised line starts with `# `
  by_cases hsp : c = ' '
  · subst hsp
    exact held_of_normalise (normalise_of_not_atypical _ (by simp [atypical])) (holdBack_hash_blank env r)
  · have ha : atypical ('#' :: c :: r) = true := (atypical_hash_cons c r).2 ⟨hsp, (h c r rfl).resolve_left hsp⟩
    exact held_of_normalise (normalise_of_atypical _ ha) (holdBack_hash_blank env (c :: r))

theorem encodeText_pairs (E : Codec) (t : Text) (file : Bytes) (h : encodeText E t = some file) :
    ∃ pairs : List (Char × Bytes), file = (pairs.map (·.2)).flatten ∧ t = pairs.map (·.1) ∧ ∀ p ∈ pairs, E.encode p.1 = some p.2 := by
  induction t generalizing file with
  | nil => simp [encodeText] at h; exact ⟨[], by simp [h], rfl, by simp⟩
  | cons c cs ih =>
    simp only [encodeText] at h
    cases hc : E.encode c with
    | none => simp [hc] at h
    | some b =>
      cases hcs : encodeText E cs with
      | none => simp [hc, hcs] at h
      | some bs =>
        simp [hc, hcs] at h
        obtain ⟨pairs, h1, h2, h3⟩ := ih bs hcs
        refine ⟨(c, b) :: pairs, by simp [← h, h1], by simp [h2], ?_⟩
        intro p hp; simp at hp; rcases hp with rfl | hp
        · exact hc
        · exact h3 p hp

theorem tail_held (env : Env) (hsp : env.isSpace = pyIsSpace) (t : TailSp) (ht : t.Valid) : Held env t.render := by
  cases t with
  | noise z => exact noise_held env hsp z ht
  | comment rest => exact tcomment_held env rest ht.2 ht.1

end I18n.Lemmas.PoFile
