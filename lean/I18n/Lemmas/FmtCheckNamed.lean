import I18n.Model.FmtCheck
import I18n.Spec.FmtCompare
import I18n.Lemmas.Kit.List
import I18n.Lemmas.Kit.Assoc
/-!
# The comparators for named arguments (Python `%` with keys, python-brace, perl-brace)

The named part of `python.py`'s `check_args` and the whole of `pybrace.py`'s are one loop, `namedTags`, over a dict of use-lists;
it is compared with `Spec.FmtCompare` once, through a `view` that turns the uses of a key into its reference value
(`namedTags_eq`, `namedTags_tags`, `namedTags_silent`; what they ask of the kind's `clash` is `ClashSpec`).
Three look-ups meet here: `lookupKey` of the model, `valueAt`
of the reference, core's `List.lookup`.  The lemmas are stated of `valueAt` (`valueAt_*`, `mem_of_valueAt`); `lookupKey` is
rewritten to it on sight (`lookupKey_eq_valueAt`), and `valueAt_eq_lookup` is the door to `Kit/Assoc`.
-/
namespace I18n.FmtCheck
open I18n I18n.FmtSig I18n.Spec.FmtCompare

theorem silent_of_mem_iff {r : Except Py.Exc (List TagCall)} {P : TagCall → Prop}
    (h : ∃ tags, r = .ok tags ∧ ∀ t, t ∈ tags ↔ P t) (hP : ∀ t, ¬ P t) : r = .ok [] := by
  obtain ⟨tags, rfl, hiff⟩ := h
  rw [List.eq_nil_iff_forall_not_mem.2 fun t ht => hP t ((hiff t).1 ht)]

theorem insertBy_perm {α : Type} (lt : α → α → Bool) (x : α) : ∀ l : List α, (insertBy lt x l).Perm (x :: l)
  | [] => by simp [insertBy]
  | y :: ys => by
    simp only [insertBy]
    split
    · exact List.Perm.refl _
    · exact ((insertBy_perm lt x ys).cons y).trans (List.Perm.swap x y ys)

theorem sortBy_perm {α : Type} (lt : α → α → Bool) : ∀ l : List α, (sortBy lt l).Perm l
  | [] => by simp [sortBy]
  | x :: xs => by
    have ih := sortBy_perm lt xs
    simp only [sortBy, List.foldr_cons] at ih ⊢
    exact (insertBy_perm lt x _).trans (ih.cons x)

theorem mem_sortBy {α : Type} (lt : α → α → Bool) (l : List α) (x : α) : x ∈ sortBy lt l ↔ x ∈ l :=
  (sortBy_perm lt l).mem_iff

theorem sortBy_eq_nil {α : Type} (lt : α → α → Bool) (l : List α) : sortBy lt l = [] ↔ l = [] := by
  constructor
  · intro h
    have := (sortBy_perm lt l).length_eq
    rw [h] at this
    exact List.eq_nil_of_length_eq_zero this.symm
  · rintro rfl; rfl

theorem valueAt_eq_lookup {κ ν : Type} [DecidableEq κ] (m : Named κ ν) (k : κ) : valueAt m k = m.lookup k :=
  Kit.eq_lookup (fun _ => rfl) (fun _ _ _ _ => rfl) m k

theorem lookupKey_eq_lookup {κ ν : Type} [DecidableEq κ] (k : κ) (m : List (κ × ν)) : lookupKey k m = m.lookup k :=
  Kit.eq_lookup (g := fun d k => lookupKey k d) (fun _ => rfl) (fun _ _ _ _ => rfl) m k

theorem lookupKey_eq_valueAt {κ ν : Type} [DecidableEq κ] (k : κ) (m : List (κ × ν)) : lookupKey k m = valueAt m k :=
  (lookupKey_eq_lookup k m).trans (valueAt_eq_lookup m k).symm

theorem valueAt_isSome_iff {κ ν : Type} [DecidableEq κ] (k : κ) (m : Named κ ν) : (∃ v, valueAt m k = some v) ↔ k ∈ keys m := by
  rw [valueAt_eq_lookup, ← Option.isSome_iff_exists]
  exact Kit.isSome_lookup

theorem get_none_iff {κ ν : Type} [DecidableEq κ] (k : κ) (m : Named κ ν) : valueAt m k = none ↔ k ∉ keys m := by
  rw [← valueAt_isSome_iff k m]
  cases valueAt m k <;> simp

theorem mem_of_valueAt {κ ν : Type} [DecidableEq κ] {k : κ} {v : ν} {m : Named κ ν} (h : valueAt m k = some v) : (k, v) ∈ m :=
  Kit.lookup_mem (valueAt_eq_lookup m k ▸ h)

theorem valueAt_of_mem_nodup {κ ν : Type} [DecidableEq κ] {m : Named κ ν} {k : κ} {v : ν}
    (hn : (m.map (·.1)).Nodup) (h : (k, v) ∈ m) : valueAt m k = some v := by
  rw [valueAt_eq_lookup]
  -- the keys being distinct, two entries under one key are the same entry
  have hp : m.Pairwise fun a b => a.1 = b.1 → a = b := (List.pairwise_map.1 hn).imp fun hne e => absurd e hne
  exact Kit.lookup_of_mem k v m (fun v' hv' => congrArg Prod.snd
    (hp.forall_of_forall_of_flip (fun _ _ _ => rfl) (hp.imp fun h e => (h e.symm).symm) hv' h rfl)) h

theorem valueAt_map_inj {κ κ' ν ν' : Type} [DecidableEq κ] [DecidableEq κ'] (f : κ → κ') (hf : ∀ a b, f a = f b → a = b) (g : ν → ν') (k : κ) :
    ∀ m : List (κ × ν), valueAt (m.map fun p => (f p.1, g p.2)) (f k) = (valueAt m k).map g
  | [] => rfl
  | (k', v) :: rest => by
    simp only [List.map_cons, valueAt]
    by_cases h : k' = k
    · subst h; simp
    · have : ¬ f k' = f k := fun e => h (hf _ _ e)
      simp only [h, this, ↓reduceIte]
      exact valueAt_map_inj f hf g k rest

/-- the reference view of a dict of use-lists: each key with a value computed from its uses -/
def viewOf {κ ν τ : Type} (hd : List ν → τ) (m : List (κ × List ν)) : Named κ τ := m.map fun p => (p.1, hd p.2)

theorem keys_viewOf {κ ν τ : Type} (hd : List ν → τ) (m : List (κ × List ν)) : keys (viewOf hd m) = m.map (·.1) := by
  simp [keys, viewOf]

theorem valueAt_viewOf {κ ν τ : Type} [DecidableEq κ] (hd : List ν → τ) (k : κ) (m : List (κ × List ν)) :
    valueAt (viewOf hd m) k = (valueAt m k).map hd :=
  valueAt_map_inj id (fun _ _ h => h) hd k m

/-- a dict of use-lists as the parsers build it: distinct keys, each with a use.  That the loop returns (`namedTags_eq`) and
    what it emits (`namedTags_tags`) need the second half only; the tolerance step and the order of the output need both. -/
def MapWf {κ ν : Type} (m : List (κ × List ν)) : Prop := (m.map (·.1)).Nodup ∧ ∀ p ∈ m, p.2 ≠ []

/-- what the loop emits for one key -/
def clashAt {κ ν : Type} [DecidableEq κ] (clash : ν → ν → Option TagCall) (src dst : List (κ × List ν)) (k : κ) : List TagCall :=
  match valueAt src k, valueAt dst k with
  | some (s0 :: _), some (d0 :: _) => (clash s0 d0).toList
  | _, _ => []

/-- what `namedTags_tags` and `namedTags_silent` ask of `clash`: it looks at the first use on each side, returns a tag exactly when
    the reference values of the two keys (`view` of their uses) are not `compat`ible, and the tag is `typeTag` of these values -/
def ClashSpec {ν τ : Type} (clash : ν → ν → Option TagCall) (view : List ν → τ) (compat : τ → τ → Prop)
    (typeTag : τ → τ → TagCall) : Prop :=
  ∀ s0 sr d0 dr t, clash s0 d0 = some t ↔
    ¬ compat (view (s0 :: sr)) (view (d0 :: dr)) ∧ t = typeTag (view (s0 :: sr)) (view (d0 :: dr))

theorem mapTypeTags_ok {κ ν : Type} [DecidableEq κ] (clash : ν → ν → Option TagCall) (src dst : List (κ × List ν))
    (hs : ∀ p ∈ src, p.2 ≠ []) (hd : ∀ p ∈ dst, p.2 ≠ []) :
    ∀ ks : List κ, (∀ k ∈ ks, k ∈ keys src ∧ k ∈ keys dst) →
      mapTypeTags clash src dst ks = .ok (ks.flatMap (clashAt clash src dst)) := by
  intro ks
  induction ks with
  | nil => intro _; rfl
  | cons k ks ih =>
    intro hk
    obtain ⟨hks, hkd⟩ := hk k (by simp)
    obtain ⟨us, hus⟩ := (valueAt_isSome_iff k src).2 hks
    obtain ⟨ud, hud⟩ := (valueAt_isSome_iff k dst).2 hkd
    have hus' : us ≠ [] := hs _ (mem_of_valueAt hus)
    have hud' : ud ≠ [] := hd _ (mem_of_valueAt hud)
    cases us with
    | nil => exact absurd rfl hus'
    | cons s0 srest =>
      cases ud with
      | nil => exact absurd rfl hud'
      | cons d0 drest =>
        simp only [mapTypeTags, lookupKey_eq_valueAt, hus, hud, ih (fun k' hk' => hk k' (by simp [hk'])),
          List.flatMap_cons, clashAt]

/-- what the `check_args` of `python.py` (its named part) and of `pybrace.py` share: the loop over the common keys, the unknown
    keys, the missing keys after the tolerance step -/
def namedTags {κ ν : Type} [DecidableEq κ] [BEq κ] (lt : κ → κ → Bool) (clash : ν → ν → Option TagCall) (isInt : ν → Bool)
    (unknownTag missingTag : κ → TagCall) (src dst : List (κ × List ν)) (omittedOk : Bool) : Except Py.Exc (List TagCall) :=
  let sk := src.map (·.1)
  let dk := dst.map (·.1)
  match mapTypeTags clash src dst (sortBy lt (dk.filter fun k => sk.contains k)) with
  | .error e => .error e
  | .ok t1 =>
    match missingKeys isInt src (sk.filter fun k => !dk.contains k) omittedOk with
    | .error e => .error e
    | .ok missing =>
      .ok (t1 ++ (sortBy lt (dk.filter fun k => !sk.contains k)).map unknownTag ++ (sortBy lt missing).map missingTag)

theorem missing_singleton_iff {κ : Type} [BEq κ] [LawfulBEq κ] {sk dk : List κ} (hn : sk.Nodup) (k : κ) :
    sk.filter (fun x => !dk.contains x) = [k] ↔ (k ∈ sk ∧ k ∉ dk) ∧ ∀ k', (k' ∈ sk ∧ k' ∉ dk) → k' = k := by
  constructor
  · intro h
    have hm : ∀ x, x ∈ sk.filter (fun x => !dk.contains x) ↔ x = k := by rw [h]; simp
    simp only [List.mem_filter, List.contains_eq_mem, Bool.not_eq_eq_eq_not, Bool.not_true, decide_eq_false_iff_not] at hm
    exact ⟨(hm k).2 rfl, fun k' hk' => (hm k').1 hk'⟩
  · rintro ⟨⟨h1, h2⟩, h3⟩
    refine Kit.Nodup.eq_singleton_of_forall_eq (hn.filter _) (by simp [h1, h2]) fun x hx => ?_
    simp only [List.mem_filter, List.contains_eq_mem, Bool.not_eq_eq_eq_not, Bool.not_true, decide_eq_false_iff_not] at hx
    exact h3 x hx

/-- the decision of the tolerance step: allowed by the caller, exactly one key is missing, all its uses are integer -/
def mapTolerated {κ ν : Type} [DecidableEq κ] (isInt : ν → Bool) (src : List (κ × List ν)) (missing : List κ) (omittedOk : Bool) : Bool :=
  omittedOk && match missing with
    | [k] => (match valueAt src k with | some uses => uses.all isInt | none => false)
    | _ => false

theorem missingKeys_ok {κ ν : Type} [DecidableEq κ] (isInt : ν → Bool) (src : List (κ × List ν)) (missing : List κ) (omittedOk : Bool)
    (hm : ∀ k ∈ missing, k ∈ keys src) :
    missingKeys isInt src missing omittedOk = .ok (if mapTolerated isInt src missing omittedOk then [] else missing) := by
  unfold missingKeys mapTolerated
  cases omittedOk with
  | false => cases missing with
    | nil => simp
    | cons k ks => cases ks <;> simp
  | true =>
    cases missing with
    | nil => simp
    | cons k ks =>
      cases ks with
      | cons k2 ks2 => simp
      | nil =>
        obtain ⟨us, hus⟩ := (valueAt_isSome_iff k src).2 (hm k (by simp))
        simp only [↓reduceIte, lookupKey_eq_valueAt, hus, Bool.true_and]
        by_cases h : us.all isInt = true
        · simp [h]
        · simp only [Bool.not_eq_true] at h; simp [h]

theorem mem_filter_contains {κ : Type} [BEq κ] [LawfulBEq κ] (a b : List κ) (k : κ) :
    k ∈ a.filter (fun x => b.contains x) ↔ k ∈ a ∧ k ∈ b := by simp

theorem mem_filter_not_contains {κ : Type} [BEq κ] [LawfulBEq κ] (a b : List κ) (k : κ) :
    k ∈ a.filter (fun x => !b.contains x) ↔ k ∈ a ∧ k ∉ b := by simp

theorem mapTolerated_iff {κ ν τ : Type} [DecidableEq κ] [BEq κ] [LawfulBEq κ] (isInt : ν → Bool) (view : List ν → τ)
    (src dst : List (κ × List ν)) (hs : MapWf src) (omittedOk : Bool) :
    mapTolerated isInt src ((src.map (·.1)).filter fun k => !(dst.map (·.1)).contains k) omittedOk = true ↔
      omittedOk = true ∧ ∃ k uses, OnlyMissing (viewOf view src) (viewOf view dst) k ∧ valueAt src k = some uses ∧
        ∀ u ∈ uses, isInt u = true := by
  unfold mapTolerated OnlyMissing Missing
  rw [keys_viewOf, keys_viewOf]
  simp only [Bool.and_eq_true]
  constructor
  · rintro ⟨ho, h⟩
    refine ⟨ho, ?_⟩
    generalize hm : ((src.map (·.1)).filter fun k => !(dst.map (·.1)).contains k) = missing at h
    -- `mapTolerated` is `false` unless exactly one key is missing: for the other shapes of `missing`, `h` is `false = true`
    match missing, hm, h with
    | [k], hm, h =>
      simp only at h
      cases hu : valueAt src k with
      | none => rw [hu] at h; cases h
      | some uses =>
        rw [hu] at h
        exact ⟨k, uses, (missing_singleton_iff hs.1 k).1 hm, hu, by simpa using h⟩
  · rintro ⟨ho, k, uses, hk, hu, hall⟩
    rw [(missing_singleton_iff hs.1 k).2 hk]
    simp only [hu]
    exact ⟨ho, by simpa using hall⟩

theorem namedTags_eq {κ ν : Type} [DecidableEq κ] [BEq κ] [LawfulBEq κ] (lt : κ → κ → Bool) (clash : ν → ν → Option TagCall)
    (isInt : ν → Bool) (unknownTag missingTag : κ → TagCall) (src dst : List (κ × List ν)) (omittedOk : Bool)
    (hs : ∀ p ∈ src, p.2 ≠ []) (hd : ∀ p ∈ dst, p.2 ≠ []) :
    namedTags lt clash isInt unknownTag missingTag src dst omittedOk = .ok (
      (sortBy lt ((dst.map (·.1)).filter fun k => (src.map (·.1)).contains k)).flatMap (clashAt clash src dst) ++
      (sortBy lt ((dst.map (·.1)).filter fun k => !(src.map (·.1)).contains k)).map unknownTag ++
      (sortBy lt (if mapTolerated isInt src ((src.map (·.1)).filter fun k => !(dst.map (·.1)).contains k) omittedOk then []
        else (src.map (·.1)).filter fun k => !(dst.map (·.1)).contains k)).map missingTag) := by
  have h1 := mapTypeTags_ok clash src dst hs hd (sortBy lt ((dst.map (·.1)).filter fun k => (src.map (·.1)).contains k))
    fun k hk => by
      rw [mem_sortBy, mem_filter_contains] at hk
      exact ⟨hk.2, hk.1⟩
  have h2 := missingKeys_ok isInt src ((src.map (·.1)).filter fun k => !(dst.map (·.1)).contains k) omittedOk
    fun k hk => ((mem_filter_not_contains _ _ k).1 hk).1
  simp only [namedTags, h1, h2]

theorem mem_clashAt {κ ν τ : Type} [DecidableEq κ] {clash : ν → ν → Option TagCall} {view : List ν → τ} {compat : τ → τ → Prop}
    {typeTag : τ → τ → TagCall}
    (hclash : ClashSpec clash view compat typeTag)
    {src dst : List (κ × List ν)} (hs : ∀ p ∈ src, p.2 ≠ []) (hd : ∀ p ∈ dst, p.2 ≠ []) (k : κ) (t : TagCall) :
    t ∈ clashAt clash src dst k ↔
      ∃ a b, TypeDiffKey compat (viewOf view src) (viewOf view dst) k a b ∧ t = typeTag a b := by
  unfold clashAt TypeDiffKey
  rw [valueAt_viewOf, valueAt_viewOf]
  cases hus : valueAt src k with
  | none => simp
  | some us =>
    cases hud : valueAt dst k with
    | none => simp
    | some ud =>
      cases us with
      | nil => exact absurd rfl (hs _ (mem_of_valueAt hus))
      | cons s0 sr =>
        cases ud with
        | nil => exact absurd rfl (hd _ (mem_of_valueAt hud))
        | cons d0 dr =>
          simp only [Option.mem_toList, hclash s0 sr d0 dr, Option.map_some, Option.some.injEq]
          exact ⟨fun ⟨h1, h2⟩ => ⟨_, _, ⟨rfl, rfl, h1⟩, h2⟩, fun ⟨_, _, ⟨rfl, rfl, h1⟩, h2⟩ => ⟨h1, h2⟩⟩

theorem mem_unknownTags {κ : Type} [BEq κ] [LawfulBEq κ] (lt : κ → κ → Bool) (tag : κ → TagCall) (sk dk : List κ) (t : TagCall) :
    t ∈ (sortBy lt (dk.filter fun k => !sk.contains k)).map tag ↔ ∃ k, (k ∈ dk ∧ k ∉ sk) ∧ t = tag k := by
  rw [List.mem_map]
  constructor
  · rintro ⟨k, hk, rfl⟩
    exact ⟨k, (mem_filter_not_contains _ _ k).1 ((mem_sortBy ..).1 hk), rfl⟩
  · rintro ⟨k, hk, rfl⟩
    exact ⟨k, (mem_sortBy ..).2 ((mem_filter_not_contains _ _ k).2 hk), rfl⟩

theorem mem_missingTags {κ : Type} [BEq κ] [LawfulBEq κ] (lt : κ → κ → Bool) (tag : κ → TagCall) (sk dk : List κ) (tol : Bool)
    (t : TagCall) :
    t ∈ (sortBy lt (if tol then [] else sk.filter fun k => !dk.contains k)).map tag ↔
      ∃ k, (k ∈ sk ∧ k ∉ dk) ∧ tol = false ∧ t = tag k := by
  cases tol
  · simpa using mem_unknownTags lt tag dk sk t
  · simp [sortBy]

theorem namedTags_tags {κ ν τ : Type} [DecidableEq κ] [BEq κ] [LawfulBEq κ] (lt : κ → κ → Bool) {clash : ν → ν → Option TagCall}
    (isInt : ν → Bool) (unknownTag missingTag : κ → TagCall) {view : List ν → τ} {compat : τ → τ → Prop} {typeTag : τ → τ → TagCall}
    (hclash : ClashSpec clash view compat typeTag)
    (src dst : List (κ × List ν)) (omittedOk : Bool) (hs : ∀ p ∈ src, p.2 ≠ []) (hd : ∀ p ∈ dst, p.2 ≠ []) :
    ∃ tags, namedTags lt clash isInt unknownTag missingTag src dst omittedOk = .ok tags ∧
      ∀ t, t ∈ tags ↔
        (∃ k a b, TypeDiffKey compat (viewOf view src) (viewOf view dst) k a b ∧ t = typeTag a b) ∨
        (∃ k, Unknown (viewOf view src) (viewOf view dst) k ∧ t = unknownTag k) ∨
        (∃ k, Missing (viewOf view src) (viewOf view dst) k ∧
          mapTolerated isInt src ((src.map (·.1)).filter fun k => !(dst.map (·.1)).contains k) omittedOk = false ∧
          t = missingTag k) := by
  refine ⟨_, namedTags_eq lt clash isInt unknownTag missingTag src dst omittedOk hs hd, fun t => ?_⟩
  rw [List.mem_append, List.mem_append, List.mem_flatMap, mem_unknownTags, mem_missingTags, or_assoc]
  unfold Unknown Missing
  rw [keys_viewOf, keys_viewOf]
  refine or_congr ⟨?_, ?_⟩ Iff.rfl
  · rintro ⟨k, _, hk⟩
    obtain ⟨a, b, h, rfl⟩ := (mem_clashAt hclash hs hd k t).1 hk
    exact ⟨k, a, b, h, rfl⟩
  · rintro ⟨k, a, b, h, rfl⟩
    have hk1 := (valueAt_isSome_iff k (viewOf view src)).1 ⟨a, h.1⟩
    have hk2 := (valueAt_isSome_iff k (viewOf view dst)).1 ⟨b, h.2.1⟩
    rw [keys_viewOf] at hk1 hk2
    exact ⟨k, (mem_sortBy ..).2 ((mem_filter_contains _ _ k).2 ⟨hk2, hk1⟩), (mem_clashAt hclash hs hd k _).2 ⟨a, b, h, rfl⟩⟩

theorem sameNamed_of_valueAt_eq {κ τ : Type} [DecidableEq κ] {compat : τ → τ → Prop} {src dst : Named κ τ}
    (h : ∀ k, valueAt src k = valueAt dst k) (hrefl : ∀ k a, valueAt src k = some a → compat a a) : SameNamed compat src dst := by
  refine ⟨fun k => by rw [← valueAt_isSome_iff, ← valueAt_isSome_iff, h k], fun k a b ha hb => ?_⟩
  obtain rfl : a = b := Option.some.inj (ha.symm.trans ((h k).trans hb))
  exact hrefl k a ha

theorem sameNamed_no_difference {κ τ : Type} [DecidableEq κ] {compat : τ → τ → Prop} {src dst : Named κ τ}
    (h : SameNamed compat src dst) :
    (∀ k a b, ¬ TypeDiffKey compat src dst k a b) ∧ (∀ k, ¬ Unknown src dst k) ∧ (∀ k, ¬ Missing src dst k) :=
  ⟨fun k a b hd => hd.2.2 (h.2 k a b hd.1 hd.2.1), fun k hk => hk.2 ((h.1 k).2 hk.1), fun k hk => hk.2 ((h.1 k).1 hk.1)⟩

theorem namedTags_silent {κ ν τ : Type} [DecidableEq κ] [BEq κ] [LawfulBEq κ] (lt : κ → κ → Bool) {clash : ν → ν → Option TagCall}
    (isInt : ν → Bool) (unknownTag missingTag : κ → TagCall) {view : List ν → τ} {compat : τ → τ → Prop} {typeTag : τ → τ → TagCall}
    (hclash : ClashSpec clash view compat typeTag)
    (src dst : List (κ × List ν)) (omittedOk : Bool) (hs : ∀ p ∈ src, p.2 ≠ []) (hd : ∀ p ∈ dst, p.2 ≠ [])
    (h : SameNamed compat (viewOf view src) (viewOf view dst)) :
    namedTags lt clash isInt unknownTag missingTag src dst omittedOk = .ok [] := by
  obtain ⟨h1, h2, h3⟩ := sameNamed_no_difference h
  refine silent_of_mem_iff (namedTags_tags lt isInt unknownTag missingTag hclash src dst omittedOk hs hd) fun t ht => ?_
  rcases ht with ⟨k, a, b, hk, _⟩ | ⟨k, hk, _⟩ | ⟨k, hk, _⟩
  · exact h1 k a b hk
  · exact h2 k hk
  · exact h3 k hk

end I18n.FmtCheck
