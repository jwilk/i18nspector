import I18n.Spec.CharsetIconv
import I18n.Lemmas.CharsetIconv
/-!
# C20: the iconv-backed codecs end to end — the retry loop of `lib/iconv.py` against the *reference iconv* of `Spec/CharsetIconv`

`refDec_spec` / `refEnc_spec`: one call answers E2BIG when told too little, else does what converting unit by unit does, an
offending unit left unconsumed.  So the loop returns exactly the charset's decoding / encoding, `UnicodeDecodeError.start` at
the offending unit, after at most two E2BIG rounds: the first round is told `len(input)` bytes, and `4 · len(input)` always do.

Decoding keeps the contract `ConvertsTo` (`refDec_converts`: E2BIG exactly below `4 · len(text)`) and goes through
`decodeLoop_returns`.  Encoding has no such threshold in terms of the bytes written: `refEncGo` wants one byte of room before
it looks at a character, so a text that ends in a character written as no byte at all (a TAG character under EUC-TW) is
answered E2BIG when told exactly `len(bytes)`, a text that does not is not.  `encodeDl_ref_ok` therefore uses `told_enough`
directly.
-/
namespace I18n.Charset

/-! ## a charset, described unit by unit -/

/-- what a unit description must satisfy for the reference iconv to make progress and stay inside the input -/
structure UnitFn.WF (unit : UnitFn) : Prop where
  done_iff : ∀ bs, unit bs = .done ↔ bs = []
  char_len : ∀ bs len ch, unit bs = .char len ch → 1 ≤ len ∧ len ≤ bs.length

theorem wchars_le32 (c : Nat) (rest : List UInt8) (h : c < 4294967296) : wchars (le32 c ++ rest) = c :: wchars rest := by
  simp only [le32, List.cons_append, List.nil_append, wchars, UInt8.toNat_ofNat', List.cons.injEq, and_true]
  omega

theorem wchars_flatMap_le32 : ∀ (cs : List Nat), (∀ c ∈ cs, c < 4294967296) → wchars (cs.flatMap le32) = cs := by
  intro cs
  induction cs with
  | nil => intro _; rfl
  | cons c cs ih =>
    intro h
    rw [List.flatMap_cons, wchars_le32 c _ (h c (by simp)), ih (fun x hx => h x (List.mem_cons_of_mem _ hx))]

theorem length_flatMap_le32 (cs : List Nat) : (cs.flatMap le32).length = 4 * cs.length := by
  induction cs with
  | nil => rfl
  | cons c cs ih => rw [List.flatMap_cons, List.length_append, ih]; simp [le32]; omega

/-! ## the reference iconv, decoding direction -/

/-- the answer `g` of one call of the reference iconv on `bs`, against the spec loop on `bs`.  `i` is the offset the spec loop counts from (what
    it reports on error), `k` the bytes the call has consumed before `bs`: an offending unit at `s` leaves `consumed - k = s - i`.
    The last clause of the error arm (told `4 · |bs|`, the answer is not E2BIG) is the "told enough" of `decodeDl_ref_err`. -/
theorem refDec_spec (unit : UnitFn) (hwf : unit.WF) : ∀ (fuel : Nat) (bs : List UInt8) (i k room : Nat), bs.length ≤ fuel →
    ∀ g, refDecGo unit fuel bs k room = g →
    match unitDecodeLoop unit fuel i bs with
    | .ok cs => cs.length ≤ bs.length ∧ (room < 4 * cs.length → g.rc = .e2big) ∧
        (4 * cs.length ≤ room → g.rc = .ok ∧ g.consumed = k + bs.length ∧ g.written = cs.flatMap le32)
    | .error (s, _) => (i ≤ s ∧ s < i + bs.length) ∧
        (g.rc = .e2big ∨ ((g.rc = .eilseq ∨ g.rc = .einval) ∧ g.consumed + i = k + s)) ∧
        (4 * bs.length ≤ room → g.rc ≠ .e2big) := by
  intro fuel
  induction fuel with
  | zero =>
    intro bs i k room hf g hg
    subst hg
    have : bs = [] := List.eq_nil_of_length_eq_zero (by omega)
    subst this
    simp [unitDecodeLoop, refDecGo]
  | succ fuel ih =>
    intro bs i k room hf g hg
    subst hg
    rw [unitDecodeLoop, refDecGo]
    cases hu : unit bs with
    | done =>
      have := (hwf.done_iff bs).1 hu
      subst this
      simp
    | illegal | incomplete =>
      have hb : 1 ≤ bs.length := by
        cases bs with
        | nil => rw [(hwf.done_iff []).2 rfl] at hu; cases hu
        | cons b rest => simp
      -- the offending unit is the first: the spec loop reports `s = i`, the call has consumed `k` and nothing of `bs`
      dsimp only
      by_cases hn : room < 4
      · -- no room for a wide character: E2BIG, and so little room is not `4 · |bs|`
        rw [if_pos hn]
        exact ⟨⟨Nat.le_refl i, by omega⟩, .inl rfl, fun hroom => by omega⟩
      · rw [if_neg hn]
        exact ⟨⟨Nat.le_refl i, by omega⟩, .inr ⟨by simp, rfl⟩, fun _ => nofun⟩
    | char len ch =>
      obtain ⟨hl1, hl2⟩ := hwf.char_len bs len ch hu
      have hlen : (bs.drop len).length + len = bs.length := by rw [List.length_drop]; exact Nat.sub_add_cancel hl2
      have hrec := ih (bs.drop len) (i + len) (k + len) (room - 4) (by omega) _ rfl
      simp only
      cases hd : unitDecodeLoop unit fuel (i + len) (bs.drop len) with
      | ok cs' =>
        rw [hd] at hrec
        obtain ⟨h1, h2, h3⟩ := hrec
        simp only [Except.map, List.length_cons, List.flatMap_cons]
        refine ⟨by omega, fun hroom => ?_, fun hroom => ?_⟩
        · by_cases hn : room < 4
          · rw [if_pos hn]
          · rw [if_neg hn]; exact h2 (by omega)
        · rw [if_neg (by omega)]
          obtain ⟨a, b, c⟩ := h3 (by omega)
          exact ⟨a, by rw [b]; omega, by rw [c]⟩
      | error e =>
        obtain ⟨s, inc⟩ := e
        rw [hd] at hrec
        obtain ⟨h1, h2, h3⟩ := hrec
        simp only [Except.map]
        refine ⟨by omega, ?_, fun hroom => ?_⟩
        · by_cases hn : room < 4
          · rw [if_pos hn]; exact .inl rfl
          · rw [if_neg hn]
            rcases h2 with h2 | ⟨h2, hc⟩
            · exact .inl h2
            · exact .inr ⟨h2, by simp only; omega⟩
        · rw [if_neg (by omega)]; exact h3 (by omega)

/-! ## the reference iconv as the loop sees it -/

theorem callBoth_flush_noop (inLen told : Nat) (m : Call) :
    callBoth inLen told ⟨none, m, ⟨.ok, 0, []⟩⟩ = ⟨m.rc, inLen - m.consumed, told - m.written.length, m.written⟩ := by
  unfold callBoth
  cases h : m.rc <;> simp

theorem callBoth_refDecStep (unit : UnitFn) (bs : List UInt8) (told : Nat) :
    callBoth bs.length told (refDecStep unit bs told) =
      ⟨(refDecGo unit bs.length bs 0 told).rc, bs.length - (refDecGo unit bs.length bs 0 told).consumed,
        told - (refDecGo unit bs.length bs 0 told).written.length, (refDecGo unit bs.length bs 0 told).written⟩ :=
  callBoth_flush_noop _ _ _

theorem callBoth_refEncStep (enc : Nat → Option (List UInt8)) (cs : List Nat) (told : Nat) :
    callBoth (4 * cs.length) told (refEncStep enc cs told) =
      ⟨(refEncGo enc cs 0 told).rc, 4 * cs.length - (refEncGo enc cs 0 told).consumed,
        told - (refEncGo enc cs 0 told).written.length, (refEncGo enc cs 0 told).written⟩ :=
  callBoth_flush_noop _ _ _

theorem more_refDecStep (unit : UnitFn) (bs : List UInt8) (told : Nat) :
    More (refDecStep unit bs) bs.length told ↔ (refDecGo unit bs.length bs 0 told).rc = .e2big :=
  Iff.trans (more_iff_of_reset rfl) (by rw [callBoth_refDecStep])

theorem more_refEncStep (enc : Nat → Option (List UInt8)) (cs : List Nat) (told : Nat) :
    More (refEncStep enc cs) (4 * cs.length) told ↔ (refEncGo enc cs 0 told).rc = .e2big :=
  Iff.trans (more_iff_of_reset rfl) (by rw [callBoth_refEncStep])

/-! ## **decoding through the loop = decoding unit by unit** -/

theorem refDec_converts (unit : UnitFn) (hwf : unit.WF) (bs : List UInt8) (cs : List Nat)
    (h : unitDecodeLoop unit bs.length 0 bs = .ok cs) :
    ConvertsTo (refDecStep unit bs) bs.length (cs.flatMap le32) (4 * cs.length) := by
  have hspec := fun told => refDec_spec unit hwf _ bs 0 0 told (Nat.le_refl _) _ rfl
  simp only [h] at hspec
  refine ⟨by rw [length_flatMap_le32]; exact Nat.le_refl _, fun told ht => ⟨rfl, ?_⟩, fun told ht => ?_⟩
  · obtain ⟨_, hsmall, _⟩ := hspec told
    rw [callBoth_refDecStep]; exact hsmall ht
  · obtain ⟨_, _, hbig⟩ := hspec told
    obtain ⟨hrc, hcons, hw⟩ := hbig ht
    refine ⟨rfl, ?_, ?_, ?_⟩
    · rw [callBoth_refDecStep]; exact hrc
    · rw [← Nat.zero_add bs.length]; exact hcons
    · rw [callBoth_refDecStep]; exact hw

theorem decodeDl_ref_ok (unit : UnitFn) (hwf : unit.WF) (bs : List UInt8) (cs : List Nat) (fuel : Nat)
    (h : unitDecodeLoop unit bs.length 0 bs = .ok cs) (hvalid : ∀ c ∈ cs, c ≤ 0x10FFFF) (hfuel : 3 ≤ fuel) :
    (decodeDl (refDecStep unit bs) bs fuel).1 = .ok cs := by
  have hwc : wchars (cs.flatMap le32) = cs :=
    wchars_flatMap_le32 cs fun c hc => Nat.lt_of_le_of_lt (hvalid c hc) (by decide)
  refine decodeDl_outcome _ bs fuel (· = .ok cs) (fun hnil => ?_) (fun _ => ?_)
  · subst hnil; cases h; rfl
  · have hspec := refDec_spec unit hwf _ bs 0 0 0 (Nat.le_refl _) _ rfl
    rw [h] at hspec
    rw [← hwc]
    -- four bytes per character, at most one character per byte (`hspec.1`): the third round is told enough
    refine decodeLoop_returns _ _ _ _ cs.length (refDec_converts unit hwf bs cs h) (length_flatMap_le32 cs) ?_
      (j := 2) (by have := hspec.1; omega) (by omega)
    rw [hwc, List.any_eq_false]
    exact fun c hc => by simpa using hvalid c hc

theorem decodeDl_ref_err (unit : UnitFn) (hwf : unit.WF) (bs : List UInt8) (s : Nat) (inc : Bool) (fuel : Nat)
    (h : unitDecodeLoop unit bs.length 0 bs = .error (s, inc)) (hfuel : 3 ≤ fuel) :
    (decodeDl (refDecStep unit bs) bs fuel).1 = .unicodeError s (syncEnd bs s) ∧ s < syncEnd bs s ∧ syncEnd bs s ≤ bs.length := by
  have hfacts := fun told => refDec_spec unit hwf bs.length bs 0 0 told (Nat.le_refl _) _ rfl
  simp only [h] at hfacts
  have hs : s < bs.length := by obtain ⟨⟨_, hlt⟩, _, _⟩ := hfacts 0; omega
  refine ⟨decodeDl_outcome _ bs fuel (fun o => o = .unicodeError s (syncEnd bs s)) (fun hnil => ?_) (fun _ => ?_),
    syncEnd_span bs s hs⟩
  · subst hnil; exact absurd hs (Nat.not_lt_zero _)
  · refine (decodeLoop_retry _ bs).told_enough (fun o => o = .unicodeError s (syncEnd bs s)) (4 * bs.length)
      (fun told hneed hm => ?_) (fun told hm => ?_) (k := 2) (by omega) (by omega)
    · obtain ⟨_, _, henough⟩ := hfacts told
      exact henough hneed ((more_refDecStep unit bs told).1 hm)
    · obtain ⟨_, he | ⟨hk, hc⟩, _⟩ := hfacts told
      · exact (hm ((more_refDecStep unit bs told).2 he)).elim
      · have hstart : bs.length - (bs.length - (refDecGo unit bs.length bs 0 told).consumed) = s := by omega
        show (decodeLoop _ bs 1 told).1 = _
        rw [decodeLoop_illegal _ bs 0 told rfl (by rw [callBoth_refDecStep]; exact hk)]
        simp only [callBoth_refDecStep, hstart]

/-! ## the reference iconv, encoding direction -/

theorem encodeAllFrom_ok_iff (enc : Nat → Option (List UInt8)) : ∀ (cs : List Nat) (i : Nat),
    (∃ bs, encodeAllFrom enc i cs = .ok bs) ↔ ∀ c ∈ cs, (enc c).isSome = true := by
  intro cs
  induction cs with
  | nil => intro i; simp [encodeAllFrom]
  | cons c cs ih =>
    intro i
    rw [List.forall_mem_cons, ← ih (i + 1), encodeAllFrom]
    cases enc c with
    | none => simp
    | some u => cases encodeAllFrom enc (i + 1) cs <;> simp [Except.map]

/- In this section `hmax` bounds a character's bytes by 4, the longest EUC-TW unit: then `4 · len(text)` bytes of room always
   do, which the third round is told (`n · 2² = 4n`: `(k := 2)`, `3 ≤ fuel`), as on the decoding side. -/

theorem encodeAllFrom_bound (enc : Nat → Option (List UInt8)) (hmax : ∀ c u, enc c = some u → u.length ≤ 4) :
    ∀ (cs : List Nat) (i : Nat),
    match encodeAllFrom enc i cs with
    | .ok bs => bs.length ≤ 4 * cs.length
    | .error e => i ≤ e ∧ e < i + cs.length := by
  intro cs
  induction cs with
  | nil => intro i; exact Nat.le_refl 0
  | cons c cs ih =>
    intro i
    rw [encodeAllFrom, List.length_cons]
    cases hc : enc c with
    | none => exact ⟨Nat.le_refl i, Nat.lt_add_of_pos_right (Nat.succ_pos _)⟩
    | some u =>
      have hu := hmax c u hc
      have hrest := ih (i + 1)
      cases hrec : encodeAllFrom enc (i + 1) cs with
      | ok bs =>
        rw [hrec] at hrest
        simp only [Except.map, List.length_append]
        omega
      | error e =>
        rw [hrec] at hrest
        simp only [Except.map]
        omega

theorem refEncGo_enough (enc : Nat → Option (List UInt8)) (hmax : ∀ c u, enc c = some u → u.length ≤ 4) :
    ∀ (cs : List Nat) (k room : Nat), 4 * cs.length ≤ room → (refEncGo enc cs k room).rc ≠ .e2big := by
  intro cs
  induction cs with
  | nil => intro k room _; exact nofun
  | cons c cs ih =>
    intro k room hroom
    rw [List.length_cons] at hroom
    rw [refEncGo, if_neg (by omega)]
    cases hc : enc c with
    | none => exact nofun
    | some u =>
      have hu := hmax c u hc
      simp only
      rw [if_neg (by omega)]
      exact ih (k + 1) (room - u.length) (by omega)

theorem refEnc_spec (enc : Nat → Option (List UInt8)) : ∀ (cs : List Nat) (i k room : Nat) (g : Call), refEncGo enc cs k room = g →
    match encodeAllFrom enc i cs with
    | .ok bs => g.rc = .e2big ∨ (g.rc = .ok ∧ g.consumed = 4 * (k + cs.length) ∧ g.written = bs ∧ bs.length ≤ room)
    | .error e => g.rc = .e2big ∨ (g.rc = .eilseq ∧ g.consumed + 4 * i = 4 * k + 4 * e) := by
  intro cs
  induction cs with
  | nil => intro i k room g hg; subst hg; exact .inr ⟨rfl, rfl, rfl, Nat.zero_le _⟩
  | cons c cs ih =>
    intro i k room g hg
    subst hg
    rw [refEncGo, encodeAllFrom, List.length_cons]
    cases hc : enc c with
    | none =>
      by_cases h0 : room = 0
      · exact .inl (by rw [if_pos h0])
      · exact .inr (by rw [if_neg h0]; exact ⟨rfl, rfl⟩)
    | some u =>
      have hrest := ih (i + 1) (k + 1) (room - u.length) _ rfl
      cases hrec : encodeAllFrom enc (i + 1) cs with
      | ok bs =>
        rw [hrec] at hrest
        simp only [Except.map]
        by_cases h0 : room = 0
        · exact .inl (by rw [if_pos h0])
        · rw [if_neg h0]
          by_cases hlt : room < u.length
          · exact .inl (by rw [if_pos hlt])
          · rw [if_neg hlt]
            rcases hrest with he | ⟨hrc, hcons, hw, hfit⟩
            · exact .inl he
            · exact .inr ⟨hrc, by rw [hcons]; omega, by rw [hw], by rw [List.length_append]; omega⟩
      | error e =>
        rw [hrec] at hrest
        simp only [Except.map]
        by_cases h0 : room = 0
        · exact .inl (by rw [if_pos h0])
        · rw [if_neg h0]
          by_cases hlt : room < u.length
          · exact .inl (by rw [if_pos hlt])
          · rw [if_neg hlt]
            rcases hrest with he | ⟨hrc, hcons⟩
            · exact .inl he
            · exact .inr ⟨hrc, by simp only; omega⟩

/-! ## **encoding through the loop = encoding character by character** -/

theorem encodeDl_ref_ok (enc : Nat → Option (List UInt8)) (hmax : ∀ c u, enc c = some u → u.length ≤ 4)
    (cs : List Nat) (bs : List UInt8) (fuel : Nat) (h : encodeAllFrom enc 0 cs = .ok bs) (hfuel : 3 ≤ fuel) :
    (encodeDl (refEncStep enc cs) cs.length fuel).1 = .ok bs := by
  have hspec := fun told => refEnc_spec enc cs 0 0 told _ rfl
  simp only [h] at hspec
  refine encodeDl_outcome _ cs.length fuel (fun o => o = .ok bs) (fun hnil => ?_) (fun _ => ?_)
  · obtain rfl := List.eq_nil_of_length_eq_zero hnil
    cases h; rfl
  · refine (encodeLoop_retry _ cs.length).told_enough (fun o => o = .ok bs) (4 * cs.length)
      (fun told hneed hm => refEncGo_enough enc hmax cs 0 told hneed ((more_refEncStep enc cs told).1 hm)) (fun told hm => ?_)
      (k := 2) (by omega) (by omega)
    rcases hspec told with he | ⟨hrc, hcons, hw, hfit⟩
    · exact (hm ((more_refEncStep enc cs told).2 he)).elim
    · refine encodeLoop_ok _ _ 0 told bs ⟨rfl, ?_, ?_, ?_⟩ hfit
      · rw [callBoth_refEncStep]; exact hrc
      · rw [← Nat.zero_add cs.length]; exact hcons
      · rw [callBoth_refEncStep]; exact hw

theorem encodeDl_ref_err (enc : Nat → Option (List UInt8)) (hmax : ∀ c u, enc c = some u → u.length ≤ 4)
    (cs : List Nat) (e : Nat) (fuel : Nat) (h : encodeAllFrom enc 0 cs = .error e) (hfuel : 3 ≤ fuel) :
    (encodeDl (refEncStep enc cs) cs.length fuel).1 = .unicodeError e (e + 1) ∧ e < cs.length := by
  have hspec := fun told => refEnc_spec enc cs 0 0 told _ rfl
  simp only [h] at hspec
  have he : e < cs.length := by
    have := encodeAllFrom_bound enc hmax cs 0
    rw [h] at this
    omega
  refine ⟨encodeDl_outcome _ cs.length fuel (fun o => o = .unicodeError e (e + 1)) (fun hnil => ?_) (fun _ => ?_), he⟩
  · omega
  · refine (encodeLoop_retry _ cs.length).told_enough (fun o => o = .unicodeError e (e + 1)) (4 * cs.length)
      (fun told hneed hm => refEncGo_enough enc hmax cs 0 told hneed ((more_refEncStep enc cs told).1 hm)) (fun told hm => ?_)
      (k := 2) (by omega) (by omega)
    rcases hspec told with h1 | ⟨hk, hc⟩
    · exact (hm ((more_refEncStep enc cs told).2 h1)).elim
    · have hstart : cs.length - (4 * cs.length - (refEncGo enc cs 0 told).consumed) / 4 = e := by omega
      show (encodeLoop _ cs.length 1 told).1 = _
      rw [encodeLoop_illegal _ cs.length 0 told rfl (by rw [callBoth_refEncStep]; exact .inl hk)]
      simp only [callBoth_refEncStep, hstart]

end I18n.Charset
