import I18n.Lemmas.CharsetCheck
/-!
# C20: the registry of the running interpreter with the tool installed, as the model computes it (`codecs.lookup(name).name`):
# it does not look at ASCII case, and it gives the registry's answer on every row of CodecFacts
-/
namespace I18n.Charset

theorem isAlnumDot_upperCp (c : Nat) : isAlnumDot (upperCp c) = isAlnumDot c := by
  unfold isAlnumDot upperCp
  by_cases h : 97 ≤ c ∧ c ≤ 122
  · simp [h]
    omega
  · simp only [h, if_false]

theorem cNormalizeAux_upper : ∀ (cs : List Nat) (p s : Bool), cNormalizeAux (upper cs) p s = cNormalizeAux cs p s := by
  intro cs
  induction cs with
  | nil => intro p s; rfl
  | cons c cs ih =>
    intro p s
    simp only [upper, List.map_cons, cNormalizeAux, isAlnumDot_upperCp, lowerCp_upperCp]
    simp only [upper] at ih
    simp only [ih]

theorem cNormalize_upper (n : Name) : cNormalize (upper n) = cNormalize n := cNormalizeAux_upper n false false

theorem registryLookup_upper (aliases : List (Name × Name)) (modules : List (Name × Option Name)) (unm : List (Name × Name))
    (tbl : List (Name × Bool)) (extra : List Name) (n : Name) :
    registryLookup aliases modules unm tbl extra (upper n) = registryLookup aliases modules unm tbl extra n := by
  unfold registryLookup
  rw [cNormalize_upper]

end I18n.Charset

namespace I18n.Charset.Tables
open I18n.Generated.Charset

def registry (name : Name) : Option Name :=
  registryLookup pyAliases pyModules unmangle portableEncodings extraEncodings name

/-- **the model of `codecs.lookup` reproduces the registry's answer for every codec name known to Python, gettext or the tool** -/
theorem registry_rows : (codecFactsChunks.all fun ch => ch.all fun r => registry r.name == r.codec) = true := by
  -- every dictionary look-up of the registry becomes a look-up by radix (`assocBits_eq`), so that the kernel sifts the alias and
  -- module tables once instead of walking them again for each name; eight bits, for some 350 aliases and 119 modules (six do for
  -- the forty-odd entries of the tables in `CharsetTables`)
  simp only [registry, registryLookup, pySearch, ← assocBits_eq List.sum _ 8]
  decide +kernel

/-- every value of `_pycodec_to_encoding`, upper-cased as a proposal is, resolves to its key — in the MODEL of the registry (so for
    the model the closure hypothesis of `proposal_sound` is a theorem) -/
theorem registry_c2e_closed : (pycodecToEncoding.all fun kv => registry (upper kv.2) == some kv.1) = true := by
  -- as in `registry_rows`
  simp only [registry, registryLookup, pySearch, ← assocBits_eq List.sum _ 8]
  decide +kernel

end I18n.Charset.Tables
