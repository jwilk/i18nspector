import I18n.Model.PyBrace
/-
Pins for C13: the regex parse trees that `matchAt_fieldRe`, `matchAt_simpleFieldRe`, `matchAt_formatSpecRe` are proved about
(the `*_pin` equations fail when a live pattern, its flags or its groups change), and both models — python-brace and
perl-brace — evaluated by the kernel on the probes of the live modules, with the outcome codes `probeCode`, `perlProbeCode`
that `Props.C13.probes_pin` quotes.
-/
namespace I18n.PyBrace
open I18n.Spec.BraceRe
open I18n.Generated.PyBraceTables

/-- the parse tree of `_field_re` that `matchAt_fieldRe` reads as `scanLiteral` / `scanField` -/
def pinnedFieldRe : Re :=
  (.alt (.group 1 (.plus (.alt (.cls true [.lit 123, .lit 125]) (.alt (.seq (.cls false [.lit 123]) (.cls false [.lit 123])) (.seq (.cls false [.lit 125]) (.cls false [.lit 125])))))) (.seq (.cls false [.lit 123]) (.seq (.opt (.group 2 (.seq (.alt (.plus (.cls false [.digit])) (.seq (.cls true [.notWord, .digit]) (.star (.cls false [.word])))) (.star (.alt (.seq (.cls false [.lit 46]) (.seq (.cls true [.notWord, .digit]) (.star (.cls false [.word])))) (.seq (.cls false [.lit 91]) (.seq (.plus (.cls true [.lit 93])) (.cls false [.lit 93])))))))) (.seq (.opt (.group 3 (.seq (.cls false [.lit 33]) (.plus (.cls false [.word]))))) (.seq (.opt (.group 4 (.seq (.cls false [.lit 58]) (.star (.alt (.cls true [.lit 123, .lit 125]) (.seq (.cls false [.lit 123]) (.seq (.opt (.seq (.alt (.plus (.cls false [.digit])) (.seq (.cls true [.notWord, .digit]) (.star (.cls false [.word])))) (.star (.alt (.seq (.cls false [.lit 46]) (.seq (.cls true [.notWord, .digit]) (.star (.cls false [.word])))) (.seq (.cls false [.lit 91]) (.seq (.plus (.cls true [.lit 93, .lit 123, .lit 125])) (.cls false [.lit 93]))))))) (.cls false [.lit 125])))))))) (.cls false [.lit 125]))))))

/-- the parse tree of `_simple_field_re` (`scanSimple`) -/
def pinnedSimpleFieldRe : Re :=
  (.seq (.cls false [.lit 123]) (.seq (.opt (.seq (.alt (.plus (.cls false [.digit])) (.seq (.cls true [.notWord, .digit]) (.star (.cls false [.word])))) (.star (.alt (.seq (.cls false [.lit 46]) (.seq (.cls true [.notWord, .digit]) (.star (.cls false [.word])))) (.seq (.cls false [.lit 91]) (.seq (.plus (.cls true [.lit 93, .lit 123, .lit 125])) (.cls false [.lit 93]))))))) (.cls false [.lit 125])))

/-- the parse tree of `_format_spec_re` (`scanSpec`) -/
def pinnedFormatSpecRe : Re :=
  (.seq .bos (.seq (.opt (.seq (.opt (.group 1 (.cls true [.lit 125]))) (.group 2 (.cls false [.lit 60, .lit 62, .lit 61, .lit 94])))) (.seq (.opt (.group 3 (.cls false [.lit 32, .lit 43, .lit 45]))) (.seq (.opt (.group 4 (.cls false [.lit 35]))) (.seq (.opt (.group 5 (.cls false [.lit 48]))) (.seq (.opt (.group 6 (.plus (.cls false [.range 48 57])))) (.seq (.opt (.group 7 (.cls false [.lit 44]))) (.seq (.opt (.seq (.cls false [.lit 46]) (.group 8 (.plus (.cls false [.digit]))))) (.seq (.opt (.group 9 (.cls false [.word, .lit 37]))) .eos)))))))))

/-- `96 = re.VERBOSE | re.UNICODE` (here and below; `32 = re.UNICODE` alone for the printable-prefix patterns) -/
theorem fieldRe_pin : fieldRe = pinnedFieldRe ∧ fieldReFlags = 96 ∧
    fieldReGroups = [("literal", 1), ("name", 2), ("conversion", 3), ("format", 4)] := ⟨rfl, rfl, rfl⟩

theorem simpleFieldRe_pin : simpleFieldRe = pinnedSimpleFieldRe ∧ simpleFieldReFlags = 96 := ⟨rfl, rfl⟩

theorem formatSpecRe_pin : formatSpecRe = pinnedFormatSpecRe ∧ formatSpecReFlags = 96 ∧
    formatSpecReGroups = [("fill", 1), ("align", 2), ("sign", 3), ("alt", 4), ("zero", 5), ("width", 6), ("comma", 7),
      ("precision", 8), ("type", 9)] := ⟨rfl, rfl, rfl⟩

theorem printablePrefix_pin : printablePrefixPattern = "[ -~]+" ∧ perlPrintablePrefixPattern = "[ -~]+" ∧
    printablePrefixPatternFlags = 32 ∧ perlPrintablePrefixPatternFlags = 32 := ⟨rfl, rfl, rfl, rfl⟩

/-- outcome code of a probe: the type mask of the single reported argument, or the error class -/
def probeCode : Except PErr Result → Nat
  | .ok { argMap := [(_, a :: _)], .. } => a.types.mask
  | .ok _ => 98
  | .error (.own c _) =>
    100 + (match c with
      | .Error => 0 | .ConversionError => 1 | .FormatError => 2 | .FormatTypeMismatch => 3
      | .ArgumentNumberingMixture => 4 | .ArgumentRangeError => 5 | .ArgumentTypeMismatch => 6)
  | .error (.crash _) => 199

theorem probeTable_pin : probeTable.all (fun p => probeCode (parse p.1) == p.2) = true := by decide +kernel

/-- outcome code of a perl-brace probe: the number of distinct arguments, or the error -/
def perlProbeCode : Except PerlBrace.PErr PerlBrace.Result → Nat
  | .ok r => r.arguments.length
  | .error (.error _) => 100
  | .error (.crash _) => 199

theorem perlProbeTable_pin : perlProbeTable.all (fun p => perlProbeCode (PerlBrace.parse p.1) == p.2) = true := by decide +kernel

end I18n.PyBrace
