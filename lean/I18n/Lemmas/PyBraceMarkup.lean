import I18n.Lemmas.PerlBraceChars
import I18n.Lemmas.PyBraceScan
import I18n.Spec.StrFormat
/-
python-brace: CPython's `parse_field` reads a scanned field as the scanner did (`parseField_of_shape`), and what
`MarkupIterator_next` does with literal text; every step consumes input.
-/
namespace I18n.PyBrace
open I18n.BraceChars I18n.Spec.StrFormat

/-- the characters CPython's `fieldName false` passes over -/
def Plain (c : Char) : Prop := c ≠ '{' ∧ c ≠ '[' ∧ c ≠ '}' ∧ c ≠ ':' ∧ c ≠ '!'

theorem Plain.nobrace {c : Char} (h : Plain c) : c ≠ '{' ∧ c ≠ '}' := ⟨h.1, h.2.2.1⟩

theorem plain_of_word {c : Char} (h : isWord c = true) : Plain c :=
  ⟨word_ne_open h, word_ne_lbracket h, word_ne_close h, word_ne_colon h, word_ne_bang h⟩

theorem plain_of_digit {c : Char} (h : isDigit c = true) : Plain c :=
  ⟨digit_ne_open h, digit_ne_lbracket h, digit_ne_close h, digit_ne_colon h, digit_ne_bang h⟩

theorem plain_ident {w : List Char} (h : IdentText w) : ∀ c ∈ w, Plain c := by
  obtain ⟨c, t, rfl, hc, ht⟩ := h
  exact List.forall_mem_cons.mpr ⟨plain_of_word (idStart_word hc), fun d hd => plain_of_word (ht d hd)⟩

theorem plain_digits {w : List Char} (h : DigitsText w) : ∀ c ∈ w, Plain c :=
  fun c hc => plain_of_digit (h.2 c hc)

theorem skip_run {β : Type} {f : List Char → List Char → β} {P : Char → Prop}
    (step : ∀ c r acc, P c → f (c :: r) acc = f r (acc ++ [c])) :
    ∀ (w r acc : List Char), (∀ c ∈ w, P c) → f (w ++ r) acc = f r (acc ++ w) := by
  intro w
  induction w with
  | nil => intro r acc _; simp
  | cons c w ih =>
    intro r acc h
    obtain ⟨hc, hw⟩ := List.forall_mem_cons.1 h
    rw [List.cons_append, step c _ acc hc, ih r _ hw, List.append_cons acc c w]

theorem fieldName_plain (w r acc : List Char) (h : ∀ c ∈ w, Plain c) :
    fieldName false (w ++ r) acc = fieldName false r (acc ++ w) :=
  skip_run (f := fieldName false) (fun c r acc ⟨h1, h2, h3, h4, h5⟩ => by simp [fieldName, h1, h2, h3, h4, h5]) w r acc h

theorem fieldName_inBr (x r acc : List Char) (h : ∀ c ∈ x, c ≠ ']') :
    fieldName true (x ++ ']' :: r) acc = fieldName false r (acc ++ x ++ [']']) := by
  rw [skip_run (f := fieldName true) (fun c r acc (hc : c ≠ ']') => by simp [fieldName, hc]) x _ acc h]
  simp [fieldName]

theorem fieldName_tail {t : List Char} (ht : NameTail topBr t) : ∀ (r acc : List Char),
    fieldName false (t ++ r) acc = fieldName false r (acc ++ t) := by
  induction ht with
  | nil => intro r acc; simp
  | @attr id t hid _ ih =>
    intro r acc
    have := fieldName_plain ('.' :: id) (t ++ r) acc (List.forall_mem_cons.mpr ⟨by simp [Plain], plain_ident hid⟩)
    simp only [List.cons_append, List.append_assoc] at this ⊢
    rw [this, ih]
    simp
  | @index x t hx hall _ ih =>
    intro r acc
    have hx' : ∀ c ∈ x, c ≠ ']' := fun c hc => by simpa [topBr] using hall c hc
    have h1 : fieldName false ('[' :: (x ++ ']' :: t) ++ r) acc = fieldName true (x ++ ']' :: (t ++ r)) (acc ++ ['[']) := by
      simp [fieldName]
    rw [h1, fieldName_inBr x (t ++ r) _ hx', ih]
    simp

theorem fieldName_name {nm : List Char} (h : NameText topBr nm) (r acc : List Char) :
    fieldName false (nm ++ r) acc = fieldName false r (acc ++ nm) := by
  obtain ⟨hd, t, rfl, hh, ht⟩ := h
  rw [List.append_assoc, fieldName_plain hd (t ++ r) acc (hh.elim plain_digits plain_ident), fieldName_tail ht]
  simp

theorem specBody_plain (w r acc : List Char) (n : Nat) (e : Bool) (h : ∀ c ∈ w, c ≠ '{' ∧ c ≠ '}') :
    specBody n (w ++ r) acc e = specBody n r (acc ++ w) e :=
  skip_run (f := fun cs acc => specBody n cs acc e) (fun c r acc ⟨h1, h2⟩ => by simp [specBody, h1, h2]) w r acc h

theorem nestedBr_nobrace {c : Char} (h : nestedBr c = true) : c ≠ '{' ∧ c ≠ '}' := by
  simp only [nestedBr, Bool.and_eq_true, decide_eq_true_eq] at h
  exact ⟨h.1.2, h.2⟩

theorem nameTail_nobrace {t : List Char} (ht : NameTail nestedBr t) : ∀ c ∈ t, c ≠ '{' ∧ c ≠ '}' := by
  induction ht with
  | nil => exact fun _ hc => nomatch hc
  | @attr id t hid _ ih =>
    exact List.forall_mem_cons.mpr ⟨by decide, List.forall_mem_append.mpr ⟨fun c hc => (plain_ident hid c hc).nobrace, ih⟩⟩
  | @index x t _ hall _ ih =>
    exact List.forall_mem_cons.mpr ⟨by decide, List.forall_mem_append.mpr
      ⟨fun c hc => nestedBr_nobrace (hall c hc), List.forall_mem_cons.mpr ⟨by decide, ih⟩⟩⟩

theorem name_nobrace {nm : List Char} (h : nm = [] ∨ NameText nestedBr nm) : ∀ c ∈ nm, c ≠ '{' ∧ c ≠ '}' := by
  rcases h with rfl | ⟨hd, t, rfl, hh, ht⟩
  · exact fun _ hc => nomatch hc
  · exact List.forall_mem_append.mpr ⟨fun c hc => (hh.elim plain_digits plain_ident c hc).nobrace, nameTail_nobrace ht⟩

theorem specBody_body {t : List Char} {ns : List (List Char)} (h : FormatBody t ns) : ∀ (rest acc : List Char) (e : Bool),
    specBody 1 (t ++ '}' :: rest) acc e = .ok (acc ++ t, e || t.contains '{', rest) := by
  induction h with
  | nil => intro rest acc e; simp [specBody]
  | @chr c t ns h1 h2 _ ih =>
    intro rest acc e
    have h1' : ¬ '{' = c := fun h => h1 h.symm
    simp only [List.cons_append, specBody, h1, h2, if_false]
    rw [ih rest (acc ++ [c]) e]
    simp [h1']
  | @simple nm t ns hnm _ ih =>
    intro rest acc e
    have h1 : specBody 1 ('{' :: (nm ++ '}' :: t) ++ '}' :: rest) acc e
        = specBody 2 (nm ++ '}' :: (t ++ '}' :: rest)) (acc ++ ['{']) true := by
      simp [specBody]
    rw [h1, specBody_plain nm _ _ 2 true (name_nobrace hnm)]
    simp only [specBody]
    simp [ih]

/-- the `Field` that CPython's `parse_field` yields for a scanned field whose conversion, if any, is one character
    (`parseField_of_shape`) -/
def cpField (f : RawField) : Field :=
  { name := f.name.getD [],
    spec := (f.format.getD []).drop 1,
    conversion := match f.conversion with | some (_ :: x :: _) => some x | _ => none,
    needsExpanding := (f.format.getD []).contains '{' }

theorem cpField_name (f : RawField) : (cpField f).name = f.name.getD [] := rfl

theorem cpField_spec_none {f : RawField} (h : f.format = none) : (cpField f).spec = [] := by
  rw [cpField, h]; rfl

theorem cpField_spec_some {f : RawField} {c : Char} {t : List Char} (h : f.format = some (c :: t)) : (cpField f).spec = t := by
  rw [cpField, h]; rfl

theorem cpField_needsExpanding (f : RawField) : (cpField f).needsExpanding = (f.format.getD []).contains '{' := rfl

theorem cpField_conversion_none {f : RawField} (h : f.conversion = none) : (cpField f).conversion = none := by
  rw [cpField, h]

theorem cpField_conversion_some {f : RawField} {b x : Char} (h : f.conversion = some [b, x]) : (cpField f).conversion = some x := by
  rw [cpField, h]

theorem parseField_head {r0 rest : List Char} {f : Field} (h : parseField r0 = .ok (f, rest)) : ∃ c r, r0 = c :: r ∧ c ≠ '{' := by
  cases r0 with
  | nil => simp [parseField, fieldName] at h
  | cons c r =>
    refine ⟨c, r, rfl, ?_⟩
    rintro rfl
    simp [parseField, fieldName] at h

theorem parseField_of_shape {cs rest : List Char} {f : RawField} (hs : FieldShape cs f rest)
    (hconv : ∀ c, f.conversion = some c → ∃ x, c = ['!', x]) :
    ∃ r0, cs = '{' :: r0 ∧ parseField r0 = .ok (cpField f, rest) := by
  obtain ⟨hin, _, hname, hcv, hfmt, _⟩ := hs
  refine ⟨_, hin, ?_⟩
  have hfn : ∀ r, fieldName false (f.name.getD [] ++ r) [] = fieldName false r (f.name.getD []) := by
    intro r
    cases hn : f.name with
    | some nm => simpa using fieldName_name (hname nm hn) r []
    | none => simp
  simp only [parseField, List.append_assoc, hfn]
  cases hc : f.conversion with
  | some cv =>
    obtain ⟨x, rfl⟩ := hconv cv hc
    obtain ⟨_, ⟨⟩, _, hall⟩ := hcv _ hc
    have hx0 : x ≠ '\x00' := word_ne_nul (hall x (by simp))
    cases hf : f.format with
    | some fm =>
      obtain ⟨t, rfl, hb⟩ := hfmt fm hf
      simp [fieldName, specBody_body hb, cpField, hc, hf, hx0]
    | none => simp [fieldName, cpField, hc, hf, hx0]
  | none =>
    cases hf : f.format with
    | some fm =>
      obtain ⟨t, rfl, hb⟩ := hfmt fm hf
      simp [fieldName, specBody_body hb, cpField, hc, hf]
    | none => simp [fieldName, cpField, hc, hf]

theorem next_chr {c : Char} (h1 : c ≠ '{') (h2 : c ≠ '}') (r lit : List Char) : next (c :: r) lit = next r (lit ++ [c]) := by
  simp [next, h1, h2]

theorem next_lit : ∀ (cs lit : List Char), next cs lit =
    match next cs [] with
    | .error e => .error e
    | .ok none => .ok (if lit.isEmpty then none else some ({ literal := lit, field := none }, []))
    | .ok (some (ch, rest)) => .ok (some ({ ch with literal := lit ++ ch.literal }, rest)) := by
  intro cs
  induction cs with
  | nil => intro lit; simp [next]
  | cons c r ih =>
    intro lit
    by_cases h1 : c = '}'
    · subst h1
      cases r with
      | nil => simp [next]
      | cons d r' => by_cases hd : d = '}' <;> simp [next, hd]
    · by_cases h2 : c = '{'
      · subst h2
        cases r with
        | nil => simp [next]
        | cons d r' =>
          by_cases hd : d = '{'
          · simp [next, hd]
          · simp only [next, h1, hd, if_false, if_true]
            cases parseField (d :: r') with
            | error e => simp
            | ok p => simp
      · rw [next_chr h2 h1, ih, next_chr h2 h1, ih ([] ++ [c])]
        cases next r [] with
        | error e => rfl
        | ok o => cases o <;> simp

theorem next_none {cs lit : List Char} (h : next cs lit = .ok none) : cs = [] ∧ lit = [] := by
  revert h
  fun_induction next cs lit with
  | case1 => simp
  | case2 | case3 | case4 | case5 | case6 | case7 | case8 => rintro ⟨⟩
  | case9 _ _ _ _ _ ih => exact fun h => absurd (ih h).2 (by simp)

theorem next_nil_none {cs : List Char} (h : next cs [] = .ok none) : cs = [] :=
  (next_none h).1

theorem fieldName_length : ∀ (cs acc : List Char) (b : Bool) (nm : List Char) (c : Char) (r : List Char),
    fieldName b cs acc = .ok (nm, c, r) → r.length < cs.length := by
  intro cs acc b
  fun_induction fieldName b cs acc with
  | case1 | case4 => rintro _ _ _ ⟨⟩
  | case6 =>
    rintro _ _ _ ⟨⟩
    exact Nat.lt_succ_self _
  | case2 _ _ ih | case3 _ _ _ _ ih | case5 _ _ _ ih | case7 _ _ _ _ _ _ ih =>
    exact fun _ _ _ h => Nat.lt_succ_of_lt (ih _ _ _ h)

theorem specBody_length : ∀ (cs acc : List Char) (n : Nat) (e : Bool) (sp : List Char) (e' : Bool) (r : List Char),
    specBody n cs acc e = .ok (sp, e', r) → r.length < cs.length := by
  intro cs acc n e
  fun_induction specBody n cs acc e with
  | case1 => rintro _ _ _ ⟨⟩
  | case3 =>
    rintro _ _ _ ⟨⟩
    exact Nat.lt_succ_self _
  | case2 _ _ _ _ ih | case4 _ _ _ _ _ _ ih | case5 _ _ _ _ _ _ _ ih =>
    exact fun _ _ _ h => Nat.lt_succ_of_lt (ih _ _ _ h)

theorem parseField_length {cs rest : List Char} {f : Field} (h : parseField cs = .ok (f, rest)) : rest.length < cs.length := by
  revert h
  fun_cases parseField cs with
  | case1 | case3 | case4 | case6 | case8 | case9 => rintro ⟨⟩
  | case2 _ _ hfn =>
    rintro ⟨⟩
    exact fieldName_length _ _ _ _ _ _ hfn
  | case5 _ _ _ _ _ hfn =>
    rintro ⟨⟩
    have := fieldName_length _ _ _ _ _ _ hfn
    simp only [List.length_cons] at this
    omega
  | case7 _ _ _ _ _ _ _ hsb _ _ hfn =>
    rintro ⟨⟩
    have := fieldName_length _ _ _ _ _ _ hfn
    have := specBody_length _ _ _ _ _ _ _ hsb
    simp only [List.length_cons] at *
    omega
  | case10 _ _ _ hfn _ _ _ _ _ hsb =>
    rintro ⟨⟩
    have := fieldName_length _ _ _ _ _ _ hfn
    have := specBody_length _ _ _ _ _ _ _ hsb
    omega

theorem next_length : ∀ (cs lit : List Char) (ch : Chunk) (rest : List Char),
    next cs lit = .ok (some (ch, rest)) → rest.length < cs.length ∨ cs = [] := by
  intro cs lit
  fun_induction next cs lit with
  | case1 => exact fun _ _ _ => .inr rfl
  | case2 | case4 | case5 | case7 => rintro _ _ ⟨⟩
  | case3 | case6 =>
    rintro _ _ ⟨⟩
    exact .inl (Nat.lt_succ_of_lt (Nat.lt_succ_self _))
  | case8 _ _ _ _ _ _ hp =>
    rintro _ _ ⟨⟩
    exact .inl (Nat.lt_succ_of_lt (parseField_length hp))
  | case9 _ r _ _ _ ih =>
    intro ch rest h
    left
    rcases ih ch rest h with h' | rfl
    · exact Nat.lt_succ_of_lt h'
    · simp only [next] at h
      split at h
      · cases h
      · cases h
        exact Nat.zero_lt_one

theorem next_rest_lt {cs rest : List Char} {ch : Chunk} (hn : next cs [] = .ok (some (ch, rest))) : rest.length < cs.length := by
  rcases next_length _ _ _ _ hn with h | rfl
  · exact h
  · simp [next] at hn

end I18n.PyBrace
