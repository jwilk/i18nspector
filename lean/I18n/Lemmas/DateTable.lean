import I18n.Lemmas.DateSort
import I18n.Lemmas.Kit.Assoc
import I18n.Spec.Date
/- Facts about the generated abbreviation table (kernel evaluation over the 210 entries dumped from the live module):
   keys alphabetic, offsets of the shape `±HHMM`, no key twice; hence the look-up `lookupTz` (a `List.lookup`:
   `lookupTz_eq_lookup`) is the specification's relation `OffsetsOf` (`lookupTz_iff`). -/
namespace I18n.Date
open I18n.Spec.Date I18n.Generated

def isAlpha (c : Char) : Bool := (65 ≤ c.toNat && c.toNat ≤ 90) || (97 ≤ c.toNat && c.toNat ≤ 122)

theorem alpha_ne_sign {c : Char} (h : isAlpha c = true) : c ≠ '+' ∧ c ≠ '-' := by
  constructor <;> rintro rfl <;> revert h <;> decide

theorem alpha_ne_colon {c : Char} (h : isAlpha c = true) : c ≠ ':' := by
  rintro rfl; revert h; decide

theorem isDigit_false_of_alpha {c : Char} (h : isAlpha c = true) : isDigit c = false := by
  unfold isAlpha at h
  simp only [Bool.or_eq_true, Bool.and_eq_true, decide_eq_true_eq] at h
  cases hs : isDigit c with
  | false => rfl
  | true =>
    unfold isDigit at hs
    simp only [Bool.and_eq_true, decide_eq_true_eq] at hs
    omega

def offsetShape : List Char → Bool
  | [sg, a, b, c, d] => (sg = '+' || sg = '-') && isDigit a && isDigit b && isDigit c && isDigit d
  | _ => false

theorem offsetShape_length {o : List Char} (h : offsetShape o = true) : o.length = 5 := by
  match o, h with
  | [_, _, _, _, _], _ => rfl

def entryOk (e : List Char × List (List Char)) : Bool :=
  !e.1.isEmpty && e.1.all isAlpha && e.2.all offsetShape

theorem table_ok : DateTables.timezones.all entryOk = true := by decide +kernel

/-- no abbreviation is listed twice (the live table is a dict) -/
def keysDistinct : List (List Char × List (List Char)) → Bool
  | [] => true
  | e :: es => es.all (fun e' => e'.1 != e.1) && keysDistinct es

/- Evaluating `keysDistinct` on the table compares every pair of its 210 keys; the data file lists the abbreviations in
   ascending order, so that each `insertU` of `sortedSet` stops at the head, and the length is compared instead. -/
theorem keysDistinct_of_length : ∀ (l : List (List Char × List (List Char))),
    (sortedSet (l.map (·.1))).length = l.length → keysDistinct l = true
  | [], _ => rfl
  | e :: es, h => by
    have e1 : sortedSet ((e :: es).map (·.1)) = insertU e.1 (sortedSet (es.map (·.1))) := rfl
    have hle := length_sortedSet (es.map (·.1))
    rw [List.length_map] at hle
    rw [e1, length_insertU e.1 (sortedSet_sorted _), List.length_cons] at h
    split at h
    · omega
    · rename_i hnew
      rw [mem_sortedSet, List.mem_map] at hnew
      simp only [keysDistinct, Bool.and_eq_true, List.all_eq_true, bne_iff_ne]
      exact ⟨fun e' he' hk => hnew ⟨e', he', hk⟩, keysDistinct_of_length es (by omega)⟩

theorem table_distinct : keysDistinct DateTables.timezones = true :=
  keysDistinct_of_length _ (by decide +kernel)

theorem nodup_keys : ∀ {l : List (List Char × List (List Char))}, keysDistinct l = true → (l.map (·.1)).Nodup
  | [], _ => List.nodup_nil
  | e :: es, h => by
    simp only [keysDistinct, Bool.and_eq_true, List.all_eq_true, bne_iff_ne] at h
    rw [List.map_cons, List.nodup_cons, List.mem_map]
    exact ⟨fun ⟨e', he', hk⟩ => h.1 e' he' hk, nodup_keys h.2⟩

theorem table_nodup : (DateTables.timezones.map (·.1)).Nodup := nodup_keys table_distinct

theorem lookupTz_eq_lookup (a : List Char) : lookupTz a = DateTables.timezones.lookup a := by
  rw [← Kit.find?_key_eq_lookup, lookupTz]
  cases DateTables.timezones.find? (fun e => e.1 == a) <;> rfl

theorem lookupTz_iff {a : List Char} {os : List (List Char)} : lookupTz a = some os ↔ OffsetsOf a os := by
  constructor
  · intro h
    exact ⟨(a, os), Kit.lookup_mem (lookupTz_eq_lookup a ▸ h), rfl, rfl⟩
  · rintro ⟨e, he, rfl, rfl⟩
    rw [lookupTz, Kit.find?_key_of_nodup table_nodup he]

theorem known_iff {a : List Char} : KnownAbbr a ↔ ∃ os, lookupTz a = some os := by
  constructor
  · rintro ⟨e, he, rfl⟩; exact ⟨e.2, lookupTz_iff.mpr ⟨e, he, rfl, rfl⟩⟩
  · rintro ⟨os, h⟩
    obtain ⟨e, he, h1, _⟩ := lookupTz_iff.mp h
    exact ⟨e, he, h1⟩

theorem known_alpha {a : List Char} (h : KnownAbbr a) : a ≠ [] ∧ ∀ c ∈ a, isAlpha c = true := by
  obtain ⟨e, he, rfl⟩ := h
  have := List.all_eq_true.mp table_ok e he
  simp only [entryOk, Bool.and_eq_true, Bool.not_eq_true', List.isEmpty_eq_false_iff, List.all_eq_true] at this
  exact ⟨this.1.1, this.1.2⟩

theorem offsets_shape {a : List Char} {os : List (List Char)} (h : OffsetsOf a os) : ∀ o ∈ os, offsetShape o = true := by
  obtain ⟨e, he, rfl, rfl⟩ := h
  have := List.all_eq_true.mp table_ok e he
  simp only [entryOk, Bool.and_eq_true, List.all_eq_true] at this
  exact this.2

end I18n.Date
