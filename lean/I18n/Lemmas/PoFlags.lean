import I18n.Spec.PoSpelling
import I18n.Lemmas.PoKit
/-! Lemmas for C10 `flags_split`: `split(',')` and `strip` take a spelled `#,` body (`flagBody`) back to its items, and the
patched `flags` setter (`setFlags`) leaves such items as they are (`handle_fl`). -/
namespace I18n.Spec.PoSpelling
open I18n.Lemmas.PoKit
variable {sp : Char → Bool} {f : I18n.Po.Text} {x : FlagPiece}

theorem FlagItem.no_comma (h : FlagItem sp f) : ',' ∉ f := h.1
theorem FlagItem.headNot (h : FlagItem sp f) : HeadNot sp f := h.2.1
theorem FlagItem.lastNot (h : FlagItem sp f) : LastNot sp f := h.2.2

theorem FlagPiece.Valid.item (h : x.Valid sp) : FlagItem sp x.item := h.1
theorem FlagPiece.Valid.lpad (h : x.Valid sp) : ∀ c ∈ x.lpad, sp c = true := h.2.1
theorem FlagPiece.Valid.rpad (h : x.Valid sp) : ∀ c ∈ x.rpad, sp c = true := h.2.2

end I18n.Spec.PoSpelling

namespace I18n.Lemmas.PoFlags
open I18n I18n.Po I18n.Spec.PoSpelling I18n.Lemmas.PoKit

theorem splitOn_joinComma (parts : List Text) (hne : parts ≠ []) (h : ∀ a ∈ parts, ',' ∉ a) :
    splitOn ',' (joinComma parts) = parts := by
  induction parts with
  | nil => exact absurd rfl hne
  | cons a rest ih =>
    cases rest with
    | nil => exact (splitOn_eq ',' a).trans (List.splitOn_eq_singleton (h a (by simp)))
    | cons b r =>
      have := ih (by simp) (fun x hx => h x (by simp at hx ⊢; exact Or.inr hx))
      simp only [joinComma]
      rw [splitOn_eq, List.splitOn_append_cons_self_of_not_mem (h a (by simp)), ← splitOn_eq, this]

variable {sp : Char → Bool}

theorem render_no_comma (hsp : sp ',' = false) (x : FlagPiece) (hx : x.Valid sp) : ',' ∉ x.render := by
  intro h
  simp only [FlagPiece.render, List.mem_append] at h
  rcases h with (h | h) | h
  · have := hx.lpad _ h; simp [hsp] at this
  · exact hx.item.no_comma h
  · have := hx.rpad _ h; simp [hsp] at this

theorem strip_render (x : FlagPiece) (hx : x.Valid sp) : strip sp x.render = x.item :=
  strip_pad x.lpad x.item x.rpad hx.lpad hx.rpad hx.item.headNot hx.item.lastNot

/-- polib's part: `[c.strip() for c in body.split(',')]` -/
theorem split_strip (hsp : sp ',' = false) (ps : List FlagPiece) (hne : ps ≠ []) (hv : ∀ x ∈ ps, x.Valid sp) :
    (splitOn ',' (flagBody ps)).map (strip sp) = ps.map FlagPiece.item := by
  unfold flagBody
  rw [splitOn_joinComma _ (by simpa using hne)
    (by intro a ha; simp only [List.mem_map] at ha; obtain ⟨x, hx, rfl⟩ := ha; exact render_no_comma hsp x (hv x hx))]
  rw [List.map_map]
  apply List.map_congr_left
  intro x hx
  exact strip_render x (hv x hx)

theorem setFlags_id (hsub : ∀ c, isFlagSpace c = true → sp c = true) (fs : List Text) (h : ∀ f ∈ fs, FlagItem sp f) :
    setFlags fs = fs := by
  unfold setFlags
  induction fs with
  | nil => rfl
  | cons f rest ih =>
    have hf := h f (by simp)
    have h1 : splitOn ',' f = [f] := (splitOn_eq ',' f).trans (List.splitOn_eq_singleton hf.no_comma)
    have h2 : strip isFlagSpace f = f := by
      apply strip_id
      · intro c r e
        exact Bool.eq_false_iff.mpr fun hc => Bool.false_ne_true ((hf.headNot c r e).symm.trans (hsub c hc))
      · intro c e
        exact Bool.eq_false_iff.mpr fun hc => Bool.false_ne_true ((hf.lastNot c e).symm.trans (hsub c hc))
    simp only [List.flatMap_cons, h1, List.map_cons, List.map_nil, h2, List.cons_append, List.nil_append]
    rw [ih (fun g hg => h g (by simp [hg]))]

theorem isFlagSpace_space (c : Char) (h : isFlagSpace c = true) : pyIsSpace c = true := by
  have hall : ∀ n ∈ I18n.Generated.PolibFsm.flagStripSet, inRanges I18n.Generated.PolibFsm.spaceRanges n = true := by decide
  exact hall c.toNat (by simpa [isFlagSpace] using h)

theorem handle_fl (env : Env) (enc : Bytes) (hcomma : env.isSpace ',' = false) (hsub : ∀ c, isFlagSpace c = true → env.isSpace c = true)
    (ps : List FlagPiece) (hne : ps ≠ []) (hv : ∀ x ∈ ps, x.Valid env.isSpace)
    (ws : Char) (n : Nat) (s : PState) (hold : ∀ f ∈ (flushIfDone n s).cur.flags, FlagItem env.isSpace f) :
    handle env enc n .fl ('#' :: ',' :: ws :: flagBody ps) s =
      some ({ flushIfDone n s with cur := { (flushIfDone n s).cur with flags := (flushIfDone n s).cur.flags ++ ps.map FlagPiece.item } }, true) := by
  have h2 := setFlags_id (sp := env.isSpace) hsub ((flushIfDone n s).cur.flags ++ ps.map FlagPiece.item) (by
    intro f hf
    simp only [List.mem_append, List.mem_map] at hf
    rcases hf with hf | ⟨x, hx, rfl⟩
    · exact hold f hf
    · exact (hv x hx).item)
  simp only [handle, List.drop_succ_cons, List.drop_zero, split_strip hcomma ps hne hv, h2]

end I18n.Lemmas.PoFlags
