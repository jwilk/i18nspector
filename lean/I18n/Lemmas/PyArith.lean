import I18n.Py
import I18n.Generated.Intexpr
import I18n.Spec.CEval
/-! Arithmetic facts about the Python kit (`I18n.Py`) on the (non-negative) operands the modelled code feeds it; and, in
    `I18n.Plural`, what the leaf methods of the `Evaluator` of `Generated/Intexpr.lean` compute (`_check_overflow`, the
    comparison and the arithmetic methods), for the proofs about the evaluator, the range analysis and the period analysis. -/
namespace I18n.Py

theorem floordiv_ok {x y : Int} (hy : 0 < y) : floordiv x y = .ok (x / y) := by
  unfold floordiv
  have : y ≠ 0 := by omega
  simp [this, Int.fdiv_eq_ediv_of_nonneg x (Int.le_of_lt hy)]

theorem floordiv_zero (x : Int) : floordiv x 0 = .error .ZeroDivision := by
  simp [floordiv]

theorem mod_ok {x y : Int} (hy : 0 < y) : mod x y = .ok (x % y) := by
  unfold mod
  have : y ≠ 0 := by omega
  simp [this, Int.fmod_eq_emod_of_nonneg x (Int.le_of_lt hy)]

theorem mod_zero (x : Int) : mod x 0 = .error .ZeroDivision := by
  simp [mod]

theorem floordiv_eq_ok {x y v : Int} (hy : 0 ≤ y) : floordiv x y = .ok v ↔ 0 < y ∧ v = x / y := by
  rcases Int.lt_or_eq_of_le hy with h | rfl
  · simp [floordiv_ok h, h, eq_comm]
  · simp [floordiv_zero]

theorem mod_eq_ok {x y v : Int} (hy : 0 ≤ y) : mod x y = .ok v ↔ 0 < y ∧ v = x % y := by
  rcases Int.lt_or_eq_of_le hy with h | rfl
  · simp [mod_ok h, h, eq_comm]
  · simp [mod_zero]

theorem ediv_le_ediv_anti {a b c d : Int} (ha : 0 ≤ a) (hab : a ≤ b) (hd : 0 < d) (hdc : d ≤ c) :
    a / c ≤ b / d := by
  have hc : 0 < c := by omega
  have h1 : a / c ≤ b / c := Int.ediv_le_ediv hc hab
  have hb : 0 ≤ b := by omega
  have h2 : b / c ≤ b / d := by
    rw [Int.le_ediv_iff_mul_le hd]
    have hq : 0 ≤ b / c := Int.ediv_nonneg hb (Int.le_of_lt hc)
    have h3 : b / c * d ≤ b / c * c := Int.mul_le_mul_of_nonneg_left hdc hq
    have h4 : b / c * c ≤ b := Int.ediv_mul_le b (by omega)
    omega
  omega

theorem emod_le_self' {a b : Int} (ha : 0 ≤ a) (hb : 0 < b) : a % b ≤ a := by
  have h1 := Int.emod_add_mul_ediv a b
  have h2 : 0 ≤ b * (a / b) := Int.mul_nonneg (Int.le_of_lt hb) (Int.ediv_nonneg ha (Int.le_of_lt hb))
  omega

theorem b2i_le_one (b : Bool) : 0 ≤ b2i b ∧ b2i b ≤ 1 := by
  cases b <;> simp [b2i]

theorem b2i_mono {p q : Prop} [Decidable p] [Decidable q] (h : p → q) : b2i (decide p) ≤ b2i (decide q) := by
  by_cases hp : p
  · simp only [b2i, hp, h hp, decide_true, ↓reduceIte, Int.le_refl]
  · have := (b2i_le_one (decide q)).1
    simp only [b2i, hp, decide_false, Bool.false_eq_true, ↓reduceIte]
    exact this

end I18n.Py

namespace I18n.Plural
open I18n I18n.Py I18n.Generated.Intexpr I18n.Spec

theorem check_overflow_eq (M n k : Int) :
    Evaluator._check_overflow M n k = if 0 ≤ k ∧ k < M then .ok k else .error .Overflow := by
  unfold Evaluator._check_overflow
  split
  · rw [if_neg (by omega)]
  · split
    · rw [if_neg (by omega)]
    · rw [if_pos (by omega)]

theorem check_overflow_ok {M n v k : Int} (h : Evaluator._check_overflow M n k = .ok v) :
    v = k ∧ 0 ≤ k ∧ k < M := by
  rw [check_overflow_eq] at h
  by_cases hk : 0 ≤ k ∧ k < M
  · rw [if_pos hk] at h
    cases h
    exact ⟨rfl, hk⟩
  · rw [if_neg hk] at h
    cases h

theorem check_overflow_of {M n k : Int} (h0 : 0 ≤ k) (h1 : k < M) :
    Evaluator._check_overflow M n k = .ok k := by
  rw [check_overflow_eq, if_pos ⟨h0, h1⟩]

theorem check_overflow_err {M n k : Int} {x : Exc} (h : Evaluator._check_overflow M n k = .error x) : x = .Overflow := by
  rw [check_overflow_eq] at h
  split at h <;> cases h
  rfl

theorem cmpop_spec {M n : Int} (op : CmpOp) (x y : Int) :
    Evaluator.dispatch_CmpOp M n op x y = .ok (rel op x y) := by
  cases op <;> simp only [Evaluator.dispatch_CmpOp, Evaluator._visit_eq, Evaluator._visit_noteq, Evaluator._visit_lt,
    Evaluator._visit_lte, Evaluator._visit_gt, Evaluator._visit_gte, rel, b2i] <;> congr 1 <;> simp

theorem rel_range (op : CmpOp) (x y : Int) : 0 ≤ rel op x y ∧ rel op x y ≤ 1 := by
  cases op <;> simp only [rel] <;> split <;> omega

/-- On operands in `[0, M)` the five arithmetic methods are C's operation followed by the overflow check: Python's floor
    division and C's truncating one agree there, and quotient and remainder pass the check. -/
theorem dispatch_BinOp_eq {M n : Int} (op : BinOp) {x y : Int} (hx : 0 ≤ x ∧ x < M) (hy : 0 ≤ y ∧ y < M) :
    Evaluator.dispatch_BinOp M n op x y =
      match arith op x y with
      | none => .error .ZeroDivision
      | some v => Evaluator._check_overflow M n v := by
  cases op
  case add | sub | mult => rfl
  case div =>
    simp only [Evaluator.dispatch_BinOp, Evaluator._visit_div, arith]
    by_cases hy0 : y = 0
    · subst hy0; rfl
    · have hyp : 0 < y := by omega
      have h2 : x / y ≤ x := Int.ediv_le_self _ hx.1
      simp only [hy0, ↓reduceIte, floordiv_ok hyp, Int.tdiv_eq_ediv_of_nonneg hx.1]
      exact (check_overflow_of (Int.ediv_nonneg hx.1 hy.1) (by omega)).symm
  case mod =>
    simp only [Evaluator.dispatch_BinOp, Evaluator._visit_mod, arith]
    by_cases hy0 : y = 0
    · subst hy0; rfl
    · have hyp : 0 < y := by omega
      have h2 := Int.emod_lt_of_pos x hyp
      simp only [hy0, ↓reduceIte, mod_ok hyp, Int.tmod_eq_emod_of_nonneg hx.1]
      exact (check_overflow_of (Int.emod_nonneg x hy0) (by omega)).symm

end I18n.Plural
