import I18n.Spec.Mo
import I18n.Lemmas.Kit.List
/-! Byte-level lemmas for the MO model: slices, 32-bit words, `split`, lexicographic order; `Spec.EntriesAt` by index
and `Spec.Encodes` by name (`Encodes.intro`, `Encodes_iff`, `.revision`, `.tables`, `.sorted`). -/
namespace I18n.Mo
open I18n.Mo.Spec

theorem Spec.Slice.length_le {b : Bytes} {off : Nat} {s : Bytes} (h : Slice b off s) : off + s.length ≤ b.length := by
  obtain ⟨pre, post, rfl, rfl⟩ := h
  simp only [List.length_append]; omega

theorem slice_eq_of_Slice {b : Bytes} {off : Nat} {s : Bytes} (h : Slice b off s) :
    slice b off (off + s.length) = s := by
  obtain ⟨pre, post, rfl, rfl⟩ := h
  simp [slice, List.append_assoc, List.take_append]

theorem Slice_of_slice {b : Bytes} {off n : Nat} (h : off + n ≤ b.length) :
    Slice b off (slice b off (off + n)) ∧ (slice b off (off + n)).length = n := by
  refine ⟨⟨b.take off, b.drop (off + n), ?_, ?_⟩, ?_⟩
  · simp only [slice]
    have h1 : List.drop off (List.take (off + n) b) = List.take n (List.drop off b) := by
      rw [List.drop_take]; simp
    rw [h1, List.append_assoc]
    have h2 : List.drop (off + n) b = List.drop n (List.drop off b) := by
      rw [List.drop_drop]
    rw [h2, List.take_append_drop, List.take_append_drop]
  · simp; omega
  · simp [slice]; omega

theorem Spec.Slice.append {b : Bytes} {off : Nat} {s t : Bytes} (h1 : Slice b off s) (h2 : Slice b (off + s.length) t) :
    Slice b off (s ++ t) := by
  obtain ⟨p1, q1, e1, l1⟩ := h1
  obtain ⟨p2, q2, e2, l2⟩ := h2
  have e : p1 ++ s ++ q1 = p2 ++ (t ++ q2) := by rw [← e1, e2, List.append_assoc]
  have hl : (p1 ++ s).length = p2.length := by simp [l1, l2]
  obtain ⟨ha, hb⟩ := List.append_inj e hl
  exact ⟨p1, q2, by rw [e1, hb]; simp [List.append_assoc], l1⟩

theorem Spec.Slice.left {b : Bytes} {off : Nat} {s t : Bytes} (h : Slice b off (s ++ t)) : Slice b off s := by
  obtain ⟨p, q, e, l⟩ := h
  exact ⟨p, t ++ q, by rw [e]; simp [List.append_assoc], l⟩

theorem Spec.Slice.right {b : Bytes} {off : Nat} {s t : Bytes} (h : Slice b off (s ++ t)) : Slice b (off + s.length) t := by
  obtain ⟨p, q, e, l⟩ := h
  exact ⟨p ++ s, q, by rw [e]; simp [List.append_assoc], by simp [l]⟩

theorem Spec.Slice.trans {b m s : Bytes} {o o' : Nat} (h1 : Slice b o m) (h2 : Slice m o' s) : Slice b (o + o') s := by
  obtain ⟨p, q, rfl, rfl⟩ := h1
  obtain ⟨p', q', rfl, rfl⟩ := h2
  exact ⟨p ++ p', q' ++ q, by simp only [List.append_assoc], List.length_append⟩

theorem Spec.Slice.unique {b : Bytes} {off : Nat} {s t : Bytes} (h1 : Slice b off s) (h2 : Slice b off t)
    (hl : s.length = t.length) : s = t := by
  obtain ⟨p1, q1, e1, l1⟩ := h1
  obtain ⟨p2, q2, e2, l2⟩ := h2
  have e : p1 ++ (s ++ q1) = p2 ++ (t ++ q2) := by rw [← List.append_assoc, ← List.append_assoc, ← e1, e2]
  obtain ⟨_, hb⟩ := List.append_inj e (by rw [l1, l2])
  exact (List.append_inj hb hl).1

theorem Spec.Slice.getElem? {b : Bytes} {off : Nat} {s : Bytes} (h : Slice b off s) (i : Nat) (hi : i < s.length) :
    b[off + i]? = s[i]? := by
  obtain ⟨p, q, rfl, rfl⟩ := h
  rw [List.append_assoc, List.getElem?_append_right (by omega)]
  simp [List.getElem?_append_left hi]

theorem Spec.Slice.prefix_iff {b s : Bytes} : Slice b 0 s ↔ s <+: b := by
  constructor
  · rintro ⟨p, q, e, l⟩
    have : p = [] := List.eq_nil_of_length_eq_zero l
    subst this
    exact ⟨q, by simpa using e.symm⟩
  · rintro ⟨q, e⟩
    exact ⟨[], q, by simpa using e.symm, rfl⟩

theorem word_true (a b c d : UInt8) : word true a b c d = word false d c b a := by
  simp only [word, if_true, Bool.false_eq_true, if_false]
  omega

theorem encodeWord_true (w : Nat) : encodeWord true w = (encodeWord false w).reverse := rfl

theorem word_lt (be : Bool) (a b c d : UInt8) : word be a b c d < 2 ^ 32 := by
  have le (a b c d : UInt8) : word false a b c d < 2 ^ 32 := by
    have := a.toNat_lt; have := b.toNat_lt; have := c.toNat_lt; have := d.toNat_lt
    simp only [word, Bool.false_eq_true, if_false]
    omega
  cases be
  · exact le a b c d
  · rw [word_true]
    exact le d c b a

theorem encodeWord_length (be : Bool) (w : Nat) : (encodeWord be w).length = 4 := by
  cases be <;> rfl

theorem ofNat_eq (x : UInt8) (n : Nat) (h : n = x.toNat) : UInt8.ofNat n = x := by
  subst h
  exact UInt8.ofNat_toNat

theorem encodeWord_word (be : Bool) (a b c d : UInt8) : encodeWord be (word be a b c d) = [a, b, c, d] := by
  have le (a b c d : UInt8) : encodeWord false (word false a b c d) = [a, b, c, d] := by
    have ha := a.toNat_lt; have hb := b.toNat_lt; have hc := c.toNat_lt; have hd := d.toNat_lt
    simp only [encodeWord, word, Bool.false_eq_true, if_false]
    rw [ofNat_eq a _ (by omega), ofNat_eq b _ (by omega), ofNat_eq c _ (by omega), ofNat_eq d _ (by omega)]
  cases be
  · exact le a b c d
  · rw [word_true, encodeWord_true, le]
    rfl

theorem digits256 (w : Nat) (h : w < 2 ^ 32) :
    w % 256 + 256 * (w / 256 % 256 + 256 * (w / 65536 % 256 + 256 * (w / 16777216 % 256))) = w := by omega

theorem toNat_ofNat_mod (n : Nat) : (UInt8.ofNat (n % 256)).toNat = n % 256 := by
  rw [UInt8.toNat_ofNat', Nat.mod_mod]

theorem unpack_encodeWord_append (be : Bool) (w : Nat) (h : w < 2 ^ 32) (n : Nat) (rest : Bytes) :
    unpack be (n + 1) (encodeWord be w ++ rest) = (unpack be n rest).map (w :: ·) := by
  cases be
  · simp only [encodeWord, Bool.false_eq_true, if_false, List.cons_append, List.nil_append, unpack, word, toNat_ofNat_mod, digits256 w h]
    cases unpack false n rest <;> rfl
  · simp only [encodeWord, if_true, List.cons_append, List.nil_append, unpack, word_true]
    simp only [word, Bool.false_eq_true, if_false, toNat_ofNat_mod, digits256 w h]
    cases unpack true n rest <;> rfl

theorem unpack_encodeWords (be : Bool) : ∀ ws : List Nat, (∀ w ∈ ws, w < 2 ^ 32) → unpack be ws.length (encodeWords be ws) = .ok ws
  | [], _ => rfl
  | w :: ws, h => by
    rw [encodeWords, List.length_cons, unpack_encodeWord_append be w (h w (List.mem_cons_self ..)),
      unpack_encodeWords be ws fun x hx => h x (List.mem_cons_of_mem _ hx)]
    rfl

theorem unpack_encodeWord (be : Bool) (w : Nat) (h : w < 2 ^ 32) : unpack be 1 (encodeWord be w) = .ok [w] := by
  simpa [encodeWords] using unpack_encodeWords be [w] (by simpa using h)

theorem unpack_encodeWord2 (be : Bool) (v w : Nat) (hv : v < 2 ^ 32) (hw : w < 2 ^ 32) :
    unpack be 2 (encodeWord be v ++ encodeWord be w) = .ok [v, w] := by
  simpa [encodeWords] using unpack_encodeWords be [v, w] (by simp [hv, hw])

theorem Spec.WordAt.unique {be : Bool} {b : Bytes} {off v w : Nat} (h1 : WordAt be b off v) (h2 : WordAt be b off w) : v = w := by
  have e := Spec.Slice.unique h1.2 h2.2 (by rw [encodeWord_length, encodeWord_length])
  have a := unpack_encodeWord be v h1.1
  rw [e, unpack_encodeWord be w h2.1] at a
  cases a; rfl

theorem Spec.WordAt.length_le {be : Bool} {b : Bytes} {off w : Nat} (h : WordAt be b off w) : off + 4 ≤ b.length := by
  have := h.2.length_le
  rwa [encodeWord_length] at this

theorem Spec.StringAt.unique {be : Bool} {b : Bytes} {desc : Nat} {s t : Bytes} (h1 : StringAt be b desc s) (h2 : StringAt be b desc t) :
    s = t := by
  obtain ⟨o1, l1, w1, s1⟩ := h1
  obtain ⟨o2, l2, w2, s2⟩ := h2
  have hl := WordAt.unique l1 l2
  have ho := WordAt.unique w1 w2
  subst ho
  exact Slice.unique s1.left s2.left hl

theorem Slice_singleton {b : Bytes} {i : Nat} {c : UInt8} (h : b[i]? = some c) : Slice b i [c] := by
  obtain ⟨hi, rfl⟩ := List.getElem?_eq_some_iff.1 h
  exact ⟨b.take i, b.drop (i + 1),
    by rw [List.append_assoc, List.singleton_append, ← List.drop_eq_getElem_cons hi, List.take_append_drop],
    List.length_take_of_le (Nat.le_of_lt hi)⟩

theorem split_zero (sep : UInt8) (bs : Bytes) : split sep 0 bs = [bs] := by
  cases bs <;> rfl

theorem split_no_sep (sep : UInt8) (k : Nat) (a : Bytes) (h : sep ∉ a) : split sep k a = [a] := by
  induction a generalizing k with
  | nil => cases k <;> rfl
  | cons x a ih =>
    cases k with
    | zero => rfl
    | succ k =>
      have hx : x ≠ sep := fun e => h (by simp [e])
      have ha : sep ∉ a := fun m => h (List.mem_cons_of_mem _ m)
      simp only [split, hx, if_false, ih (k + 1) ha]

theorem split_append_sep (sep : UInt8) (k : Nat) (a r : Bytes) (h : sep ∉ a) :
    split sep (k + 1) (a ++ sep :: r) = a :: split sep k r := by
  induction a with
  | nil => simp [split]
  | cons x a ih =>
    have hx : x ≠ sep := fun e => h (by simp [e])
    have ha : sep ∉ a := fun m => h (List.mem_cons_of_mem _ m)
    simp only [List.cons_append, split, hx, if_false, ih ha]

theorem split_cases (sep : UInt8) (k : Nat) (bs : Bytes) :
    (split sep k bs = [bs] ∧ (k = 0 ∨ sep ∉ bs)) ∨
    (∃ k' a r, k = k' + 1 ∧ sep ∉ a ∧ bs = a ++ sep :: r ∧ split sep k bs = a :: split sep k' r) := by
  cases k with
  | zero => exact .inl ⟨split_zero sep bs, .inl rfl⟩
  | succ k =>
    by_cases h : sep ∈ bs
    · obtain ⟨a, r, rfl, ha⟩ := List.eq_append_cons_of_mem h
      exact .inr ⟨k, a, r, rfl, ha, rfl, split_append_sep sep k a r ha⟩
    · exact .inl ⟨split_no_sep sep _ bs h, .inr h⟩

theorem split_ne_nil (sep : UInt8) (k : Nat) (bs : Bytes) : split sep k bs ≠ [] := by
  rcases split_cases sep k bs with ⟨h, _⟩ | ⟨_, _, _, _, _, _, h⟩ <;> simp [h]

theorem splitAll_eq (sep : UInt8) (s : Bytes) : splitAll sep s = s.splitOn sep :=
  Kit.eq_splitOn rfl (fun c cs w ws h => by rw [splitAll, h]) s

theorem join0_eq : ∀ forms : List Bytes, join0 forms = [0].intercalate forms
  | [] => rfl
  | [f] => by simp [join0, List.intercalate]
  | f :: g :: fs => by rw [join0, join0_eq (g :: fs)]; simp [List.intercalate, List.intersperse]

theorem splitAll_no_sep (sep : UInt8) (a : Bytes) (h : sep ∉ a) : splitAll sep a = [a] := by
  rw [splitAll_eq]; exact List.splitOn_eq_singleton h

theorem splitAll_append_sep (sep : UInt8) (a r : Bytes) (h : sep ∉ a) :
    splitAll sep (a ++ sep :: r) = a :: splitAll sep r := by
  rw [splitAll_eq, splitAll_eq]; exact List.splitOn_append_cons_self_of_not_mem h r

theorem splitAll_join0 (forms : List Bytes) (hne : forms ≠ []) (h : ∀ f ∈ forms, (0 : UInt8) ∉ f) :
    splitAll 0 (join0 forms) = forms := by
  rw [splitAll_eq, join0_eq]; exact List.splitOn_intercalate 0 h hne

theorem splitAll_spec (V : Bytes) :
    splitAll 0 V ≠ [] ∧ (∀ f ∈ splitAll 0 V, (0 : UInt8) ∉ f) ∧ join0 (splitAll 0 V) = V := by
  rw [splitAll_eq, join0_eq]
  exact ⟨List.splitOn_ne_nil 0 V, fun _ => Kit.not_mem_of_mem_splitOn, List.intercalate_splitOn 0⟩

theorem bytesLt_iff (a b : Bytes) : bytesLt a b = true ↔ a < b := by
  induction a generalizing b with
  | nil => cases b <;> simp [bytesLt, List.nil_lt_cons]
  | cons x a ih =>
    cases b with
    | nil => simp [bytesLt]
    | cons y b =>
      rw [List.cons_lt_cons_iff]
      simp only [bytesLt]
      by_cases h1 : x < y
      · simp [h1]
      · by_cases h2 : y < x
        · simp only [h1, h2, if_false, if_true]
          constructor
          · intro h; cases h
          · rintro (h | ⟨h, _⟩)
            · exact h.elim
            · subst h; exact absurd h2 h1
        · have : x = y := by
            rw [UInt8.lt_iff_toNat_lt] at h1 h2
            exact UInt8.toNat_inj.1 (by omega)
          subst this
          simp [h1, ih]

theorem EntriesAt_iff {be : Bool} {b : Bytes} {ko to : Nat} : ∀ (cat : List CatEntry) (i0 : Nat),
    EntriesAt be b ko to i0 cat ↔
      ∀ j (hj : j < cat.length), StringAt be b (ko + 8 * (i0 + j)) cat[j].key ∧ StringAt be b (to + 8 * (i0 + j)) cat[j].value
  | [], _ => ⟨fun _ j hj => absurd hj (Nat.not_lt_zero j), fun _ => trivial⟩
  | e :: es, i0 => by
    simp only [EntriesAt, EntriesAt_iff es (i0 + 1), List.length_cons]
    constructor
    · rintro ⟨hk, hv, hrest⟩ j hj
      cases j with
      | zero => exact ⟨hk, hv⟩
      | succ j => simpa [Nat.add_assoc, Nat.add_comm 1 j] using hrest j (Nat.lt_of_succ_lt_succ hj)
    · intro h
      refine ⟨(h 0 (Nat.zero_lt_succ _)).1, (h 0 (Nat.zero_lt_succ _)).2, fun j hj => ?_⟩
      simpa [Nat.add_assoc, Nat.add_comm 1 j] using h (j + 1) (Nat.succ_lt_succ hj)

/-! ### `Spec.Encodes` by name

The witnesses of `Encodes` are `be major minor ko to`; its conjuncts, in order: magic, revision word, `major ≤ 1`,
`minor < 65536`, count word, hidden flag, the words `ko` and `to`, `EntriesAt`, `Sorted`. -/

theorem Spec.Encodes.intro {b : Bytes} {cat : List CatEntry} {hidden be : Bool} {major minor ko to : Nat}
    (header : HeaderWords b be cat.length ko to) (revision : WordAt be b 4 (major * 65536 + minor))
    (major_le : major ≤ 1) (minor_lt : minor < 65536) (flag : HiddenFlag be b minor hidden)
    (entries : EntriesAt be b ko to 0 cat) (sorted : Sorted (cat.map CatEntry.key0)) : Encodes b cat hidden :=
  ⟨be, major, minor, ko, to, header.magic, revision, major_le, minor_lt, header.count, flag, header.keys, header.values,
    entries, sorted⟩

theorem Spec.Encodes_iff {b : Bytes} {cat : List CatEntry} {hidden : Bool} :
    Encodes b cat hidden ↔ ∃ be rev ko to, HeaderWords b be cat.length ko to ∧ WordAt be b 4 rev ∧ rev / 65536 ≤ 1 ∧
      HiddenFlag be b (rev % 65536) hidden ∧ EntriesAt be b ko to 0 cat ∧ Sorted (cat.map CatEntry.key0) := by
  constructor
  · rintro ⟨be, major, minor, ko, to, hm, hrev, hmaj, hmin, hn, hh, hko, hto, hE, hs⟩
    refine ⟨be, major * 65536 + minor, ko, to, ⟨hm, hn, hko, hto⟩, hrev, by omega, ?_, hE, hs⟩
    rwa [show (major * 65536 + minor) % 65536 = minor by omega]
  · rintro ⟨be, rev, ko, to, hw, hrev, hmaj, hh, hE, hs⟩
    exact .intro (major := rev / 65536) (minor := rev % 65536) hw (by rwa [Nat.div_add_mod']) hmaj (by omega) hh hE hs

theorem Spec.Encodes.revision {b : Bytes} {cat : List CatEntry} {hidden : Bool} (h : Encodes b cat hidden) :
    ∃ be rev, Slice b 0 (magicOf be) ∧ WordAt be b 4 rev ∧ rev / 65536 ≤ 1 ∧ HiddenFlag be b (rev % 65536) hidden := by
  obtain ⟨be, rev, _, _, hw, hrev, hmaj, hh, _⟩ := Encodes_iff.1 h
  exact ⟨be, rev, hw.magic, hrev, hmaj, hh⟩

theorem Spec.Encodes.tables {b : Bytes} {cat : List CatEntry} {hidden : Bool} (h : Encodes b cat hidden) :
    ∃ be ko to, HeaderWords b be cat.length ko to ∧
      ∀ j (hj : j < cat.length), StringAt be b (ko + 8 * j) cat[j].key ∧ StringAt be b (to + 8 * j) cat[j].value := by
  obtain ⟨be, _, ko, to, hw, _, _, _, hE, _⟩ := Encodes_iff.1 h
  exact ⟨be, ko, to, hw, fun j hj => by simpa using (EntriesAt_iff cat 0).1 hE j hj⟩

theorem Spec.Encodes.sorted {b : Bytes} {cat : List CatEntry} {hidden : Bool} (h : Encodes b cat hidden) :
    Sorted (cat.map CatEntry.key0) := by
  obtain ⟨_, _, _, _, _, _, _, _, _, hs⟩ := Encodes_iff.1 h
  exact hs

end I18n.Mo
