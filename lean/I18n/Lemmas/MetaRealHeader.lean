import I18n.Lemmas.MetaRealCharset
import I18n.Lemmas.HdrParse
import I18n.Lemmas.HdrScan
import I18n.Lemmas.Kit.List
/-!
`HeaderRel` from the shape of the header text: a header entry whose text is a list of `\n`-terminated lines, one of which is
`Content-Type: text/plain; charset=<name>` (the only Content-Type field), is `HeaderRel`-related to the same text with another
name — for names made of characters `check_headers` finds nothing unusual about.
-/
namespace I18n.Meta.Real
open I18n I18n.Hdr

def terminated (ls : List Str) : Str := (ls.map (· ++ ['\n'])).flatten

/-- `Content-Type: text/plain; charset=<name>` -/
def ctLine (n : Str) : Str := ctKey ++ ':' :: ' ' :: ctValue n

theorem splitOn_terminated (ls : List Str) (h : ∀ l ∈ ls, '\n' ∉ l) : splitOn '\n' (terminated ls) = ls ++ [[]] := by
  induction ls with
  | nil => simp [terminated, splitOn]
  | cons l rest ih =>
    have := ih (fun x hx => h x (List.mem_cons_of_mem _ hx))
    simp only [terminated, List.map_cons, List.flatten_cons, List.append_assoc, List.singleton_append] at this ⊢
    rw [splitOn_eq, List.splitOn_append_cons_self_of_not_mem (h l (by simp)), ← splitOn_eq, this]
    rfl

theorem parseHeader_terminated (ls : List Str) (h : ∀ l ∈ ls, '\n' ∉ l) : parseHeader (terminated ls) = ls.map parseLine := by
  unfold parseHeader headerLines
  simp [splitOn_terminated ls h]

/-- a charset name of ASCII graphic characters -/
structure PlainName (n : Str) : Prop where
  ne : n ≠ []
  graphic : ∀ c ∈ n, 0x21 ≤ c.toNat ∧ c.toNat ≤ 0x7E

theorem parseLine_ct (n : Str) (hn : PlainName n) : parseLine (ctLine n) = .field ctKey (ctValue n) := by
  have hstrip : stripBlanks (' ' :: ctValue n) = ctValue n := by
    refine stripBlanks_of 't' (ctPrefix.drop 1 ++ n) (by decide) fun d hd => ?_
    change (ctValue n).getLast? = some d at hd
    have : (ctValue n).getLast? = n.getLast? := by
      unfold ctValue
      exact Kit.getLast?_append_ne_nil ctPrefix n hn.ne
    rw [this] at hd
    exact graphic_not_blank d (hn.graphic d (List.mem_of_getLast? hd))
  exact (parseLine_field_iff _ _ _).2 ⟨' ' :: ctValue n, rfl, by decide, by unfold Spec.HeaderRules.NameChar; decide, hstrip.symm⟩

theorem unusualAux_subst (db : UDB) (a : Str) (x : Char) (hx : x.toNat ≠ 0x1B) (n1 n2 : Str) (h1 : PlainName n1) (h2 : PlainName n2)
    (y : Str) (prev : Option Char) :
    unusualAux db prev ((a ++ [x]) ++ (n1 ++ '\n' :: y)) = unusualAux db prev ((a ++ [x]) ++ (n2 ++ '\n' :: y)) := by
  induction a generalizing prev with
  | nil =>
    simp only [List.nil_append, List.singleton_append, unusualAux_cons]
    have hh : ∀ nx, hitAt db prev x nx = hitAt db prev x none := by
      intro nx
      have : ¬ x.toNat = Generated.HeaderFields.unusualUnlessBracket := hx
      simp [hitAt, this]
    rw [hh, hh (n2 ++ '\n' :: y).head?, unusualAux_graphic db n1 h1.graphic h1.ne, unusualAux_graphic db n2 h2.graphic h2.ne]
    rw [unusualAux_newline db n1.getLast? n2.getLast?]
  | cons c cs ih =>
    have hd : (cs ++ [x] ++ (n1 ++ '\n' :: y)).head? = (cs ++ [x] ++ (n2 ++ '\n' :: y)).head? := by
      cases cs with
      | nil => rfl
      | cons _ _ => rfl
    simp only [List.cons_append, unusualAux_cons]
    rw [ih (some c), hd]

/-- **`HeaderRel` from the shape of the text**: the lines of the header entry, each terminated by a line feed, the one
    Content-Type line being `Content-Type: text/plain; charset=<name>`; the names graphic ASCII and known to the tool -/
theorem headerRel_of_lines (w : World) (pre post : List Str) (n1 n2 : Str)
    (hl : ∀ l ∈ pre ++ post, '\n' ∉ l) (hct : ∀ l ∈ pre ++ post, ∀ v, parseLine l ≠ .field ctKey v)
    (p1 : PlainName n1) (p2 : PlainName n2) (t1 : TcName w n1) (t2 : TcName w n2) :
    HeaderRel w (terminated (pre ++ ctLine n1 :: post)) (terminated (pre ++ ctLine n2 :: post)) := by
  have nl : ∀ n : Str, PlainName n → '\n' ∉ ctLine n := by
    intro n hn hm
    simp only [ctLine, ctValue, List.mem_append, List.mem_cons] at hm
    rcases hm with hm | hm | hm | hm | hm
    · revert hm; decide
    · cases hm
    · cases hm
    · revert hm; decide
    · have := hn.graphic _ hm; simp at this
  have hlines : ∀ n : Str, PlainName n → ∀ l ∈ pre ++ ctLine n :: post, '\n' ∉ l := by
    intro n hn l hm
    simp only [List.mem_append, List.mem_cons] at hm
    rcases hm with hm | rfl | hm
    · exact hl l (by simp [hm])
    · exact nl n hn
    · exact hl l (by simp [hm])
  constructor
  · -- cut the text just before the name.  `hitAt` looks at the character AFTER the current one only when the current one is ESC
    -- (`unusualUnlessBracket`); the character in front of the name is `=`, so the scan up to it does not see the name
    -- (`unusualAux_subst`, `hx`), and the name and what follows it are scanned alike (`unusualAux_graphic`, `unusualAux_newline`)
    have shape : ∀ n : Str, terminated (pre ++ ctLine n :: post)
        = ((terminated pre ++ (ctKey ++ ':' :: ' ' :: ctPrefix.dropLast)) ++ ['=']) ++ (n ++ '\n' :: terminated post) := by
      intro n
      simp [terminated, ctLine, ctValue, ctPrefix]
    unfold unusualChars
    rw [shape n1, shape n2]
    exact unusualAux_subst w.hx.db _ '=' (by decide) n1 n2 p1 p2 _ none
  · rw [parseHeader_terminated _ (hlines n1 p1), parseHeader_terminated _ (hlines n2 p2)]
    simp only [List.map_append, List.map_cons, parseLine_ct n1 p1, parseLine_ct n2 p2]
    have hmap : ∀ ls : List Str, (∀ l ∈ ls, l ∈ pre ++ post) → ∀ l ∈ ls.map parseLine, ∀ v, l ≠ .field ctKey v := by
      intro ls hs l hm v
      obtain ⟨x, hx, rfl⟩ := List.mem_map.1 hm
      exact hct x (hs x hx) v
    exact LinesRel.subst _ _ n1 n2 t1 t2 (hmap pre fun _ h => List.mem_append_left _ h)
      (hmap post fun _ h => List.mem_append_right _ h)

end I18n.Meta.Real
