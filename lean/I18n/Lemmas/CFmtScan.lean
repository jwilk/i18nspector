import I18n.Model.CFmtRe
import I18n.Lemmas.Kit.List
/-!
# The scanner of `I18n.CFmt` against `Spec.Printf.render`

`scanDirective_sound` / `scanDirective_complete`: the scanner inverts `Directive.renderTail` on well-formed
directives (so a directive has exactly one reading); `scanItem_spec` / `scanItem_complete` say the same of one step of the
scanner (a literal run or a directive), and `scan_sound` / `scan_complete` iterate the step (`scanAll_succ`).
Completeness is where the work is: after each optional group comes a character the group cannot take (`Stop` for the `n$`
groups, `HeadIn` for width and precision; the character facts are `bodyStart_facts`, `conv_facts`, `flag_facts`).

The regex tie (`CFmtRe`, `CFmtFinditer`) reads the same scanner row by row: the equations it needs (`scanIndex_digit`,
`scanWidth_other`, …) and `dollar_stuck` are here too, and at the end the inverses of the decoders of `Model/CFmtRe`.
-/
namespace I18n.CFmt
open I18n.Spec.Printf

theorem spanP_eq {α : Type} (p : α → Bool) (s : List α) : spanP p s = (s.takeWhile p, s.dropWhile p) := by
  induction s with
  | nil => rfl
  | cons y ys ih => by_cases hy : p y = true <;> simp [spanP, hy, ih]

theorem spanP_sound {α : Type} (p : α → Bool) (s : List α) :
    s = (spanP p s).1 ++ (spanP p s).2 ∧ (∀ x ∈ (spanP p s).1, p x = true) ∧ (∀ x, (spanP p s).2.head? = some x → p x = false) := by
  rw [spanP_eq]
  exact Kit.span_iff.1 ⟨rfl, rfl⟩

theorem spanP_complete {α : Type} {p : α → Bool} {a b : List α} (ha : ∀ x ∈ a, p x = true)
    (hb : ∀ x, b.head? = some x → p x = false) : spanP p (a ++ b) = (a, b) := by
  rw [spanP_eq, (Kit.span_append ha hb).1, (Kit.span_append ha hb).2]

theorem spanP_cons_true {α : Type} {p : α → Bool} {x : α} {xs : List α} (h : p x = true) :
    spanP p (x :: xs) = (x :: (spanP p xs).1, (spanP p xs).2) := by
  simp [spanP, h]

theorem isFlag_iff {c : Char} : isFlag c = true ↔ c ∈ flagChars := by
  simp [isFlag, flagChars, or_assoc]

theorem isFlag_contains (c : Char) : isFlag c = flagChars.contains c := by
  simp only [isFlag, flagChars, List.contains_cons, List.contains_nil, Bool.or_false, Bool.or_assoc]

theorem isConv_iff {c : Char} : isConv c = true ↔ c ∈ convChars := by
  simp [isConv]

theorem isPriConv_iff {c : Char} : isPriConv c = true ↔ c ∈ priConvChars := by
  simp [isPriConv]

/-- the characters a rendered body can start with: those of the length modifiers, `<` of `<PRI…>`, the conversions -/
def bodyStartChars : List Char :=
  ['h', 'l', 'q', 'j', 'z', 'Z', 't', 'L', '<',
   'd', 'i', 'o', 'u', 'x', 'X', 'e', 'E', 'f', 'F', 'g', 'G', 'a', 'A', 'c', 's', 'C', 'S', 'p', 'n', 'm', '%']

theorem bodyStart_facts : ∀ c ∈ bodyStartChars,
    c.isDigit = false ∧ c ≠ '$' ∧ isFlag c = false ∧ c ≠ '*' ∧ c ≠ '.' := by decide +kernel

section
variable {c : Char} (h : c ∈ bodyStartChars)
include h
theorem bodyStart_not_digit : c.isDigit = false := (bodyStart_facts c h).1
theorem bodyStart_ne_dollar : c ≠ '$' := (bodyStart_facts c h).2.1
theorem bodyStart_not_flag : isFlag c = false := (bodyStart_facts c h).2.2.1
theorem bodyStart_ne_star : c ≠ '*' := (bodyStart_facts c h).2.2.2.1
theorem bodyStart_ne_dot : c ≠ '.' := (bodyStart_facts c h).2.2.2.2
end

def lenStart (c : Char) : Bool := ['h', 'l', 'q', 'j', 'z', 'Z', 't', 'L'].contains c

theorem conv_facts : ∀ c ∈ convChars, c ∈ bodyStartChars ∧ lenStart c = false ∧ c ≠ '<' := by decide +kernel

section
variable {c : Char} (h : c ∈ convChars)
include h
theorem conv_bodyStart : c ∈ bodyStartChars := (conv_facts c h).1
theorem conv_not_lenStart : lenStart c = false := (conv_facts c h).2.1
theorem conv_ne_lt : c ≠ '<' := (conv_facts c h).2.2
end

theorem lenStart_not_conv {c : Char} (h : lenStart c = true) : isConv c = false := by
  cases hc : isConv c with
  | false => rfl
  | true => rw [conv_not_lenStart (isConv_iff.1 hc)] at h; cases h

theorem flag_facts : ∀ c ∈ flagChars, c ≠ '$' ∧ (c.isDigit = true → c = '0') := by decide

theorem flag_ne_dollar {c : Char} (h : c ∈ flagChars) : c ≠ '$' := (flag_facts c h).1
theorem flag_digit_zero {c : Char} (h : c ∈ flagChars) (hd : c.isDigit = true) : c = '0' := (flag_facts c h).2 hd

theorem digit_ne_dollar {c : Char} (hc : c.isDigit = true) : (c == '$') = false := by
  by_cases h : c = '$'
  · subst h; cases hc
  · simpa using h

theorem scanIndex_sound (s : List Char) : s = renderIdx (scanIndex s).1 ++ (scanIndex s).2 ∧ IdxWf (scanIndex s).1 := by
  have ⟨h1, h2, _⟩ := spanP_sound Char.isDigit s
  unfold scanIndex
  split
  next d ds rest hsp =>
    rw [hsp] at h1 h2
    exact ⟨by simp [renderIdx, h1], by simp, h2⟩
  next => simp [renderIdx, IdxWf]

theorem scanIndex_nondigit {c : Char} {t : List Char} (hc : c.isDigit = false) : scanIndex (c :: t) = (none, c :: t) := by
  simp [scanIndex, spanP, hc]

theorem scanIndex_digit {c : Char} {t : List Char} (hc : c.isDigit = true) :
    scanIndex (c :: t) =
      if (spanP Char.isDigit t).2.head? = some '$' then (some (c :: (spanP Char.isDigit t).1), (spanP Char.isDigit t).2.tail)
      else (none, c :: t) := by
  simp only [scanIndex, spanP, hc, if_true]
  cases (spanP Char.isDigit t).2 with
  | nil => rfl
  | cons e r =>
    by_cases he : e = '$'
    · subst he; rfl
    · simp [he]

theorem scanIndex_some {ds rest : List Char} (h : Numeral ds) :
    scanIndex (ds ++ '$' :: rest) = (some ds, rest) := by
  obtain ⟨hne, hd⟩ := h
  have : spanP Char.isDigit (ds ++ '$' :: rest) = (ds, '$' :: rest) :=
    spanP_complete hd (by intro x hx; simp at hx; subst hx; decide)
  unfold scanIndex
  rw [this]
  cases ds with
  | nil => exact absurd rfl hne
  | cons d ds => rfl

/-- a string whose leading digit run is not followed by `$` -/
def Stop (t : List Char) : Prop :=
  ∃ zs c u, t = zs ++ c :: u ∧ (∀ x ∈ zs, x.isDigit = true) ∧ c.isDigit = false ∧ c ≠ '$'

theorem scanIndex_none {t : List Char} (h : Stop t) : scanIndex t = (none, t) := by
  obtain ⟨zs, c, u, rfl, hz, hc, hc'⟩ := h
  have : spanP Char.isDigit (zs ++ c :: u) = (zs, c :: u) :=
    spanP_complete hz (by intro x hx; simp at hx; subst hx; exact hc)
  unfold scanIndex
  rw [this]
  split
  next heq => exact absurd (List.cons.inj (Prod.mk.inj heq).2).1 hc'
  next => rfl

theorem Stop.head {c : Char} {u : List Char} (h1 : c.isDigit = false) (h2 : c ≠ '$') : Stop (c :: u) :=
  ⟨[], c, u, rfl, by simp, h1, h2⟩

theorem Stop.digits {zs t : List Char} (hz : ∀ x ∈ zs, x.isDigit = true) (h : Stop t) : Stop (zs ++ t) := by
  obtain ⟨zs', c, u, rfl, hz', hc, hc'⟩ := h
  refine ⟨zs ++ zs', c, u, by simp, ?_, hc, hc'⟩
  intro x hx
  rcases List.mem_append.1 hx with hx | hx
  · exact hz x hx
  · exact hz' x hx

theorem Stop.flags {fs t : List Char} (hf : ∀ x ∈ fs, x ∈ flagChars) (h : Stop t) : Stop (fs ++ t) := by
  induction fs with
  | nil => simpa using h
  | cons f fs ih =>
    have ih := ih (fun x hx => hf x (by simp [hx]))
    by_cases hd : f.isDigit = true
    · exact Stop.digits (zs := [f]) (by simpa using hd) ih
    · exact Stop.head (by simpa using hd) (flag_ne_dollar (hf f (by simp)))

theorem scanIndex_render {idx : Option (List Char)} {t : List Char} (h : IdxWf idx) (ht : Stop t) :
    scanIndex (renderIdx idx ++ t) = (idx, t) := by
  cases idx with
  | none => exact scanIndex_none ht
  | some ds => simpa [renderIdx] using scanIndex_some (rest := t) h

/-- `t` starts with a character of `L`: what the width (`'.' :: bodyStartChars`) and the precision (`bodyStartChars`) are
    followed by, so that neither can read on -/
def HeadIn (L : List Char) (t : List Char) : Prop := ∃ c u, t = c :: u ∧ c ∈ L

theorem HeadIn.stop {t : List Char} (h : HeadIn ('.' :: bodyStartChars) t) : Stop t := by
  obtain ⟨c, u, rfl, hc⟩ := h
  rcases List.mem_cons.1 hc with rfl | hc
  · exact Stop.head (by decide) (by decide)
  · exact Stop.head (bodyStart_not_digit hc) (bodyStart_ne_dollar hc)

theorem HeadIn.mono {L L' : List Char} {t : List Char} (h : HeadIn L t) (hs : ∀ c ∈ L, c ∈ L') : HeadIn L' t := by
  obtain ⟨c, u, rfl, hc⟩ := h
  exact ⟨c, u, rfl, hs c hc⟩

theorem scanWidth_other {c : Char} {t : List Char} (hs : c ≠ '*') :
    scanWidth (c :: t) = if (c.isDigit && c != '0') = true then (.num (spanP Char.isDigit (c :: t)).1, (spanP Char.isDigit (c :: t)).2) else (.none, c :: t) := by
  unfold scanWidth
  split
  next r heq => exact absurd (List.cons.inj heq).1 hs
  next c' t' _ heq => cases heq; rfl
  next heq => cases heq

theorem scanWidth_sound (s : List Char) : s = (scanWidth s).1.render ++ (scanWidth s).2 ∧ (scanWidth s).1.Wf := by
  cases s with
  | nil => simp [scanWidth, Width.render, Width.Wf]
  | cons c cs =>
    by_cases hs : c = '*'
    · subst hs
      obtain ⟨h1, h2⟩ := scanIndex_sound cs
      exact ⟨by simp [scanWidth, Width.render, ← h1], h2⟩
    · rw [scanWidth_other hs]
      by_cases hc : (c.isDigit && c != '0') = true
      · rw [if_pos hc]
        simp only [Bool.and_eq_true, bne_iff_ne, ne_eq] at hc
        obtain ⟨h1, h2, _⟩ := spanP_sound Char.isDigit (c :: cs)
        refine ⟨by simpa [Width.render] using h1, ?_⟩
        rw [spanP_cons_true hc.1] at h2 ⊢
        exact ⟨⟨by simp, h2⟩, by simp [hc.2]⟩
      · rw [if_neg hc]
        simp [Width.render, Width.Wf]

theorem scanWidth_complete {w : Width} {t : List Char} (hw : w.Wf) (ht : HeadIn ('.' :: bodyStartChars) t) :
    scanWidth (w.render ++ t) = (w, t) := by
  have hstop := ht.stop
  obtain ⟨c, u, rfl, hc⟩ := ht
  have hcd : c.isDigit = false ∧ c ≠ '*' := by
    rcases List.mem_cons.1 hc with rfl | hc
    · exact ⟨by decide, by decide⟩
    · exact ⟨bodyStart_not_digit hc, bodyStart_ne_star hc⟩
  cases w with
  | none => exact (scanWidth_other hcd.2).trans (if_neg (by simp [hcd.1]))
  | num ds =>
    obtain ⟨⟨hne, hd⟩, h0⟩ := hw
    cases ds with
    | nil => exact absurd rfl hne
    | cons d ds' =>
      have hdd : d.isDigit = true := hd d (by simp)
      have hd0 : d ≠ '0' := by simpa using h0
      have hdstar : d ≠ '*' := by intro h; subst h; revert hdd; decide
      have hsp : spanP Char.isDigit ((d :: ds') ++ c :: u) = (d :: ds', c :: u) :=
        spanP_complete hd (by intro x hx; simp at hx; subst hx; exact hcd.1)
      rw [Width.render, List.cons_append, scanWidth_other hdstar, if_pos (by simp [hdd, hd0]), ← List.cons_append, hsp]
  | star idx =>
    simp only [Width.render, List.cons_append]
    unfold scanWidth
    simp only
    rw [scanIndex_render hw hstop]

theorem scanPrec_sound (s : List Char) : s = (scanPrec s).1.render ++ (scanPrec s).2 ∧ (scanPrec s).1.Wf := by
  unfold scanPrec
  split
  next r =>
    obtain ⟨h1, h2⟩ := scanIndex_sound r
    exact ⟨by simp [Prec.render, ← h1], h2⟩
  next r _ =>
    obtain ⟨h1, h2, _⟩ := spanP_sound Char.isDigit r
    exact ⟨by simp [Prec.render, ← h1], h2⟩
  next => simp [Prec.render, Prec.Wf]

theorem scanPrec_nodot {c : Char} {t : List Char} (h : c ≠ '.') : scanPrec (c :: t) = (.none, c :: t) := by
  simp [scanPrec, h]

theorem scanPrec_dot_other {t : List Char} (h : ∀ u, t ≠ '*' :: u) :
    scanPrec ('.' :: t) = (.num (spanP Char.isDigit t).1, (spanP Char.isDigit t).2) := by
  unfold scanPrec
  split
  next u heq => exact absurd (List.cons.inj heq).2 (h u)
  next r _ heq => cases heq; rfl
  next _ hdot => exact absurd rfl (hdot t)

theorem scanPrec_complete {p : Prec} {t : List Char} (hp : p.Wf) (ht : HeadIn bodyStartChars t) :
    scanPrec (p.render ++ t) = (p, t) := by
  have hstop : Stop t := (ht.mono (fun c hc => List.mem_cons_of_mem _ hc)).stop
  obtain ⟨c, u, rfl, hc⟩ := ht
  cases p with
  | none => exact scanPrec_nodot (bodyStart_ne_dot hc)
  | num ds =>
    have hsp : spanP Char.isDigit (ds ++ c :: u) = (ds, c :: u) :=
      spanP_complete hp (by intro x hx; simp at hx; subst hx; exact bodyStart_not_digit hc)
    rw [Prec.render, List.cons_append, scanPrec_dot_other, hsp]
    intro u' h
    cases ds with
    | nil => injection h with h; exact bodyStart_ne_star hc h
    | cons d ds' =>
      injection h with h
      have hd : d.isDigit = true := hp d (by simp)
      rw [h] at hd
      cases hd
  | star idx =>
    simp only [Prec.render, List.cons_append]
    unfold scanPrec
    simp only
    rw [scanIndex_render hp hstop]

theorem scanLen_sound (s : List Char) : s = renderLen (scanLen s).1 ++ (scanLen s).2 := by
  generalize h : scanLen s = x
  obtain ⟨l, rest⟩ := x
  unfold scanLen at h
  split at h <;> obtain ⟨rfl, rfl⟩ := Prod.mk.inj h <;> simp [renderLen, Len.chars]

/-! The rows of `scanLen` overlap (`hh` before `h`, `ll` before `l`, the catch-all last); `simp` picks the row, given what
    excludes the ones before it. -/

theorem scanLen_other {c : Char} {t : List Char} (h : lenStart c = false) : scanLen (c :: t) = (none, c :: t) := by
  simp only [lenStart, List.contains_cons, List.contains_nil, Bool.or_false, Bool.or_eq_false_iff, beq_eq_false_iff_ne] at h
  simp [scanLen, h]

theorem scanLen_h {c : Char} {t : List Char} (h : c ≠ 'h') : scanLen ('h' :: c :: t) = (some .h, c :: t) := by
  simp [scanLen, h]

theorem scanLen_l {c : Char} {t : List Char} (h : c ≠ 'l') : scanLen ('l' :: c :: t) = (some .l, c :: t) := by
  simp [scanLen, h]

theorem scanLen_complete {l : Option Len} {c : Char} {rest : List Char} (hc : c ∈ convChars) :
    scanLen (renderLen l ++ c :: rest) = (l, c :: rest) := by
  have hs := conv_not_lenStart hc
  match l with
  | none => exact scanLen_other hs
  | some .h => exact scanLen_h (fun e => by subst e; cases hs)
  | some .l => exact scanLen_l (fun e => by subst e; cases hs)
  | some .hh | some .ll | some .q | some .j | some .z | some .Z | some .t | some .L => rfl

theorem scanBits_sound {s : List Char} {b rest} (h : scanBits s = some (b, rest)) : s = b.chars ++ rest := by
  unfold scanBits at h
  split at h <;> simp at h <;> obtain ⟨rfl, rfl⟩ := h <;> simp [PriBits.chars]

/-- the sized macros `PRI?{,LEAST,FAST}N`: the bits after the prefix `k.chars` -/
theorem scanBits_sized {k : PriKind} {r : List Char} {l rest}
    (h : (scanBits r).map (fun (b, r') => (PriLen.sized k b, r')) = some (l, rest)) : k.chars ++ r = l.chars ++ rest := by
  cases hb : scanBits r with
  | none => simp [hb] at h
  | some br =>
    obtain ⟨b, r'⟩ := br
    simp [hb] at h
    obtain ⟨rfl, rfl⟩ := h
    simp [PriLen.chars, scanBits_sound hb]

theorem scanPriLen_sound {s : List Char} {l rest} (h : scanPriLen s = some (l, rest)) : s = l.chars ++ rest := by
  unfold scanPriLen at h
  split at h
  · exact scanBits_sized (k := .least) h
  · exact scanBits_sized (k := .fast) h
  · simp at h; obtain ⟨rfl, rfl⟩ := h; simp [PriLen.chars]
  · simp at h; obtain ⟨rfl, rfl⟩ := h; simp [PriLen.chars]
  · exact scanBits_sized (k := .exact) h

theorem scanPriLen_complete (l : PriLen) (rest : List Char) : scanPriLen (l.chars ++ rest) = some (l, rest) := by
  cases l with
  | max => rfl
  | ptr => rfl
  | sized k b => cases k <;> cases b <;> rfl

/-- the last step of `scanBody` on `<PRI c …`: the closing `>` -/
def closePri (c : Char) : Option (PriLen × List Char) → Option (Body × List Char)
  | some (l, '>' :: rest) => some (.pri c l, rest)
  | _ => none

theorem closePri_ne (c : Char) (l : PriLen) {e : Char} (r3 : List Char) (he : e ≠ '>') : closePri c (some (l, e :: r3)) = none := by
  unfold closePri
  split
  next heq => cases heq; exact absurd rfl he
  next => rfl

theorem closePri_some {c : Char} {o : Option (PriLen × List Char)} {b : Body} {rest : List Char}
    (h : closePri c o = some (b, rest)) : ∃ l, o = some (l, '>' :: rest) ∧ b = .pri c l := by
  unfold closePri at h
  split at h
  next l r => cases h; exact ⟨l, rfl, rfl⟩
  next => cases h

theorem scanBody_pri (c : Char) (r : List Char) :
    scanBody ('<' :: 'P' :: 'R' :: 'I' :: c :: r) = if isPriConv c = true then closePri c (scanPriLen r) else none := rfl

theorem scanBody_std {s : List Char} (h : ∀ c r, s ≠ '<' :: 'P' :: 'R' :: 'I' :: c :: r) :
    scanBody s =
      match (scanLen s).2 with
      | c :: r => if isConv c = true then some (.std (scanLen s).1 c, r) else none
      | [] => none := by
  unfold scanBody
  split
  next c r => exact absurd rfl (h c r)
  next => rfl

theorem scanBody_dollar (r : List Char) : scanBody ('$' :: r) = none := by
  rw [scanBody_std (fun _ _ h => by cases h), scanLen_other (by decide)]
  rfl

theorem scanBody_sound {s : List Char} {b rest} (h : scanBody s = some (b, rest)) :
    s = b.render ++ rest ∧ b.Wf := by
  by_cases hp : ∃ c r, s = '<' :: 'P' :: 'R' :: 'I' :: c :: r
  · obtain ⟨c, r, rfl⟩ := hp
    rw [scanBody_pri] at h
    by_cases hc : isPriConv c = true
    · rw [if_pos hc] at h
      obtain ⟨l, hl, rfl⟩ := closePri_some h
      exact ⟨by simp [Body.render, scanPriLen_sound hl], isPriConv_iff.1 hc⟩
    · rw [if_neg hc] at h; cases h
  · rw [scanBody_std fun c r e => hp ⟨c, r, e⟩] at h
    have hs := scanLen_sound s
    cases hr : (scanLen s).2 with
    | nil => rw [hr] at h; cases h
    | cons c r =>
      rw [hr] at h hs
      by_cases hc : isConv c = true
      · simp only [hc, if_true, Option.some.injEq, Prod.mk.injEq] at h
        obtain ⟨rfl, rfl⟩ := h
        exact ⟨by simpa [Body.render] using hs, isConv_iff.1 hc⟩
      · simp only [hc] at h; cases h

theorem body_head {b : Body} (hb : b.Wf) (rest : List Char) : HeadIn bodyStartChars (b.render ++ rest) := by
  cases b with
  | std len conv =>
    have hc : conv ∈ bodyStartChars := conv_bodyStart hb
    cases len with
    | none => exact ⟨conv, rest, by simp [Body.render, renderLen], hc⟩
    | some ln =>
      cases ln <;> simp only [Body.render, renderLen, Len.chars, List.cons_append, List.nil_append] <;>
        exact ⟨_, _, rfl, by decide⟩
  | pri conv len =>
    simp only [Body.render, List.cons_append, List.nil_append, List.append_assoc]
    exact ⟨_, _, rfl, by decide⟩

theorem scanBody_complete {b : Body} (hb : b.Wf) (rest : List Char) :
    scanBody (b.render ++ rest) = some (b, rest) := by
  cases b with
  | pri conv len =>
    have hc : isPriConv conv = true := isPriConv_iff.2 hb
    simp only [Body.render, List.cons_append, List.append_assoc, List.nil_append]
    unfold scanBody
    simp [hc, scanPriLen_complete]
  | std len conv =>
    have hc : isConv conv = true := isConv_iff.2 hb
    have hsl := scanLen_complete (l := len) (rest := rest) hb
    simp only [Body.render, List.append_assoc, List.cons_append, List.nil_append]
    -- no length modifier and no conversion starts with `<`
    have hne : ∀ c r, renderLen len ++ conv :: rest ≠ '<' :: 'P' :: 'R' :: 'I' :: c :: r := by
      intro c r heq
      cases len with
      | none => simp [renderLen] at heq; exact conv_ne_lt hb heq.1
      | some ln => cases ln <;> simp [renderLen, Len.chars] at heq
    rw [scanBody_std hne, hsl]
    simp [hc]

theorem scanDirective_sound {s : List Char} {d rest} (h : scanDirective s = some (d, rest)) :
    s = d.renderTail ++ rest ∧ d.Wf := by
  unfold scanDirective at h
  simp only at h
  cases hb : scanBody (scanPrec (scanWidth (spanP isFlag (scanIndex s).2).2).2).2 with
  | none => simp [hb] at h
  | some p =>
    obtain ⟨body, rest'⟩ := p
    simp [hb] at h
    obtain ⟨rfl, rfl⟩ := h
    obtain ⟨h1, w1⟩ := scanIndex_sound s
    obtain ⟨h2, w2, _⟩ := spanP_sound isFlag (scanIndex s).2
    obtain ⟨h3, w3⟩ := scanWidth_sound (spanP isFlag (scanIndex s).2).2
    obtain ⟨h4, w4⟩ := scanPrec_sound (scanWidth (spanP isFlag (scanIndex s).2).2).2
    obtain ⟨h5, w5⟩ := scanBody_sound hb
    refine ⟨?_, ⟨w1, fun c hc => isFlag_iff.1 (w2 c hc), w3, w4, w5⟩⟩
    simp only [Directive.renderTail, List.append_assoc]
    rw [← h5, ← h4, ← h3, ← h2, ← h1]

theorem width_head_nonflag {w : Width} {t : List Char} (hw : w.Wf) (ht : HeadIn ('.' :: bodyStartChars) t) :
    ∀ x, (w.render ++ t).head? = some x → isFlag x = false := by
  intro x hx
  have base : ∀ x, t.head? = some x → isFlag x = false := by
    intro x hx
    obtain ⟨c, u, rfl, hc⟩ := ht
    simp at hx; subst hx
    rcases List.mem_cons.1 hc with rfl | hc
    · decide
    · exact bodyStart_not_flag hc
  cases w with
  | none => exact base x (by simpa [Width.render] using hx)
  | star idx => simp [Width.render] at hx; subst hx; decide
  | num ds =>
    obtain ⟨⟨hne, hd⟩, h0⟩ := hw
    cases ds with
    | nil => exact absurd rfl hne
    | cons d ds' =>
      simp [Width.render] at hx
      subst hx
      have hdd : d.isDigit = true := hd d (by simp)
      have hd0 : d ≠ '0' := by simpa using h0
      cases hfl : isFlag d with
      | false => rfl
      | true => exact absurd (flag_digit_zero (isFlag_iff.1 hfl) hdd) hd0

theorem width_stop {w : Width} {t : List Char} (hw : w.Wf) (ht : Stop t) : Stop (w.render ++ t) := by
  cases w with
  | none => simpa [Width.render] using ht
  | num ds => exact Stop.digits hw.1.2 ht
  | star idx => exact Stop.head (by decide) (by decide)

theorem prec_head {p : Prec} {t : List Char} (ht : HeadIn bodyStartChars t) :
    HeadIn ('.' :: bodyStartChars) (p.render ++ t) := by
  cases p with
  | none => simpa [Prec.render] using ht.mono (fun c hc => List.mem_cons_of_mem _ hc)
  | num ds => simp only [Prec.render, List.cons_append]; exact ⟨_, _, rfl, by simp⟩
  | star idx => simp only [Prec.render, List.cons_append]; exact ⟨_, _, rfl, by simp⟩

theorem scanDirective_complete {d : Directive} (hd : d.Wf) (rest : List Char) :
    scanDirective (d.renderTail ++ rest) = some (d, rest) := by
  obtain ⟨index, flags, width, prec, body⟩ := d
  obtain ⟨w1, w2, w3, w4, w5⟩ := hd
  simp only at w1 w2 w3 w4 w5
  have t4 : HeadIn bodyStartChars (body.render ++ rest) := body_head w5 rest
  have t3 : HeadIn ('.' :: bodyStartChars) (prec.render ++ (body.render ++ rest)) := prec_head t4
  have s2 : Stop (width.render ++ (prec.render ++ (body.render ++ rest))) := width_stop w3 t3.stop
  have s1 : Stop (flags ++ (width.render ++ (prec.render ++ (body.render ++ rest)))) := Stop.flags w2 s2
  have e1 := scanIndex_render (idx := index) w1 s1
  have e2 : spanP isFlag (flags ++ (width.render ++ (prec.render ++ (body.render ++ rest)))) =
      (flags, width.render ++ (prec.render ++ (body.render ++ rest))) :=
    spanP_complete (fun x hx => isFlag_iff.2 (w2 x hx)) (width_head_nonflag w3 t3)
  have e3 := scanWidth_complete w3 t3
  have e4 := scanPrec_complete w4 t4
  have e5 := scanBody_complete w5 rest
  unfold scanDirective
  simp only [Directive.renderTail, List.append_assoc, e1, e2, e3, e4, e5]

/-- after `digits $` nothing but the `index` group can go on: the flags take leading zeros, the width the other digits, and
    no precision or body starts with `$` -/
theorem dollar_stuck (r : List Char) : ∀ (ds : List Char), (∀ x ∈ ds, x.isDigit = true) →
    scanBody (scanPrec (scanWidth (spanP isFlag (ds ++ '$' :: r)).2).2).2 = none := by
  have base : ∀ (ds : List Char), (∀ x ∈ ds, x.isDigit = true) → (∀ d t, ds = d :: t → isFlag d = false) →
      scanBody (scanPrec (scanWidth (ds ++ '$' :: r)).2).2 = none := by
    intro ds hd hf
    cases ds with
    | nil =>
      simp only [List.nil_append]
      rw [scanWidth_other (by decide), if_neg (by decide), scanPrec_nodot (by decide), scanBody_dollar]
    | cons d t =>
      have hdd : d.isDigit = true := hd d (by simp)
      have hnf := hf d t rfl
      have hd0 : d ≠ '0' := by intro h; subst h; cases hnf
      have hds : d ≠ '*' := by intro h; subst h; cases hdd
      have hsp : spanP Char.isDigit (d :: t ++ '$' :: r) = (d :: t, '$' :: r) :=
        spanP_complete (a := d :: t) hd (by intro x hx; simp at hx; subst hx; decide)
      rw [List.cons_append, scanWidth_other hds, if_pos (by simp [hdd, hd0])]
      rw [← List.cons_append, hsp]
      simp only
      rw [scanPrec_nodot (by decide), scanBody_dollar]
  intro ds
  induction ds with
  | nil => intro _; simpa [spanP, isFlag] using base [] (by simp) (by simp)
  | cons d t ih =>
    intro hd
    by_cases hf : isFlag d = true
    · simp only [List.cons_append, spanP, hf, if_true]
      exact ih (fun x hx => hd x (by simp [hx]))
    · have hf' : isFlag d = false := by simpa using hf
      simp only [List.cons_append, spanP, hf', Bool.false_eq_true, if_false]
      rw [← List.cons_append]
      exact base (d :: t) hd (by intro d' t' h; injection h with h1 _; subst h1; exact hf')

/-! ## one step, and its iteration -/

theorem scanAll_nil (fuel : Nat) : scanAll fuel [] = ([], true) := by
  cases fuel <;> simp [scanAll]

theorem scanAll_succ (fuel : Nat) (cs : List Char) :
    scanAll (fuel + 1) cs =
      match scanItem cs with
      | none => ([], cs.isEmpty)
      | some (it, rest) => (it :: (scanAll fuel rest).1, (scanAll fuel rest).2) := by
  -- the cases of `scanItem`: 1 no input, 2 `%` without a directive, 3 `%` and a directive, 4 a literal run
  fun_cases scanItem cs
  case case1 => rfl
  case case2 c t hc hd => simp only [scanAll, hc, if_true, hd, List.isEmpty_cons]
  case case3 c t hc d r hd => simp only [scanAll, hc, if_true, hd]
  case case4 c t hc => simp only [scanAll, hc, Bool.false_eq_true, if_false]

def ItemWf : Item → Prop
  | .lit cs => cs ≠ [] ∧ ∀ c ∈ cs, c ≠ '%'
  | .dir d => d.Wf

/-- a literal run is maximal: what follows it is the end of the string or a `%` -/
def Follow : Item → List Char → Prop
  | .lit _, rest => ∀ x, rest.head? = some x → x = '%'
  | .dir _, _ => True

def LitLit : Item → List Item → Prop
  | .lit _, .lit _ :: _ => True
  | _, _ => False

theorem litLit_lit_lit (a b : List Char) (items : List Item) : LitLit (.lit a) (.lit b :: items) := trivial
theorem not_litLit_dir (d : Directive) (items : List Item) : ¬ LitLit (.dir d) items := nofun
theorem not_litLit_nil (it : Item) : ¬ LitLit it [] := by cases it <;> nofun
theorem not_litLit_cons_dir (it : Item) (d : Directive) (items : List Item) : ¬ LitLit it (.dir d :: items) := by cases it <;> nofun

theorem itemsWf_cons {it : Item} {items : List Item} :
    ItemsWf (it :: items) ↔ ItemWf it ∧ ¬ LitLit it items ∧ ItemsWf items := by
  cases it with
  | lit cs => cases items with
    | nil => simp [ItemsWf, ItemWf, LitLit]
    | cons j js => cases j <;> simp [ItemsWf, ItemWf, LitLit, and_assoc]
  | dir d => simp [ItemsWf, ItemWf, LitLit]

theorem scanItem_spec {cs : List Char} {it : Item} {rest : List Char} (h : scanItem cs = some (it, rest)) :
    cs = it.render ++ rest ∧ ItemWf it ∧ Follow it rest ∧ 0 < it.render.length := by
  revert h
  fun_cases scanItem cs
  -- a directive (the cases are numbered as in `scanAll_succ`)
  case case3 c t hc d r hd =>
    rintro ⟨⟩
    obtain ⟨e, hw⟩ := scanDirective_sound hd
    exact ⟨by rw [beq_iff_eq.1 hc, e]; rfl, hw, trivial, Nat.succ_pos _⟩
  -- a literal run
  case case4 c t hc =>
    rintro ⟨⟩
    have hc' : (c != '%') = true := by simpa using hc
    obtain ⟨h1, h2, h3⟩ := spanP_sound (fun x => x != '%') (c :: t)
    -- the run read is not empty: it starts with `c`
    have hrun : (spanP (fun x => x != '%') (c :: t)).1 = c :: (spanP (fun x => x != '%') t).1 := by
      simp only [spanP, hc', if_true]
    refine ⟨h1, ⟨?_, fun x hx => ?_⟩, fun x hx => ?_, ?_⟩
    · rw [hrun]; exact List.cons_ne_nil _ _
    · exact bne_iff_ne.1 (h2 x hx)
    · simpa using h3 x hx
    · rw [Item.render, hrun]; exact Nat.succ_pos _
  all_goals rintro ⟨⟩

theorem scanItem_pos {cs : List Char} {it : Item} {rest : List Char} (h : scanItem cs = some (it, rest)) : 0 < it.render.length :=
  (scanItem_spec h).2.2.2

theorem scanItem_none_head {c : Char} {t : List Char} (h : scanItem (c :: t) = none) : c = '%' := by
  simp only [scanItem] at h
  by_cases hc : (c == '%') = true
  · exact beq_iff_eq.1 hc
  · simp [hc] at h

theorem scanAll_fuel : ∀ (f1 f2 : Nat) (cs : List Char), cs.length ≤ f1 → cs.length ≤ f2 → scanAll f1 cs = scanAll f2 cs := by
  intro f1
  induction f1 with
  | zero =>
    intro f2 cs h1 _
    have : cs = [] := by cases cs <;> simp_all
    subst this; rw [scanAll_nil, scanAll_nil]
  | succ f1 ih =>
    intro f2 cs h1 h2
    cases f2 with
    | zero =>
      have : cs = [] := by cases cs <;> simp_all
      subst this; rw [scanAll_nil, scanAll_nil]
    | succ f2 =>
      rw [scanAll_succ, scanAll_succ]
      cases h : scanItem cs with
      | none => rfl
      | some p =>
        obtain ⟨it, rest⟩ := p
        obtain ⟨e, _, _, hl⟩ := scanItem_spec h
        have : rest.length < cs.length := by rw [e]; simp; omega
        simp only
        rw [ih f2 rest (by omega) (by omega)]

theorem scanItem_complete {it : Item} (hw : ItemWf it) {rest : List Char} (hf : Follow it rest) :
    scanItem (it.render ++ rest) = some (it, rest) := by
  cases it with
  | dir d => simp [Item.render, Directive.render, scanItem, scanDirective_complete hw]
  | lit cs =>
    obtain ⟨hne, hp⟩ := hw
    have hsp : spanP (fun x : Char => x != '%') (cs ++ rest) = (cs, rest) :=
      spanP_complete (fun x hx => by simpa using hp x hx) (fun x hx => by simpa using hf x hx)
    cases cs with
    | nil => exact absurd rfl hne
    | cons c cs' =>
      have hc : (c == '%') = false := by simpa using hp c (by simp)
      simp only [Item.render, List.cons_append, scanItem, hc] at hsp ⊢
      simp [hsp]

/-- after a literal run the scanner does not read another one: at a `%` it reads a directive or stops -/
theorem scanAll_after {it : Item} {rest : List Char} (hf : Follow it rest) (fuel : Nat) : ¬ LitLit it (scanAll fuel rest).1 := by
  cases it with
  | dir d => exact not_litLit_dir d _
  | lit cs =>
    cases rest with
    | nil => rw [scanAll_nil]; exact not_litLit_nil _
    | cons x xs =>
      obtain rfl : x = '%' := hf x rfl
      cases fuel with
      | zero => exact not_litLit_nil _
      | succ f =>
        rw [scanAll_succ]
        simp only [scanItem, beq_self_eq_true, if_true]
        cases scanDirective xs with
        | none => exact not_litLit_nil _
        | some p => exact not_litLit_cons_dir _ p.1 _

theorem scanAll_sound : ∀ (fuel : Nat) (s : List Char) (items : List Item) (complete : Bool),
    s.length ≤ fuel → scanAll fuel s = (items, complete) →
    ItemsWf items ∧ ∃ rest, s = render items ++ rest ∧ (complete = true → rest = [])
  | 0, s, _, _, hl, h => by
    obtain rfl : s = [] := List.length_eq_zero_iff.1 (Nat.le_zero.1 hl)
    cases h
    exact ⟨trivial, [], rfl, fun _ => rfl⟩
  | fuel + 1, s, _, _, hl, h => by
    rw [scanAll_succ] at h
    cases hs : scanItem s with
    | none => rw [hs] at h; cases h; exact ⟨trivial, s, rfl, fun he => by simpa using he⟩
    | some p =>
      obtain ⟨it, rest⟩ := p
      rw [hs] at h
      cases h
      obtain ⟨e, hw, hf, hpos⟩ := scanItem_spec hs
      obtain ⟨iw, r', e', hc⟩ := scanAll_sound fuel rest _ _ (by rw [e, List.length_append] at hl; omega) rfl
      exact ⟨itemsWf_cons.2 ⟨hw, scanAll_after hf fuel, iw⟩, r', by simp only [render, List.append_assoc, ← e', ← e], hc⟩

theorem render_follow {it : Item} {items : List Item} (h : ItemsWf (it :: items)) : Follow it (render items) := by
  cases it with
  | dir d => trivial
  | lit cs =>
    cases items with
    | nil => intro x hx; cases hx
    | cons j js =>
      cases j with
      | lit l => exact absurd (litLit_lit_lit cs l js) (itemsWf_cons.1 h).2.1
      | dir d => intro x hx; exact (Option.some.inj hx).symm

theorem scanAll_complete : ∀ (items : List Item) (fuel : Nat), ItemsWf items → (render items).length ≤ fuel →
    scanAll fuel (render items) = (items, true)
  | [], fuel, _, _ => scanAll_nil fuel
  | it :: rest, fuel, hwf, hl => by
    obtain ⟨hw, -, hwr⟩ := itemsWf_cons.1 hwf
    have hs := scanItem_complete hw (render_follow hwf)
    have hpos : 0 < it.render.length := scanItem_pos hs
    simp only [render, List.length_append] at hl ⊢
    cases fuel with
    | zero => omega
    | succ f =>
      have ih := scanAll_complete rest f hwr (by omega)
      rw [scanAll_succ, hs]
      simp only [ih]

theorem scan_sound {s : List Char} {items : List Item} {complete : Bool} (h : scan s = (items, complete)) :
    ItemsWf items ∧ ∃ rest, s = render items ++ rest ∧ (complete = true → rest = []) :=
  scanAll_sound s.length s items complete (Nat.le_refl _) h

theorem scan_complete {items : List Item} (h : ItemsWf items) : scan (render items) = (items, true) :=
  scanAll_complete items _ h (Nat.le_refl _)

/-- **Unique readability.**  A string has at most one decomposition into well-formed items. -/
theorem render_injective {items items' : List Item} (h : ItemsWf items) (h' : ItemsWf items')
    (he : render items = render items') : items = items' := by
  have a := scan_complete h
  have b := scan_complete h'
  rw [he, b] at a
  exact (Prod.mk.inj a).1.symm

end I18n.CFmt

/-! ## what the decoders of `Model/CFmtRe` undo

In the namespace of the regex files, where the uses are. -/
namespace I18n.CFmtRe
open I18n.CFmt I18n.Spec.Printf

theorem rstripDollar_digits {ds : List Char} (h : ∀ c ∈ ds, c.isDigit = true) : rstripDollar (ds ++ ['$']) = ds := by
  unfold rstripDollar
  simp only [List.reverse_append, List.reverse_cons, List.reverse_nil, List.nil_append, List.cons_append, List.dropWhile_cons,
    beq_self_eq_true, if_true]
  have : List.dropWhile (fun x => x == '$') ds.reverse = ds.reverse := by
    cases hr : ds.reverse with
    | nil => rfl
    | cons c t =>
      have hc : c ∈ ds := by
        have : c ∈ ds.reverse := by rw [hr]; exact List.mem_cons_self
        exact List.mem_reverse.1 this
      have : (c == '$') = false := digit_ne_dollar (h c hc)
      simp [this]
  rw [this, List.reverse_reverse]

theorem lenOfChars_chars (ln : Len) : lenOfChars ln.chars = some ln := by cases ln <;> rfl

theorem priLenOfChars_chars (l : PriLen) : priLenOfChars l.chars = some l := by
  cases l with
  | max => rfl
  | ptr => rfl
  | sized k b => cases k <;> cases b <;> rfl

end I18n.CFmtRe
