import I18n.Lemmas.LocaleTags
/-
Which tag names the reference verdict carries, and when: one statement for `fieldRules`, one for `verdictTags`, with the name a
variable; the reading for a particular tag is an instance.
-/
namespace I18n.Locale
open I18n.Spec.LocaleTags

def hasName (n : String) (ts : List TagCall) : Prop := ∃ t ∈ ts, t.name = n

theorem tag_name (n : String) (es : List Extra) : (tag n es).name = n := rfl
theorem disparity_name (l m : Language) (s t : String) : (disparity l s m t).name = "language-disparity" := rfl

theorem mem_when (c : Bool) (t u : TagCall) : u ∈ when c t ↔ c = true ∧ u = t := by
  unfold when; cases c <;> simp

theorem hasName_nil (n : String) : hasName n [] ↔ False := by simp [hasName]
theorem hasName_cons (n : String) (t : TagCall) (ts : List TagCall) : hasName n (t :: ts) ↔ n = t.name ∨ hasName n ts := by
  simp [hasName, eq_comm]
theorem hasName_append (n : String) (a b : List TagCall) : hasName n (a ++ b) ↔ hasName n a ∨ hasName n b := by
  simp [hasName, or_and_right, exists_or]
theorem hasName_when (n : String) (c : Bool) (t : TagCall) : hasName n (when c t) ↔ n = t.name ∧ c = true := by
  cases c <;> simp [when, hasName_cons, hasName_nil]

attribute [local simp] hasName_nil hasName_cons hasName_append hasName_when tag_name disparity_name

theorem hasName_fieldRules (munch : List Char → List Char) (v : List Char) (n : String) :
    hasName n (fieldRules munch v) ↔
      (n = "invalid-language" ∧ ¬ ∃ l, parseLanguage v = some l ∧ ∃ l', canonical l = some (l', false))
      ∨ (n = "encoding-in-language-header-field" ∧ ∃ l, candidate munch v = some l ∧ l.enc.isSome = true)
      ∨ (n = "language-variant-does-not-affect-translation" ∧ ∃ l, candidate munch v = some l ∧ l.mod = some "euro".toList) := by
  unfold fieldRules candidate
  -- kept as a literal, the string is evaluated again by every `simp`
  generalize "euro".toList = euro
  have rest (l : Language) : hasName n (when l.enc.isSome (tag "encoding-in-language-header-field" [.str v])
        ++ when (l.mod = some euro) (tag "language-variant-does-not-affect-translation" [.str v])
        ++ (match canonical l with
          | none => [tag "invalid-language" [.str v]]
          | some (l', changed) => when changed (tag "invalid-language" [.str v, sExtra "=>", langExtra l']))) ↔
      (n = "invalid-language" ∧ ¬ ∃ l', canonical l = some (l', false))
      ∨ (n = "encoding-in-language-header-field" ∧ l.enc.isSome = true)
      ∨ (n = "language-variant-does-not-affect-translation" ∧ l.mod = some euro) := by
    cases canonical l with
    | none => simp [or_comm, or_left_comm]
    | some r =>
      obtain ⟨l', changed⟩ := r
      cases changed <;> simp [or_comm, or_left_comm]
  rw [hasName_append]
  cases parseLanguage v with
  | some l =>
    simp only [hasName_nil, false_or]
    exact (rest l).trans (by simp)
  | none =>
    cases named munch v with
    | none => simp
    | some l =>
      refine (or_congr Iff.rfl (rest l)).trans ?_
      by_cases hn : n = "invalid-language" <;> simp [hn]

/-- which tags the reference verdict can carry, and when: one disjunct per rule, in the order of emission -/
theorem hasName_verdict (munch : List Char → List Char) (inp : Input) (n : String) :
    hasName n (verdictTags munch inp) ↔
      (n = "duplicate-header-field-language" ∧ inp.metaLanguages.length > 1)
      ∨ (if inp.isTemplate then n = "no-language-header-field" ∧ (fieldValue inp.metaLanguages).isNone = true else
          (∃ v, fieldValue inp.metaLanguages = some v ∧ v ≠ [] ∧ hasName n (fieldRules munch v))
          ∨ (n = "language-disparity" ∧ ∃ o m, effectiveOutside munch inp = some o
                ∧ fieldLanguage munch inp.metaLanguages = some m ∧ o.language ≠ m)
          ∨ (n = "duplicate-header-field-x-poedit" ∧ inp.poeditLanguages.length > 1)
          ∨ (n = "duplicate-header-field-x-poedit" ∧ inp.poeditCountries.length > 1)
          ∨ (∃ p, poeditValue inp = some p ∧
              ((n = "unknown-poedit-language" ∧ named munch p = none)
                ∨ (n = "language-disparity" ∧ ∃ pl l src, named munch p = some pl ∧ primary munch inp = some (l, src) ∧ l.ll ≠ pl.ll)))
          ∨ (n = "no-language-header-field" ∧ fieldAbsent inp.metaLanguages = true)
          ∨ (n = "unable-to-determine-language" ∧ finalLanguage munch inp = none)) := by
  unfold verdictTags
  rw [hasName_append, hasName_when]
  refine or_congr (by simp [tag]) ?_
  cases inp.isTemplate with
  | true => simp
  | false =>
    simp only [Bool.false_eq_true, if_false, hasName_append, or_assoc]
    refine or_congr ?_ (or_congr ?_ (or_congr ?_ (or_congr ?_ (or_congr ?_ ?_))))
    · cases fieldValue inp.metaLanguages with
      | none => simp
      | some v => by_cases hv : v = [] <;> simp [hv]
    · cases effectiveOutside munch inp <;> cases fieldLanguage munch inp.metaLanguages <;>
        simp
    · simp
    · simp
    · cases poeditValue inp with
      | none => simp
      | some p =>
        simp only [Option.some.injEq, exists_eq_left']
        cases named munch p with
        | none => simp
        | some pl => rcases primary munch inp with _ | ⟨l, src⟩ <;> simp
    · cases finalLanguage munch inp <;> simp

/-- `invalid-language` iff the field has a (non-empty, unambiguous) value that is not a locale name with known, canonical
    codes (an encoding or `@euro` is judged separately) -/
theorem invalid_language_iff (munch : List Char → List Char) (inp : Input) :
    hasName "invalid-language" (verdictTags munch inp) ↔
      inp.isTemplate = false ∧ ∃ v, fieldValue inp.metaLanguages = some v ∧ v ≠ []
        ∧ ¬ ∃ l, parseLanguage v = some l ∧ ∃ l', canonical l = some (l', false) := by
  rw [hasName_verdict]
  -- of the rules only the field's carries this name: the other disjuncts fail on the comparison of the literals.  (Plain
  -- `simp [hasName_verdict, hasName_fieldRules]` after the case split, as for the other tags in Props/C19, proves this too,
  -- far more slowly.)
  cases inp.isTemplate with
  | true => simp only [if_true, String.reduceEq, false_and, or_false, Bool.true_eq_false]
  | false =>
    simp only [Bool.false_eq_true, if_false, hasName_fieldRules, String.reduceEq, false_and, true_and, or_false, false_or,
      exists_const, and_false]

end I18n.Locale
