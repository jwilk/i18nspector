import I18n.Spec.HeaderRules
import I18n.Lemmas.Kit.List
/-
C15 lemmas: the domain scanners of `Model/Domains.lean` decide the declarative predicates of the rule set
(`DomainOf`, `SpecialDomain`, `DotlessEmail`); the table of special-use domains regenerated from `lib/domains.py`
is the documented IANA list.
-/
namespace I18n.Domains
open I18n.Spec.HeaderRules I18n.Generated

theorem stripPrefix_eq_some (p s r : Str) : stripPrefix p s = some r ↔ s = p ++ r :=
  Kit.stripPrefix_iff (fun _ => rfl) (fun _ _ => rfl) (fun _ _ _ _ => rfl)

/-- the alternatives of `lib.domains._is_special`, as regenerated from the source on this run, are the
    documented special-use domain names -/
theorem domains_pin : HeaderFields.specialDomains = specialDomains := rfl

theorem hasLabelSuffix_iff (suffix d : Str) :
    hasLabelSuffix suffix d = true ↔ ∃ p, p ≠ [] ∧ '\n' ∉ p ∧ d = p ++ '.' :: suffix := by
  unfold hasLabelSuffix
  constructor
  · intro h
    split at h
    · rename_i p hp
      have e := (stripPrefix_eq_some _ _ _).1 hp
      have e2 : d = p.reverse ++ '.' :: suffix := by
        have := congrArg List.reverse e
        simpa using this
      obtain ⟨hne, hnl⟩ : p ≠ [] ∧ '\n' ∉ p := by simpa using h
      exact ⟨p.reverse, mt List.reverse_eq_nil_iff.1 hne, mt List.mem_reverse.1 hnl, e2⟩
    · cases h
  · rintro ⟨p, hne, hnl, rfl⟩
    have : stripPrefix suffix.reverse (p ++ '.' :: suffix).reverse = some ('.' :: p.reverse) := by
      rw [stripPrefix_eq_some]; simp
    rw [this]
    simp [hne, hnl]

theorem isSpecialLowered_iff (d : Str) : isSpecialLowered d = true ↔ SpecialDomain d := by
  unfold isSpecialLowered SpecialDomain
  rw [domains_pin, List.any_eq_true]
  simp only [matchesAlt, Bool.or_eq_true, Bool.and_eq_true, Bool.not_eq_true', beq_iff_eq, hasLabelSuffix_iff]

theorem domainOfAux_spec (acc s : Str) :
    ('@' ∉ s ∧ domainOfAux acc s = acc) ∨ (∃ loc dom, s = loc ++ '@' :: dom ∧ '@' ∉ dom ∧ domainOfAux acc s = dom) := by
  induction s generalizing acc with
  | nil => left; simp [domainOfAux]
  | cons c cs ih =>
    unfold domainOfAux
    by_cases h : c = '@'
    · subst h
      simp only [if_true]
      rcases ih cs with ⟨hn, he⟩ | ⟨loc, dom, e, hn, he⟩
      · right; exact ⟨[], cs, by simp, hn, he⟩
      · right; exact ⟨'@' :: loc, dom, by simp [e], hn, he⟩
    · simp only [h, if_false]
      rcases ih acc with ⟨hn, he⟩ | ⟨loc, dom, e, hn, he⟩
      · left; refine ⟨?_, he⟩; simp [hn, Ne.symm h]
      · right; exact ⟨c :: loc, dom, by simp [e], hn, he⟩

theorem domainOf_unique {loc dom loc' dom' : Str} (h : loc ++ '@' :: dom = loc' ++ '@' :: dom')
    (hn : '@' ∉ dom) (hn' : '@' ∉ dom') : dom = dom' := by
  induction loc generalizing loc' with
  | nil =>
    cases loc' with
    | nil => simpa using h
    | cons c l =>
      simp only [List.nil_append, List.cons_append, List.cons.injEq] at h
      exact absurd (by rw [h.2]; simp) hn
  | cons a l ih =>
    cases loc' with
    | nil =>
      simp only [List.nil_append, List.cons_append, List.cons.injEq] at h
      exact absurd (by rw [← h.2]; simp) hn'
    | cons c l' =>
      simp only [List.cons_append, List.cons.injEq] at h
      exact ih h.2

theorem domainOf_spec (addr : Str) (h : '@' ∈ addr) : DomainOf addr (domainOf addr) := by
  unfold domainOf
  rcases domainOfAux_spec addr addr with ⟨hn, _⟩ | ⟨loc, dom, e, hn, he⟩
  · exact absurd h hn
  · rw [he]; exact ⟨loc, e, hn⟩

theorem DomainOf_iff (addr dom : Str) (h : '@' ∈ addr) : DomainOf addr dom ↔ dom = domainOf addr := by
  constructor
  · rintro ⟨loc, e, hn⟩
    obtain ⟨loc', e', hn'⟩ := domainOf_spec addr h
    exact domainOf_unique (e.symm.trans e') hn hn'
  · rintro rfl; exact domainOf_spec addr h

theorem isEmailInSpecialDomain_iff (x : Hdr.Ext) (addr : Str) (h : '@' ∈ addr) :
    isEmailInSpecialDomain x.db.lower addr = true ↔ SpecialEmail x addr := by
  unfold isEmailInSpecialDomain isSpecialDomain SpecialEmail
  rw [isSpecialLowered_iff]
  constructor
  · intro hs; exact ⟨_, domainOf_spec addr h, hs⟩
  · rintro ⟨dom, hd, hs⟩
    rw [(DomainOf_iff addr dom h).1 hd] at hs; exact hs

theorem isEmailInDotlessDomain_iff (addr : Str) (h : '@' ∈ addr) :
    isEmailInDotlessDomain addr = true ↔ DotlessEmail addr := by
  unfold isEmailInDotlessDomain isDotlessDomain DotlessEmail
  constructor
  · intro hs; exact ⟨_, domainOf_spec addr h, by simpa using hs⟩
  · rintro ⟨dom, hd, hs⟩
    rw [(DomainOf_iff addr dom h).1 hd] at hs; simpa using hs

end I18n.Domains
