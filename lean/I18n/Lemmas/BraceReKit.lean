import I18n.Lemmas.PerlBraceChars
import I18n.Lemmas.ReKit
/-
What the two brace formats add to `Lemmas.ReKit`: `liveDB` (the interpreter's `\w`/`\d`) with `cls_idstart`, `cls_word`; `chr` with `cls_chr`,
`bt_chr_*`, `failsOn_chr` for patterns written with single characters; `or_eq_left` for two readings tried in order; `adv` (the
state after a one-step reader's result), `Loops` and `starLoop_reads`: a greedy repetition whose body reads what a one-step
reader reads is the model's fuel loop of that reader.
-/
namespace I18n.Spec.BraceRe
open I18n.BraceChars

/-- the interpreter's categories, as the models look them up -/
def liveDB : CharDB := { word := isWord, digit := isDigit }

def chr (ch : Char) : Re := .cls false [.lit ch.toNat]

theorem cls_chr (db : CharDB) (ch c : Char) : clsTest db false [.lit ch.toNat] c = (c == ch) := by
  simp [clsTest, ClsItem.test, ← Kit.Char.toNat_beq]

theorem cls_idstart (c : Char) : clsTest liveDB true [.notWord, .digit] c = isIdStart c := by
  simp only [clsTest, ClsItem.test, liveDB, isIdStart, List.any_cons, List.any_nil]
  cases isWord c <;> cases isDigit c <;> rfl

theorem cls_word (c : Char) : clsTest liveDB false [.word] c = isWord c := by
  simp [clsTest, ClsItem.test, liveDB]

theorem bt_chr_nil {β : Type} (db : CharDB) (ch : Char) (pos : Nat) (caps : Caps) (k : St → Option β) :
    bt db (chr ch) ⟨[], pos, caps⟩ k = none := rfl

theorem bt_chr_cons {β : Type} (db : CharDB) (ch c : Char) (r : List Char) (pos : Nat) (caps : Caps) (k : St → Option β) :
    bt db (chr ch) ⟨c :: r, pos, caps⟩ k = if c = ch then k ⟨r, pos + 1, caps⟩ else none := by
  simp [chr, bt_cls_cons, cls_chr]

theorem bt_seq_chr_cons {β : Type} (db : CharDB) (ch : Char) (a : Re) (c : Char) (r : List Char) (pos : Nat) (caps : Caps)
    (k : St → Option β) :
    bt db (.seq (chr ch) a) ⟨c :: r, pos, caps⟩ k = if c = ch then bt db a ⟨r, pos + 1, caps⟩ k else none := by
  rw [bt_seq, bt_chr_cons]

theorem failsOn_chr {β : Type} (db : CharDB) (ch : Char) (p : Char → Bool) (hp : p ch = false) (k : St → Option β) :
    FailsOn p (fun st => bt db (chr ch) st k) :=
  fun c r pos caps hc => (bt_chr_cons db ch c r pos caps k).trans (if_neg (ne_of_class hc hp))

theorem or_eq_left {α : Type} {a b : Option α} (h : b.isSome = true → a.isSome = true) : a.or b = a := by
  cases a with
  | some x => rfl
  | none =>
    cases b with
    | none => rfl
    | some y => exact absurd (h rfl) nofun

def adv (st : St) (p : List Char × List Char) : St := ⟨p.2, st.pos + p.1.length, st.caps⟩

theorem adv_mk (st : St) (p : List Char × List Char) : adv st p = ⟨p.2, st.pos + p.1.length, st.caps⟩ := rfl

/-- one character read first, then `t`: the position as `bt` counts it (`pos + 1`, then the length of `t`) -/
theorem adv_cons (rest : List Char) (pos : Nat) (caps : Caps) (c : Char) (t r : List Char) :
    adv ⟨rest, pos, caps⟩ (c :: t, r) = ⟨r, pos + 1 + t.length, caps⟩ := by
  rw [adv_mk, List.length_cons, Nat.add_assoc, Nat.add_comm 1]

/-- `scan` is the fuel loop of the one-step reader `read`: it repeats `read` while it applies -/
structure Loops (read : List Char → Option (List Char × List Char)) (scan : Nat → List Char → List Char × List Char) : Prop where
  zero : ∀ cs, scan 0 cs = ([], cs)
  succ : ∀ n cs, scan (n + 1) cs =
    match read cs with
    | some p => (p.1 ++ (scan n p.2).1, (scan n p.2).2)
    | none => ([], cs)
  split : ∀ cs p, read cs = some p → p.1 ≠ [] ∧ cs = p.1 ++ p.2

theorem Loops.rest_lt {read scan} (L : Loops read scan) {cs : List Char} {p : List Char × List Char} (h : read cs = some p) :
    p.2.length < cs.length := by
  obtain ⟨h1, h2⟩ := L.split cs p h
  have := List.length_pos_iff.2 h1
  rw [h2, List.length_append]
  omega

/-- greedy repetition of a body that, for continuations failing on `bad` starts, reads what `read` reads: if the
    continuation of the loop cannot succeed where the body can read (or never fails), the loop is the fuel loop of `read`.
    `bad` is `isWord` for the name tail (an identifier's run of `\w` is greedy) and empty for the format body and the literal
    run.  The continuation the body gets is the loop itself, so `hb` needs the loop to fail on `bad`: `hK` where the loop
    stops, `hbadbody` where it goes on. -/
theorem starLoop_reads {β : Type} {read scan} (L : Loops read scan) (bad : Char → Bool) (body : St → (St → Option β) → Option β)
    (K : St → Option β)
    (hb : ∀ st k, FailsOn bad k → body st k = ((read st.rest).map (adv st)).bind k)
    (hbadbody : ∀ c r pos caps k, bad c = true → body ⟨c :: r, pos, caps⟩ k = none)
    (hK : FailsOn bad K)
    (hdisj : (∀ st, (read st.rest).isSome = true → K st = none) ∨ (∀ st, K st ≠ none)) :
    ∀ (fuel : Nat) (st : St), st.rest.length ≤ fuel → starLoop body fuel st K = K (adv st (scan fuel st.rest)) := by
  have hloop : ∀ n, FailsOn bad (fun st' => starLoop body n st' K) := by
    intro n c r pos caps hc
    cases n with
    | zero => exact hK c r pos caps hc
    | succ n => simp only [starLoop, hbadbody c r pos caps _ hc]; exact hK c r pos caps hc
  intro fuel
  induction fuel with
  | zero => intro st _; rw [L.zero]; rfl
  | succ fuel ih =>
    intro st hlen
    have hk : FailsOn bad (fun st' => if st'.rest.length < st.rest.length then starLoop body fuel st' K else none) := by
      intro c r pos caps hc
      simp only
      split
      · exact hloop fuel c r pos caps hc
      · rfl
    simp only [starLoop, hb st _ hk, L.succ]
    cases hs : read st.rest with
    | none => rfl
    | some p =>
      have hp := L.rest_lt hs
      simp only [Option.map_some, Option.bind_some, adv, hp, if_true]
      rw [ih ⟨p.2, _, _⟩ (by simp only; omega)]
      simp only [adv, List.length_append, Nat.add_assoc]
      cases hr : K ⟨(scan fuel p.2).2, st.pos + (p.1.length + (scan fuel p.2).1.length), st.caps⟩ with
      | some x => rfl
      | none =>
        rcases hdisj with h | h
        · exact h st (by rw [hs]; rfl)
        · exact absurd hr (h _)

theorem Loops.nil {read scan} (L : Loops read scan) (n : Nat) : scan n [] = ([], []) := by
  cases n with
  | zero => exact L.zero []
  | succ n =>
    rw [L.succ]
    cases hs : read [] with
    | none => rfl
    | some p => exact absurd (L.rest_lt hs) (Nat.not_lt_zero _)

theorem Loops.fuel {read scan} (L : Loops read scan) : ∀ (n m : Nat) (cs : List Char), cs.length ≤ n → cs.length ≤ m →
    scan n cs = scan m cs := by
  intro n
  induction n with
  | zero =>
    intro m cs h _
    obtain rfl : cs = [] := List.eq_nil_of_length_eq_zero (Nat.le_zero.1 h)
    rw [L.nil, L.nil]
  | succ n ih =>
    intro m cs h h'
    cases m with
    | zero =>
      obtain rfl : cs = [] := List.eq_nil_of_length_eq_zero (Nat.le_zero.1 h')
      rw [L.nil, L.nil]
    | succ m =>
      rw [L.succ, L.succ]
      cases hs : read cs with
      | none => rfl
      | some p =>
        have := L.rest_lt hs
        simp only [ih m p.2 (by omega) (by omega)]

theorem FailsOn.group {β : Type} {p : Char → Bool} {k : St → Option β} (h : FailsOn p k) (g a : Nat) :
    FailsOn p (fun st' => k ⟨st'.rest, st'.pos, (g, a, st'.pos) :: st'.caps⟩) :=
  fun c r pos _ hc => h c r pos _ hc

end I18n.Spec.BraceRe
