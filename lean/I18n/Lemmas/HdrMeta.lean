import I18n.Spec.HeaderRules
import I18n.Lemmas.DateSort
import I18n.Lemmas.Kit.List
/-
C15 lemmas: the `defaultdict(list)` built from the field lines answers look-ups with the values of the field
lines of that name in order (`buildMeta_get`, `meta_get`, `meta_getS`); its keys are the field names in order of first
occurrence (`addKey`, `buildMeta_keys_eq`); `if len(vs) > 1: vs = sorted(set(vs))` keeps exactly the values (`dedup_*`);
exchanging the value of a field line changes the look-ups of that name only (`fieldVals_subst_same`, `fieldVals_subst_other`).
-/
namespace I18n.Hdr
open I18n.Spec.HeaderRules I18n.Date

theorem Meta.get_cons (k0 : Str) (vs : List Str) (r : Meta) (k' : Str) :
    Meta.get ((k0, vs) :: r) k' = if k' = k0 then vs else Meta.get r k' := by
  by_cases h : k' = k0
  · subst h; simp [Meta.get, List.find?]
  · simp [Meta.get, List.find?, h, Ne.symm h]

theorem Meta.get_add (k v k' : Str) (m : Meta) :
    (Meta.add k v m).get k' = if k' = k then m.get k' ++ [v] else m.get k' := by
  induction m with
  | nil => exact Meta.get_cons k [v] [] k'
  | cons p rest ih =>
    obtain ⟨k0, vs⟩ := p
    rw [Meta.add]
    by_cases h0 : k0 = k
    · subst h0
      rw [if_pos rfl, Meta.get_cons, Meta.get_cons]
      by_cases h : k' = k0 <;> simp [h]
    · rw [if_neg h0, Meta.get_cons, Meta.get_cons, ih]
      by_cases h : k' = k0
      · subst h; simp [h0]
      · simp [h]

/-- the keys of a `defaultdict` after `d[k] += …`: `k` goes to the end unless it is there -/
def addKey (k : Str) (ks : List Str) : List Str := if k ∈ ks then ks else ks ++ [k]

theorem mem_addKey (k k' : Str) (ks : List Str) : k' ∈ addKey k ks ↔ k' = k ∨ k' ∈ ks := by
  unfold addKey
  by_cases hk : k ∈ ks
  · rw [if_pos hk]
    constructor
    · exact Or.inr
    · rintro (rfl | h)
      · exact hk
      · exact h
  · rw [if_neg hk, List.mem_append, List.mem_singleton, or_comm]

theorem nodup_addKey (k : Str) {ks : List Str} (h : ks.Nodup) : (addKey k ks).Nodup := by
  unfold addKey
  by_cases hk : k ∈ ks
  · rw [if_pos hk]
    exact h
  · rw [if_neg hk]
    refine List.nodup_append.2 ⟨h, List.pairwise_singleton _ k, ?_⟩
    rintro a ha b hb rfl
    rw [List.mem_singleton.1 hb] at ha
    exact hk ha

theorem mem_foldl_addKey (l ks : List Str) (k : Str) : k ∈ l.foldl (fun ks k => addKey k ks) ks ↔ k ∈ ks ∨ k ∈ l := by
  induction l generalizing ks with
  | nil => simp
  | cons a r ih => rw [List.foldl_cons, ih, mem_addKey, List.mem_cons, or_assoc, or_left_comm]

theorem nodup_foldl_addKey (l : List Str) {ks : List Str} (h : ks.Nodup) : (l.foldl (fun ks k => addKey k ks) ks).Nodup := by
  induction l generalizing ks with
  | nil => exact h
  | cons a r ih => exact ih (nodup_addKey a h)

theorem Meta.keys_add_eq (k v : Str) (m : Meta) : (Meta.add k v m).map (·.1) = addKey k (m.map (·.1)) := by
  fun_induction Meta.add k v m with
  | case1 => rfl
  | case2 vs rest => simp [addKey]
  | case3 k' vs rest hne ih =>
    have hk : ¬ k = k' := fun e => hne e.symm
    simp only [List.map_cons, ih, addKey, List.mem_cons, hk, false_or]
    split <;> simp

/-- `vals` for a key that is a variable.  The rules name their fields by string literals and read `vals` / `Meta.getS`; the
    loop over the keys of the dictionary has a `Str` and reads `fieldVals` / `Meta.get`. -/
def fieldVals (fs : List (Str × Str)) (k : Str) : List Str := (fs.filter fun f => f.1 = k).map (·.2)

theorem vals_eq_fieldVals (fs : List (Str × Str)) (k : String) : vals fs k = fieldVals fs k.toList := rfl

theorem fieldVals_nil (k : Str) : fieldVals [] k = [] := rfl

theorem fieldVals_cons (p : Str × Str) (fs : List (Str × Str)) (k : Str) :
    fieldVals (p :: fs) k = if p.1 = k then p.2 :: fieldVals fs k else fieldVals fs k := by
  unfold fieldVals
  by_cases h : p.1 = k <;> simp [h]

theorem fieldVals_append (fs gs : List (Str × Str)) (k : Str) : fieldVals (fs ++ gs) k = fieldVals fs k ++ fieldVals gs k := by
  unfold fieldVals
  rw [List.filter_append, List.map_append]

theorem length_fieldVals (fs : List (Str × Str)) (k : Str) : (fieldVals fs k).length = (fs.filter (·.1 = k)).length :=
  List.length_map _

theorem fieldLines_append (a b : List Line) : fieldLines (a ++ b) = fieldLines a ++ fieldLines b := by
  simp [fieldLines, List.filterMap_append]

theorem fieldVals_no_key (ls : List Line) (key : Str) (h : ∀ l ∈ ls, ∀ v, l ≠ .field key v) : fieldVals (fieldLines ls) key = [] := by
  induction ls with
  | nil => rfl
  | cons l rest ih =>
    have ih := ih fun l hl => h l (List.mem_cons_of_mem _ hl)
    cases l with
    | stray s => exact ih
    | field k v =>
      have hk : k ≠ key := fun e => h _ List.mem_cons_self v (e ▸ rfl)
      show fieldVals ((k, v) :: fieldLines rest) key = []
      rw [fieldVals_cons, if_neg hk, ih]

theorem fieldLines_subst (pre post : List Line) (k v : Str) :
    fieldLines (pre ++ .field k v :: post) = fieldLines pre ++ (k, v) :: fieldLines post := by
  rw [fieldLines_append]
  simp [fieldLines]

theorem fieldVals_subst_other (pre post : List Line) (k v : Str) (k' : Str) (hk : k ≠ k') :
    fieldVals (fieldLines (pre ++ .field k v :: post)) k' = fieldVals (fieldLines pre) k' ++ fieldVals (fieldLines post) k' := by
  rw [fieldLines_subst, fieldVals_append, fieldVals_cons, if_neg hk]

theorem fieldVals_subst_same (pre post : List Line) (k v : Str) (hpre : ∀ l ∈ pre, ∀ v, l ≠ .field k v)
    (hpost : ∀ l ∈ post, ∀ v, l ≠ .field k v) :
    fieldVals (fieldLines (pre ++ .field k v :: post)) k = [v] := by
  rw [fieldLines_subst, fieldVals_append, fieldVals_cons, if_pos rfl, fieldVals_no_key pre k hpre, fieldVals_no_key post k hpost]
  rfl

theorem buildMeta_append (l1 l2 : List Line) (m : Meta) : buildMeta (l1 ++ l2) m = buildMeta l2 (buildMeta l1 m) := by
  induction l1 generalizing m with
  | nil => rfl
  | cons l l1 ih => cases l <;> simp [buildMeta, ih]

theorem buildMeta_get (ls : List Line) (m : Meta) (k : Str) :
    (buildMeta ls m).get k = m.get k ++ fieldVals (fieldLines ls) k := by
  induction ls generalizing m with
  | nil => simp [buildMeta, fieldLines, fieldVals_nil]
  | cons l rest ih =>
    cases l with
    | field k0 v =>
      simp only [buildMeta, ih, Meta.get_add, fieldLines, List.filterMap_cons, fieldVals_cons]
      by_cases h : k = k0
      · subst h; simp
      · have : ¬ k0 = k := fun e => h e.symm
        simp [h, this]
    | stray s => simp only [buildMeta, ih, fieldLines, List.filterMap_cons]

theorem buildMeta_keys_eq (ls : List Line) (m : Meta) :
    (buildMeta ls m).map (·.1) = ((fieldLines ls).map (·.1)).foldl (fun ks k => addKey k ks) (m.map (·.1)) := by
  induction ls generalizing m with
  | nil => rfl
  | cons l rest ih =>
    cases l with
    | field k v => simp only [buildMeta, ih, Meta.keys_add_eq, fieldLines, List.filterMap_cons, List.map_cons, List.foldl_cons]
    | stray s => simp only [buildMeta, ih, fieldLines, List.filterMap_cons]

theorem buildMeta_keys (ls : List Line) (m : Meta) (k : Str) :
    k ∈ (buildMeta ls m).map (·.1) ↔ k ∈ m.map (·.1) ∨ k ∈ (fieldLines ls).map (·.1) := by
  rw [buildMeta_keys_eq, mem_foldl_addKey]

theorem buildMeta_nodup (ls : List Line) (m : Meta) (h : (m.map (·.1)).Nodup) : ((buildMeta ls m).map (·.1)).Nodup := by
  rw [buildMeta_keys_eq]
  exact nodup_foldl_addKey _ h

theorem meta_get (ls : List Line) (k : Str) :
    (buildMeta ls []).get k = fieldVals (fieldLines ls) k := by
  rw [buildMeta_get]
  simp [Meta.get]

theorem meta_getS (ls : List Line) (k : String) :
    (buildMeta ls []).getS k = vals (fieldLines ls) k := by
  rw [vals_eq_fieldVals]
  exact meta_get ls k.toList

theorem meta_has (ls : List Line) (k : Str) :
    (buildMeta ls []).has k = true ↔ k ∈ (fieldLines ls).map (·.1) := by
  have := buildMeta_keys ls [] k
  simp only [List.map_nil, List.not_mem_nil, false_or] at this
  rw [← this]
  simp [Meta.has, List.any_eq_true]

theorem meta_keys (ls : List Line) (k : Str) :
    k ∈ sortedSet ((buildMeta ls []).map (·.1)) ↔ k ∈ (fieldLines ls).map (·.1) := by
  rw [mem_sortedSet]
  exact (buildMeta_keys ls [] k).trans (or_iff_right List.not_mem_nil)

/-- a list of at most one value is its own sorted set, so `if len(vs) > 1: vs = sorted(set(vs))` always is `sorted(set(vs))` -/
theorem dedup_eq_sortedSet (vs : List Str) : dedup vs = sortedSet vs := by
  unfold dedup
  split
  · rfl
  · rename_i h
    cases vs with
    | nil => rfl
    | cons a r =>
      cases r with
      | nil => simp [sortedSet, Date.sortedSet, insertU]
      | cons b r' => simp at h

theorem mem_dedup (v : Str) (vs : List Str) : v ∈ dedup vs ↔ v ∈ vs := by
  rw [dedup_eq_sortedSet]
  exact mem_sortedSet v vs

theorem sortedSet_nodup (l : List Str) : (sortedSet l).Nodup :=
  Kit.nodup_of_pairwise strLt_strictTotal (sortedSet_sorted l)

theorem dedup_nodup (vs : List Str) : (dedup vs).Nodup := by
  rw [dedup_eq_sortedSet]
  exact sortedSet_nodup vs

theorem dedup_eq_single_nil (vs : List Str) : dedup vs = [[]] ↔ (vs ≠ [] ∧ ∀ v ∈ vs, v = []) := by
  constructor
  · intro h
    have hm : ∀ v, v ∈ vs ↔ v = [] := fun v => by rw [← mem_dedup, h, List.mem_singleton]
    exact ⟨List.ne_nil_of_mem ((hm []).2 rfl), fun v => (hm v).1⟩
  · rintro ⟨hne, hall⟩
    obtain ⟨v, hv⟩ := List.exists_mem_of_ne_nil vs hne
    exact Kit.Nodup.eq_singleton_of_forall_eq (dedup_nodup vs) ((mem_dedup _ _).2 (hall v hv ▸ hv))
      fun w hw => hall w ((mem_dedup _ _).1 hw)

theorem dedup_length_zero (vs : List Str) : (dedup vs).length = 0 ↔ vs.length = 0 := by
  simp only [List.length_eq_zero_iff, List.eq_nil_iff_forall_not_mem, mem_dedup]

end I18n.Hdr
