import I18n.Generated.EncodingsFn
/-!
# `lib/encodings.py` regenerated (`Generated/EncodingsFn.lean`) equals the model of `Model/Charset.lean`

The functions are straight-line code over the kit of `Model/EncodingsPy.lean`; each proof unfolds one and splits on what its parameters
(the decoder, the tables, the charmap files) answer.  Here: `is_ascii_compatible_encoding`, `charmap_encoding`, `_codec_search_function`;
the equations of `is_portable_encoding`, `propose_portable_encoding` and `decode` are proved in `Props/C20Tie.lean`.
-/
namespace I18n.Charset.EGen
open I18n I18n.Charset I18n.Generated I18n.Generated.Charset

theorem lit_iso_underscore : EPy.lit "iso_" = isoUnderscore := by decide
theorem lit_iso_hyphen : EPy.lit "iso-" = isoHyphen := by decide

theorem is_ascii_eq (dec : List Nat → Name → Dec) (encoding : Name) (missingOk : Bool) :
    EncodingsFn.is_ascii_compatible_encoding dec encoding missingOk =
      (match isAsciiCompatible EncodingsFn.interesting_ascii_str (dec EncodingsFn.interesting_ascii_bytes encoding) missingOk with
       | .ok b => .ok b
       | .error () => .error .encodingLookup) := by
  simp only [EncodingsFn.is_ascii_compatible_encoding, isAsciiCompatible, EPy.decodeAscii]
  cases dec EncodingsFn.interesting_ascii_bytes encoding with
  | text cs =>
    have : (EPy.StrOrBytes.str cs == EPy.StrOrBytes.str EncodingsFn.interesting_ascii_str) = (cs == EncodingsFn.interesting_ascii_str) := by
      by_cases h : cs = EncodingsFn.interesting_ascii_str
      · subst h; simp
      · have h' : ¬ (EPy.StrOrBytes.str cs = EPy.StrOrBytes.str EncodingsFn.interesting_ascii_str) := fun hh => h (EPy.StrOrBytes.str.inj hh)
        rw [beq_eq_false_iff_ne.mpr h', beq_eq_false_iff_ne.mpr h]
    simp [EPy.StrOrBytes.isBytes, EPy.StrOrBytes.eqStr, this]
  | ude => simp [EPy.Exn.isUnicodeDecodeError]
  | lookup => cases missingOk <;> simp [EPy.Exn.isUnicodeDecodeError, EPy.Exn.isLookupError]
  | other => cases missingOk <;> simp [EPy.Exn.isUnicodeDecodeError, EPy.Exn.isLookupError, EPy.Exn.isException]
  | notstr => cases missingOk <;> simp [EPy.StrOrBytes.isBytes, EPy.Exn.isUnicodeDecodeError, EPy.Exn.isLookupError, EPy.Exn.isException]

/-- the loaders' outcome in the kit's vocabulary -/
def ofLoaded : Loaded → Except EPy.Exn (List Nat)
  | .text cs => .ok cs
  | .ude s e => .error (.unicodeDecode s e)
  | .crash => .error .other

/-- `charmap_encoding(encoding)` as regenerated: the file `data/charmaps/<ENCODING>` decides, the codec carries the file's table as it
    is and `charmap_build` of it -/
theorem charmap_encoding_eq (files : Name → Option (List Nat)) (encoding : Name) :
    EncodingsFn.charmap_encoding files encoding =
      (match files (upper encoding) with
       | some table => .ok (.charmap encoding table (encLookup table))
       | none => .error .encodingLookup) := by
  simp only [EncodingsFn.charmap_encoding, EPy.openCharmap]
  cases files (upper encoding) <;> simp [EPy.Exn.isFileNotFound]

theorem codec_search_eq (tbl : List (Name × Bool)) (extra : List Name) (unm : List (Name × Name)) (files : Name → Option (List Nat))
    (encoding : Name) :
    EncodingsFn._codec_search_function tbl extra unm files encoding =
      .ok (let e := (assoc? encoding unm).getD encoding
           if assoc? e tbl == some false || extra.contains e then
             (match files (upper e) with
              | some table => some (.charmap e table (encLookup table))
              | none => some (.iconv e))
           else none) := by
  simp only [EncodingsFn._codec_search_function, EPy.dictGetD, EPy.tableGet, charmap_encoding_eq, EncodingsFn.iconv_encoding]
  cases h1 : assoc? ((assoc? encoding unm).getD encoding) tbl with
  | none =>
    by_cases h2 : ((assoc? encoding unm).getD encoding) ∈ extra
    · cases files (upper ((assoc? encoding unm).getD encoding)) <;> simp [h2, EPy.Exn.isEncodingLookupError]
    · simp [h2]
  | some v =>
    cases v
    · cases files (upper ((assoc? encoding unm).getD encoding)) <;> simp [EPy.PVal.ofBool, EPy.Exn.isEncodingLookupError]
    · by_cases h2 : ((assoc? encoding unm).getD encoding) ∈ extra
      · cases files (upper ((assoc? encoding unm).getD encoding)) <;> simp [h2, EPy.PVal.ofBool, EPy.Exn.isEncodingLookupError]
      · simp [h2, EPy.PVal.ofBool]

end I18n.Charset.EGen
