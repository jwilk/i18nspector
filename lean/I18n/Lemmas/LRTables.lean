import I18n.Lemmas.LRAutomaton
/-! Facts about the dumped LALR tables, all by evaluation (`decide`) — they are re-checked against the tables that
    rply builds from the current source on every run.  The classification of the states (`expects`, `gexp`) is
    written by hand against the canonical (breadth-first) numbering; if the grammar, the precedences or rply's
    construction change, these `decide`s fail and the check falls back to the falsifier.  The numbers of the dump that
    statements here and in the other `LR*` modules mention: 26 states, of which 6 accepts; 14 lookahead columns, the last
    (13) for `$end`; 13 productions. -/
namespace I18n.PluralLR
open I18n I18n.PluralParse

/-- the resolved tables, written out -/
def T : Tables :=
  ⟨Generated.PluralLR.action, Generated.PluralLR.goto, Generated.PluralLR.defaultReductions,
   [⟨2, 1, .none⟩, ⟨0, 1, .int⟩, ⟨0, 3, .par⟩, ⟨0, 2, .not⟩, ⟨0, 1, .var⟩, ⟨0, 3, .arithmetic⟩, ⟨0, 3, .bool⟩, ⟨0, 3, .cmp⟩,
    ⟨0, 3, .cmp⟩, ⟨0, 5, .ifelse⟩, ⟨0, 3, .arithmetic⟩, ⟨0, 3, .bool⟩, ⟨1, 1, .evalStart⟩]⟩

theorem tables_eq : tables = some T := by decide +kernel

theorem lrParse_eq_with (ts : List Tok) : lrParse ts = lrParseWith T ts := by
  unfold lrParse
  rw [tables_eq]

theorem columns_pin : Generated.PluralLR.terminals = colNames ∧ Generated.PluralLR.nonterminals = ["exp", "start"] := by
  decide +kernel

/-- states in which an operand is expected, with the lowest level an operand may have there:
    0 start, 1 after `!`, 2 after `(`, 9 after `?`, 10–15 after OR, AND, EQ, CMP, ADDSUB, MULDIV, 24 after `:` -/
def expects : Nat → Option Nat
  | 0 => some 0 | 1 => some 7 | 2 => some 0 | 9 => some 0
  | 10 => some 2 | 11 => some 3 | 12 => some 4 | 13 => some 5 | 14 => some 6 | 15 => some 7
  | 24 => some 0
  | _ => none

/-- `lr_goto[s]['exp']` on those states -/
def gexp : Nat → Nat
  | 0 => 5 | 1 => 7 | 2 => 8 | 9 => 17
  | 10 => 18 | 11 => 19 | 12 => 20 | 13 => 21 | 14 => 22 | 15 => 23
  | 24 => 25
  | _ => 0

theorem expects_lt {s c : Nat} (h : expects s = some c) : s < 26 := by
  unfold expects at h
  split at h <;> first | omega | cases h

/-- lookahead columns in front of which an operand of level `k` is complete: `:`, `)`, `$end`, and — from level 1 on —
    `?` and the binary operators of level `≤ k` -/
def laOK (k c : Nat) : Bool :=
  c == 1 || c == 10 || c == 13 || (decide (1 ≤ k) && (c == 0 || (decide (2 ≤ c) && decide (c ≤ 7) && decide (c - 1 ≤ k))))

theorem laOK_mono {k k' c : Nat} (h : laOK k c = true) (hk : k ≤ k') : laOK k' c = true := by
  simp only [laOK, Bool.or_eq_true, Bool.and_eq_true, beq_iff_eq, decide_eq_true_eq] at h ⊢
  omega

/-- the last column is `$end`'s alone -/
theorem col_some_lt (t : Tok) : col (some t) < 13 := by
  cases t <;> first | decide | (rename_i op; cases op <;> decide) | (simp [col])

theorem col_lt (la : Option Tok) : col la < 14 := by
  rcases la with _ | t
  · decide
  · exact Nat.lt_succ_of_lt (col_some_lt t)

theorem col_of_binInfo {t : Tok} {k : Nat} {mk} (h : binInfo t = some (k, mk)) : col (some t) = k + 1 := by
  cases t <;> simp only [binInfo] at h
  case bool op => cases op <;> simp only [Option.some.injEq] at h <;> obtain ⟨rfl, _⟩ := h <;> rfl
  case cmp op => cases op <;> simp only [Option.some.injEq] at h <;> obtain ⟨rfl, _⟩ := h <;> rfl
  case bin op => cases op <;> simp only [Option.some.injEq] at h <;> obtain ⟨rfl, _⟩ := h <;> rfl
  all_goals cases h

def admits (s k : Nat) : Bool :=
  match expects s with
  | some c => decide (c ≤ k)
  | none => false

theorem admits_of {s c k : Nat} (h : expects s = some c) (hk : c ≤ k) : admits s k = true := by
  simp [admits, h, hk]

/-- operand-expecting states: what an operand can begin with is shifted (`!` to state 1, `(` to 2, `n` to 3, a numeral
    to 4), and `exp` has a goto -/
theorem tf_operand : ∀ s, s < 26 → (expects s).isSome = true →
    decision T s 8 = .shift 1 ∧ decision T s 9 = .shift 2 ∧ decision T s 11 = .shift 3 ∧ decision T s 12 = .shift 4 ∧
    T.gotoAt s 0 = some (gexp s) := by decide +kernel

theorem shift_not {s c : Nat} (h : expects s = some c) : decision T s (col (some .not)) = .shift 1 :=
  (tf_operand s (expects_lt h) (Option.isSome_of_eq_some h)).1

theorem shift_lpar {s c : Nat} (h : expects s = some c) : decision T s (col (some .lpar)) = .shift 2 :=
  (tf_operand s (expects_lt h) (Option.isSome_of_eq_some h)).2.1

theorem shift_var {s c : Nat} (h : expects s = some c) : decision T s (col (some .var)) = .shift 3 :=
  (tf_operand s (expects_lt h) (Option.isSome_of_eq_some h)).2.2.1

theorem shift_int {s c : Nat} (h : expects s = some c) (n : Nat) : decision T s (col (some (.int n))) = .shift 4 :=
  (tf_operand s (expects_lt h) (Option.isSome_of_eq_some h)).2.2.2.1

theorem goto_exp {s c : Nat} (h : expects s = some c) : T.gotoAt s 0 = some (gexp s) :=
  (tf_operand s (expects_lt h) (Option.isSome_of_eq_some h)).2.2.2.2

/-- after an operand, a binary operator of a level the context admits is shifted (to state `level + 9`) -/
theorem tf_shift_op : ∀ s, s < 26 → ∀ k, k < 7 → 1 ≤ k → admits s k = true →
    decision T (gexp s) (k + 1) = .shift (k + 9) := by decide +kernel

theorem shift_op {s c k : Nat} (h : expects s = some c) (hck : c ≤ k) (hk : 1 ≤ k) (hk6 : k ≤ 6) :
    decision T (gexp s) (k + 1) = .shift (k + 9) :=
  tf_shift_op s (expects_lt h) k (by omega) hk (admits_of h hck)

/-- production of each binary level (the dump numbers the productions sorted by left- and right-hand side) -/
def prodOf : Nat → Nat
  | 1 => 11 | 2 => 6 | 3 => 8 | 4 => 7 | 5 => 5 | _ => 10

/-- a binary level: the state after its operator expects an operand of the next level, and with both operands on the
    stack the driver reduces in front of every admissible lookahead -/
theorem tf_level : ∀ k, k < 7 → 1 ≤ k → expects (k + 9) = some (k + 1) ∧ gexp (k + 9) = k + 17 ∧
    ∀ c, c < 14 → laOK k c = true → decision T (k + 17) c = .reduce (prodOf k) := by decide +kernel

theorem expects_after_op {k : Nat} (hk : 1 ≤ k) (hk6 : k ≤ 6) : expects (k + 9) = some (k + 1) :=
  (tf_level k (by omega) hk).1

theorem gexp_after_op {k : Nat} (hk : 1 ≤ k) (hk6 : k ≤ 6) : gexp (k + 9) = k + 17 := (tf_level k (by omega) hk).2.1

theorem reduce_bin {k c : Nat} (hk : 1 ≤ k) (hk6 : k ≤ 6) (hc : c < 14) (hla : laOK k c = true) :
    decision T (k + 17) c = .reduce (prodOf k) :=
  (tf_level k (by omega) hk).2.2 c hc hla

/-- `?` is shifted (to state 9) after an operand wherever a whole expression is expected -/
theorem tf_shift_qm : ∀ s, s < 26 → admits s 0 = true → decision T (gexp s) 0 = .shift 9 := by decide +kernel

theorem shift_qm {s : Nat} (h : expects s = some 0) : decision T (gexp s) (col (some .qm)) = .shift 9 :=
  tf_shift_qm s (expects_lt h) (admits_of h (Nat.le_refl 0))

/-- the conditional: with the second operand on the stack (state 17 = `gexp 9`) `:` is shifted (to 24); with the third
    (state 25 = `gexp 24`) the driver reduces by `exp → exp ? exp : exp` in front of every lookahead admissible at
    level 0 -/
theorem tf_cond : decision T 17 1 = .shift 24 ∧ ∀ c, c < 14 → laOK 0 c = true → decision T 25 c = .reduce 9 := by
  decide +kernel

theorem shift_colon : decision T 17 (col (some .colon)) = .shift 24 := tf_cond.1

theorem reduce_cond {c : Nat} (hc : c < 14) (hla : laOK 0 c = true) : decision T 25 c = .reduce 9 := tf_cond.2 c hc hla

/-- the states that only reduce, whatever the lookahead: 3 (after `n`) by `exp → n`, 4 (after a numeral) by
    `exp → INT`, 7 (= `gexp 1`, after `! exp`) by `exp → ! exp`, 16 (after `( exp )`) by `exp → ( exp )`; and `)` is
    shifted (to 16) in state 8 (= `gexp 2`, after `( exp`) -/
theorem tf_atoms : (∀ c, c < 14 → decision T 3 c = .reduce 4 ∧ decision T 4 c = .reduce 1 ∧ decision T 7 c = .reduce 3 ∧
      decision T 16 c = .reduce 2) ∧ decision T 8 10 = .shift 16 := by decide +kernel

theorem reduce_var {c : Nat} (hc : c < 14) : decision T 3 c = .reduce 4 := (tf_atoms.1 c hc).1

theorem reduce_int {c : Nat} (hc : c < 14) : decision T 4 c = .reduce 1 := (tf_atoms.1 c hc).2.1

theorem reduce_not {c : Nat} (hc : c < 14) : decision T 7 c = .reduce 3 := (tf_atoms.1 c hc).2.2.1

theorem reduce_par {c : Nat} (hc : c < 14) : decision T 16 c = .reduce 2 := (tf_atoms.1 c hc).2.2.2

theorem shift_rpar : decision T 8 (col (some .rpar)) = .shift 16 := tf_atoms.2

/-- the end of the input: with the whole expression on the stack (state 5 = `gexp 0`) the driver reduces by
    `start → exp`, goes to state 6 and accepts -/
theorem tf_final : decision T 5 13 = .reduce 12 ∧ T.gotoAt 0 1 = some 6 ∧ decision T 6 13 = .accept := by decide +kernel

theorem reduce_start : decision T 5 (col none) = .reduce 12 := tf_final.1

theorem goto_start : T.gotoAt 0 1 = some 6 := tf_final.2.1

theorem accept_end : decision T 6 (col none) = .accept := tf_final.2.2

/-- every transition stays inside the tables; nothing enters the start state; the accept state 6 is entered from the
    start state by `start` and in no other way, and `start` leads nowhere else -/
theorem tf_edges : ∀ e ∈ edges T, e.2.2 < 26 ∧ e.2.2 ≠ 0 ∧ (e.2.2 = 6 → e.1 = 0 ∧ e.2.1 = .nt 1) ∧
    (e.2.1 = .nt 1 → e.2.2 = 6) := by decide +kernel

theorem edge_lt {s s' : Nat} {x : Sym} (h : (s, x, s') ∈ edges T) : s' < 26 := (tf_edges _ h).1

theorem edge_ne_start {s s' : Nat} {x : Sym} (h : (s, x, s') ∈ edges T) : s' ≠ 0 := (tf_edges _ h).2.1

theorem edge_accept {s : Nat} {x : Sym} (h : (s, x, 6) ∈ edges T) : s = 0 ∧ x = .nt 1 := (tf_edges _ h).2.2.1 rfl

theorem edge_start {s s' : Nat} (h : (s, .nt 1, s') ∈ edges T) : s' = 6 := (tf_edges _ h).2.2.2 rfl

/-- every state has a decision in front of every lookahead; only state 6 in front of `$end` accepts, and it does
    nothing else; `$end` is never shifted -/
theorem tf_decisions : ∀ s, s < 26 → ∀ c, c < 14 → decision T s c ≠ .missing ∧
    (decision T s c = .accept → s = 6 ∧ c = 13) ∧ (c = 13 → (decision T s c).isShift = false) ∧
    (s = 6 → decision T s c = .accept ∨ decision T s c = .error) := by decide +kernel

theorem decision_ne_missing {s c : Nat} (hs : s < 26) (hc : c < 14) : decision T s c ≠ .missing :=
  (tf_decisions s hs c hc).1

theorem end_not_shifted {s : Nat} (hs : s < 26) : (decision T s (col none)).isShift = false :=
  (tf_decisions s hs 13 (by decide)).2.2.1 rfl

theorem decision_accept {s c : Nat} (hs : s < 26) (hc : c < 14) (h : decision T s c = .accept) : s = 6 ∧ c = 13 :=
  (tf_decisions s hs c hc).2.1 h

theorem decision_six {c : Nat} (hc : c < 14) : decision T 6 c = .accept ∨ decision T 6 c = .error :=
  (tf_decisions 6 (by decide) c hc).2.2.2 rfl

end I18n.PluralLR
