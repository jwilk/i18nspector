import I18n.Spec.HeaderRules
import I18n.Lemmas.DateTags
/-
C15 lemmas: the date rule and the file kind.  `DateRule` is membership in the tags `check_dates` (C18) emits for the two date
fields (`dateRule_iff`, `mem_fieldTags`); the tag names it can emit; and `no-date-header-field`, the one diagnostic that
depends on the file being a binary catalog (MO): only the date rule looks at that flag, and there only the absence of
POT-Creation-Date is excused (`noDate_mem_checkDates`).  The three diagnostics a template is spared, each with the exact
condition under which the rule set prescribes it (`translator_boilerplate_iff`, `team_boilerplate_iff`, `fuzzy_header_iff`).
-/
namespace I18n.Hdr
open I18n.Spec.HeaderRules I18n.Date

theorem checkOne_names (now : Int) (f : Field) (tmpl pub : Bool) (d : List Char) (ts : List Tag)
    (h : checkOne now f tmpl pub d = some ts) :
    ∀ t ∈ ts, t.name = "boilerplate-in-date" ∨ t.name = "invalid-date" ∨ t.name = "date-from-future" ∨ t.name = "ancient-date" := by
  by_cases hex : tmpl = true ∧ f = .po ∧ d = Generated.DateTables.boilerplateDate
  · rw [checkOne_exempt now f tmpl pub d hex] at h
    obtain rfl := Option.some.inj h
    nofun
  · intro t ht
    rcases checkOne_cases now f tmpl pub d hex with ⟨_, e⟩ | ⟨_, _, e⟩ | ⟨c, _, _, e⟩
    · obtain rfl := Option.some.inj (e.symm.trans h)
      obtain rfl := List.mem_singleton.1 ht  -- `tagBoiler`
      exact .inl rfl
    · obtain rfl := Option.some.inj (e.symm.trans h)
      obtain rfl := List.mem_singleton.1 ht  -- `tagInvalid`
      exact .inr (.inl rfl)
    · obtain rfl := Option.some.inj (e.symm.trans h)
      simp only [List.mem_append, List.mem_ite_nil_right, List.mem_singleton] at ht
      rcases ht with (⟨_, rfl⟩ | ⟨_, rfl⟩) | ⟨_, rfl⟩
      · exact .inr (.inl rfl)  -- `tagFix`
      · exact .inr (.inr (.inl rfl))  -- `tagFuture`
      · exact .inr (.inr (.inr rfl))  -- `tagAncient`

theorem perDate_name_cases (now : Int) (f : Field) (tmpl pub : Bool) (ds : List (List Char)) :
    ∀ t ∈ perDate now f tmpl pub ds,
      t.name = "boilerplate-in-date" ∨ t.name = "invalid-date" ∨ t.name = "date-from-future" ∨ t.name = "ancient-date" := by
  intro t ht
  unfold perDate at ht
  simp only [List.mem_flatten, List.mem_map] at ht
  obtain ⟨l, ⟨d, _, rfl⟩, hm⟩ := ht
  cases hc : checkOne now f tmpl pub d with
  | none => rw [hc] at hm; cases hm
  | some ts => rw [hc] at hm; exact checkOne_names now f tmpl pub d ts hc t hm

theorem perDate_names (now : Int) (f : Field) (tmpl pub : Bool) (ds : List (List Char)) :
    ∀ t ∈ perDate now f tmpl pub ds, t.name ≠ "no-date-header-field" := by
  intro t ht
  rcases perDate_name_cases now f tmpl pub ds t ht with h | h | h | h <;> simp [h]

def noDate (f : Field) : Tag := ⟨"no-date-header-field", [.str f.name]⟩

theorem ofDateTag_inj {a b : Tag} (h : ofDateTag a = ofDateTag b) : a = b := by
  obtain ⟨n, as⟩ := a
  obtain ⟨m, bs⟩ := b
  injection h with hn ha
  have harg : ∀ p q : Date.Arg, (match p with | .safe s => Extra.safe s | .str s => .str s) =
      (match q with | .safe s => .safe s | .str s => .str s) → p = q := by
    intro p q e
    cases p <;> cases q <;> cases e <;> rfl
  have hn : n = m := hn
  have ha : as = bs := (List.map_inj_right harg).1 ha
  rw [hn, ha]

theorem mem_fieldTags (c : Ctx) (f : Field) (dates : List (List Char)) (d : Tag) :
    d ∈ fieldTags c f dates ↔
      (1 < dates.length ∧ d = ⟨"duplicate-header-field-date", [.str f.name]⟩)
      ∨ (dates = [] ∧ ¬ (f = .pot ∧ c.isBinary = true) ∧ d = noDate f)
      ∨ d ∈ perDate c.now f c.isTemplate (isPublican c.contentType) (if 1 < dates.length then sortedSet dates else dates) := by
  unfold fieldTags
  by_cases h1 : dates.length > 1
  · have hne : dates ≠ [] := fun e => by simp [e] at h1
    simp only [h1, if_true, List.mem_cons, hne, false_and, false_or, true_and]
  · by_cases h0 : dates.length = 0
    · obtain rfl := List.length_eq_zero_iff.1 h0
      by_cases hb : f = .pot ∧ c.isBinary = true <;> simp [hb, perDate, noDate]
    · have hne : dates ≠ [] := fun e => h0 (by rw [e]; rfl)
      simp only [h1, h0, if_false, hne, false_and, false_or]

theorem noDate_mem_fieldTags (c : Ctx) (f g : Field) (dates : List (List Char)) :
    noDate g ∈ fieldTags c f dates ↔ (f = g ∧ dates = [] ∧ ¬ (f = .pot ∧ c.isBinary = true)) := by
  have hper : ∀ ds, noDate g ∉ perDate c.now f c.isTemplate (isPublican c.contentType) ds :=
    fun ds hm => perDate_names _ _ _ _ _ _ hm rfl
  have hdup : noDate g ≠ ⟨"duplicate-header-field-date", [.str f.name]⟩ := fun e => absurd (congrArg Tag.name e) (by simp [noDate])
  have hinj : noDate g = noDate f ↔ f = g := by cases f <;> cases g <;> simp [noDate, Field.name]
  simp only [mem_fieldTags, hper, hdup, hinj, and_false, or_false, false_or]
  exact ⟨fun ⟨a, b, c⟩ => ⟨c, a, b⟩, fun ⟨a, b, c⟩ => ⟨b, c, a⟩⟩

/-- `check_dates` always returns (C18), so the date rule speaks of one known list.  The context is a variable with an equation
    because `checkAll_eq` has it as `dateCtx …`, which is this record only after rewriting with `meta_getS`. -/
theorem dateRule_iff (now : Int) (f : File) (fs : List (Str × Str)) (t : TagCall) (c : Ctx)
    (hc : c = ⟨(vals fs "Content-Type").head?, f.kind.isBinary, f.kind.isTemplate, vals fs "POT-Creation-Date",
      vals fs "PO-Revision-Date", now⟩) :
    DateRule now f fs t ↔ ∃ d ∈ fieldTags c .pot c.pot ++ fieldTags c .po c.po, t = ofDateTag d := by
  subst hc
  unfold DateRule
  simp only [checkDates_eq, Option.some.injEq, exists_eq_left']

theorem noDate_mem_checkDates (c : Ctx) (g : Field) (ds : List Tag) (h : checkDates c = some ds) :
    noDate g ∈ ds ↔ ((match g with | .pot => c.pot | .po => c.po) = [] ∧ ¬ (g = .pot ∧ c.isBinary = true)) := by
  rw [checkDates_eq] at h
  injection h with h
  subst h
  rw [List.mem_append, noDate_mem_fieldTags, noDate_mem_fieldTags]
  cases g <;> simp

theorem translator_boilerplate_iff (x : Ext) (f : File) (fs : List (Str × Str)) (v : Str) :
    TranslatorRule x f fs ⟨"boilerplate-in-last-translator", [.str v]⟩ ↔
      (v ∈ vals fs "Last-Translator" ∧ HasAt (x.parseaddr v) ∧ AddrIs x ["EMAIL@ADDRESS"] (x.parseaddr v) .boilerplate
        ∧ f.kind.isTemplate = false) := by
  unfold TranslatorRule
  simp only [t0, TagCall.mk.injEq, String.reduceEq, false_and, and_false, false_or, or_false, true_and,
    List.cons.injEq, Extra.str.injEq, and_true]
  constructor
  · rintro ⟨w, hw, ha, hb, hk, rfl⟩
    exact ⟨hw, ha, hb, hk⟩
  · rintro ⟨hv, ha, hb, hk⟩
    exact ⟨v, hv, ha, hb, hk, rfl⟩

theorem team_boilerplate_iff (x : Ext) (f : File) (fs : List (Str × Str)) (v : Str) :
    TeamRule x f fs ⟨"boilerplate-in-language-team", [.str v]⟩ ↔
      (v ∈ vals fs "Language-Team" ∧ HasAt (x.parseaddr v) ∧ AddrIs x ["EMAIL@ADDRESS", "LL@li.org"] (x.parseaddr v) .boilerplate
        ∧ f.kind.isTemplate = false) := by
  unfold TeamRule
  simp only [t0, TagCall.mk.injEq, String.reduceEq, false_and, and_false, false_or, or_false, true_and,
    List.cons.injEq, Extra.str.injEq, and_true, exists_false]
  constructor
  · rintro ⟨w, hw, ha, hb, hk, rfl⟩
    exact ⟨hw, ha, hb, hk⟩
  · rintro ⟨hv, ha, hb, hk⟩
    exact ⟨v, hv, ha, hb, hk, rfl⟩

theorem fuzzy_header_iff (x : Ext) (f : File) :
    EntryRule x f (t0 "fuzzy-header-entry") ↔
      ∃ e i, headerEntry f.entries = some (e, i) ∧ "fuzzy".toList ∈ e.flags ∧ f.kind.isTemplate = false := by
  unfold EntryRule
  simp only [t0, TagCall.mk.injEq, String.reduceEq, false_and, and_false, false_or, or_false, and_true, exists_false]

end I18n.Hdr
