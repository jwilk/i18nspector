import I18n.Model.Po
import I18n.Lemmas.Kit.List
/-! Lemmas about the Python string kit of `Model/Po.lean` (`strip`, `split(None, n)`, `split(',')`, `rsplit(sep, 1)`, `find`). -/
namespace I18n.Lemmas.PoKit
open I18n I18n.Po

variable {p : Char → Bool}

/-- `s` does not start with a character of the class `p` (true of `[]`): `lstrip` leaves it alone -/
def HeadNot (p : Char → Bool) (s : Text) : Prop := ∀ c r, s = c :: r → p c = false
/-- `s` does not end in a character of the class `p` (true of `[]`): `rstrip` leaves it alone.  `Spec.endsNonSpace t` is
    `LastNot pyIsSpace t` by definition, and the lemmas about spelled lines pass one for the other. -/
def LastNot (p : Char → Bool) (s : Text) : Prop := ∀ c, s.getLast? = some c → p c = false

theorem lastNot_append (a b : Text) (hb : b ≠ []) (h : LastNot p b) : LastNot p (a ++ b) := by
  intro c e
  rw [List.getLast?_append] at e
  cases hbl : b.getLast? with
  | none => simp [List.getLast?_eq_none_iff] at hbl; exact absurd hbl hb
  | some x => rw [hbl] at e; simp at e; rw [← e]; exact h x hbl

theorem dropWhile_pad (pad core : Text) (hp : ∀ c ∈ pad, p c = true) (hc : HeadNot p core) :
    (pad ++ core).dropWhile p = core :=
  (Kit.span_append hp (Kit.forall_head?_iff.2 hc)).2

theorem lstrip_pad (pad core : Text) (hp : ∀ c ∈ pad, p c = true) (hc : HeadNot p core) :
    lstrip p (pad ++ core) = core := dropWhile_pad pad core hp hc

theorem headNot_reverse (s : Text) (h : LastNot p s) : HeadNot p s.reverse := by
  intro c r hr
  apply h c
  have : s = (c :: r).reverse := by rw [← hr, List.reverse_reverse]
  rw [this]; simp

theorem rstrip_pad (core pad : Text) (hp : ∀ c ∈ pad, p c = true) (hc : LastNot p core) :
    rstrip p (core ++ pad) = core := by
  unfold rstrip
  rw [List.reverse_append, dropWhile_pad pad.reverse core.reverse (by simpa using hp) (headNot_reverse core hc)]
  simp

theorem strip_pad (lpad core rpad : Text) (hl : ∀ c ∈ lpad, p c = true) (hr : ∀ c ∈ rpad, p c = true)
    (hh : HeadNot p core) (ht : LastNot p core) : strip p (lpad ++ core ++ rpad) = core := by
  unfold strip
  cases core with
  | nil =>
    have : lstrip p (lpad ++ [] ++ rpad) = [] := by
      have := dropWhile_pad (p := p) (lpad ++ rpad) [] (by intro c hc; simp at hc; rcases hc with h | h; exact hl c h; exact hr c h)
        (by intro c r h; simp at h)
      simpa [lstrip] using this
    rw [this]; rfl
  | cons a as =>
    rw [List.append_assoc, lstrip_pad lpad (a :: as ++ rpad) hl (by intro c r h; simp at h; exact h.1 ▸ hh a as rfl)]
    exact rstrip_pad (a :: as) rpad hr ht

theorem strip_id (core : Text) (hh : HeadNot p core) (ht : LastNot p core) : strip p core = core := by
  simpa using strip_pad [] core [] (by simp) (by simp) hh ht

theorem splitWs_blank (n : Nat) (s : Text) (h : ∀ c ∈ s, p c = true) : splitWs p n s = [] := by
  have : s.dropWhile p = [] := by simpa using dropWhile_pad (p := p) s [] h (by intro c r h; simp at h)
  cases n <;> simp [splitWs, this]

theorem takeWhile_tok (tok rest : Text) (hns : ∀ c ∈ tok, p c = false) (hrest : ∀ c r, rest = c :: r → p c = true) :
    (tok ++ rest).takeWhile (fun c => !p c) = tok ∧ (tok ++ rest).dropWhile (fun c => !p c) = rest :=
  Kit.span_append (fun c h => by simp [hns c h]) (Kit.forall_head?_iff.2 fun c r e => by simp [hrest c r e])

theorem splitWs_head (k : Nat) (c : Char) (r : Text) (hc : p c = false) :
    splitWs p (k + 1) (c :: r) = (c :: r.takeWhile fun x => !p x) :: splitWs p k (r.dropWhile fun x => !p x) := by
  simp [splitWs, List.dropWhile, hc]

theorem splitWs_tok (n : Nat) (tok rest : Text) (hne : tok ≠ []) (hns : ∀ c ∈ tok, p c = false)
    (hrest : ∀ c r, rest = c :: r → p c = true) :
    splitWs p (n + 1) (tok ++ rest) = tok :: splitWs p n rest := by
  obtain ⟨a, as, rfl⟩ := List.exists_cons_of_ne_nil hne
  obtain ⟨ht, hd⟩ := takeWhile_tok (p := p) as rest (fun c hc => hns c (List.mem_cons_of_mem a hc)) hrest
  rw [List.cons_append, splitWs_head n a _ (hns a List.mem_cons_self), ht, hd]

theorem splitWs_pad (n : Nat) (pad s : Text) (hp : ∀ c ∈ pad, p c = true) : splitWs p n (pad ++ s) = splitWs p n s := by
  cases n <;> simp [splitWs, List.dropWhile_append_of_pos hp]

theorem splitWs_ne_nil (n : Nat) (s : Text) (c : Char) (hc : c ∈ s) (hpc : p c = false) : splitWs p n s ≠ [] := by
  have : s.dropWhile p ≠ [] := fun h => by
    have := List.any_dropWhile (l := s) (p := p)
    rw [h, List.any_nil, eq_comm, Bool.not_eq_false', List.all_eq_true] at this
    simp [this c hc] at hpc
  cases n <;> simp [splitWs, this]

theorem splitWs_zero (s : Text) : splitWs p 0 s = if (s.dropWhile p).isEmpty then [] else [s.dropWhile p] := by
  simp [splitWs]

theorem takeWhile_ne_reverse (sep : Char) (front tail : Text) (ht : sep ∉ tail) (hf : ∀ c r, front.reverse = c :: r → c = sep) :
    ((front ++ tail).reverse.takeWhile fun c => c != sep) = tail.reverse := by
  rw [List.reverse_append]
  exact (takeWhile_tok (p := fun c => c == sep) tail.reverse front.reverse
    (by intro c hc; simp only [beq_eq_false_iff_ne]; intro e; exact ht (e ▸ List.mem_reverse.1 hc))
    (by intro c r e; simp [hf c r e])).1

theorem rsplit1_of_split (sep : Char) (a b : Text) (h : sep ∉ b) : rsplit1 sep (a ++ sep :: b) = some (a, b) := by
  have htw := takeWhile_ne_reverse sep (a ++ [sep]) b h (by intro c r e; simp at e; exact e.1.symm)
  rw [List.append_assoc, List.singleton_append] at htw
  unfold rsplit1
  simp only [htw, List.reverse_reverse]
  have hlen : ¬ b.length = (a ++ sep :: b).length := by simp; omega
  have : (a ++ sep :: b).length - b.length - 1 = a.length := by simp; omega
  rw [if_neg hlen, this]; simp

theorem rsplit1_of_not_mem (sep : Char) (s : Text) (h : sep ∉ s) : rsplit1 sep s = none := by
  have htw := takeWhile_ne_reverse sep [] s h (by simp)
  rw [List.nil_append] at htw
  unfold rsplit1
  simp [htw]

/-- `s.find(c)` when `c` occurs -/
theorem idxOf?_first (a b : List Char) (c : Char) (h : c ∉ a) : (a ++ c :: b).idxOf? c = some a.length := by
  induction a with
  | nil => simp [List.idxOf?, List.findIdx?_cons]
  | cons x xs ih =>
    have hx : x ≠ c := by intro e; apply h; simp [e]
    have := ih (by intro hm; apply h; simp [hm])
    simp [List.idxOf?, List.findIdx?_cons, hx] at this ⊢
    simp [this]

theorem splitOn_eq (sep : Char) (s : Text) : splitOn sep s = s.splitOn sep :=
  Kit.eq_splitOn rfl (fun c cs w ws h => by rw [splitOn, h]) s

end I18n.Lemmas.PoKit
