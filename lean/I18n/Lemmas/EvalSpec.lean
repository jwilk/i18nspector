import I18n.Generated.Intexpr
import I18n.Spec.CEval
import I18n.Model.Plural
import I18n.Lemmas.PyArith
/-! The generated `Evaluator` computes exactly the reference semantics `Spec.mathEval` under the
    "all evaluated intermediate results in range" side condition: `agrees`, stated with `Agrees` and read by outcome
    through `Agrees.ok_iff`, `Agrees.error_iff`.  `evalAt_agrees` is `agrees` for `evalAt`; the range of a value
    (`evalAt_value_range`) and the kinds of error (`evalAt_error_kinds`) are what other proofs take from it. -/
namespace I18n.Plural
open I18n I18n.Py I18n.Generated.Intexpr I18n.Spec

theorem inRange_append {M : Int} {a b : List Int} : InRange M (a ++ b) ↔ InRange M a ∧ InRange M b :=
  List.forall_mem_append

theorem inRange_single {M v : Int} : InRange M [v] ↔ 0 ≤ v ∧ v < M := by
  simp [InRange]

/-- `e` evaluates mathematically with every evaluated intermediate result in `[0, M)` -/
def Good (M n : Int) (e : Expr) : Prop := ∃ v tr, mathEval n e = some (v, tr) ∧ InRange M tr

theorem Good.of_sub {M n x : Int} {a : Expr} {t tr : List Int} (ha : mathEval n a = some (x, t)) (hr : InRange M tr)
    (hsub : t ⊆ tr) : Good M n a :=
  ⟨x, t, ha, fun z hz => hr z (hsub hz)⟩

/-- The operands that the evaluation of a `Good` node evaluates are `Good`: `mathEval` builds the trace of a node from the
    traces of the operands it evaluates (and the value of the node), so each of them is part of it. -/
theorem good_child {M n : Int} {e : Expr} (h : Good M n e) :
    match e with
    | .unaryop _ a => Good M n a
    | .binop a _ b | .compare a _ b => Good M n a ∧ Good M n b
    | .boolop .and a b => Good M n a ∧ ∀ x t, mathEval n a = some (x, t) → x ≠ 0 → Good M n b
    | .boolop .or a b => Good M n a ∧ ∀ x t, mathEval n a = some (x, t) → x = 0 → Good M n b
    | .ifexp c a b => Good M n c ∧ ∀ x t, mathEval n c = some (x, t) → (x ≠ 0 → Good M n a) ∧ (x = 0 → Good M n b)
    | _ => True := by
  obtain ⟨v, tr, hm, hr⟩ := h
  cases e with
  | num k => trivial
  | name => trivial
  | unaryop op a =>
    cases op
    simp only [mathEval] at hm
    split at hm
    next => cases hm
    next x t ha =>
      cases hm
      exact .of_sub ha hr (by simp)
  | binop a op b | compare a op b =>
    simp only [mathEval] at hm
    split at hm
    next => cases hm
    next x ta ha =>
      split at hm
      next => cases hm
      next y tb hb =>
        -- `tr = ta ++ tb ++ [v]`; for `binop` under a third `match`, on `arith op x y`
        have hsub : ta ⊆ tr ∧ tb ⊆ tr := by
          repeat' split at hm
          all_goals cases hm
          all_goals simp
        exact ⟨.of_sub ha hr hsub.1, .of_sub hb hr hsub.2⟩
  | boolop op a b =>
    cases op
    all_goals
      simp only [mathEval] at hm
      split at hm
      next => cases hm
      next x ta ha =>
        refine ⟨.of_sub ha hr ?_, fun x' t' hx' hx0 => ?_⟩
        · -- `tr` is `ta ++ [v]` when `x` decides, `ta ++ tb ++ [v]` otherwise
          repeat' split at hm
          all_goals cases hm
          all_goals simp
        · cases ha.symm.trans hx'
          simp only [hx0, ne_eq, not_true_eq_false, ↓reduceIte] at hm
          split at hm
          next => cases hm
          next y tb hb =>
            cases hm
            exact .of_sub hb hr (by simp)
  | ifexp c a b =>
    simp only [mathEval] at hm
    split at hm
    next => cases hm
    next x tc hc =>
      refine ⟨.of_sub hc hr ?_, fun x' t' hx' => ?_⟩
      · -- `tr = tc ++ t` with `t` the trace of the branch taken
        repeat' split at hm
        all_goals cases hm
        all_goals simp
      · cases hc.symm.trans hx'
        refine ⟨fun hx0 => ?_, fun hx0 => ?_⟩
        all_goals
          simp only [hx0, ne_eq, not_true_eq_false, not_false_eq_true, ↓reduceIte] at hm
          split at hm
          next => cases hm
          next y t hy =>
            cases hm
            exact .of_sub hy hr (by simp)

/-- `Evaluator.visit` against the reference semantics, per outcome -/
def Agrees (M n : Int) (e : Expr) (res : Except Exc Int) : Prop :=
  match res with
  | .ok v => (∃ tr, mathEval n e = some (v, tr) ∧ InRange M tr) ∧ 0 ≤ v ∧ v < M
  | .error ex => (ex = .Overflow ∨ ex = .ZeroDivision) ∧ ¬ ∃ v tr, mathEval n e = some (v, tr) ∧ InRange M tr

theorem agrees_ok_iff {M n : Int} {e : Expr} {v : Int} :
    Agrees M n e (.ok v) ↔ (∃ tr, mathEval n e = some (v, tr) ∧ InRange M tr) ∧ 0 ≤ v ∧ v < M :=
  Iff.rfl

theorem agrees_error_iff {M n : Int} {e : Expr} {ex : Exc} :
    Agrees M n e (.error ex) ↔ (ex = .Overflow ∨ ex = .ZeroDivision) ∧ ¬ Good M n e :=
  Iff.rfl

theorem Agrees.ok_iff {M n : Int} {e : Expr} {res : Except Exc Int} (h : Agrees M n e res) (v : Int) :
    res = .ok v ↔ ∃ tr, mathEval n e = some (v, tr) ∧ InRange M tr := by
  cases res with
  | ok v' =>
    obtain ⟨⟨tr', hm', hr'⟩, _⟩ := agrees_ok_iff.1 h
    constructor
    · rintro ⟨⟩
      exact ⟨tr', hm', hr'⟩
    · rintro ⟨tr, hm, _⟩
      cases hm'.symm.trans hm
      rfl
  | error ex => exact ⟨nofun, fun ⟨tr, hm, hr⟩ => absurd ⟨v, tr, hm, hr⟩ (agrees_error_iff.1 h).2⟩

theorem Agrees.error_iff {M n : Int} {e : Expr} {res : Except Exc Int} (h : Agrees M n e res) :
    (∃ ex, res = .error ex) ↔ ¬ ∃ v tr, mathEval n e = some (v, tr) ∧ InRange M tr := by
  cases res with
  | ok v => exact ⟨nofun, fun hno => absurd ⟨v, (agrees_ok_iff.1 h).1⟩ hno⟩
  | error ex => exact ⟨fun _ => (agrees_error_iff.1 h).2, fun _ => ⟨ex, rfl⟩⟩

/-- `x = self._visit(a)` inside the evaluation of `e`: a failure of the operand is a failure of `e` of the same kind,
    provided `e` cannot stay in range unless `a` does; otherwise go on with a value that `a` reaches in range. -/
theorem Agrees.bind {M n : Int} {a e : Expr} {r : Except Exc Int} {k : Int → Except Exc Int}
    (ha : Agrees M n a r) (hg : Good M n e → Good M n a)
    (hk : ∀ x t, mathEval n a = some (x, t) → InRange M t → 0 ≤ x ∧ x < M → Agrees M n e (k x)) :
    Agrees M n e (match (generalizing := false) r with | .error ex => .error ex | .ok x => k x) := by
  cases r with
  | error ex =>
    obtain ⟨hex, hna⟩ := agrees_error_iff.1 ha
    exact agrees_error_iff.2 ⟨hex, fun g => hna (hg g)⟩
  | ok x =>
    obtain ⟨⟨t, hm, hr⟩, hx⟩ := agrees_ok_iff.1 ha
    exact hk x t hm hr hx

/-- the same for an operand whose result is the result of `e` (the branches of `?:`) -/
theorem Agrees.tail {M n : Int} {a e : Expr} {r : Except Exc Int} (ha : Agrees M n a r) (hg : Good M n e → Good M n a)
    (hk : ∀ x t, mathEval n a = some (x, t) → InRange M t → 0 ≤ x ∧ x < M → Agrees M n e (.ok x)) : Agrees M n e r := by
  have := Agrees.bind ha hg hk
  cases r <;> exact this

theorem agrees_ok_of_trace {M n : Int} {e : Expr} {v : Int} {tr : List Int} (he : mathEval n e = some (v, tr))
    (hr : InRange M tr) (hv : 0 ≤ v ∧ v < M) : Agrees M n e (.ok v) :=
  agrees_ok_iff.2 ⟨⟨tr, he, hr⟩, hv⟩

/-- a node whose value needs no check: a truth value -/
theorem agrees_ok {M n : Int} {e : Expr} {v : Int} {t : List Int} (he : mathEval n e = some (v, t ++ [v]))
    (ht : InRange M t) (hv : 0 ≤ v ∧ v < M) : Agrees M n e (.ok v) :=
  agrees_ok_of_trace he (inRange_append.2 ⟨ht, inRange_single.2 hv⟩) hv

theorem agrees_checked {M n : Int} {e : Expr} {k : Int} {t : List Int} (he : mathEval n e = some (k, t ++ [k]))
    (ht : InRange M t) : Agrees M n e (Evaluator._check_overflow M n k) := by
  rw [check_overflow_eq]
  by_cases hk : 0 ≤ k ∧ k < M
  · rw [if_pos hk]
    exact agrees_ok he ht hk
  · rw [if_neg hk]
    refine agrees_error_iff.2 ⟨.inl rfl, fun ⟨v, tr, hm, hr⟩ => ?_⟩
    cases he.symm.trans hm
    exact hk (inRange_single.1 (inRange_append.1 hr).2)

/-- `2 ≤ M`: the evaluator does not check truth values for overflow, so at `M = 1` the value of `!0` is outside `[0, M)` -/
theorem agrees {M : Int} (hM : 2 ≤ M) (n : Int) (e : Expr) : Agrees M n e (Evaluator.visit M n e) := by
  have nil : InRange M [] := fun _ h => nomatch h
  induction e with
  | num k => exact agrees_checked (t := []) rfl nil
  | name => exact agrees_checked (t := []) rfl nil
  | unaryop op a iha =>
    cases op
    refine Agrees.bind iha good_child fun x t hma hrt hx => ?_
    have hval : b2i (decide (¬ x ≠ 0)) = (if x = 0 then 1 else 0) := by
      by_cases hx : x = 0 <;> simp [hx, b2i]
    simp only [Evaluator.dispatch_UnOp, Evaluator._visit_not, hval]
    exact agrees_ok (by simp only [mathEval, hma]) hrt (by split <;> omega)
  | binop a op b iha ihb =>
    refine Agrees.bind iha (fun h => (good_child h).1) fun x t1 hma hr1 hx => ?_
    refine Agrees.bind ihb (fun h => (good_child h).2) fun y t2 hmb hr2 hy => ?_
    have hm : mathEval n (.binop a op b) = (arith op x y).map fun v => (v, t1 ++ t2 ++ [v]) := by
      simp only [mathEval, hma, hmb]
      cases arith op x y <;> rfl
    simp only [dispatch_BinOp_eq op hx hy]
    cases har : arith op x y with
    | none =>
      -- a division by zero is executed
      rw [har] at hm
      exact agrees_error_iff.2 ⟨.inr rfl, fun ⟨v, tr, h, _⟩ => by cases hm.symm.trans h⟩
    | some v =>
      rw [har] at hm
      exact agrees_checked hm (inRange_append.2 ⟨hr1, hr2⟩)
  | compare a op b iha ihb =>
    refine Agrees.bind iha (fun h => (good_child h).1) fun x t1 hma hr1 hx => ?_
    refine Agrees.bind ihb (fun h => (good_child h).2) fun y t2 hmb hr2 hy => ?_
    have hrr := rel_range op x y
    simp only [cmpop_spec]
    exact agrees_ok (by simp only [mathEval, hma, hmb]) (inRange_append.2 ⟨hr1, hr2⟩) (by omega)
  | boolop op a b iha ihb =>
    cases op
    case and =>
      refine Agrees.bind iha (fun h => (good_child h).1) fun x t1 hma hr1 hx => ?_
      by_cases hx0 : x = 0
      · -- `0 && b`: `b` is not evaluated
        simp only [hx0, ↓reduceIte]
        exact agrees_ok (by simp only [mathEval, hma, hx0, ↓reduceIte]) hr1 (by omega)
      · simp only [hx0, ↓reduceIte]
        refine Agrees.bind ihb (fun h => (good_child h).2 _ _ hma hx0) fun y t2 hmb hr2 hy => ?_
        by_cases hy0 : y = 0 <;> simp only [hy0, ↓reduceIte] <;>
          exact agrees_ok (by simp only [mathEval, hma, hmb, hx0, hy0, ↓reduceIte]) (inRange_append.2 ⟨hr1, hr2⟩) (by omega)
    case or =>
      refine Agrees.bind iha (fun h => (good_child h).1) fun x t1 hma hr1 hx => ?_
      by_cases hx0 : x = 0
      · simp only [hx0, ne_eq, not_true_eq_false, ↓reduceIte]
        refine Agrees.bind ihb (fun h => (good_child h).2 _ _ hma hx0) fun y t2 hmb hr2 hy => ?_
        by_cases hy0 : y = 0 <;> simp only [hy0, not_true_eq_false, not_false_eq_true, ↓reduceIte] <;>
          exact agrees_ok (by simp only [mathEval, hma, hmb, hx0, hy0, ne_eq, not_true_eq_false, not_false_eq_true, ↓reduceIte])
            (inRange_append.2 ⟨hr1, hr2⟩) (by omega)
      · -- `x || b` with `x ≠ 0`: `b` is not evaluated
        simp only [ne_eq, hx0, not_false_eq_true, ↓reduceIte]
        exact agrees_ok (by simp only [mathEval, hma, ne_eq, hx0, not_false_eq_true, ↓reduceIte]) hr1 (by omega)
  | ifexp c a b ihc iha ihb =>
    refine Agrees.bind ihc (fun h => (good_child h).1) fun x t1 hmc hr1 hx => ?_
    by_cases hx0 : x = 0
    · simp only [hx0, ne_eq, not_true_eq_false, ↓reduceIte]
      refine Agrees.tail ihb (fun h => ((good_child h).2 _ _ hmc).2 hx0) fun y t2 hmb hr2 hy => ?_
      -- the value and the trace of `?:` are those of the branch, after the trace of the test
      exact agrees_ok_of_trace (by simp only [mathEval, hmc, hmb, hx0, ne_eq, not_true_eq_false, ↓reduceIte])
        (inRange_append.2 ⟨hr1, hr2⟩) hy
    · simp only [ne_eq, hx0, not_false_eq_true, ↓reduceIte]
      refine Agrees.tail iha (fun h => ((good_child h).2 _ _ hmc).1 hx0) fun y t2 hma hr2 hy => ?_
      exact agrees_ok_of_trace (by simp only [mathEval, hmc, hma, ne_eq, hx0, not_false_eq_true, ↓reduceIte])
        (inRange_append.2 ⟨hr1, hr2⟩) hy

theorem evalAt_agrees {bits : Nat} (hb : 1 ≤ bits) (n : Int) (e : Expr) : Agrees (2 ^ bits) n e (evalAt bits n e) := by
  obtain ⟨k, rfl⟩ : ∃ k, bits = k + 1 := ⟨bits - 1, by omega⟩
  have : (0 : Int) < 2 ^ k := Int.pow_pos (by decide)
  exact agrees (by rw [Int.pow_succ]; omega) n e

theorem evalAt_error_kinds {bits : Nat} (hb : 1 ≤ bits) (n : Int) (e : Expr) (ex : Exc)
    (h : evalAt bits n e = .error ex) : ex = .Overflow ∨ ex = .ZeroDivision := by
  have hh := evalAt_agrees hb n e
  rw [h] at hh
  exact (agrees_error_iff.1 hh).1

theorem evalAt_value_range {bits : Nat} (hb : 1 ≤ bits) (n : Int) (e : Expr) (v : Int)
    (h : evalAt bits n e = .ok v) : 0 ≤ v ∧ v < 2 ^ bits := by
  have hh := evalAt_agrees hb n e
  rw [h] at hh
  exact (agrees_ok_iff.1 hh).2

end I18n.Plural
