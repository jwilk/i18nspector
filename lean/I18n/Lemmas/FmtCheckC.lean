import I18n.Model.FmtCheck
import I18n.Spec.FmtCompare
/-!
The C comparator without its loops.  `get_last_integer_conversion(n)` returns the conversion of the first use examined iff
every use of the last `n` arguments belongs to it, one of them is the conversion itself and it is an integer conversion
(`getLastIntConv_eq`); `check_args` emits the count tag, then `Spec.FmtCompare.typeDiffs` of the argument types
(`checkArgsC_eq`), provided every argument has a use (`SlotsOk`).  First, `typeDiffs` by its members (`mem_typeDiffs`): the
Python-% comparator emits it too.
-/
namespace I18n.FmtCheck
open I18n I18n.FmtSig I18n.Spec.Printf I18n.Spec.FmtCompare

theorem mem_typeDiffs {τ : Type} [DecidableEq τ] : ∀ (src dst : List τ) (a b : τ),
    (a, b) ∈ typeDiffs src dst ↔ ∃ i, TypeDiffAt src dst i a b := by
  intro src dst a b
  fun_induction typeDiffs src dst with
  | case1 x xs y ys ih =>
    rw [List.mem_append, List.mem_ite_nil_right, List.mem_singleton, Prod.mk.injEq, ih]
    constructor
    · rintro (⟨hne, rfl, rfl⟩ | ⟨i, hi⟩)
      · exact ⟨0, rfl, rfl, hne⟩
      · exact ⟨i + 1, hi⟩
    · rintro ⟨_ | i, hi⟩
      · obtain ⟨⟨⟩, ⟨⟩, hne⟩ := hi
        exact .inl ⟨hne, rfl, rfl⟩
      · exact .inr ⟨i, hi⟩
  | case2 src dst hnc =>
    refine iff_of_false List.not_mem_nil ?_
    rintro ⟨i, h1, h2, _⟩
    obtain ⟨x, xs, rfl⟩ := List.exists_cons_of_ne_nil (l := src) (by rintro rfl; cases h1)
    obtain ⟨y, ys, rfl⟩ := List.exists_cons_of_ne_nil (l := dst) (by rintro rfl; cases h2)
    exact hnc _ _ _ _ rfl rfl

theorem typeDiffs_self {τ : Type} [DecidableEq τ] (l : List τ) : typeDiffs l l = [] := by
  induction l with
  | nil => rfl
  | cons x xs ih => simp [typeDiffs, ih]

/-- every argument has at least one use (what the parser builds) -/
def SlotsOk (args : List (List CEntry)) : Prop := ∀ u ∈ args, u ≠ []

theorem SlotsOk.tail {u : List CEntry} {args : List (List CEntry)} (h : SlotsOk (u :: args)) : SlotsOk args :=
  fun v hv => h v (List.mem_cons_of_mem _ hv)

def cTypeTag (pfx : Extra) (srcLoc dstLoc : List Char) (p : String × String) : TagCall :=
  tagTypeMismatch "c-format-string-argument-type-mismatch" pfx p.2.toList dstLoc p.1.toList srcLoc

theorem cTypeTags_ok (pfx : Extra) (srcLoc dstLoc : List Char) (src dst : List (List CEntry)) (hs : SlotsOk src) (hd : SlotsOk dst) :
      cTypeTags pfx srcLoc dstLoc src dst = .ok ((typeDiffs (typesOf src) (typesOf dst)).map (cTypeTag pfx srcLoc dstLoc)) := by
  fun_induction cTypeTags pfx srcLoc dstLoc src dst with
  | case1 s0 _ ss d0 _ ds e he ih =>  -- both arguments have a first use and the recursive call raises: by `ih` it does not
    rw [ih hs.tail hd.tail] at he
    cases he
  | case2 s0 _ ss d0 _ ds rest he ih =>  -- both have a first use, the recursive call returns `rest`
    rw [ih hs.tail hd.tail] at he
    cases he
    show _ = Except.ok (List.map _ ((if s0.type ≠ d0.type then [(s0.type, d0.type)] else []) ++ typeDiffs (typesOf ss) (typesOf ds)))
    rw [List.map_append]
    by_cases h : s0.type = d0.type
    · rw [if_neg (by simpa using h), if_neg (fun hn => hn h)]
      rfl
    · rw [if_pos (by simpa using h), if_pos h]
      rfl
  | case3 => exact absurd rfl (hs [] (by simp))  -- an argument of `src` without uses
  | case4 => exact absurd rfl (hd [] (by simp))  -- an argument of `dst` without uses
  | case5 => simp [typesOf, typeDiffs]  -- `src` exhausted
  | case6 => simp [typesOf, typeDiffs]  -- `dst` exhausted

theorem typesOf_length (args : List (List CEntry)) : (typesOf args).length = args.length := by
  simp [typesOf]

theorem lastIntScan_eval (x : Nat) : ∀ (es : List CEntry) (c : Option Nat), (c = none ∨ c = some x) →
    lastIntScan es (some x) c =
      if es.all (fun e => e.parent == x) then
        some (some x, if c.isSome || es.any (fun e => e.kind == .conv) then some x else none)
      else none := by
  intro es
  induction es with
  | nil => intro c hc; rcases hc with rfl | rfl <;> simp [lastIntScan]
  | cons e es ih =>
    intro c hc
    simp only [lastIntScan, Option.getD_some, List.all_cons, List.any_cons]
    by_cases hp : e.parent = x
    · subst hp
      by_cases hk : e.kind = .conv
      · have hc' : (if c.isNone && (e.parent == e.parent) then some e.parent else c) = some e.parent := by
          rcases hc with rfl | rfl <;> simp
        rw [hc', ih (some e.parent) (Or.inr rfl)]
        simp [hk]
      · have hk' : (e.kind != ArgKind.conv) = true := by simpa using hk
        have hk'' : (e.kind == ArgKind.conv) = false := by simpa using hk
        rw [ih c hc]
        simp [hk', hk'']
    · have hpx : (x != e.parent) = true := by simpa using fun h' => hp h'.symm
      have hpb : (e.parent == x) = false := by simpa using hp
      by_cases hk : e.kind = .conv
      · have hxe : (x == e.parent) = false := by simpa using fun h' => hp h'.symm
        simp only [hk, bne_self_eq_false, Bool.false_eq_true, ↓reduceIte, hxe, Bool.and_false, hpb, Bool.false_and]
        rcases hc with rfl | rfl
        · simp
        · have : (some x != some e.parent) = true := by simpa using fun h' => hp h'.symm
          simp [this]
      · have hk' : (e.kind != ArgKind.conv) = true := by simpa using hk
        simp [hk', hpx, hpb]

/-- the uses of the last `n` arguments, in the order the loops visit them -/
def lastUses (f : CFmtX) (n : Nat) : List CEntry := (f.arguments.drop (f.arguments.length - n)).flatten

theorem getLastIntConv_eq (f : CFmtX) (n : Nat) :
    getLastIntConv f n =
      if n > f.arguments.length ∨ n = 0 then .error .IndexError
      else .ok (((lastUses f n).head?.map (·.parent)).filter fun c =>
        (lastUses f n).all (fun e => e.parent == c) && (lastUses f n).any (fun e => e.kind == .conv) && f.integer.getD c false) := by
  unfold getLastIntConv
  by_cases h : n > f.arguments.length ∨ n = 0
  · rw [if_pos h]
    rcases h with h | h
    · rw [if_pos h]
    · rw [if_neg (by omega), if_pos h]
  · rw [if_neg h, if_neg (fun h' => h (.inl h')), if_neg (fun h' => h (.inr h'))]
    -- the body of `getLastIntConv` with `lastUses f n` folded in, so that the case split on it reaches both sides
    show (match lastIntScan (lastUses f n) none none with
      | none => Except.ok none
      | some (_, none) => Except.ok none
      | some (_, some c) => if f.integer.getD c false = true then Except.ok (some c) else Except.ok none) = _
    cases hl : lastUses f n with
    | nil => rfl
    | cons e es =>
      have hstart : lastIntScan (e :: es) none none = lastIntScan (e :: es) (some e.parent) none := by simp [lastIntScan]
      rw [hstart, lastIntScan_eval e.parent (e :: es) none (Or.inl rfl), List.head?_cons, Option.map_some, Option.filter_some]
      cases (e :: es).all (fun e' => e'.parent == e.parent) with
      | false => rfl
      | true =>
        cases (e :: es).any (fun e' => e'.kind == .conv) with
        | false => rfl
        | true =>
          show (if f.integer.getD e.parent false = true then _ else _) = _
          cases f.integer.getD e.parent false <;> rfl

/-- inside `check_args` the count passed is between 1 and the number of arguments: no `IndexError` -/
theorem getLastIntConv_ok (f : CFmtX) (n : Nat) (h1 : 1 ≤ n) (h2 : n ≤ f.arguments.length) :
    ∃ r, getLastIntConv f n = .ok r := by
  rw [getLastIntConv_eq, if_neg (by omega)]
  exact ⟨_, rfl⟩

/-- C14 `last_int_conv_spec`, before the parser is brought in -/
theorem getLastIntConv_some_iff (f : CFmtX) (n c : Nat) :
    getLastIntConv f n = .ok (some c) ↔
      1 ≤ n ∧ n ≤ f.arguments.length ∧ (∀ e ∈ lastUses f n, e.parent = c) ∧
      (∃ e ∈ lastUses f n, e.kind = .conv) ∧ f.integer.getD c false = true := by
  rw [getLastIntConv_eq]
  by_cases h : n > f.arguments.length ∨ n = 0
  · rw [if_pos h]
    exact ⟨nofun, fun ⟨h1, h2, _⟩ => by omega⟩
  · rw [if_neg h]
    have hn : 1 ≤ n ∧ n ≤ f.arguments.length := by omega
    simp only [Except.ok.injEq, Option.filter_eq_some_iff, Option.map_eq_some_iff, Bool.and_eq_true, List.all_eq_true, List.any_eq_true,
      beq_iff_eq, hn, true_and]
    constructor
    · rintro ⟨_, ⟨ha, hk⟩, hi⟩
      exact ⟨ha, hk, hi⟩
    · rintro ⟨ha, ⟨e, he, hk⟩, hi⟩
      -- the first of the uses examined belongs to `c` like all the others
      obtain ⟨e0, es, hl⟩ := List.exists_cons_of_ne_nil (List.ne_nil_of_mem he)
      have hfirst : ∃ a, (lastUses f n).head? = some a ∧ a.parent = c :=
        ⟨e0, by rw [hl]; rfl, ha e0 (by rw [hl]; exact List.mem_cons_self)⟩
      exact ⟨hfirst, ⟨ha, e, he, hk⟩, hi⟩

/-- the omission of the last `k` arguments of `src` is tolerated: the caller allows it and they are exactly what one
    integer conversion consumes -/
def cTolerated (src : CFmtX) (k : Nat) (omittedOk : Bool) : Bool :=
  omittedOk && match getLastIntConv src k with
    | .ok (some _) => true
    | _ => false

def cExcessTag (pfx : Extra) (srcLoc : List Char) (src : CFmtX) (dstLoc : List Char) (dst : CFmtX) : TagCall :=
  tagExcessOrMissing "c-format-string-excess-arguments" pfx dst.arguments.length dstLoc ">" src.arguments.length srcLoc

def cMissingTag (pfx : Extra) (srcLoc : List Char) (src : CFmtX) (dstLoc : List Char) (dst : CFmtX) : TagCall :=
  tagExcessOrMissing "c-format-string-missing-arguments" pfx dst.arguments.length dstLoc "<" src.arguments.length srcLoc

def cCountTags (pfx : Extra) (srcLoc : List Char) (src : CFmtX) (dstLoc : List Char) (dst : CFmtX) (omittedOk : Bool) : List TagCall :=
  if dst.arguments.length > src.arguments.length then [cExcessTag pfx srcLoc src dstLoc dst]
  else if dst.arguments.length < src.arguments.length then
    if cTolerated src (src.arguments.length - dst.arguments.length) omittedOk then [] else [cMissingTag pfx srcLoc src dstLoc dst]
  else []

theorem mem_cCountTags (pfx : Extra) (srcLoc : List Char) (src : CFmtX) (dstLoc : List Char) (dst : CFmtX) (omittedOk : Bool)
    (t : TagCall) :
    t ∈ cCountTags pfx srcLoc src dstLoc dst omittedOk ↔
      (dst.arguments.length > src.arguments.length ∧ t = cExcessTag pfx srcLoc src dstLoc dst) ∨
      (dst.arguments.length < src.arguments.length ∧
        cTolerated src (src.arguments.length - dst.arguments.length) omittedOk = false ∧
        t = cMissingTag pfx srcLoc src dstLoc dst) := by
  unfold cCountTags
  by_cases h1 : dst.arguments.length > src.arguments.length
  · simp [h1, Nat.lt_asymm h1]
  · by_cases h2 : dst.arguments.length < src.arguments.length
    · cases cTolerated src (src.arguments.length - dst.arguments.length) omittedOk <;> simp [h1, h2]
    · simp [h1, h2]

theorem checkArgsC_eq (pfx : Extra) (srcLoc : List Char) (src : CFmtX) (dstLoc : List Char) (dst : CFmtX) (omittedOk : Bool)
    (hs : SlotsOk src.arguments) (hd : SlotsOk dst.arguments) :
    checkArgsC pfx srcLoc src dstLoc dst omittedOk =
      .ok (cCountTags pfx srcLoc src dstLoc dst omittedOk ++
        (typeDiffs (typesOf src.arguments) (typesOf dst.arguments)).map (cTypeTag pfx srcLoc dstLoc)) := by
  unfold checkArgsC
  simp only [cTypeTags_ok pfx srcLoc dstLoc _ _ hs hd]
  unfold cCountTags cTolerated cExcessTag cMissingTag
  by_cases h1 : dst.arguments.length > src.arguments.length
  · simp [h1]
  · by_cases h2 : dst.arguments.length < src.arguments.length
    · simp only [h1, ↓reduceIte, h2]
      cases omittedOk with
      | false => simp
      | true =>
        obtain ⟨r, hr⟩ := getLastIntConv_ok src (src.arguments.length - dst.arguments.length) (by omega) (by omega)
        rw [hr]
        cases r <;> simp
    · simp [h1, h2]

end I18n.FmtCheck
