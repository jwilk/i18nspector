import I18n.Model.CharsetCns
/-!
# C20: bounded checks over the generated CNS 11643 tables — the functions the kernel evaluates (`Nat.ble`, `Nat.beq`, shifts
# on literals only); the kernel's passes with them are `Lemmas/CharsetCnsPlanes` and `Lemmas/CharsetCnsPages`, side by side, and
# `Lemmas/CharsetCns` says what a `true` means for the model's `cnsReal` / `invReal`
-/
namespace I18n.Charset.Cns
open I18n.Generated.CharsetCns

/-- `f` holds for every `i < n`.  Written with `Nat.rec` itself: the kernel evaluates an application of the recursor in one
    step, whereas a definition by structural recursion is compiled to `brecOn` and builds the tuple of earlier results at every
    index — the passes below run it 160 000 times. -/
def allBelow (f : Nat → Bool) (n : Nat) : Bool := Nat.rec true (fun k ih => f k && ih) n

theorem allBelow_sound (f : Nat → Bool) : ∀ n, allBelow f n = true → ∀ i, i < n → f i = true := by
  intro n
  induction n with
  | zero => intro _ i hi; omega
  | succ n ih =>
    intro h i hi
    rw [show allBelow f (n + 1) = (f n && allBelow f n) from rfl, Bool.and_eq_true] at h
    by_cases hin : i = n
    · subst hin; exact h.1
    · exact ih h.2 i (by omega)

/-- `f k`, with `k` handed over as a literal.  The kernel substitutes arguments unevaluated and finds a closed term it has
    reduced before only if it is spelt the same: matching on `k` evaluates it, so `f` is applied to the same numeral whenever
    the value is the same, and the long chain of comparisons in `invPage` / `cnsPlane` is walked once per page or plane
    instead of once per entry. -/
def atLit (f : Nat → Nat) : Nat → Nat
  | 0 => f 0
  | k + 1 => f (k + 1)

theorem atLit_eq (f : Nat → Nat) (k : Nat) : atLit f k = f k := by
  cases k <;> rfl

/-- a Unicode scalar value above ASCII and below the TAG characters (the tables hold nothing beyond U+2FFFF) -/
def scalarOk (ch : Nat) : Bool :=
  Nat.ble 0x80 ch && (Nat.ble ch 0xD7FF || (Nat.ble 0xE000 ch && Nat.ble ch 0xDFFFF))

/-- the ONE unit outside plane 1's four-byte form whose character the encoder writes elsewhere: `8E A3 A1 B8` (index 23 of plane 3) -/
def isDup (p i : Nat) : Bool := Nat.beq p 3 && Nat.beq i 23

/-- unit `i` of the plane table `t` of plane `p`: if iconv decodes it, the character is a scalar value above ASCII and the
    encoder writes it at this very position — unless the unit is the duplicate -/
def unitFast (t p i : Nat) : Bool :=
  let v := tableEntry t i
  Nat.beq v 0 || (scalarOk v && (Nat.beq ((atLit invPage (v / 4096) >>> (24 * (v % 4096))) &&& 0xFFFFFF) (p * 65536 + 0xA1A1 + i / 94 * 256 + i % 94) || isDup p i))

def checkPlanes (ps : List Nat) : Bool := ps.all fun p => allBelow (unitFast (cnsPlane p) p) 8836

/-- character `ch = 4096 k + lo` of the page table `t`: if iconv encodes it, it is above ASCII and the position it is written
    at decodes back to it -/
def charFast (t k lo : Nat) : Bool :=
  let w := (t >>> (24 * lo)) &&& 0xFFFFFF
  Nat.beq w 0 || (Nat.ble 0x80 (k * 4096 + lo) && inRange (w / 256 % 256) && inRange (w % 256) &&
    Nat.beq (tableEntry (atLit cnsPlane (w / 65536)) ((w / 256 % 256 - 0xA1) * 94 + (w % 256 - 0xA1))) (k * 4096 + lo))

def checkPages (ks : List Nat) : Bool := ks.all fun k => allBelow (charFast (invPage k) k) 4096

end I18n.Charset.Cns
