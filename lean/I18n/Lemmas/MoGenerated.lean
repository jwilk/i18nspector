import I18n.Model.Mo
import I18n.Generated.MoParser
import I18n.Lemmas.MoBytes
import I18n.Lemmas.MoParse
/-!
# The definitions regenerated from `lib/moparser.py` equal the hand-written model

`I18n.Generated.MoParser` is rewritten by `tools/translate/mo2lean.py` from the current source on every run.
This file proves, for every byte string, that it computes the same function as `Mo.parse`
(`Mo.readInts`, `Mo.parseEntry`, `Mo.loop`, `Mo.parseBody`), so that the theorems of C08/C09 — stated about the
model — hold of the regenerated text.  The proofs never mention a bound variable of the generated code: renaming
locals in the source does not disturb them.
-/
-- the simp sets name both spellings of a comparison (`Nat.not_le`, `Nat.not_lt`, `decide_eq_false_iff_not` beside `decide_eq_true_eq`): the source
-- may write `if len(msgids) > 2` as `if not len(msgids) <= 2` (`bp-not-eq-form` of DESIGN-notes/mo-tie-small-edits.json), so some are unused on a given text
set_option linter.unusedSimpArgs false
namespace I18n.Mo.Gen
open I18n.Mo I18n.Generated.MoParser

/-- `self._endian` for the two byte orders: `'<'`, `'>'` -/
def endianOf (be : Bool) : Bytes := if be then [62] else [60]

/-- `n` times `'I'` passes the test of `Py.structUnpack` on the item characters of a format -/
theorem all_replicate_I (n : Nat) : (List.replicate n (73 : UInt8)).all (· == 73) = true := by
  induction n with
  | zero => rfl
  | succ n ih => simp [List.replicate_succ]

theorem structUnpack_endian (be : Bool) (n : Nat) (buf : Bytes) :
    Py.structUnpack (endianOf be ++ List.replicate n 73) buf = unpack be n buf := by
  cases be <;> simp only [endianOf, Bool.false_eq_true, if_false, if_true, List.cons_append, List.nil_append, Py.structUnpack,
    all_replicate_I, List.length_replicate]

theorem read_ints_eq (db : CodecDB) (self : Self) (be : Bool) (h : self._endian = endianOf be) (at_ n : Nat) :
    Parser._read_ints db self at_ n = readInts be self._view at_ n := by
  simp only [Parser._read_ints]
  mo_unfold_helpers
  simp only [readInts, h, structUnpack_endian, decide_eq_true_eq]

/-- `self._encoding`, `self._last_msgid`: the state of the model inside the generated object -/
def stOf (self : Self) : St := ⟨self._encoding, self._last_msgid⟩
def withSt (self : Self) (st : St) : Self := { self with _encoding := st.encoding, _last_msgid := st.last }
def liftSt (self : Self) (r : Except Err (Entry × St)) : Except Err (Entry × Self) :=
  match r with
  | .error e => .error e
  | .ok (entry, st) => .ok (entry, withSt self st)

@[simp] theorem liftSt_error (self : Self) (e : Err) : liftSt self (.error e) = .error e := rfl
@[simp] theorem liftSt_ok (self : Self) (entry : Entry) (st : St) : liftSt self (.ok (entry, st)) = .ok (entry, withSt self st) := rfl

theorem exists_concat {α : Type} {xs : List α} (h : xs ≠ []) : ∃ init last, xs = init ++ [last] :=
  ⟨xs.dropLast, xs.getLast h, (List.dropLast_concat_getLast h).symm⟩

theorem mapM_dec (db : CodecDB) (enc : Bytes) (xs : List Bytes) :
    Py.mapM (fun s => dec db enc s) xs = decAll db enc xs := by
  induction xs with
  | nil => rfl
  | cons x xs ih =>
    simp only [Py.mapM, decAll, ih]
    cases dec db enc x <;> cases decAll db enc xs <;> rfl

/-- lines 134–152 of the source as the model has them -/
def selM (db : CodecDB) (st : St) (i : Nat) (msgids : List Bytes) (msgid msgstr : Bytes) :
    Except Err (Option Bytes × Option Bytes) :=
  if i = 0 then
    .ok (some (selectEncoding db st.encoding msgid msgstr), some (selectEncoding db st.encoding msgid msgstr))
  else
    match st.last with
    | none => .error (.crash .typeError)
    | some last =>
      if pyListEqBytes msgids last then .error (.syntax .duplicate)
      else if bytesLt msgid last then .error (.syntax .notSorted)
      else .ok (st.encoding, st.encoding)

/-- the pair (local `encoding`, `self._encoding`) of `selM` as the generated code carries it: (local `encoding`, `self`) -/
def liftSel (self : Self) (r : Except Err (Option Bytes × Option Bytes)) : Except Err (Option Bytes × Self) :=
  match r with
  | .error e => .error e
  | .ok (enc, senc) => .ok (enc, { self with _encoding := senc })

/-- lines 134–178 as the model has them -/
def tailM (db : CodecDB) (st : St) (i : Nat) (msgids : List Bytes) (msgstr : Bytes) : Except Err (Entry × St) :=
  match selM db st i msgids (msgids.headD []) msgstr with
  | .error e => .error e
  | .ok (encoding, selfEncoding) =>
    match encoding with
    | none => .error (.crash .assertion)
    | some enc =>
      match buildEntry db enc msgids msgstr (splitAll 0 msgstr) with
      | .error e => .error e
      | .ok entry => .ok (entry, ⟨selfEncoding, some (msgids.headD [])⟩)

theorem parseEntry_staged (db : CodecDB) (be : Bool) (view : Bytes) (st : St) (i a b : Nat) :
    parseEntry db be view st i a b =
      match readString be view a .msgidNotTerminated with
      | .error e => .error e
      | .ok msgid =>
        if (split 0 2 msgid).length > 2 then .error (.syntax .msgidNul) else
        match readString be view b .msgstrNotTerminated with
        | .error e => .error e
        | .ok msgstr =>
          if (split 0 2 msgid).length = 1 ∧ (splitAll 0 msgstr).length > 1 then .error (.syntax .msgstrNul)
          else tailM db st i (split 0 2 msgid) msgstr := by
  unfold parseEntry tailM selM
  rfl


/-- lines 157–159 of the source (`if msgctxt:`, `[msgctxt] = msgctxt`, its decoding) as the model has them; `init`: what `split(b'\x04', 1)`
    leaves before the `msgid` -/
def ctxtM (db : CodecDB) (enc : Bytes) (init : List Bytes) : Except Err (Option Text) :=
  match init with
  | [] => .ok none
  | [c] =>
    match dec db enc c with
    | .error e => .error e
    | .ok t => .ok (some t)
  | _ => .error (.crash .unpackValueError)

/-- `ctxtM` as the generated code carries it: the keyword arguments after line 159 -/
def liftCtxt (msgid : Text) (r : Except Err (Option Text)) : Except Err Py.Kwargs :=
  match r with
  | .error e => .error e
  | .ok msgctxt => .ok { msgid := some msgid, msgctxt := msgctxt }

/-- lines 160–170 of the source as the model has them: the forms by `len(msgids)`, and the entry `polib.MOEntry(**kwargs)` -/
def formsM (db : CodecDB) (enc : Bytes) (msgid : Text) (msgctxt : Option Text) (msgids : List Bytes) (msgstr : Bytes) :
    Except Err Entry :=
  if msgids.length = 1 then
    if [msgstr] ≠ splitAll 0 msgstr then .error (.crash .assertion)
    else match dec db enc msgstr with
      | .error e => .error e
      | .ok s => .ok ⟨msgid, msgctxt, .singular s⟩
  else
    if msgids.length ≠ 2 then .error (.crash .assertion)
    else if (splitAll 0 msgstr).length < 1 then .error (.crash .assertion)
    else match dec db enc (msgids.getD 1 []) with
      | .error e => .error e
      | .ok pl =>
        match decAll db enc (splitAll 0 msgstr) with
        | .error e => .error e
        | .ok forms => .ok ⟨msgid, msgctxt, .plural pl forms⟩

theorem buildEntry_staged (db : CodecDB) (enc : Bytes) (msgids : List Bytes) (msgstr : Bytes) :
    buildEntry db enc msgids msgstr (splitAll 0 msgstr) =
      match dec db enc ((split 4 1 (msgids.headD [])).getLastD []) with
      | .error e => .error e
      | .ok msgid =>
        match ctxtM db enc (split 4 1 (msgids.headD [])).dropLast with
        | .error e => .error e
        | .ok msgctxt => formsM db enc msgid msgctxt msgids msgstr := by
  unfold buildEntry ctxtM formsM
  rfl

theorem parse_entry_eq (db : CodecDB) (self : Self) (be : Bool) (h : self._endian = endianOf be) (i a b : Nat) :
    Parser._parse_entry db self i a b = liftSt self (parseEntry db be self._view (stOf self) i a b) := by
  simp only [Parser._parse_entry]
  -- `mo_unfold_helpers` is defined at the end of `Generated/MoParser.lean`, printed by the translator: `skip` on a source whose methods are
  -- the five the lemmas here are about; after a refactoring that splits a method, the translator lists the new helpers in it
  mo_unfold_helpers
  simp only [parseEntry_staged, readString, read2, read_ints_eq db self be h, Py.viewIndex, Py.tryExcept, Py.isIndexError,
    Bool.not_eq_true', decide_eq_false_iff_not, decide_eq_true_eq, Nat.not_le, Nat.not_lt, gt_iff_lt, ge_iff_le]
  cases h1 : readInts be self._view a 2 with
  | error e => rfl
  | ok ws =>
    rcases ws with _ | ⟨l, _ | ⟨o, _ | ⟨x, t⟩⟩⟩
    · rfl
    · rfl
    · simp only []
      cases h2 : self._view[o + l]? with
      | none => rfl
      | some c =>
        by_cases hc : c = 0
        · subst hc
          simp only [ne_eq, not_true_eq_false, decide_false, Bool.false_eq_true, ↓reduceIte]
          obtain ⟨m0, mrest, hm⟩ := List.exists_cons_of_ne_nil (split_ne_nil 0 2 (slice self._view o (o + l)))
          simp only [hm, Py.listGet, List.getElem?_cons_zero, List.headD_cons, decide_eq_true_eq]
          by_cases hlen : 2 < (m0 :: mrest).length
          · rw [if_pos hlen, if_pos hlen]
            rfl
          · rw [if_neg hlen, if_neg hlen]
            cases h3 : readInts be self._view b 2 with
            | error e => rfl
            | ok ws2 =>
              rcases ws2 with _ | ⟨l2, _ | ⟨o2, _ | ⟨x, t⟩⟩⟩
              · rfl
              · rfl
              · simp only []
                cases h4 : self._view[o2 + l2]? with
                | none => rfl
                | some c2 =>
                  by_cases hc2 : c2 = 0
                  · subst hc2
                    simp only [ne_eq, not_true_eq_false, decide_false, Bool.false_eq_true, ↓reduceIte, Bool.and_eq_true, decide_eq_true_eq]
                    generalize slice self._view o2 (o2 + l2) = msgstr
                    by_cases hnul : (m0 :: mrest).length = 1 ∧ 1 < (splitAll 0 msgstr).length
                    · rw [if_pos hnul, if_pos hnul]
                      rfl
                    · rw [if_neg hnul, if_neg hnul]
                      generalize hS : (if i = 0 then _ else _ : Except Err (Option Bytes × Self)) = S
                      have key : S = liftSel self (selM db (stOf self) i (m0 :: mrest) m0 msgstr) := by
                        rw [← hS]
                        simp only [selM, stOf, selectEncoding, pyListEqBytes, Py.decodeAsciiName, Py.isUnicodeError, asciiName, liftSel]
                        clear hS
                        obtain ⟨enc0, view, inst, endian, last0⟩ := self
                        by_cases hi : i = 0
                        · rcases enc0 with _ | e0
                          · by_cases hm0 : m0 = []
                            · rcases hfc : findCharset msgstr with _ | r
                              · simp [hi, hm0, hfc]
                              · cases hal : r.all (· < 128)
                                · simp [hi, hm0, hfc, hal]
                                · cases hcomp : db.asciiCompatible r <;> simp [hi, hm0, hfc, hal, hcomp]
                            · simp [hi, hm0]
                          · cases hcomp : db.asciiCompatible e0 <;> simp [hi, hcomp]
                        · rcases last0 with _ | last
                          · simp [hi]
                          · cases hlt : bytesLt m0 last <;> simp [hi, hlt]
                      subst key
                      clear hS
                      simp only [tailM, List.headD_cons]
                      cases selM db (stOf self) i (m0 :: mrest) m0 msgstr with
                      | error e => rfl
                      | ok p =>
                        obtain ⟨_ | enc, senc⟩ := p
                        · rfl
                        · obtain ⟨init, last, hp⟩ := exists_concat (split_ne_nil 4 1 m0)
                          simp only [liftSel, buildEntry_staged, List.headD_cons, hp, List.getLast?_concat, List.dropLast_concat,
                            List.getLastD_concat, mapM_dec]
                          cases hd1 : dec db enc last with
                          | error e => rfl
                          | ok t9 =>
                            simp only []
                            -- `C`: the block that unpacks and decodes `msgctxt`; the block of the forms stands under its binder
                            generalize hC : (if init.isEmpty = false then _ else _ : Except Err Py.Kwargs) = C
                            have keyC : C = liftCtxt t9 (ctxtM db enc init) := by
                              rw [← hC]
                              rcases init with _ | ⟨c, _ | ⟨c2, ct⟩⟩
                              · rfl
                              · simp only [ctxtM, liftCtxt, List.isEmpty_cons, ↓reduceIte]
                                cases dec db enc c <;> rfl
                              · rfl
                            subst keyC
                            clear hC
                            cases ctxtM db enc init with
                            | error e => rfl
                            | ok msgctxt =>
                              simp only [liftCtxt]
                              -- `K`: the block of the forms, which adds `msgstr` or `msgid_plural` and `msgstr_plural` to the keyword arguments;
                              -- read back by `Py.Kwargs.toEntry` (line 170) they are the entry of `formsM`.  Both sides branch on the same atoms
                              generalize hK : (if (m0 :: mrest).length = 1 then _ else _ : Except Err Py.Kwargs) = K
                              have keyK : (match (generalizing := false) K with | .error e => .error e | .ok kw => kw.toEntry) =
                                  formsM db enc t9 msgctxt (m0 :: mrest) msgstr := by
                                rw [← hK]
                                simp only [formsM]
                                rcases mrest with _ | ⟨m1, _ | ⟨m2, mt⟩⟩
                                · -- `len(msgids) == 1`
                                  by_cases hss : [msgstr] = splitAll 0 msgstr
                                  · cases hd3 : dec db enc msgstr <;> simp [← hss, hd3, Py.Kwargs.toEntry]
                                  · simp [hss]
                                · -- `len(msgids) == 2`;
                                  -- `hl` decides the model's `msgstrs.length < 1`, `Nat.not_le.2 hl` / `Nat.not_lt.1 hl` the source's `1 ≤ msgstrs.length`
                                  by_cases hl : (splitAll 0 msgstr).length < 1
                                  · simp [hl, Nat.not_le.2 hl]
                                  · cases hd4 : dec db enc m1 with
                                    | error e => simp [hl, Nat.not_lt.1 hl, hd4]
                                    | ok pl =>
                                      cases hd5 : decAll db enc (splitAll 0 msgstr) <;> simp [hl, Nat.not_lt.1 hl, hd4, hd5, Py.Kwargs.toEntry]
                                · -- three or more: the assertion error on both sides
                                  simp
                              rw [← keyK]
                              clear keyK hK
                              cases K with
                              | error e => rfl
                              | ok kw =>
                                simp only []
                                cases kw.toEntry <;> rfl
                  · simp [hc2]
              · rfl
        · simp [hc]
    · rfl

/-- what `Parser.parse` returns after a run -/
def instOf (r : Except Err Self) : Except Err MoFile :=
  match r with
  | .error e => .error e
  | .ok s => .ok s.instance_

@[simp] theorem instOf_error (e : Err) : instOf (.error e) = .error e := rfl
@[simp] theorem instOf_ok (s : Self) : instOf (.ok s) = .ok s.instance_ := rfl

/-- one iteration of `for i in range(n_strings)` as the model has it -/
def stepM (db : CodecDB) (be : Bool) (mo so : Nat) (i : Nat) (s : Self) : Except Err Self :=
  match parseEntry db be s._view (stOf s) i (mo + 8 * i) (so + 8 * i) with
  | .error e => .error e
  | .ok (entry, st) =>
    .ok { withSt s st with instance_ := { s.instance_ with entries := s.instance_.entries ++ [entry] } }

theorem forRange_loop (db : CodecDB) (be : Bool) (mo so : Nat) (f : Nat → Self → Except Err Self)
    (hf : ∀ i s, s._endian = endianOf be → f i s = stepM db be mo so i s) (k : Nat) :
    ∀ (i : Nat) (s : Self), s._endian = endianOf be →
      instOf (Py.forRangeFrom f k i s) =
        match loop db be s._view mo so k i (stOf s) with
        | .error e => .error e
        | .ok es => .ok ⟨s.instance_.entries ++ es, s.instance_.possibleHiddenStrings⟩ := by
  induction k with
  | zero => intro i s _; simp [Py.forRangeFrom, loop]
  | succ k ih =>
    intro i s hs
    simp only [Py.forRangeFrom, loop, hf i s hs, stepM]
    cases hp : parseEntry db be s._view (stOf s) i (mo + 8 * i) (so + 8 * i) with
    | error e => rfl
    | ok r =>
      obtain ⟨entry, st⟩ := r
      simp only []
      rw [ih]
      · simp only [withSt, stOf]
        cases loop db be s._view mo so k (i + 1) st <;> simp
      · simpa [withSt] using hs


theorem magic_le : little_endian_magic = leMagic := rfl
theorem magic_be : big_endian_magic = beMagic := rfl

theorem parse_body_eq (db : CodecDB) (self : Self) (hi : self.instance_ = ⟨[], false⟩) :
    instOf (Parser._parse db self) = Mo.parse db self._encoding self._view := by
  simp only [Parser._parse]
  -- as in `parse_entry_eq`: if `_parse` is split into methods, the calls must be unfolded before `generalize` can find the block
  mo_unfold_helpers
  -- `M`: the first block of `_parse`, which sets `self._endian` from the magic number
  generalize hM : (if decide (slice self._view 0 4 = little_endian_magic) = true then _ else _ : Except Err Self) = M
  have hmagic : (∃ be, M = .ok { self with _endian := endianOf be } ∧
        Mo.parse db self._encoding self._view = parseBody db self._encoding self._view be) ∨
      (M = .error (.syntax .magic) ∧ Mo.parse db self._encoding self._view = .error (.syntax .magic)) := by
    rw [← hM, magic_le, magic_be]
    simp only [Mo.parse]
    by_cases hle : slice self._view 0 4 = leMagic
    · exact .inl ⟨false, by simp [hle, endianOf]⟩
    · by_cases hbe : slice self._view 0 4 = beMagic
      · exact .inl ⟨true, by simp [hle, hbe, endianOf, show beMagic ≠ leMagic by decide]⟩
      · exact .inr (by simp [hle, hbe])
  obtain ⟨be, rfl, hR⟩ | ⟨rfl, hR⟩ := hmagic
  · rw [hR]
    clear hM hR
    have hr : ∀ s : Self, s._endian = endianOf be → ∀ a n, Parser._read_ints db s a n = readInts be s._view a n :=
      fun s hs a n => read_ints_eq db s be hs a n
    simp only [hr, parseBody_eq, read1, read2, Py.divmod, show (1 <<< 16 : Nat) = 65536 from rfl,
      show (65536 : Nat) ≠ 0 by decide, if_false, decide_eq_true_eq]
    cases h1 : readInts be self._view 4 1 with
    | error e => rfl
    | ok ws =>
      rcases ws with _ | ⟨rev, _ | ⟨x, t⟩⟩
      · rfl
      · simp only []
        by_cases hmaj : rev / 65536 > 1
        · simp [hmaj]
        · simp only [hmaj, if_false]
          cases h2 : readInts be self._view 8 1 with
          | error e => rfl
          | ok ws2 =>
            rcases ws2 with _ | ⟨n, _ | ⟨x, t⟩⟩
            · rfl
            · simp only []
              generalize hH : (if rev % 65536 > 1 then _ else _ : Except Err Bool) = H
              have key : H = hiddenStep be self._view (rev % 65536) := by
                rw [← hH]
                simp only [hiddenStep, read1]
                by_cases hm1 : rev % 65536 > 1
                · simp [hm1]
                · by_cases hm2 : rev % 65536 = 1
                  · rcases readInts be self._view 36 1 with e36 | _ | ⟨ns, _ | ⟨x, t⟩⟩
                    · simp [hm1, hm2]
                    · simp [hm1, hm2]
                    · by_cases hns : ns > 0 <;> simp [hm1, hm2, hns]
                    · simp [hm1, hm2]
                  · simp [hm1, hm2]
              subst key
              clear hH
              cases hiddenStep be self._view (rev % 65536) with
              | error e => rfl
              | ok phs =>
                simp only []
                cases h4 : readInts be self._view 12 2 with
                | error e => rfl
                | ok ws4 =>
                  rcases ws4 with _ | ⟨mo, _ | ⟨so, _ | ⟨x, t⟩⟩⟩
                  · rfl
                  · rfl
                  · simp only [Py.forRange]
                    refine (forRange_loop db be mo so _ ?_ n 0 _ rfl).trans ?_
                    · intro i s hs
                      simp only [parse_entry_eq db s be hs, stepM]
                      cases parseEntry db be s._view (stOf s) i (mo + 8 * i) (so + 8 * i) with
                      | error e => rfl
                      | ok r => rfl
                    · simp only [stOf, hi, List.nil_append]
                      cases loop db be self._view mo so n 0 ⟨self._encoding, none⟩ <;> rfl
                  · rfl
            · rfl
      · rfl
  · rw [hR]
    rfl

/-- `Parser.__init__` (with the file's bytes for `open(path, 'rb').read()`), then `.parse()` -/
theorem init_eq (db : CodecDB) (enc : Option Bytes) (bytes : Bytes) :
    instOf (Parser.__init__ db Self.unset bytes () enc false ()) = Mo.parse db enc bytes := by
  simp only [Parser.__init__]
  mo_unfold_helpers
  simp only [Bool.false_eq_true, if_false, Py.viewIndex, decide_eq_true_eq]
  -- what is split: the block `if len(view) > 0: view[0]` of `__init__`, printed under `Except`; its `.error` arm (`h_1`) is empty,
  -- because index 0 exists in a view of positive length
  split
  case h_1 e heq =>
    exfalso
    by_cases hl : bytes.length > 0
    · obtain ⟨c, hc⟩ : ∃ c, bytes[0]? = some c := ⟨bytes[0], by simp [hl]⟩
      simp [hl, hc] at heq
    · simp [hl] at heq
  case h_2 => exact parse_body_eq db _ rfl

/-- **The regenerated parser is the model**: `Parser(path, encoding=enc).parse()` as translated from the current
    source computes `Mo.parse` on every byte string, for every codec database and either `encoding` argument. -/
theorem generated_parse_eq (db : CodecDB) (enc : Option Bytes) (bytes : Bytes) :
    I18n.Generated.MoParser.parse db enc bytes = Mo.parse db enc bytes := by
  have h := init_eq db enc bytes
  simp only [I18n.Generated.MoParser.parse]
  cases hI : Parser.__init__ db Self.unset bytes () enc false () with
  | error e => rw [hI] at h; exact h
  | ok s => rw [hI] at h; simpa [Parser.parse] using h
end I18n.Mo.Gen
