import I18n.Generated.IconvDl
import I18n.Lemmas.CharsetIconv
/-!
# `lib/iconv.py` regenerated (`Generated/IconvDl.lean`) equals the loop model of `Model/Charset.lean`

Induction on the fuel of the `while True:` loop (`decode_loop_eq`, `encode_loop_eq`): one round is unfolded, its two ctypes calls are the
model's `callBoth` (`conv_flush`), and the cases of the return code are the model's; the search loop on the decoder's error path is
`syncEnd` (`rangeFind_sync`).  `openClose` says what `iconv_open` and `finally: iconv_close` add to a run of the loop
(`observe_finally_close`); `decode_eq` / `encode_eq` are the tests the two entry points make first.
-/
-- Some simp sets name lemmas for spellings of the source other than the present one (the other orientation of a test, another
-- way to write an update), so that the proofs survive such edits; on the present text the linter would report them.
set_option linter.unusedSimpArgs false
namespace I18n.Charset.Gen
open I18n I18n.Charset I18n.Generated

/-! ## the search loop `for end in range(begin + 1, len(input)): if input[end] < 0x80: break` is `syncEnd` -/

theorem byteAt_nat (input : List UInt8) (w : Py.World) (i : Nat) (b : UInt8) (h : input[i]? = some b) :
    Py.byteAt input (i : Int) w = .ok (b.toNat : Int) := by
  simp [Py.byteAt, h]

/-- what the body of the search loop does on the indices the loop visits -/
def IsSyncBody (input : List UInt8) (p : Int → Except Py.Raise Bool) : Prop :=
  ∀ (i : Nat) (b : UInt8), input[i]? = some b → p (i : Int) = .ok (decide (b.toNat < 128))

theorem rangeFindFrom_sync (p : Int → Except Py.Raise Bool) : ∀ (n : Nat) (rest : List UInt8) (input : List UInt8) (lo : Nat),
    IsSyncBody input p → input.drop lo = rest → rest.length = n →
    Py.rangeFindFrom p (lo : Int) n =
      .ok (match rest.findIdx? (fun b => b.toNat < 0x80) with | some k => some ((lo + k : Nat) : Int) | none => none) := by
  intro n
  induction n with
  | zero =>
    intro rest input lo hp hd hl
    cases rest with
    | nil => simp [Py.rangeFindFrom]
    | cons => simp at hl
  | succ n ih =>
    intro rest input lo hp hd hl
    cases rest with
    | nil => simp at hl
    | cons b rest =>
      have hb : input[lo]? = some b := by
        have := congrArg (fun l => l[0]?) hd
        simpa using this
      have hd' : input.drop (lo + 1) = rest := by
        have := congrArg (List.drop 1) hd
        simpa [List.drop_drop, Nat.add_comm] using this
      have hl' : rest.length = n := by simpa using hl
      have ih' := ih rest input (lo + 1) hp hd' hl'
      simp only [Py.rangeFindFrom, hp lo b hb]
      by_cases hlt : b.toNat < 128
      · simp [List.findIdx?_cons, hlt]
      · simp only [hlt, decide_false]
        have hcast : ((lo : Int) + 1) = ((lo + 1 : Nat) : Int) := by omega
        rw [hcast, ih']
        simp only [List.findIdx?_cons, hlt, decide_false, Bool.false_eq_true, if_false]
        cases rest.findIdx? (fun b => decide (b.toNat < 0x80)) with
        | none => simp
        | some k => simp; omega

theorem rangeFind_sync (input : List UInt8) (s : Nat) (p : Int → Except Py.Raise Bool) (hp : IsSyncBody input p) :
    Py.rangeFind ((s : Int) + 1) (input.length : Int) p =
      .ok (match (input.drop (s + 1)).findIdx? (fun b => b.toNat < 0x80) with | some k => some ((s + 1 + k : Nat) : Int) | none => none) := by
  unfold Py.rangeFind
  have hcast : ((s : Int) + 1) = ((s + 1 : Nat) : Int) := by omega
  rw [hcast]
  have hn : ((input.length : Int) - ((s + 1 : Nat) : Int)).toNat = (input.drop (s + 1)).length := by
    simp only [List.length_drop]; omega
  rw [hn]
  exact rangeFindFrom_sync p _ _ input (s + 1) hp rfl rfl

/- `output_len *= 2` in the three spellings a behaviour-preserving edit of the source can give it -/
theorem double_cast (L : Nat) : ((L : Int) * 2) = ((L * 2 : Nat) : Int) := by omega
theorem double_cast' (L : Nat) : (2 * (L : Int)) = ((L * 2 : Nat) : Int) := by omega
theorem double_cast'' (L : Nat) : ((L : Int) + (L : Int)) = ((L * 2 : Nat) : Int) := by omega

@[simp] theorem failed_ok : Py.failed .ok = false := rfl
@[simp] theorem failed_e2big : Py.failed .e2big = true := rfl
@[simp] theorem failed_eilseq : Py.failed .eilseq = true := rfl
@[simp] theorem failed_einval : Py.failed .einval = true := rfl
@[simp] theorem failed_other (n : Nat) : Py.failed (.other n) = true := rfl

/-! ## one round: the conversion call and the flush call are the model's `callBoth` -/

/-- The conversion call and, if it succeeded, the flush call leave what the model's `callBoth` says.  Stated on the tuples the two kit
    calls unfold to: the code takes them apart with `match`, so a lemma about the calls themselves would not apply.  `n` is free (only
    `inLeft` depends on it, and the code keeps that in a variable of its own). -/
theorem conv_flush (r : Round) (n L size : Nat) (w : Py.World) :
    (if (!Py.failed r.main.rc) = true then
        (Except.ok (({ size := size, data := [] ++ r.main.written ++ r.flush.written } : Py.OutBuf),
          ((L - r.main.written.length - r.flush.written.length : Nat) : Int), r.flush.rc,
          ({ errno := if r.flush.rc = Rc.ok then (if r.main.rc = Rc.ok then w.errno else r.main.rc) else r.flush.rc, round := r,
             trace := w.trace ++ [⟨size, L⟩] } : Py.World)) : Except Py.Raise (Py.OutBuf × Int × Rc × Py.World))
      else .ok ({ size := size, data := [] ++ r.main.written }, ((L - r.main.written.length : Nat) : Int), r.main.rc,
          { errno := if r.main.rc = Rc.ok then w.errno else r.main.rc, round := r, trace := w.trace ++ [⟨size, L⟩] })) =
      .ok ({ size := size, data := (callBoth n L r).buf }, ((callBoth n L r).outLeft : Int), (callBoth n L r).rc,
        { errno := if (callBoth n L r).rc = Rc.ok then w.errno else (callBoth n L r).rc, round := r, trace := w.trace ++ [⟨size, L⟩] }) := by
  unfold callBoth
  cases r.main.rc <;> simp

theorem decode_loop_eq (cd : Py.Cd) (enc : List Nat) (input : List UInt8) : ∀ (fuel L : Nat) (w : Py.World),
    Py.observe (IconvDl._decode_dl_loop input cd enc input fuel (L : Int) w) =
      (Py.ofOutcome (decodeLoop cd.step input fuel L).1, w.trace ++ (decodeLoop cd.step input fuel L).2) := by
  intro fuel
  induction fuel with
  | zero => intro L w; simp [IconvDl._decode_dl_loop, decodeLoop, Py.observe, Py.ofOutcome]
  | succ fuel ih =>
    intro L w
    -- the generated arithmetic is in `Int`; `hs` (what was consumed), later `hP`, `h3`, `h4` (what was written, in bytes and in characters)
    -- say that its values are the model's naturals
    have hs : ((input.length : Int) - ((input.length - (cd.step L).main.consumed : Nat) : Int)) =
        ((input.length - (input.length - (cd.step L).main.consumed) : Nat) : Int) := by omega
    cases hreset : (cd.step L).reset with
    | some e => simp [IconvDl._decode_dl_loop, decodeLoop, Py.csize, Py.len, Py.iconvReset, hreset, Py.getErrno, Py.errnoNat, Py.observe, Py.ofOutcome]
    | none =>
      -- `double_cast*` bring the doubled `output_len` of the next round into the form of the induction hypothesis
      simp only [IconvDl._decode_dl_loop, decodeLoop, Py.csize, Py.len, Py.createUnicodeBuffer, Py.iconvReset, Py.iconvConv, Py.iconvFlush, hreset,
        failed_ok, Py.getErrno, Int.toNat_natCast, beq_self_eq_true, if_true, Bool.false_eq_true, if_false, hs, double_cast, double_cast', double_cast'']
      rw [conv_flush (cd.step L) input.length L (4 * L) w]
      simp only [callBoth_inLeft]
      have hle := callBoth_outLeft_le input.length L (cd.step L)
      generalize callBoth input.length L (cd.step L) = c at hle ⊢
      obtain ⟨crc, cin, cout, cbuf⟩ := c
      cases crc with
      | e2big =>
        simp only [failed_e2big, reduceCtorEq, if_false, if_true, beq_self_eq_true]
        rw [ih]
        simp
      | eilseq | einval =>
        simp only [failed_eilseq, failed_einval, reduceCtorEq, if_false, if_true, beq_self_eq_true, beq_iff_eq, Bool.true_or, Bool.or_true, Bool.false_or, syncEnd]
        rw [rangeFind_sync input _ _ ?hsync]
        case hsync =>  -- `IsSyncBody`: on an index of `input` the body of the search loop reads that byte and tests it against 0x80
          intro i b h; simp [byteAt_nat _ _ _ _ h] <;> omega
        generalize List.findIdx? _ _ = o
        cases o <;> simp [Py.observe, Py.ofOutcome]
      | other e => simp [Py.observe, Py.ofOutcome, Py.errnoNat]
      | ok =>
        -- exits: input left over; a number of bytes written that is no multiple of 4; a code point above 0x10FFFF; else the string
        have hP : ((L : Int) - ((cout : Nat) : Int)) = ((L - cout : Nat) : Int) := by simp only at hle; omega
        simp only [failed_ok, Bool.false_eq_true, if_false, hP, Py.sizeofWchar, Py.unicodeSlice, Py.sliceTo, Py.OutBuf.bytes]
        generalize L - cout = P
        generalize input.length - (cd.step L).main.consumed = left
        have h3 : (P : Int) / 4 = ((P / 4 : Nat) : Int) := by omega
        have h4 : ((P / 4 : Nat) : Int) ≥ 0 := by omega
        by_cases h1 : left = 0
        · have h1' : ((left : Nat) : Int) = 0 := by omega
          by_cases h2 : P % 4 = 0
          · have h2' : (P : Int) % 4 = 0 := by omega
            simp only [h1, h1', h2, h2', h3, h4, if_true, ne_eq, not_true_eq_false, if_false, Int.toNat_natCast, Int.natCast_zero, beq_self_eq_true]
            generalize ((List.take (P / 4) (wchars (cbuf ++ List.replicate (4 * L - cbuf.length) 0))).any fun x => decide (x > 1114111)) = c
            cases c <;> simp [Py.observe, Py.ofOutcome]
          · have h2' : ¬ (P : Int) % 4 = 0 := by omega
            simp [h1, h1', h2, h2', Py.observe, Py.ofOutcome]
        · have h1' : ¬ ((left : Nat) : Int) = 0 := by omega
          simp [h1, h1', Py.observe, Py.ofOutcome]

theorem encode_loop_eq (cd : Py.Cd) (enc : List Nat) (input : List Nat) (binput cinput : List UInt8)
    (hb : binput.length = 4 * input.length) : ∀ (fuel L : Nat) (w : Py.World),
    Py.observe (IconvDl._encode_dl_loop binput cinput cd enc input fuel (L : Int) w) =
      (Py.ofOutcome (encodeLoop cd.step input.length fuel L).1, w.trace ++ (encodeLoop cd.step input.length fuel L).2) := by
  intro fuel
  induction fuel with
  | zero => intro L w; simp [IconvDl._encode_dl_loop, encodeLoop, Py.observe, Py.ofOutcome]
  | succ fuel ih =>
    intro L w
    -- as `decode_loop_eq`, without the search loop; `hs`, `hs1`: the index of the first character not encoded (the input is 4 bytes a character)
    have hs : ((input.length : Int) - ((4 * input.length - (cd.step L).main.consumed : Nat) : Int) / 4) =
        ((input.length - (4 * input.length - (cd.step L).main.consumed) / 4 : Nat) : Int) := by omega
    have hs1 : ((input.length - (4 * input.length - (cd.step L).main.consumed) / 4 : Nat) : Int) + 1 =
        ((input.length - (4 * input.length - (cd.step L).main.consumed) / 4 + 1 : Nat) : Int) := by omega
    cases hreset : (cd.step L).reset with
    | some e => simp [IconvDl._encode_dl_loop, encodeLoop, Py.csize, Py.len, Py.iconvReset, hreset, Py.getErrno, Py.errnoNat, Py.observe, Py.ofOutcome]
    | none =>
      simp only [IconvDl._encode_dl_loop, encodeLoop, Py.csize, Py.len, Py.createStringBuffer, Py.iconvReset, Py.iconvConv, Py.iconvFlush, hreset,
        failed_ok, Py.getErrno, Int.toNat_natCast, beq_self_eq_true, if_true, Bool.false_eq_true, if_false, hb, hs, hs1, double_cast, double_cast', double_cast'']
      rw [conv_flush (cd.step L) (4 * input.length) L L w]
      simp only [callBoth_inLeft]
      have hle := callBoth_outLeft_le (4 * input.length) L (cd.step L)
      generalize callBoth (4 * input.length) L (cd.step L) = c at hle ⊢
      obtain ⟨crc, cin, cout, cbuf⟩ := c
      cases crc with
      | e2big =>
        simp only [failed_e2big, reduceCtorEq, if_false, if_true, beq_self_eq_true]
        rw [ih]
        simp
      | eilseq | einval => simp [Py.observe, Py.ofOutcome]
      | other e => simp [Py.observe, Py.ofOutcome, Py.errnoNat]
      | ok =>
        have hP : ((L : Int) - ((cout : Nat) : Int)) = ((L - cout : Nat) : Int) := by simp only at hle; omega
        simp only [failed_ok, Bool.false_eq_true, if_false, hP, Py.bytesSlice, Py.sliceTo, Py.OutBuf.bytes]
        generalize L - cout = P
        generalize 4 * input.length - (cd.step L).main.consumed = left
        have h4 : ((P : Nat) : Int) ≥ 0 := by omega
        by_cases h1 : left = 0
        · have h1' : ((left : Nat) : Int) = 0 := by omega
          simp [h1, h1', h4, Py.observe, Py.ofOutcome]
        · have h1' : ¬ ((left : Nat) : Int) = 0 := by omega
          simp [h1, h1', Py.observe, Py.ofOutcome]

/-! ## `iconv_open`, `try … finally: iconv_close` around the loop -/

/-- what open / close add to a run of the loop: a failing `iconv_open` is an OSError before anything is allocated; a failing
    `iconv_close` in `finally` replaces the outcome of a loop that ended (a loop that never ends never reaches it) -/
def openClose {α : Type} (openErrno closeErrno : Option Nat) (r : Outcome α × List Alloc) : Outcome α × List Alloc :=
  match openErrno with
  | some e => (.osError e, [])
  | none =>
    match closeErrno with
    | none => r
    | some e =>
      match r.1 with
      | .outOfFuel => r
      | _ => (.osError e, r.2)

theorem openClose_log_subset {α : Type} (openErrno closeErrno : Option Nat) (r : Outcome α × List Alloc) :
    ∀ a ∈ (openClose openErrno closeErrno r).2, a ∈ r.2 := by
  intro a ha
  unfold openClose at ha
  cases openErrno with
  | some e => cases ha
  | none =>
    cases closeErrno with
    | none => exact ha
    | some e => cases hr : r.1 <;> simpa only [hr] using ha

theorem tryFinally_ok {α : Type} (r : Py.Res α) (fin : Py.World → Except Py.Raise Py.World) (h : ∀ w, fin w = .ok w) :
    Py.tryFinally r fin = r := by
  unfold Py.tryFinally
  cases r with
  | ok v => obtain ⟨v, w⟩ := v; simp [h]
  | error e => obtain ⟨e, w⟩ := e; cases e <;> simp [h]

theorem tryFinally_err {α : Type} (r : Py.Res α) (fin : Py.World → Except Py.Raise Py.World) (e : Nat)
    (h : ∀ w, fin w = .error (.os e, { w with errno := .other e })) :
    Py.observe (Py.tryFinally r fin) = (match (Py.observe r).1 with | .error .outOfFuel => (Py.observe r).1 | _ => .error (.os e), (Py.observe r).2) := by
  unfold Py.tryFinally
  cases r with
  | ok v => obtain ⟨v, w⟩ := v; simp [h, Py.observe]
  | error x => obtain ⟨x, w⟩ := x; cases x <;> simp [h, Py.observe]

/-- `try: <loop> finally: iconv_close(cd)`: what a run of the loop is observed as, after the `finally` of a descriptor that opened -/
theorem observe_finally_close {α : Type} (r : Py.Res α) (fin : Py.World → Except Py.Raise Py.World) (closeErrno : Option Nat)
    (t : List Alloc) (m : Outcome α × List Alloc)
    (hfin : ∀ w, fin w = match closeErrno with | none => .ok w | some e => .error (.os e, { w with errno := .other e }))
    (h : Py.observe r = (Py.ofOutcome m.1, t ++ m.2)) :
    Py.observe (Py.tryFinally r fin) = (Py.ofOutcome (openClose none closeErrno m).1, t ++ (openClose none closeErrno m).2) := by
  cases closeErrno with
  | none =>
    rw [tryFinally_ok r fin hfin]
    exact h
  | some e =>
    rw [tryFinally_err r fin e hfin, h]
    obtain ⟨o, tr⟩ := m
    cases o <;> simp [Py.ofOutcome, openClose]

theorem utf32le_length : ∀ (s : List Nat), (Py.utf32le s).length = 4 * s.length
  | [] => rfl
  | c :: rest => by simp only [Py.utf32le, List.length_cons, utf32le_length rest]; omega

theorem decode_eq (ic : Py.Iconv) (input : List UInt8) (enc errors : List Nat) (fuel : Nat) (w : Py.World) :
    Py.observe (IconvDl.decode ic input enc errors fuel w) =
      if input.isEmpty then (.ok [], w.trace)
      else if errors ≠ Py.lit "strict" then (.error .notImplemented, w.trace)
      else Py.observe (IconvDl._decode_dl ic input enc fuel w) := by
  cases input with
  | nil => simp [IconvDl.decode, Py.len, Py.observe]
  | cons b rest =>
    have hne : ¬ ((rest.length : Int) + 1 = 0) := by omega
    by_cases he : errors = Py.lit "strict"
    · simp [IconvDl.decode, Py.len, he, hne]
    · simp [IconvDl.decode, Py.len, he, hne, Py.observe]

theorem encode_eq (ic : Py.Iconv) (input : List Nat) (enc errors : List Nat) (fuel : Nat) (w : Py.World) :
    Py.observe (IconvDl.encode ic input enc errors fuel w) =
      if input.isEmpty then (.ok [], w.trace)
      else if errors ≠ Py.lit "strict" then (.error .notImplemented, w.trace)
      else Py.observe (IconvDl._encode_dl ic input enc fuel w) := by
  cases input with
  | nil => simp [IconvDl.encode, Py.len, Py.observe]
  | cons b rest =>
    have hne : ¬ ((rest.length : Int) + 1 = 0) := by omega
    by_cases he : errors = Py.lit "strict"
    · simp [IconvDl.encode, Py.len, he, hne]
    · simp [IconvDl.encode, Py.len, he, hne, Py.observe]

end I18n.Charset.Gen
