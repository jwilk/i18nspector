import I18n.Lemmas.LRSound
import I18n.Lemmas.LRComplete
import I18n.Lemmas.ParseAmb
/-! The LR driver over the dumped tables never ends in the model's `crash` outcome: no missing table row, no
    ill-shaped reduction, no popping of the bottom marker, no missing goto, no non-`Expr` result, and the turn budget
    `2 * length + 4` is never exhausted.  Hence `lrParse` is a total decision, `ok e` or `syntaxError`, and the function
    the recursive-descent model computes (`lrParse_eq`).  By `run_total`, with the invariant of `LRSound`, `backOK` for the
    shape of the stack at a reduction and `potential` for the budget. -/
namespace I18n.PluralLR
open I18n I18n.PluralParse I18n.Spec

/-- every backward path from `s` along the reversed right-hand side `xs` spells it and ends in a state with a goto
    on `lhs`; no state on the way (but the last) is the start state.  Checked by `decide` on the dump (`tf_back`) for
    every state in which the tables reduce; a stack that is a path (`Path`) therefore carries symbols of the shape the
    action function expects. -/
def backOK : List Sym → Nat → Nat → Bool
  | [], s, lhs => (T.gotoAt s lhs).isSome
  | x :: xs, s, lhs => s != 0 && (edges T).all fun e => e.2.2 != s || (e.2.1 == x && backOK xs e.1 lhs)

def lhsOf (p : Nat) : Nat := match T.prods[p]? with | some pr => pr.lhs | none => 0
def lenOf (p : Nat) : Nat := match T.prods[p]? with | some pr => pr.len | none => 0

theorem lhsOf_eq {p : Nat} {pr : Prod} (h : T.prods[p]? = some pr) : lhsOf p = pr.lhs := by simp [lhsOf, h]

theorem lenOf_eq {p : Nat} {pr : Prod} (h : T.prods[p]? = some pr) : lenOf p = pr.len := by simp [lenOf, h]

/-- the productions the tables reduce by in state `s` -/
def redsOf (s : Nat) : List Nat :=
  ((List.range 14).filterMap fun c => match decision T s c with | .reduce p => some p | _ => none).eraseDups

/-- wherever the tables reduce, it is by one of the productions `1 … 12`, and the stack below has the shape of the
    production (checked once for each state and production, whatever the number of lookaheads that ask for it) -/
theorem tf_back : ∀ s, s < 26 → ∀ p ∈ redsOf s,
    1 ≤ p ∧ p < 13 ∧ backOK (rhsOf p).reverse s (lhsOf p) = true ∧ lenOf p = (rhsOf p).length := by decide +kernel

theorem mem_redsOf {s c p : Nat} (hc : c < 14) (h : decision T s c = .reduce p) : p ∈ redsOf s :=
  List.mem_eraseDups.2 (List.mem_filterMap.2 ⟨c, List.mem_range.2 hc, by rw [h]⟩)

theorem shape_of_back : ∀ (xs : List Sym) (s : Nat) (v : Val) (st : List (Nat × Val)) (lhs : Nat),
    Path T ((s, v) :: st) → backOK xs s lhs = true →
    ∃ top sb u below, (s, v) :: st = top ++ (sb, u) :: below ∧ top.length = xs.length ∧
      (top.map (fun e => kind e.2)) = xs.map some ∧ (T.gotoAt sb lhs).isSome = true
  | [], s, v, st, lhs, _, hb => ⟨[], s, v, st, rfl, rfl, rfl, hb⟩
  | x :: xs, s, v, st, lhs, hp, hb => by
    simp only [backOK, Bool.and_eq_true, bne_iff_ne, ne_eq, List.all_eq_true, Bool.or_eq_true, beq_iff_eq] at hb
    obtain ⟨hs0, hall⟩ := hb
    rcases st with _ | ⟨⟨s0, u⟩, st'⟩
    · exact absurd hp.1 hs0
    · obtain ⟨⟨y, hky, hmem⟩, hp'⟩ := hp
      rcases hall _ hmem with hne | ⟨rfl, hb'⟩
      · exact absurd rfl hne
      · obtain ⟨top, sb, u', below, heq, hlen, hk, hg⟩ := shape_of_back xs s0 u st' lhs hp' hb'
        refine ⟨(s, v) :: top, sb, u', below, by rw [heq]; rfl, by simp [hlen], ?_, hg⟩
        simp [hky, hk]

theorem reduce_ne_crash {s p : Nat} {v : Val} {st : List (Nat × Val)} {rest : List Tok} {c : Nat} (hc : c < 14)
    (hred : decision T s c = .reduce p) (hp : Path T ((s, v) :: st)) : reduce T p ⟨(s, v) :: st, rest⟩ ≠ .crash := by
  obtain ⟨hp1, hp13, hback, hlen⟩ := tf_back s hp.top_lt p (mem_redsOf hc hred)
  obtain ⟨top, sb, u, below, heq, htl, hk, hg⟩ := shape_of_back _ s v st _ hp hback
  have hkinds : (top.reverse.map (·.2)).map kind = (rhsOf p).map some := by
    have : (top.reverse.map (·.2)).map kind = (top.map (fun e => kind e.2)).reverse := by
      simp [List.map_reverse, List.map_map, Function.comp_def]
    rw [this, hk, ← List.map_reverse, List.reverse_reverse]
  obtain ⟨pr, v', hpr, hact⟩ := applyAction_defined p hp1 hp13 _ hkinds
  have hlen' : pr.len = top.length := by rw [← lenOf_eq hpr, hlen, htl, List.length_reverse]
  rw [lhsOf_eq hpr] at hg
  obtain ⟨g, hg⟩ := Option.isSome_iff_exists.1 hg
  rw [heq, reduce_eq hpr hlen'.symm hact hg]
  exact Outcome.noConfusion

def tokCountV : List Val → Nat
  | [] => 0
  | .tok _ :: vs => tokCountV vs + 1
  | _ :: vs => tokCountV vs

theorem tokCountV_append (a b : List Val) : tokCountV (a ++ b) = tokCountV a + tokCountV b := by
  induction a with
  | nil => simp [tokCountV]
  | cons v vs ih => cases v <;> simp [tokCountV, ih] <;> omega

theorem tokCountV_reverse (a : List Val) : tokCountV a.reverse = tokCountV a := by
  induction a with
  | nil => rfl
  | cons v vs ih => rw [List.reverse_cons, tokCountV_append, ih]; cases v <;> simp [tokCountV] <;> omega

/-- 0 when the accept state is on top, else 1 -/
def notAccepting : List (Nat × Val) → Nat
  | (6, _) :: _ => 0
  | _ => 1

/-- lower after every turn: a shift reads a token (−2) and stacks it (+1); every reduction but `start : exp` pops a
    token and pushes none; that one enters the accept state (the last summand) -/
def potential (c : Config) : Nat :=
  2 * c.rest.length + tokCountV (c.stack.map (·.2)) + notAccepting c.stack

theorem notAccepting_of_ne {s : Nat} {v : Val} {st : List (Nat × Val)} (h : s ≠ 6) : notAccepting ((s, v) :: st) = 1 := by
  unfold notAccepting
  split
  · rename_i heq; cases heq; exact absurd rfl h
  · rfl

theorem applyAction_tok {act : Action} {args : List Val} {v : Val} (h : applyAction act args = some v) :
    (act = .evalStart ∧ tokCountV args = 0) ∨ (act ≠ .evalStart ∧ 1 ≤ tokCountV args) := by
  revert h
  fun_cases applyAction act args
  case case1 => exact fun _ => .inl ⟨rfl, rfl⟩   -- eval_start
  case case10 => rintro ⟨⟩                       -- any other action or shape of arguments
  -- the eight `expr_*` functions: each takes a token
  all_goals exact fun _ => .inr ⟨by simp, by simp [tokCountV]⟩

/-- the accept state neither reduces nor shifts -/
theorem ne_six_of_decision {s c : Nat} {d : Decision} (hc : c < 14) (hd : decision T s c = d) (ha : d ≠ .accept) (he : d ≠ .error) :
    s ≠ 6 := by
  rintro rfl
  rcases decision_six hc with h6 | h6
  · exact ha (hd.symm.trans h6)
  · exact he (hd.symm.trans h6)

theorem reduce_potential {s p : Nat} {v : Val} {st : List (Nat × Val)} {rest : List Tok} {c' : Config}
    (hs6 : s ≠ 6) (h : reduce T p ⟨(s, v) :: st, rest⟩ = .next c') :
    potential c' < potential ⟨(s, v) :: st, rest⟩ := by
  obtain ⟨pr, v', sb, u, below, s', hp, _, ha, hdrop, hg, rfl⟩ := reduce_next h
  simp only at ha hdrop
  -- what an action returns is no token
  have hv' : ∀ l, tokCountV (v' :: l) = tokCountV l := by
    rcases applyAction_kind ha with ⟨_, e, rfl⟩ | ⟨_, _, e, rfl⟩
    · exact fun _ => rfl
    · exact fun _ => rfl
  have hcount : tokCountV (((s, v) :: st).map (·.2)) =
      tokCountV ((((s, v) :: st).take pr.len).reverse.map (·.2)) + tokCountV (((sb, u) :: below).map (·.2)) := by
    conv => lhs; rw [← List.take_append_drop pr.len ((s, v) :: st), hdrop]
    rw [List.map_append, tokCountV_append, List.map_reverse, tokCountV_reverse]
  have hold : potential ⟨(s, v) :: st, rest⟩ = 2 * rest.length + tokCountV (((s, v) :: st).map (·.2)) + 1 := by
    unfold potential
    simp only
    rw [notAccepting_of_ne hs6]
  rw [hold, hcount]
  obtain ⟨hl1, hl0⟩ := tf_lhs p (prods_lt hp) pr hp
  rcases applyAction_tok ha with ⟨hact, h0⟩ | ⟨hact, h1⟩
  · -- start : exp — the accept state is entered
    rw [hl1 hact] at hg
    obtain rfl := edge_start (goto_mem_edges hg)
    unfold potential
    simp only [List.map_cons, h0, hv', notAccepting]
    omega
  · have hnone : pr.act ≠ .none := by
      intro hn; rw [hn] at ha; simp [applyAction] at ha
    rw [hl0 hact hnone] at hg
    -- the goto is for `exp`, and only `start` leads to the accept state
    have hne6 : s' ≠ 6 := by rintro rfl; cases (edge_accept (goto_mem_edges hg)).2
    unfold potential
    simp only [List.map_cons, hv']
    rw [notAccepting_of_ne hne6]
    omega

theorem step_total {ts : List Tok} {c : Config} (hi : Inv ts c) :
    match step T c with
    | .next c' => Inv ts c' ∧ potential c' < potential c
    | .accept v => ∃ e, v = .expr e ∧ Amb ts
    | .parsingError => True
    | .crash => False := by
  obtain ⟨stack, rest⟩ := c
  rcases stack with _ | ⟨⟨s, v⟩, st⟩
  · cases hi.1
  have hcl := col_lt rest.head?
  cases hd : decision T s (col rest.head?) with
  | missing => exact absurd hd (decision_ne_missing hi.1.top_lt hcl)
  | error =>
    rw [step_eq, hd]
    trivial
  | accept =>
    rw [step_eq, hd]
    exact accept_amb hd hi
  | reduce p =>
    have hs6 : s ≠ 6 := ne_six_of_decision hcl hd nofun nofun
    rw [step_reduce hd]
    cases hr : reduce T p ⟨(s, v) :: st, rest⟩ with
    | next c' => exact ⟨reduce_inv hr hi, reduce_potential hs6 hr⟩
    | accept v' => exact absurd hr (reduce_ne_accept _ _ _ _)
    | parsingError => trivial
    | crash => exact reduce_ne_crash hcl hd hi.1 hr
  | shift s' =>
    have hs6 : s ≠ 6 := ne_six_of_decision hcl hd nofun nofun
    rcases rest with _ | ⟨tok, r⟩
    · exact Bool.noConfusion ((congrArg Decision.isShift hd).symm.trans (end_not_shifted hi.1.top_lt))
    · rw [step_shift hd]
      refine ⟨shift_inv hd hi, ?_⟩
      have ht6 : s' ≠ 6 := by rintro rfl; cases (edge_accept (shift_mem_edges hd)).2
      unfold potential
      simp only [List.map_cons, List.length_cons, tokCountV]
      rw [notAccepting_of_ne ht6, notAccepting_of_ne hs6]
      omega

theorem lrParseWith_total (ts : List Tok) : (∃ e, lrParseWith T ts = .ok e ∧ Amb ts) ∨ lrParseWith T ts = .syntaxError :=
  run_total (I := Inv ts) (μ := potential) (Q := fun _ => Amb ts) (fun _ => step_total) _ _ (Inv.init ts)
    (by simp [potential, tokCountV, fuelFor, notAccepting] <;> omega)

/-- a sentence has a derivation in the stratified C grammar and the driver reproduces it (`lrParseWith_complete`); on
    what is no sentence the driver answers no tree — the input would be a sentence of plural.y (`lrParseWith_total`),
    which the recursive-descent model accepts (`accept_iff_amb`) — so it answers the syntax error -/
theorem lrParse_eq (ts : List Tok) :
    lrParse ts = match parseToks ts with | some e => .ok e | none => .syntaxError := by
  rw [lrParse_eq_with]
  cases hp : parseToks ts with
  | some e => exact lrParseWith_complete ((parseToks_iff ts e).1 hp)
  | none =>
    rcases lrParseWith_total ts with ⟨_, _, hamb⟩ | h
    · obtain ⟨e, he⟩ := (accept_iff_amb ts).2 hamb
      rw [hp] at he
      cases he
    · exact h

theorem lrParse_ok_iff (ts : List Tok) (e : Expr) : lrParse ts = .ok e ↔ parseToks ts = some e := by
  rw [lrParse_eq]
  cases parseToks ts <;> simp

end I18n.PluralLR
