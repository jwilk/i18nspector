import I18n.Lemmas.MetaSim
/-!
PO versus MO: what `ctx.is_binary` can change in the output of the ABSTRACT pipeline `Meta.pipeline (p : Parts κ τ)` (tags `PTag τ`;
C17 §4): `pipeline_respects`, `pipeline_clean`.  What is stated for ANY list of stages over `BinFlags × κ` (`BinRel`, `Clean`, …)
is also what `Lemmas/MetaRealBinary.lean` proves the same two facts with for the composed checker.

`Meta.pipeline` and `Meta.Real.pipeline` are two definitions, each under statements of C17, and no theorem relates them; the second
is not `Meta.pipeline p` for any `p`: its tags are `RTag`, not `PTag τ`; `Real.datesStage` has a raising branch, `datesStage p` has
none; `empty-file` is decided inside `Msg.trace` there, by `emptyFileGate` after the loop here.  A fact about `is_binary` is therefore
proved once for each, under the same name in `I18n.Meta` and in `I18n.Meta.Real`.
-/
namespace I18n.Meta
open I18n.Check

variable {κ τ : Type}

/-- the documented format-specific diagnostic: `no-date-header-field POT-Creation-Date` -/
def isExempt : PTag τ → Bool
  | .noDate true => true
  | _ => false

def notExempt (t : PTag τ) : Bool := !isExempt t

/-- additionally ignore `empty-file` (for files whose revision may hide strings) -/
def notExemptNorEmpty : PTag τ → Bool
  | .noDate true => false
  | .emptyFile => false
  | _ => true

theorem filter_notExempt_map_other (l : List τ) : (l.map PTag.other).filter notExempt = l.map PTag.other := by
  induction l with
  | nil => rfl
  | cons t ts ih => simp [notExempt, isExempt, ih]

theorem checkDatesField_po (b : Bool) (dedup : List Text → List Text) (perDate : Bool → Text → List τ) (dates : List Text) :
    checkDatesField b dedup perDate false dates = checkDatesField false dedup perDate false dates := by
  unfold checkDatesField
  simp

theorem checkDatesField_pot_nonempty (b : Bool) (dedup : List Text → List Text) (perDate : Bool → Text → List τ)
    (dates : List Text) (h : dates ≠ []) :
    checkDatesField b dedup perDate true dates = checkDatesField false dedup perDate true dates := by
  unfold checkDatesField
  have : dates.length ≠ 0 := by intro h0; exact h (List.length_eq_zero_iff.mp h0)
  simp [this]

theorem filter_notExempt_field (dedup : List Text → List Text) (perDate : Bool → Text → List τ) (pot : Bool) (dates : List Text) :
    (checkDatesField false dedup perDate pot dates).filter notExempt
      = checkDatesField true dedup perDate pot dates := by
  unfold checkDatesField
  by_cases h1 : dates.length > 1
  · simp only [h1, if_true, List.filter_cons, notExempt, isExempt, Bool.not_false, filter_notExempt_map_other]
  · simp only [h1, if_false]
    by_cases h0 : dates.length = 0
    · cases pot <;> simp [h0, notExempt, isExempt]
    · simp only [h0, if_false]
      exact filter_notExempt_map_other _

theorem checkDates_binary (dedup : List Text → List Text) (perDate : Bool → Text → List τ) (potDates poDates : List Text) :
    checkDates true dedup perDate potDates poDates
      = (checkDates false dedup perDate potDates poDates).filter notExempt := by
  unfold checkDates
  rw [List.filter_append, filter_notExempt_field, filter_notExempt_field]

theorem emptyFileGate_text (hidden : Bool) (counted : Nat) :
    emptyFileGate (τ := τ) false hidden counted = emptyFileGate true false counted := by
  unfold emptyFileGate
  simp

theorem emptyFileGate_binary_eq (hidden : Bool) (counted : Nat) (h : hidden = false ∨ counted ≠ 0) :
    emptyFileGate (τ := τ) true hidden counted = emptyFileGate false false counted := by
  unfold emptyFileGate
  rcases h with h | h
  · subst h; simp
  · simp [h]

/-- the two runs being compared: an MO file (first) and a PO file (second) with the same `ctx` otherwise -/
def BinRel (hiddenOk : Bool) (s s' : BinFlags × κ) : Prop :=
  s.1.isBinary = true ∧ s'.1.isBinary = false ∧ s.2 = s'.2 ∧ (hiddenOk = true → s.1.hidden = false)

theorem respects_of_snd {τ' : Type} (hiddenOk : Bool) (keep : τ' → Bool) (st : Stage (BinFlags × κ) τ')
    (h : ∀ fl fl' k, (st (fl, k)).1.1 = fl ∧ (st (fl, k)).1.2 = (st (fl', k)).1.2 ∧ (st (fl, k)).2 = (st (fl', k)).2) :
    Respects (BinRel hiddenOk) keep st st := by
  rintro ⟨fl, k⟩ ⟨fl', k'⟩ ⟨h1, h2, h3, h4⟩
  cases (show k = k' from h3)
  obtain ⟨hfl, hk, hout⟩ := h fl fl' k
  have hfl' := (h fl' fl k).1
  refine ⟨⟨?_, ?_, hk, ?_⟩, ?_, ?_⟩
  · rw [hfl]; exact h1
  · rw [hfl']; exact h2
  · rw [hfl]; exact h4
  · rw [hout]
  · rw [hout]

theorem blind_respects (hiddenOk : Bool) (keep : PTag τ → Bool) (f : Blind κ τ) :
    Respects (BinRel hiddenOk) keep (blind f) (blind f) :=
  respects_of_snd hiddenOk keep _ fun _ _ _ => ⟨rfl, rfl, rfl⟩

theorem dates_respects (hiddenOk : Bool) (p : Parts κ τ) :
    Respects (BinRel hiddenOk) notExempt (datesStage p) (datesStage p) := by
  intro s s' ⟨h1, h2, h3, h4⟩
  refine ⟨⟨h1, h2, h3, h4⟩, ?_, rfl⟩
  simp only [datesStage, h1, h2, h3]
  rw [checkDates_binary, List.filter_filter]
  simp

theorem mem_emptyFileGate {b h : Bool} {n : Nat} {t : PTag τ} (ht : t ∈ emptyFileGate b h n) : t = .emptyFile := by
  unfold emptyFileGate at ht
  exact List.mem_singleton.1 (List.mem_ite_nil_right.1 (List.mem_ite_nil_right.1 ht).2).2

/-- the end of `check_messages` on related runs: the gate prints the same when the MO revision hides nothing; otherwise it may
    differ, but prints nothing except `empty-file` -/
theorem messages_respects (hiddenOk : Bool) (keep : PTag τ → Bool) (hk : hiddenOk = true ∨ keep .emptyFile = false)
    (p : Parts κ τ) : Respects (BinRel hiddenOk) keep (messagesStage p) (messagesStage p) := by
  intro s s' ⟨h1, h2, h3, h4⟩
  simp only [messagesStage, h3]
  split
  · exact ⟨⟨h1, h2, h3, h4⟩, rfl, rfl⟩
  · refine ⟨⟨h1, h2, h3, h4⟩, ?_, rfl⟩
    rcases hk with rfl | hk
    · rw [h1, h2, h4 rfl, emptyFileGate_text]
    · have hg : ∀ b h n, (emptyFileGate (τ := τ) b h n).filter keep = [] := fun b h n =>
        List.filter_eq_nil_iff.2 fun t ht => by rw [mem_emptyFileGate ht, hk]; exact Bool.false_ne_true
      simp only [List.filter_append, hg]

/-- **what `ctx.is_binary` can change**, for every set `keep` of compared tags that leaves out the exempted one and, unless the
    MO revision hides nothing, `empty-file`: related runs stay related and print the same tags of that set -/
theorem pipeline_respects_of (hiddenOk : Bool) (keep : PTag τ → Bool) (hx : ∀ t, keep t = true → notExempt t = true)
    (hk : hiddenOk = true ∨ keep .emptyFile = false) (p : Parts κ τ) :
    RespectsAll (BinRel hiddenOk) keep (pipeline p) (pipeline p) := by
  unfold pipeline
  refine .cons (blind_respects _ _ _) <| .cons (blind_respects _ _ _) <| .cons (blind_respects _ _ _) <|
    .cons (blind_respects _ _ _) <| .cons (blind_respects _ _ _) <| .cons (blind_respects _ _ _) <|
    .cons ((dates_respects _ p).mono hx) <| .cons (blind_respects _ _ _) <| .cons (blind_respects _ _ _) <|
    .cons (messages_respects _ _ hk p) .nil

theorem pipeline_respects (p : Parts κ τ) : RespectsAll (BinRel true) notExempt (pipeline p) (pipeline p) :=
  pipeline_respects_of true _ (fun _ h => h) (.inl rfl) p

theorem pipeline_respects_any (p : Parts κ τ) : RespectsAll (BinRel false) notExemptNorEmpty (pipeline p) (pipeline p) :=
  pipeline_respects_of false _ (fun t ht => by
    cases t with
    | noDate pot =>
      cases pot
      · rfl
      · exact ht
    | _ => rfl) (.inr rfl) p

theorem filter_nen_map_other (l : List τ) : (l.map PTag.other).filter notExemptNorEmpty = l.map PTag.other := by
  induction l with
  | nil => rfl
  | cons t ts ih => simp [List.filter_cons, notExemptNorEmpty, ih]

/-- the stage hands the flags on, and on a binary file prints no tag marked `bad` -/
def Clean {τ' : Type} (bad : τ' → Bool) (st : Stage (BinFlags × κ) τ') : Prop :=
  ∀ s, (st s).1.1 = s.1 ∧ (s.1.isBinary = true → ∀ t ∈ (st s).2.1, bad t = false)

theorem clean_of_map {τ' α : Type} {bad : τ' → Bool} {st : Stage (BinFlags × κ) τ'} {c : α → τ'}
    (hfl : ∀ s, (st s).1.1 = s.1) (h : ∀ s, ∃ ts : List α, (st s).2.1 = ts.map c) (hc : ∀ x, bad (c x) = false) : Clean bad st := by
  intro s
  refine ⟨hfl s, fun _ t ht => ?_⟩
  obtain ⟨ts, e⟩ := h s
  obtain ⟨x, _, rfl⟩ := List.mem_map.1 (e ▸ ht)
  exact hc x

theorem runStages_clean {τ' : Type} (bad : τ' → Bool) (l : List (Stage (BinFlags × κ) τ')) (h : ∀ st ∈ l, Clean bad st)
    (s : BinFlags × κ) (hb : s.1.isBinary = true) : ∀ t ∈ (runStages l s).1, bad t = false := by
  induction l generalizing s with
  | nil => simp [runStages]
  | cons st rest ih =>
    obtain ⟨h1, h2⟩ := h st List.mem_cons_self s
    unfold runStages
    rcases hst : st s with ⟨s1, o1, r1⟩
    rw [hst] at h1 h2
    cases r1 with
    | true => exact h2 hb
    | false =>
      intro t ht
      rcases List.mem_append.1 ht with ht | ht
      · exact h2 hb t ht
      · exact ih (fun st' hm => h st' (List.mem_cons_of_mem _ hm)) s1 (h1 ▸ hb) t ht

theorem blind_clean (f : Blind κ τ) : Clean isExempt (blind f) :=
  clean_of_map (fun _ => rfl) (fun _ => ⟨_, rfl⟩) fun _ => rfl

theorem dates_clean (p : Parts κ τ) : Clean isExempt (datesStage p) := by
  intro s
  refine ⟨rfl, fun hb t ht => ?_⟩
  simp only [datesStage, hb, checkDates_binary, List.mem_filter, notExempt, Bool.not_eq_true'] at ht
  exact ht.2

theorem gate_no_exempt (b h : Bool) (n : Nat) : ∀ t ∈ emptyFileGate (τ := τ) b h n, isExempt t = false := by
  intro t ht
  rw [mem_emptyFileGate ht]
  rfl

theorem messages_clean (p : Parts κ τ) : Clean isExempt (messagesStage p) := by
  intro s
  simp only [messagesStage]
  split
  · exact ⟨rfl, fun _ => by simp [isExempt]⟩
  · refine ⟨rfl, fun _ t ht => ?_⟩
    rcases List.mem_append.1 ht with ht | ht
    · obtain ⟨x, _, rfl⟩ := List.mem_map.1 ht
      rfl
    · exact gate_no_exempt _ _ _ t ht

theorem pipeline_clean (p : Parts κ τ) : ∀ st ∈ pipeline p, Clean isExempt st := by
  intro st hm
  simp only [pipeline, List.mem_cons, List.not_mem_nil, or_false] at hm
  rcases hm with rfl | rfl | rfl | rfl | rfl | rfl | rfl | rfl | rfl | rfl
  · exact blind_clean _
  · exact blind_clean _
  · exact blind_clean _
  · exact blind_clean _
  · exact blind_clean _
  · exact blind_clean _
  · exact dates_clean p
  · exact blind_clean _
  · exact blind_clean _
  · exact messages_clean p

/-- **PO versus MO for any list of stages**: if they respect the relation up to the marked tags and print none of them on a
    binary file, the binary run prints the text run's tags minus the marked ones, and raises alike -/
theorem runStages_binary {τ' : Type} (bad : τ' → Bool) (l : List (Stage (BinFlags × κ) τ'))
    (hr : RespectsAll (BinRel true) (fun t => !bad t) l l) (hc : ∀ st ∈ l, Clean bad st) (k : κ) :
    (runStages l (⟨true, false⟩, k)).1 = (runStages l (⟨false, false⟩, k)).1.filter (fun t => !bad t) ∧
    (runStages l (⟨true, false⟩, k)).2 = (runStages l (⟨false, false⟩, k)).2 := by
  obtain ⟨h1, h2⟩ := runStages_sim (BinRel true) _ l l hr (⟨true, false⟩, k) (⟨false, false⟩, k) ⟨rfl, rfl, rfl, fun _ => rfl⟩
  refine ⟨?_, h2⟩
  rw [← h1]
  exact (List.filter_eq_self.2 fun t ht => by rw [runStages_clean bad l hc (⟨true, false⟩, k) rfl t ht]; rfl).symm

end I18n.Meta
