import I18n.Lemmas.MsgFlagRules
import Mathlib.Algebra.BigOperators.Group.List.Lemmas
-- The Mathlib import serves more than the `List.sum` lemmas used below: Props/C16.lean has it through this module, and the `Zero Nat`
-- of `List.sum` in the statement of `duplicate_message_flag_iff` there is found through it (`Nat.instAddMonoid`); it has to stay.
/-
The range part of `duplicate-message-flag`: the dictionary `rangeDict` has exactly one key with total multiplicity > 1 iff all valid
range flags of the list designate one range and together (with multiplicity) there are at least two of them.
-/
namespace I18n.Msg
open I18n.Tags (Str lit Extra)
open I18n.Spec.MessageRules

/-- `valsSum` and `sumAt` (below) exist to state `sumAt_foldl`, the total multiplicity recorded for one range along the fold; the
    statements about `rangeDict` spell the sum out. -/
def valsSum (c : List (Str × Nat)) : Nat := (c.map (·.2)).sum

theorem valsSum_assocSet_add (f : Str) (n : Nat) : ∀ (c : List (Str × Nat)),
    valsSum (assocSet f ((assocGet f c).getD 0 + n) c) = valsSum c + n
  | [] => by simp [assocSet, assocGet, valsSum]
  | (k, v) :: rest => by
    by_cases h : k = f
    · subst h; simp [assocSet, assocGet, valsSum]; omega
    · have ih := valsSum_assocSet_add f n rest
      simp only [assocSet, assocGet, h, if_false, valsSum, List.map_cons, List.sum_cons] at ih ⊢
      omega

def sumAt (r : Nat × Nat) (d : List ((Nat × Nat) × List (Str × Nat))) : Nat := valsSum ((assocGet r d).getD [])

theorem sumAt_rangeStep (env : FlagEnv) (flags : List Str) (r : Nat × Nat) (d : List ((Nat × Nat) × List (Str × Nat))) (f : Str) :
    sumAt r (rangeStep env flags d f) = sumAt r d + (if rangeOf env f = some r then flags.count f else 0) := by
  simp only [rangeStep]
  cases hr : rangeOf env f with
  | none => simp
  | some r' =>
    by_cases h : r' = r
    · subst h
      simp only [rangeAdd, sumAt, assocGet_assocSet_self, Option.getD_some, if_true]
      exact valsSum_assocSet_add f _ _
    · have : ¬ (some r' = some r) := by simpa using h
      simp only [rangeAdd, sumAt, assocGet_assocSet_ne (Ne.symm h), this, if_false, Nat.add_zero]

theorem sumAt_foldl (env : FlagEnv) (flags : List Str) (r : Nat × Nat) : ∀ (fs : List Str) (d : List ((Nat × Nat) × List (Str × Nat))),
    sumAt r (fs.foldl (rangeStep env flags) d) =
      sumAt r d + ((fs.filter fun f => decide (rangeOf env f = some r)).map fun f => flags.count f).sum
  | [], d => by simp
  | f :: fs, d => by
    rw [List.foldl_cons, sumAt_foldl env flags r fs, sumAt_rangeStep]
    by_cases h : rangeOf env f = some r
    · simp [h]; omega
    · simp [h]

theorem toSorted_perm_dedup (flags : List Str) : (toSorted strLt flags).Perm flags.dedup := by
  apply (List.perm_ext_iff_of_nodup ?_ (List.nodup_dedup flags)).mpr
  · intro a; simp
  · exact Kit.nodup_of_pairwise strLt_total.kit (pairwise_toSorted strLt_total flags)

theorem sum_counts (env : FlagEnv) (flags : List Str) (r : Nat × Nat) :
    (((toSorted strLt flags).filter fun f => decide (rangeOf env f = some r)).map fun f => flags.count f).sum =
      flags.countP fun f => decide (rangeOf env f = some r) := by
  rw [← List.sum_map_count_dedup_filter_eq_countP]
  apply List.Perm.sum_eq
  have := List.Perm.map (fun f => List.count f flags)
    (List.Perm.filter (fun f => decide (rangeOf env f = some r)) (toSorted_perm_dedup flags))
  -- `convert` for the `BEq Str` inside `List.count`: the Mathlib lemma has the one that comes from `DecidableEq`, the model
  -- `List.instBEq`
  convert this

theorem sumAt_rangeDict (env : FlagEnv) (flags : List Str) (r : Nat × Nat) :
    sumAt r (rangeDict env flags (toSorted strLt flags)) = flags.countP fun f => decide (rangeOf env f = some r) := by
  unfold rangeDict
  rw [sumAt_foldl, sum_counts]
  simp [sumAt, valsSum]

theorem range_duplicate_iff (env : FlagEnv) (flags : List Str) :
    (∃ r c, rangeDict env flags (toSorted strLt flags) = [(r, c)] ∧ (c.map (·.2)).sum > 1) ↔
      ∃ r, (∃ f ∈ flags, rangeOf env f = some r) ∧ (∀ g ∈ flags, ∀ r', rangeOf env g = some r' → r' = r) ∧
        (flags.countP fun f => decide (rangeOf env f = some r)) > 1 := by
  have hnd := rangeDict_nodup env flags (toSorted strLt flags)
  have hmem := mem_keysOf_rangeDict_toSorted env flags
  constructor
  · rintro ⟨r, c, hd, hs⟩
    have hsum := sumAt_rangeDict env flags r
    rw [hd] at hsum hmem
    simp only [sumAt, assocGet, if_true, Option.getD_some, valsSum] at hsum
    refine ⟨r, (hmem r).mp (by simp [keysOf]), ?_, by omega⟩
    intro g hg r' hr'
    have := (hmem r').mpr ⟨g, hg, hr'⟩
    simpa [keysOf] using this
  · rintro ⟨r, hex, hall, hcnt⟩
    have hk : ∀ k, k ∈ keysOf (rangeDict env flags (toSorted strLt flags)) ↔ k = r := by
      intro k
      rw [hmem]
      constructor
      · rintro ⟨g, hg, hr⟩; exact hall g hg k hr
      · rintro rfl; exact hex
    obtain ⟨c, hd, hget⟩ := singleton_of_keys hnd hk
    refine ⟨r, c, hd, ?_⟩
    have hsum := sumAt_rangeDict env flags r
    simp only [sumAt, hget, Option.getD_some, valsSum] at hsum
    omega

end I18n.Msg
