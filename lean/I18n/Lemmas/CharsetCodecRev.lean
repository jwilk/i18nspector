import I18n.Lemmas.CharsetCodec
import I18n.Lemmas.Kit.List
/-!
# C20: the charmap codecs — the reverse round trip, the bijection on the defined repertoire, exact error positions
-/
namespace I18n.Charset
open I18n.Spec.Charset (InjectiveOnDefined ValidSpan)

/-! ## the bijection on the defined repertoire -/

theorem encLookup_iff (table : List Nat) (hinj : InjectiveOnDefined table) (htrie : needDict table = false)
    (b : UInt8) (c : Nat) : (table[b.toNat]? = some c ∧ c ≠ undefinedCp) ↔ encLookup table c = some b :=
  ⟨fun h => encLookup_of_entry table hinj b c h.1 h.2, fun h => ⟨(encLookup_sound table c b h).1, (encLookup_sound table c b h).2 htrie⟩⟩

theorem mem_iff_encodes (table : List Nat) (hinj : InjectiveOnDefined table) (hlen : table.length = 256)
    (hdef : ∀ c ∈ table, c ≠ undefinedCp) (c : Nat) : c ∈ table ↔ (encLookup table c).isSome = true := by
  constructor
  · intro hm
    obtain ⟨i, hi, rfl⟩ := List.getElem_of_mem hm
    have hb : (UInt8.ofNat i).toNat = i := by rw [UInt8.toNat_ofNat']; omega
    have h1 : table[(UInt8.ofNat i).toNat]? = some table[i] := by rw [hb]; exact List.getElem?_eq_getElem hi
    rw [encLookup_of_entry table hinj (UInt8.ofNat i) _ h1 (hdef _ hm)]; rfl
  · intro hs
    obtain ⟨b, hb⟩ := Option.isSome_iff_exists.1 hs
    exact List.mem_of_getElem? (encLookup_sound table c b hb).1

/-! ## decode(encode(s)) = s -/

/-- **decode(encode(s)) = s**, for every table: whenever `charmap_build` took its trie form (which never maps U+FFFE), or the
    text does not contain U+FFFE -/
theorem charmap_encode_decode (table : List Nat) (cs : List Nat) (bs : List UInt8)
    (hu : needDict table = false ∨ undefinedCp ∉ cs)
    (h : charmapEncode table cs = .ok bs) : charmapDecode table bs = .ok cs := by
  obtain ⟨hall, rfl⟩ := charmapEncodeFrom_eq_ok_iff.1 h
  have key : ∀ c ∈ cs, ∃ b, encLookup table c = some b ∧ table[b.toNat]? = some c ∧ c ≠ undefinedCp := by
    intro c hc
    obtain ⟨b, hb⟩ := Option.isSome_iff_exists.1 (hall c hc)
    have hs := encLookup_sound table c b hb
    exact ⟨b, hb, hs.1, hu.elim hs.2 fun hu e => hu (e ▸ hc)⟩
  refine charmapDecodeFrom_eq_ok_iff.2 ⟨fun b hb => ?_, ?_⟩
  · obtain ⟨c, hc, rfl⟩ := List.mem_map.1 hb
    obtain ⟨b, hb, h1, h2⟩ := key c hc
    rw [hb]
    exact definedAt_iff.2 ⟨c, h1, h2⟩
  · rw [List.map_map]
    refine (List.map_congr_left fun c hc => ?_).trans (List.map_id _)
    obtain ⟨b, hb, h1, _⟩ := key c hc
    rw [Function.comp_apply, hb, Option.getD_some, h1]; rfl

/-! ## exact error positions -/

theorem charmapDecode_error_exact (table : List Nat) (bs : List UInt8) (s e : Nat)
    (h : charmapDecode table bs = .error (s, e)) :
    e = s + 1 ∧ s < bs.length ∧
    (∀ k, k < s → ∃ b, bs[k]? = some b ∧ definedAt table b = true) ∧
    (∃ b, bs[s]? = some b ∧ definedAt table b = false) := by
  rw [charmapDecode, charmapDecodeFrom_eq] at h
  cases hf : bs.findIdx? _ with
  | none => rw [hf] at h; cases h
  | some n =>
    rw [hf] at h; cases h
    rw [Nat.zero_add]
    obtain ⟨hn, hat, hbefore⟩ := List.findIdx?_eq_some_iff_getElem.1 hf
    have hat' : definedAt table bs[n] = false := by simpa using hat
    have hbefore' : ∀ k (hk : k < n), definedAt table (bs[k]'(Nat.lt_trans hk hn)) = true :=
      fun k hk => by simpa using hbefore k hk
    exact ⟨rfl, hn, fun k hk => ⟨_, List.getElem?_eq_getElem _, hbefore' k hk⟩, _, List.getElem?_eq_getElem _, hat'⟩

theorem takeWhile_spec {α : Type} (p : α → Bool) (l : List α) (a : Nat) (ha : a ≤ l.length) :
    a + ((l.drop a).takeWhile p).length ≤ l.length ∧
    (∀ k, a ≤ k → k < a + ((l.drop a).takeWhile p).length → ∃ x, l[k]? = some x ∧ p x = true) ∧
    (∀ x, l[a + ((l.drop a).takeWhile p).length]? = some x → p x = false) := by
  have hpre := List.takeWhile_prefix (l := l.drop a) p
  have hle := hpre.length_le
  rw [List.length_drop] at hle
  refine ⟨by omega, fun k hk1 hk2 => ?_, fun x hx => ?_⟩
  · have hk : k - a < ((l.drop a).takeWhile p).length := by omega
    refine ⟨_, ?_, Kit.takeWhile_all p _ _ (List.getElem_mem hk)⟩
    rw [← List.prefix_iff_getElem?.1 hpre _ hk, List.getElem?_drop, Nat.add_sub_cancel' hk1]
  · -- the entry just behind `takeWhile` is the head of `dropWhile`
    have e := List.getElem?_append_right (l₁ := (l.drop a).takeWhile p) (l₂ := (l.drop a).dropWhile p) (Nat.le_refl _)
    rw [List.takeWhile_append_dropWhile, Nat.sub_self, ← List.head?_eq_getElem?, List.getElem?_drop, hx] at e
    exact Kit.dropWhile_head p _ x e.symm

theorem charmapEncode_error_exact (table : List Nat) (cs : List Nat) (s e : Nat)
    (h : charmapEncode table cs = .error (s, e)) :
    s < e ∧ e ≤ cs.length ∧
    (∀ k, k < s → ∃ c, cs[k]? = some c ∧ (encLookup table c).isSome = true) ∧
    (∀ k, s ≤ k → k < e → ∃ c, cs[k]? = some c ∧ encLookup table c = none) ∧
    (∀ c, cs[e]? = some c → (encLookup table c).isSome = true) := by
  rw [charmapEncode, charmapEncodeFrom_eq] at h
  cases hf : cs.findIdx? _ with
  | none => rw [hf] at h; cases h
  | some n =>
    rw [hf] at h; cases h
    rw [Nat.zero_add]
    obtain ⟨hn, hat, hbefore⟩ := List.findIdx?_eq_some_iff_getElem.1 hf
    obtain ⟨hle, hrun, hend⟩ := takeWhile_spec (fun c => (encLookup table c).isNone) cs (n + 1) hn
    refine ⟨Nat.lt_add_right _ (Nat.lt_succ_self n), hle, fun k hk => ?_, fun k hk1 hk2 => ?_, fun c hc => ?_⟩
    · have : encLookup table (cs[k]'(Nat.lt_trans hk hn)) ≠ none := by simpa using hbefore k hk
      exact ⟨_, List.getElem?_eq_getElem _, Option.isSome_iff_ne_none.2 this⟩
    · rcases Nat.eq_or_lt_of_le hk1 with rfl | hk1
      · exact ⟨cs[n], List.getElem?_eq_getElem _, Option.isNone_iff_eq_none.1 hat⟩
      · obtain ⟨x, hx, hpx⟩ := hrun k hk1 hk2
        exact ⟨x, hx, Option.isNone_iff_eq_none.1 hpx⟩
    · simpa using hend c hc

end I18n.Charset
