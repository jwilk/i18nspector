import I18n.Spec.Locale
/-
The language of the locale regex (`Spec.Locale.localeRegexp`, an `Re` term) is the locale grammar on records
(`Spec.Locale.IsLocaleName`).  Every statement here is about terms of the specification only, so the lemmas live in its namespace,
`I18n.Spec.Locale`, not in `I18n.Locale` with the other locale lemmas.
-/
namespace I18n.Spec.Locale
open I18n.Spec.LocaleRe

theorem lang_atLeast_cls (R : List (Nat × Nat)) (n : Nat) (x : List Char) :
    Lang (.atLeast n (.cls R)) x ↔ runOf R n x := by
  constructor
  · rintro ⟨ws, hn, rfl, hw⟩
    have key : ∀ ws : List (List Char), (∀ w ∈ ws, Lang (.cls R) w) →
        ws.flatten.length = ws.length ∧ ∀ c ∈ ws.flatten, inRanges R c = true := by
      intro ws
      induction ws with
      | nil => intro _; simp
      | cons w ws ih =>
        intro h
        obtain ⟨c, rfl, hc⟩ := h w (by simp)
        have := ih (fun w' hw' => h w' (by simp [hw']))
        refine ⟨by simp [this.1], ?_⟩
        intro d hd
        simp at hd
        rcases hd with rfl | hd
        · exact hc
        · exact this.2 d (by simpa using hd)
    have := key ws hw
    exact ⟨by rw [this.1]; exact hn, this.2⟩
  · rintro ⟨hn, hc⟩
    refine ⟨x.map (fun c => [c]), by simpa using hn, ?_, ?_⟩
    · clear hn hc
      induction x with
      | nil => rfl
      | cons c t ih => simp [← ih]
    · intro w hw
      simp at hw
      obtain ⟨c, hc', rfl⟩ := hw
      exact ⟨c, rfl, hc c hc'⟩

theorem inRanges_single (k : Nat) (c : Char) : inRanges [(k, k)] c = true ↔ c.toNat = k := by
  simp [inRanges]; omega

theorem lang_sep (k : Nat) (g n : Nat) (R : List (Nat × Nat)) (y : List Char) :
    Lang (.seq (.cls [(k, k)]) (.group g (.atLeast n (.cls R)))) y ↔ ∃ c x, c.toNat = k ∧ y = c :: x ∧ runOf R n x := by
  constructor
  · rintro ⟨u, v, rfl, ⟨c, rfl, hc⟩, hv⟩
    exact ⟨c, v, (inRanges_single k c).1 hc, rfl, (lang_atLeast_cls R n v).1 hv⟩
  · rintro ⟨c, x, hc, rfl, hx⟩
    exact ⟨[c], x, rfl, ⟨c, rfl, (inRanges_single k c).2 hc⟩, (lang_atLeast_cls R n x).2 hx⟩

theorem lang_optsep (sep : Char) (g n : Nat) (R : List (Nat × Nat)) (y : List Char) :
    Lang (.opt (.seq (.cls [(sep.toNat, sep.toNat)]) (.group g (.atLeast n (.cls R))))) y
      ↔ ∃ o, y = optPart sep o ∧ optRunOf R n o := by
  constructor
  · rintro (rfl | h)
    · exact ⟨none, rfl, trivial⟩
    · obtain ⟨c, x, hc, rfl, hx⟩ := (lang_sep _ g n R y).1 h
      have : c = sep := by rw [← Char.ofNat_toNat c, hc, Char.ofNat_toNat]
      subst this
      exact ⟨some x, rfl, hx⟩
  · rintro ⟨o, rfl, ho⟩
    cases o with
    | none => left; rfl
    | some x => right; exact (lang_sep _ g n R _).2 ⟨sep, x, rfl, rfl, ho⟩

theorem lang_localeRe (s : List Char) : Lang localeRegexp.re s ↔ IsLocaleName s := by
  have e1 : (95 : Nat) = '_'.toNat := rfl
  have e2 : (46 : Nat) = '.'.toNat := rfl
  have e3 : (64 : Nat) = '@'.toNat := rfl
  simp only [localeRegexp]
  constructor
  · rintro ⟨a, r1, rfl, ha, b, r2, rfl, hb, c, d, rfl, hc, hd⟩
    rw [e1] at hb; rw [e2] at hc; rw [e3] at hd
    obtain ⟨cc, rfl, hcc⟩ := (lang_optsep '_' 2 2 _ b).1 hb
    obtain ⟨enc, rfl, henc⟩ := (lang_optsep '.' 3 1 _ c).1 hc
    obtain ⟨mod, rfl, hmod⟩ := (lang_optsep '@' 4 1 _ d).1 hd
    exact ⟨⟨a, cc, enc, mod⟩, ⟨(lang_atLeast_cls _ 2 a).1 ha, hcc, henc, hmod⟩, rfl⟩
  · rintro ⟨⟨ll, cc, enc, mod⟩, ⟨hll, hcc, henc, hmod⟩, rfl⟩
    refine ⟨ll, _, rfl, (lang_atLeast_cls _ 2 ll).2 hll, optPart '_' cc, _, rfl, ?_, optPart '.' enc, optPart '@' mod, rfl, ?_, ?_⟩
    · rw [e1]; exact (lang_optsep '_' 2 2 _ _).2 ⟨cc, rfl, hcc⟩
    · rw [e2]; exact (lang_optsep '.' 3 1 _ _).2 ⟨enc, rfl, henc⟩
    · rw [e3]; exact (lang_optsep '@' 4 1 _ _).2 ⟨mod, rfl, hmod⟩

theorem matches_localeRegexp (s : List Char) : Matches localeRegexp s ↔ IsLocaleName s := by
  rw [← lang_localeRe]
  constructor
  · rintro ⟨p, rest, rfl, hp, hr⟩
    have : rest = [] := hr
    subst this; simpa using hp
  · intro h
    exact ⟨s, [], by simp, h, rfl⟩

end I18n.Spec.Locale
