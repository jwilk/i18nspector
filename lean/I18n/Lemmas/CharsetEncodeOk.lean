import I18n.Lemmas.CharsetCheckTags
import I18n.Lemmas.CharsetIconvCodecs
/-!
# C20: the hypothesis `EncodeOk` of the unrepresentable-characters theorems holds for the extra codecs as modelled,
# because each of them encodes a text iff it encodes every character of it (`encodeOk_of_charwise`)
-/
namespace I18n.Charset

/-- `text.encode(codec)` seen as the checker sees it: it worked, or UnicodeEncodeError (not the iconv(1) fall-back) -/
def encOfExcept {ε α : Type} (f : List Nat → Except ε α) : List Nat → Enc := fun t =>
  match f t with
  | .ok _ => .ok
  | .error _ => .encodeError false

theorem encOfExcept_eq_ok_iff {ε α : Type} (f : List Nat → Except ε α) (t : List Nat) :
    encOfExcept f t = .ok ↔ ∃ b, f t = .ok b := by
  unfold encOfExcept
  cases f t <;> simp

theorem encOfExcept_cases {ε α : Type} (f : List Nat → Except ε α) (t : List Nat) :
    encOfExcept f t = .ok ∨ encOfExcept f t = .encodeError false := by
  unfold encOfExcept
  cases f t <;> simp

theorem encOfExcept_ne_crash {ε α : Type} (f : List Nat → Except ε α) (t : List Nat) : encOfExcept f t ≠ .crash := by
  unfold encOfExcept
  cases f t <;> exact nofun

theorem encodeOk_of_charwise {ε α : Type} (f : List Nat → Except ε α) (P : Nat → Bool)
    (h : ∀ t, (∃ b, f t = .ok b) ↔ ∀ c ∈ t, P c = true) (chars : List (List Nat)) : EncodeOk (encOfExcept f) chars where
  pieces c _ := encOfExcept_cases f c
  joined := encOfExcept_ne_crash f _
  prefixClosed hj c hc := by
    have hall := (h chars.flatten).1 ((encOfExcept_eq_ok_iff f _).1 hj)
    exact (encOfExcept_eq_ok_iff f c).2 ((h c).2 fun x hx => hall x (List.mem_flatten.2 ⟨c, hc, hx⟩))

theorem encodeOk_charmap (table : List Nat) (chars : List (List Nat)) : EncodeOk (encOfExcept (charmapEncode table)) chars :=
  encodeOk_of_charwise _ (fun c => (encLookup table c).isSome) (fun t => charmapEncodeFrom_exists_ok_iff (encLookup table) t 0) chars

theorem encodeOk_eucTw (inv : CnsInverse) (chars : List (List Nat)) : EncodeOk (encOfExcept (eucTwEncode inv)) chars :=
  encodeOk_of_charwise _ (fun c => (eucTwEncodeChar inv c).isSome)
    (fun t => by unfold eucTwEncode; rw [eucTwEncodeFrom_eq]; exact encodeAllFrom_ok_iff _ t 0) chars

end I18n.Charset
