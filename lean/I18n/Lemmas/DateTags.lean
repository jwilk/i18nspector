import I18n.Lemmas.DateFix
/- `checkOne` / `checkDates` (model of `check_dates`): what is emitted for one date value, and that no exception escapes. -/
namespace I18n.Date
open I18n.Spec.Date I18n.Generated

/-- the hint `check_dates` passes -/
def tzHint (date : List Char) (publican : Bool) : Option (List Char) :=
  if date.contains 'T' ∧ publican then some hintPublican else none

theorem tzHint_ok (date : List Char) (publican : Bool) : ∀ x, tzHint date publican = some x → HintOk x := by
  intro x hx
  unfold tzHint at hx
  split at hx
  · simp only [Option.some.injEq] at hx; subst hx; exact (hintOk_iff _).mp (by decide)
  · cases hx

theorem epoch_eq : DateTables.epochMicros = gettextEpoch.minutes * 60000000 := by
  rw [← minutes_ofCivil (c := gettextEpoch) (by unfold Civil.Exists; decide)]
  decide

def label (f : Field) : Arg := Arg.safe (f.name ++ [':'])
def tagBoiler (f : Field) (date : List Char) : Tag := ⟨"boilerplate-in-date", [label f, .str date]⟩
def tagInvalid (f : Field) (date : List Char) : Tag := ⟨"invalid-date", [label f, .str date]⟩
def tagFix (f : Field) (date fixed : List Char) : Tag := ⟨"invalid-date", [label f, .str date, .str ['=','>'], .str fixed]⟩
def tagFuture (f : Field) (date : List Char) : Tag := ⟨"date-from-future", [label f, .str date]⟩
def tagAncient (f : Field) (date : List Char) : Tag := ⟨"ancient-date", [label f, .str date]⟩

/-- one date value by the specification: a placeholder, or no normal form, or the instant its normal form denotes -/
theorem checkOne_cases (now : Int) (f : Field) (tmpl pub : Bool) (date : List Char)
    (hex : ¬ (tmpl = true ∧ f = .po ∧ date = DateTables.boilerplateDate)) :
    (HasBoilerplate (strip date) ∧ checkOne now f tmpl pub date = some [tagBoiler f date])
    ∨ (¬ HasBoilerplate (strip date) ∧ (¬ ∃ t, Normalises (strip date) (tzHint date pub) t)
        ∧ checkOne now f tmpl pub date = some [tagInvalid f date])
    ∨ ∃ c : Civil, c.Exists ∧ Normalises (strip date) (tzHint date pub) (render c) ∧
        checkOne now f tmpl pub date = some (
          (if date ≠ render c then [tagFix f date (render c)] else [])
          ++ (if c.minutes * 60000000 > now then [tagFuture f date] else [])
          ++ (if c.minutes * 60000000 < gettextEpoch.minutes * 60000000 then [tagAncient f date] else [])) := by
  have hfold : (if date.contains 'T' ∧ pub = true then some hintPublican else none) = tzHint date pub := rfl
  rcases fix_cases_of_hintOk date (tzHint_ok date pub) with ⟨hb, e⟩ | ⟨hb, hn, e⟩ | ⟨t, hn, e⟩
  · refine .inl ⟨hb, ?_⟩
    simp only [checkOne, hex, if_false, hfold, e]; rfl
  · refine .inr (.inl ⟨hb, hn, ?_⟩)
    simp only [checkOne, hex, if_false, hfold, e]; rfl
  · obtain ⟨c, hc, rfl⟩ := hn.canonical
    refine .inr (.inr ⟨c, hc, hn, ?_⟩)
    simp only [checkOne, hex, if_false, hfold, e, parseCanon_complete hc, minutes_ofCivil hc, epoch_eq]
    rfl

/-- membership in the verdict list of an accepted date (the third case of `checkOne_cases`) -/
theorem mem_verdict {tg x y z : Tag} {a b c : Prop} [Decidable a] [Decidable b] [Decidable c] :
    tg ∈ (if a then [x] else []) ++ (if b then [y] else []) ++ (if c then [z] else []) ↔
      (a ∧ tg = x) ∨ (b ∧ tg = y) ∨ (c ∧ tg = z) := by
  by_cases ha : a <;> by_cases hb : b <;> by_cases hc : c <;> simp [ha, hb, hc]

theorem checkOne_exempt (now : Int) (f : Field) (tmpl pub : Bool) (date : List Char)
    (hex : tmpl = true ∧ f = .po ∧ date = DateTables.boilerplateDate) : checkOne now f tmpl pub date = some [] := by
  simp only [checkOne, hex, and_self, if_true]

theorem checkOne_isSome (now : Int) (f : Field) (tmpl pub : Bool) (date : List Char) :
    (checkOne now f tmpl pub date).isSome = true := by
  by_cases hex : tmpl = true ∧ f = .po ∧ date = DateTables.boilerplateDate
  · rw [checkOne_exempt now f tmpl pub date hex]; rfl
  · rcases checkOne_cases now f tmpl pub date hex with ⟨_, e⟩ | ⟨_, _, e⟩ | ⟨_, _, _, e⟩ <;> rw [e] <;> rfl

/-- the tags of the dates of one field, one after the other -/
def perDate (now : Int) (f : Field) (tmpl pub : Bool) (ds : List (List Char)) : List Tag :=
  (ds.map fun d => (checkOne now f tmpl pub d).getD []).flatten

theorem checkAll_eq (now : Int) (f : Field) (tmpl pub : Bool) (ds : List (List Char)) :
    checkAll now f tmpl pub ds = some (perDate now f tmpl pub ds) := by
  induction ds with
  | nil => rfl
  | cons d ds ih =>
    obtain ⟨a, ha⟩ := Option.isSome_iff_exists.mp (checkOne_isSome now f tmpl pub d)
    simp [checkAll, ha, ih, perDate]

/-- what `check_dates` says about one field -/
def fieldTags (c : Ctx) (f : Field) (dates : List (List Char)) : List Tag :=
  if dates.length > 1 then
    ⟨"duplicate-header-field-date", [.str f.name]⟩ :: perDate c.now f c.isTemplate (isPublican c.contentType) (sortedSet dates)
  else if dates.length = 0 then
    (if f = .pot ∧ c.isBinary = true then [] else [⟨"no-date-header-field", [.str f.name]⟩])
  else perDate c.now f c.isTemplate (isPublican c.contentType) dates

theorem checkField_eq (c : Ctx) (f : Field) (dates : List (List Char)) :
    checkField c f dates = some (fieldTags c f dates) := by
  fun_cases checkField c f dates
  case case1 pub h1 hn => -- several values, an exception: impossible
    exact absurd hn (by rw [checkAll_eq]; nofun)
  case case2 pub h1 ts hs => -- several values
    rw [checkAll_eq] at hs
    cases hs
    exact (congrArg some (if_pos h1)).symm
  case case3 h1 h0 hb => -- no value, POT-Creation-Date of a binary catalogue
    rw [fieldTags, if_neg h1, if_pos h0, if_pos hb]
  case case4 h1 h0 hb => -- no value
    rw [fieldTags, if_neg h1, if_pos h0, if_neg hb]
  case case5 pub h1 h0 => -- one value
    rw [fieldTags, if_neg h1, if_neg h0, checkAll_eq]

theorem checkDates_eq (c : Ctx) : checkDates c = some (fieldTags c .pot c.pot ++ fieldTags c .po c.po) := by
  unfold checkDates
  simp only [checkField_eq]

end I18n.Date
