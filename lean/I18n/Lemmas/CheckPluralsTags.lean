import I18n.Lemmas.CheckPlurals
/-!
`check_plurals` as a whole: the list of tags it emits, part by part (for the clauses of C07 about the header syntax,
the number of plural forms, clean declarations and the registry).  `analyse_eq` and `checkPlurals_eq` write the model in
these parts, one case per shape of `headerValues`; `report_syntax` and `report_ok` read them for a file that is no template
and has one header value, which does not parse or does.
-/
namespace I18n.CheckPlurals
open I18n I18n.Py I18n.Plural I18n.PluralParse

/-- the header values `check_plurals` goes on with, after the duplicate handling -/
def headerValues (inp : Input) : List (List Char) :=
  if inp.pluralForms.length > 1 then sortedSet inp.pluralForms else inp.pluralForms

def dupTags (inp : Input) : List TagCall :=
  if inp.pluralForms.length > 1 then [⟨"duplicate-header-field-plural-forms", []⟩] else []

def inconsistentTags (expected : List (Nat × List Char)) : List TagCall :=
  if expected.length > 1 then
    [⟨"inconsistent-number-of-plural-forms",
      (((sortExpected expected).map fun p => [Extra.int p.1, .safe p.2, .str "!=".toList]).flatten).dropLast⟩]
  else []

def junkTags (lj rj : List Char) : List TagCall :=
  (if lj.isEmpty then [] else [⟨"leading-junk-in-plural-forms", [.str lj]⟩]) ++
  (if rj.isEmpty then [] else [⟨"trailing-junk-in-plural-forms", [.str rj]⟩])

def nplTags (n : Nat) (expected : List (Nat × List Char)) : List TagCall :=
  match expected with
  | [(k, _)] => if n ≠ k then [⟨"incorrect-number-of-plural-forms",
      [.int n, .safe "(Plural-Forms header field)".toList, .str "!=".toList, .int k, .safe "(number of msgstr items)".toList]⟩] else []
  | _ => []

def unusualTag (hp : Bool) (pf : List Char) (hint : Extra) : TagCall :=
  ⟨if hp then "unusual-plural-forms" else "unusual-unused-plural-forms", [.str pf, .str "=>".toList, hint]⟩

def syntaxTag (hp : Bool) (pf : List Char) (hint : Extra) : TagCall :=
  ⟨tagName "syntax-error-in" hp, [.str pf, .str "=>".toList, hint]⟩

/-- the registry's declarations with the declared nplurals (`locally_correct_plural_forms`), if there is a language -/
def lcsOf (inp : Input) (n : Nat) : Except Py.Exc (Option (List (Nat × Expr))) :=
  match inp.correct with | none => .ok none | some cs => (localCorrect n cs).map some

/-- the `if correct_plural_forms is not None:` block: the tag when no declaration of the registry has this nplurals, and the
    declaration to compare with when exactly one has -/
def pickLc (ut : TagCall) : Option (List (Nat × Expr)) → List TagCall × Option (Nat × Expr)
  | none => ([], none)
  | some [] => ([ut], none)
  | some [x] => ([], some x)
  | some _ => ([], none)

def gapTags (hp : Bool) (rs : List (Nat × Nat)) : List TagCall :=
  rs.map fun r => ⟨tagName "codomain-error-in" hp, [.safe ("f(x) != ".toList ++ formatRange r.1 r.2)]⟩

def hasPlurals (inp : Input) : Bool := (scanMsgs inp.msgs false []).1
def expectedOf (inp : Input) : List (Nat × List Char) := (scanMsgs inp.msgs false []).2
def tags0Of (inp : Input) : List TagCall := dupTags inp ++ inconsistentTags (expectedOf inp)

theorem analyse_eq (inp : Input) (pf : List Char) (hp : Bool) (expected : List (Nat × List Char)) (hint : Extra)
    (tags0 : List TagCall) (n : Nat) (e : Expr) (lj rj : List Char) :
    analyse inp pf hp expected hint tags0 n e lj rj =
      match lcsOf inp n with
      | .error ex => .error ex
      | .ok lcs =>
        match window n e (pickLc (unusualTag hp pf hint) lcs).2 hp (unusualTag hp pf hint) (List.range codomainLimit)
            ⟨tags0 ++ junkTags lj rj ++ nplTags n expected ++ (pickLc (unusualTag hp pf hint) lcs).1, [], false⟩ with
        | (_, .crashed ex) => .error ex
        | (st, fin) =>
          match gapRanges n e (completedOf st fin) with
          | .error ex => .error ex
          | .ok rs => .ok ⟨st.tags ++ gapTags hp rs, if rs.isEmpty then completedOf st fin else none⟩ := by
  rfl

theorem checkPlurals_eq (inp : Input) :
    checkPlurals inp =
      match headerValues inp with
      | [] => .ok ⟨tags0Of inp ++
          (if hasPlurals inp then
            [⟨if (expectedOf inp).isEmpty then "no-plural-forms-header-field" else "no-required-plural-forms-header-field", [hintOf inp]⟩]
           else []), none⟩
      | [pf] =>
        if inp.isTemplate then .ok ⟨tags0Of inp, none⟩
        else match parsePluralForms pf with
          | .valueError => .error .ValueError
          | .syntaxError => .ok ⟨tags0Of inp ++ [syntaxTag (hasPlurals inp) pf (hintOf inp)], none⟩
          | .ok n e lj rj => analyse inp pf (hasPlurals inp) (expectedOf inp) (hintOf inp) (tags0Of inp) n e lj rj
      | _ :: _ :: _ => .ok ⟨dupTags inp, none⟩ := by
  unfold checkPlurals headerValues tags0Of dupTags inconsistentTags hasPlurals expectedOf syntaxTag
  simp only [decide_eq_true_eq]
  generalize scanMsgs inp.msgs false [] = sc
  generalize (if inp.pluralForms.length > 1 then sortedSet inp.pluralForms else inp.pluralForms) = pfs
  obtain ⟨hp, expected⟩ := sc
  rcases pfs with _ | ⟨pf, _ | ⟨pf2, rest⟩⟩
  · cases hp <;> cases expected.isEmpty <;> simp
  · dsimp only [List.length_singleton, List.head?_cons]
    cases inp.isTemplate
    · cases parsePluralForms pf <;> simp
    · simp
  · simp

theorem checkPlurals_single (inp : Input) (pf : List Char) (hv : headerValues inp = [pf]) (ht : inp.isTemplate = false) :
    checkPlurals inp =
      match parsePluralForms pf with
      | .valueError => .error .ValueError
      | .syntaxError => .ok ⟨tags0Of inp ++ [syntaxTag (hasPlurals inp) pf (hintOf inp)], none⟩
      | .ok n e lj rj => analyse inp pf (hasPlurals inp) (expectedOf inp) (hintOf inp) (tags0Of inp) n e lj rj := by
  rw [checkPlurals_eq, hv]
  simp [ht]

/-- a message whose number of `msgstr[]` forms counts: not obsolete, plural, translated -/
def counted (m : MsgFacts) : Bool := !m.obsolete && m.hasPlural && m.translated

/-- the numbers of `msgstr[]` forms of the translated plural messages, in file order -/
def formCounts (msgs : List MsgFacts) : List Nat := (msgs.filter counted).map (·.nforms)

def AllEq (k : Nat) (l : List Nat) : Prop := l ≠ [] ∧ ∀ j ∈ l, j = k

theorem scanMsgs_spec : ∀ (msgs : List MsgFacts) (hp : Bool) (d : List (Nat × List Char)), d.length ≤ 1 →
    ((scanMsgs msgs hp d).2 = [] ↔ d = [] ∧ formCounts msgs = []) ∧
    (∀ k, (∃ x, (scanMsgs msgs hp d).2 = [(k, x)]) ↔ AllEq k (d.map (·.1) ++ formCounts msgs)) ∧
    (scanMsgs msgs hp d).1 = (hp || msgs.any (fun m => !m.obsolete && m.hasPlural)) := by
  intro msgs
  induction msgs with
  | nil =>
    intro hp d hd
    refine ⟨by simp [scanMsgs, formCounts], ?_, by simp [scanMsgs]⟩
    intro k
    simp only [scanMsgs, formCounts, List.filter_nil, List.map_nil, List.append_nil, AllEq]
    -- `d` has at most one element (`hd`): the elaborator refutes the other shapes, here and below
    match d, hd with
    | [], _ => simp
    | [(a, b)], _ => simp
  | cons m rest ih =>
    intro hp d hd
    unfold scanMsgs
    by_cases hob : m.obsolete = true
    · have hc : counted m = false := by simp [counted, hob]
      simp only [hob, ↓reduceIte, formCounts, List.filter_cons, hc, Bool.false_eq_true, List.any_cons, Bool.not_true, Bool.false_and, Bool.false_or]
      exact ih hp d hd
    · simp only [hob, Bool.false_eq_true, ↓reduceIte]
      have hob' : m.obsolete = false := by simpa using hob
      by_cases hpl : m.hasPlural = true
      · simp only [hpl, ↓reduceIte]
        by_cases htr : m.translated = true
        · have hc : counted m = true := by simp [counted, hob', hpl, htr]
          simp only [htr, Bool.not_true, Bool.false_eq_true, ↓reduceIte, formCounts, List.filter_cons, hc, List.map_cons,
            List.any_cons, hob', hpl, Bool.not_false, Bool.and_self, Bool.true_or, Bool.or_true]
          match d, hd with
          | [], _ =>
            simp only [List.any_nil, Bool.false_eq_true, ↓reduceIte, List.nil_append, List.length_singleton, Nat.lt_irrefl, List.map_nil]
            obtain ⟨h1, h2, h3⟩ := ih true [(m.nforms, m.repr)] (by simp)
            refine ⟨?_, ?_, by simpa using h3⟩
            · rw [h1]; simp
            · intro k; rw [h2 k]; simp [formCounts]
          | [(a, b)], _ =>
            by_cases hab : a = m.nforms
            · subst hab
              simp only [List.any_cons, decide_true, List.any_nil, Bool.or_false, ↓reduceIte, List.map_cons, List.map_nil,
                List.length_singleton, Nat.lt_irrefl]
              obtain ⟨h1, h2, h3⟩ := ih true [(m.nforms, m.repr)] (by simp)
              refine ⟨?_, ?_, by simpa using h3⟩
              · rw [h1]; simp
              · intro k; rw [h2 k]
                simp only [AllEq, formCounts, List.map_cons, List.map_nil, List.cons_append, List.nil_append, ne_eq, reduceCtorEq,
                  not_false_eq_true, List.mem_cons, forall_eq_or_imp, true_and]
                constructor
                · rintro ⟨h, h'⟩; exact ⟨h, h, h'⟩
                · rintro ⟨h, _, h'⟩; exact ⟨h, h'⟩
            · have : decide (a = m.nforms) = false := by simpa using hab
              have h21 : (2 : Nat) > 1 := by omega
              simp only [List.any_cons, this, List.any_nil, Bool.or_false, Bool.false_eq_true, ↓reduceIte, List.cons_append,
                List.nil_append, List.length_cons, List.length_nil, Nat.reduceAdd, h21, reduceCtorEq, false_and,
                List.map_cons, List.map_nil]
              refine ⟨by simp, ?_, trivial⟩
              intro k
              simp only [List.cons.injEq, reduceCtorEq, and_false, exists_false, false_iff, AllEq, not_and]
              intro _ h
              have h1 := h a (by simp)
              have h2 := h m.nforms (by simp)
              exact hab (by omega)
        · have hc : counted m = false := by simp [counted, htr]
          simp only [htr, Bool.not_false, ↓reduceIte, formCounts, List.filter_cons, hc, Bool.false_eq_true, List.any_cons, hob',
            hpl, Bool.and_self, Bool.true_or, Bool.or_true]
          obtain ⟨h1, h2, h3⟩ := ih true d hd
          exact ⟨h1, h2, by simpa using h3⟩
      · have hc : counted m = false := by simp [counted, hpl]
        simp only [hpl, Bool.false_eq_true, ↓reduceIte, formCounts, List.filter_cons, hc, List.any_cons, Bool.and_false, Bool.false_or]
        exact ih hp d hd

theorem report_syntax (inp : Input) (pf : List Char) (out : Output) (hv : headerValues inp = [pf]) (ht : inp.isTemplate = false)
    (hpf : parsePluralForms pf = .syntaxError) (h : checkPlurals inp = .ok out) :
    out = ⟨tags0Of inp ++ [syntaxTag (hasPlurals inp) pf (hintOf inp)], none⟩ := by
  rw [checkPlurals_single inp pf hv ht, hpf] at h
  simp only [Except.ok.injEq] at h
  exact h.symm

/-- the state the window starts from: the tags emitted before it, an empty table, no `unusual` tag yet -/
def st0Of (inp : Input) (pf : List Char) (n : Nat) (lj rj : List Char) (lcs : Option (List (Nat × Expr))) : WinState :=
  ⟨tags0Of inp ++ junkTags lj rj ++ nplTags n (expectedOf inp) ++ (pickLc (unusualTag (hasPlurals inp) pf (hintOf inp)) lcs).1, [], false⟩

section
variable (inp : Input) (pf : List Char) (n : Nat) (lj rj : List Char) (lcs : Option (List (Nat × Expr)))

theorem st0Of_tags : (st0Of inp pf n lj rj lcs).tags =
    tags0Of inp ++ junkTags lj rj ++ nplTags n (expectedOf inp) ++ (pickLc (unusualTag (hasPlurals inp) pf (hintOf inp)) lcs).1 := rfl

theorem st0Of_pre : (st0Of inp pf n lj rj lcs).pre = [] := rfl

theorem st0Of_unusual : (st0Of inp pf n lj rj lcs).unusual = false := rfl

end

theorem report_ok (inp : Input) (pf : List Char) (out : Output) (hv : headerValues inp = [pf]) (ht : inp.isTemplate = false)
    (n : Nat) (e : Expr) (lj rj : List Char) (hpf : parsePluralForms pf = .ok n e lj rj) (h : checkPlurals inp = .ok out) :
    ∃ lcs st fin rs,
      lcsOf inp n = .ok lcs ∧
      window n e (pickLc (unusualTag (hasPlurals inp) pf (hintOf inp)) lcs).2 (hasPlurals inp) (unusualTag (hasPlurals inp) pf (hintOf inp))
        (List.range codomainLimit) (st0Of inp pf n lj rj lcs) = (st, fin) ∧
      gapRanges n e (completedOf st fin) = .ok rs ∧
      out = ⟨st.tags ++ gapTags (hasPlurals inp) rs, if rs.isEmpty then completedOf st fin else none⟩ := by
  rw [checkPlurals_single inp pf hv ht, hpf] at h
  simp only [analyse_eq] at h
  cases hl : lcsOf inp n with
  | error ex => rw [hl] at h; cases h
  | ok lcs =>
    rw [hl] at h
    simp only at h
    generalize hw : window n e _ _ _ _ _ = w at h
    obtain ⟨st, fin⟩ := w
    -- the `match` on the window's result has an arm for `.crashed`: it reduces only once `fin` is a constructor
    cases fin with
    | crashed ex => exact absurd hw (window_nocrash _ _ _ _ _ _ _ _ _)
    | completed =>
      cases hg : gapRanges n e (completedOf st .completed) with
      | error ex => simp only [hg] at h; cases h
      | ok rs => simp only [hg, Except.ok.injEq] at h; exact ⟨lcs, st, _, rs, rfl, hw, hg, h.symm⟩
    | stopped =>
      cases hg : gapRanges n e (completedOf st .stopped) with
      | error ex => simp only [hg] at h; cases h
      | ok rs => simp only [hg, Except.ok.injEq] at h; exact ⟨lcs, st, _, rs, rfl, hw, hg, h.symm⟩

end I18n.CheckPlurals
