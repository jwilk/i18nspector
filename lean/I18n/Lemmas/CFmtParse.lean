import I18n.Lemmas.CFmtScan
import I18n.Lemmas.CFmtGlobal
import I18n.Lemmas.PyKitLemmas
/-!
# `parseW false` against `Spec.Printf.Valid` / `signature`; the errors it can raise

`parseFalse_spec` / `parseFalse_complete` put scanner (`CFmtScan`), item loop and gap check (`CFmtGlobal`) together; `parse_ok`,
`parse_args_iff_parseFalse`, `parse_error_blame` carry them over to `parse` (warnings on).  The rest is what `Props.C11` needs besides: `signature_slot` (where a
reference lands in the signature), `ShortNumerals` (a condition on the string under which `int()` refuses no numeral of a directive)
and the witness `%.0…0d` with 4301 zeros, valid printf but one digit over CPython's default limit for `int()`.
-/
namespace I18n.CFmt
open I18n.Spec.Printf

/-! ## the keys of a valid format lie in `1 … NL_ARGMAX` -/

theorem idxValue_pos {idx : Option (List Char)} (h : IdxInRange idx) : ∀ i, idxValue idx = some i → 1 ≤ i := by
  cases idx with
  | none => intro i hi; cases hi
  | some ds => intro i hi; simp only [idxValue, Option.some.injEq] at hi; subst hi; exact h.1

theorem mem_refs {d : Directive} {p : Nat} {r : Ref} (h : r ∈ d.refs p) :
    (∃ idx, d.width = .star idx ∧ r = ⟨idxValue idx, ⟨.width, "int", p⟩⟩) ∨
      (∃ idx, d.prec = .star idx ∧ r = ⟨idxValue idx, ⟨.prec, "int", p⟩⟩) ∨
      (d.body.conv ∈ consuming ∧ r = ⟨idxValue d.index, ⟨.conv, d.body.typeName, p⟩⟩) := by
  rw [refs_eq] at h
  simp only [List.mem_append] at h
  rcases h with h | h | h
  · cases hw : d.width with
    | star idx => rw [hw] at h; exact Or.inl ⟨idx, rfl, List.mem_singleton.1 h⟩
    | none => rw [hw] at h; cases h
    | num ds => rw [hw] at h; cases h
  · cases hp : d.prec with
    | star idx => rw [hp] at h; exact Or.inr (Or.inl ⟨idx, rfl, List.mem_singleton.1 h⟩)
    | none => rw [hp] at h; cases h
    | num ds => rw [hp] at h; cases h
  · unfold convRefs at h
    split at h
    · exact Or.inr (Or.inr ⟨‹_›, List.mem_singleton.1 h⟩)
    · cases h

theorem refs_idx_pos {d : Directive} (hv : ValidDirective d) (p : Nat) :
    ∀ r ∈ d.refs p, ∀ i, r.idx = some i → 1 ≤ i := by
  intro r hr i hi
  rcases mem_refs hr with ⟨idx, hw, rfl⟩ | ⟨idx, hp, rfl⟩ | ⟨_, rfl⟩
  · have := hv.width
    rw [hw] at this
    exact idxValue_pos this.1 i hi
  · have := hv.prec
    rw [hp] at this
    exact idxValue_pos this.1 i hi
  · exact idxValue_pos hv.indexRange i hi

theorem mem_refsFrom : ∀ {items : List Item} {k : Nat} {r : Ref}, r ∈ refsFrom k items → ∃ d ∈ dirs items, ∃ p, r ∈ d.refs p
  | .lit _ :: rest, k, r, h => mem_refsFrom (items := rest) (k := k + 1) h
  | .dir d :: rest, k, r, h => by
    rcases List.mem_append.1 h with h | h
    · exact ⟨d, List.mem_cons_self, k, h⟩
    · obtain ⟨d', hd', hp⟩ := mem_refsFrom (items := rest) h
      exact ⟨d', List.mem_cons_of_mem _ hd', hp⟩

theorem refsFrom_idx_pos (items : List Item) (k : Nat) (hv : AllValid items) :
    ∀ r ∈ refsFrom k items, ∀ i, r.idx = some i → 1 ≤ i := fun r hr =>
  have ⟨d, hd, p, hp⟩ := mem_refsFrom hr
  refs_idx_pos (hv d hd).2 p r hp

theorem positionsFrom_ge : ∀ (rs : List Ref) (k : Nat), (∀ r ∈ rs, ∀ i, r.idx = some i → 1 ≤ i) → 1 ≤ k →
    ∀ p ∈ positionsFrom k rs, 1 ≤ p.1
  | [], _, _, _ => by simp [positionsFrom]
  | r :: rs, k, h, hk => by
    simp only [positionsFrom, List.mem_cons, forall_eq_or_imp]
    refine ⟨?_, positionsFrom_ge rs (k + 1) (fun r' hr' => h r' (by simp [hr'])) (by omega)⟩
    cases hi : r.idx with
    | none => exact hk
    | some i => exact h r (by simp) i hi

/-- the keys of a valid format lie in `1 … NL_ARGMAX`: what `collect_spec` asks of the list it walks -/
theorem positions_bounds {items : List Item} (hv : AllValid items)
    (hrange : ∀ p ∈ positions (refs items), p.1 ≤ Spec.Printf.NL_ARGMAX) :
    ∀ p ∈ positions (refs items), 1 ≤ p.1 ∧ p.1 < 1 + Generated.CFormatTables.NL_ARGMAX := by
  intro p hp
  have h1 := positionsFrom_ge (refs items) 1 (refsFrom_idx_pos items 0 hv) (Nat.le_refl _) p hp
  have h2 := hrange p hp
  rw [nl_argmax_pin]
  omega

/-! ## what `collect` returns is the signature -/

theorem signatureOf_eq {L : List (Nat × Entry)} {k : Nat} (hk : ∀ j, HasKey L j ↔ 1 ≤ j ∧ j < 1 + k) :
    (List.range k).map (fun t => usesOf L (1 + t)) = signatureOf L := by
  unfold signatureOf
  rw [gapfree_argCount hk]
  apply List.map_congr_left
  intro t _
  rw [Nat.add_comm]

/-- the `pop(i)` loop in the specification's terms; `positions_bounds` supplies `hL` -/
theorem collect_signature {L : List (Nat × Entry)} (hL : ∀ p ∈ L, 1 ≤ p.1 ∧ p.1 < 1 + Generated.CFormatTables.NL_ARGMAX)
    (A : List (List Entry)) : collect Generated.CFormatTables.NL_ARGMAX 1 L = .ok A ↔ GapFree L ∧ A = signatureOf L := by
  rw [(collect_spec _ 1 L hL).1 A, gapFree_iff]
  constructor
  · rintro ⟨k, hk, rfl⟩; exact ⟨⟨k, hk⟩, signatureOf_eq hk⟩
  · rintro ⟨⟨k, hk⟩, rfl⟩; exact ⟨k, hk, (signatureOf_eq hk).symm⟩

theorem signature_sameType {L : List (Nat × Entry)} (hg : GapFree L) : (signatureOf L).all sameType = true ↔ OneType L := by
  obtain ⟨k, hk⟩ := (gapFree_iff L).1 hg
  rw [← signatureOf_eq hk]
  exact allSameType_iff hk

/-! ## scanner, item loop and gap check together -/

theorem steps_init_ok {items : List Item} {st : St} (hwf : ItemsWf items) (hst : steps false items St.init = .ok st) :
    AllValid items ∧ st.map = positions (refs items) ∧ Numbering (refs items) ∧
      (∀ p ∈ positions (refs items), p.1 ≤ Spec.Printf.NL_ARGMAX) ∧ st.warnings = [] ∧ st.nitems = items.length := by
  obtain ⟨hv, st1, ha, rfl⟩ := (steps_ok_iff items St.init st hwf).1 hst
  obtain ⟨i1, i2, _⟩ := addAll_init (refs items)
  obtain ⟨hnum, hrange⟩ := i2.1 ⟨st1, ha⟩
  exact ⟨hv, i1 st1 ha, hnum, hrange, (addAll_nitems ha).2, Nat.zero_add _⟩

theorem parseFalse_complete {items : List Item} (hwf : ItemsWf items) (hv : AllValid items)
    (hg : GlobalValid (refs items)) :
    ∃ r, parseW false (render items) = .ok r ∧ r.arguments = signature items := by
  obtain ⟨i1, i2, _⟩ := addAll_init (refs items)
  obtain ⟨st1, ha⟩ := i2.2 ⟨hg.numbering, hg.range⟩
  have hmap : st1.map = positions (refs items) := i1 st1 ha
  have hst : steps false items St.init = .ok (setN (St.init.nitems + items.length) st1) :=
    (steps_ok_iff items St.init _ hwf).2 ⟨hv, st1, ha, rfl⟩
  have hc := (collect_signature (positions_bounds hv hg.range) _).2 ⟨hg.gapFree, rfl⟩
  have hall := (signature_sameType hg.gapFree).2 hg.oneType
  refine ⟨⟨signature items, st1.warnings, St.init.nitems + items.length⟩, ?_, rfl⟩
  unfold parseW
  rw [scan_complete hwf]
  simp only [hst, setN_map, hmap, hc, Bool.not_true, Bool.false_eq_true, if_false, hall, if_true]
  rfl

/-- **`parseW false` in one statement**: what is accepted is the rendering of valid items, which determine the whole result;
    what is rejected is rejected with one of the module's own errors, or by `int()` on a long numeral -/
theorem parseFalse_spec (s : List Char) :
    match parseW false s with
    | .ok r => ∃ items, render items = s ∧ ItemsWf items ∧ AllValid items ∧ GlobalValid (refs items) ∧
        r = ⟨signature items, [], items.length⟩
    | .error e => Blame (∀ d ∈ dirs (scan s).1, DirShort d) e := by
  unfold parseW
  generalize hsc : scan s = sc
  obtain ⟨items, complete⟩ := sc
  obtain ⟨hwf, rest, hs, hcomp⟩ := scan_sound hsc
  simp only
  cases hst : steps false items St.init with
  | error e => exact (steps_stage items St.init hwf).blame [] Reach.init e hst
  | ok st =>
    cases complete with
    | false => exact Or.inl rfl
    | true =>
      obtain ⟨hv, hmap, hnum, hrange, hw, hn⟩ := steps_init_ok hwf hst
      have hb := positions_bounds hv hrange
      simp only [Bool.not_true, Bool.false_eq_true, if_false, hmap, hw, hn]
      cases hc : collect Generated.CFormatTables.NL_ARGMAX 1 (positions (refs items)) with
      | error e => rw [(collect_spec _ 1 _ hb).2 _ hc]; exact Or.inl rfl
      | ok args =>
        obtain ⟨hg, rfl⟩ := (collect_signature hb args).1 hc
        simp only
        by_cases hall : (signatureOf (positions (refs items))).all sameType = true
        · rw [if_pos hall]
          have hrender : render items = s := by rw [hs, hcomp rfl, List.append_nil]
          have hglobal : GlobalValid (refs items) := ⟨hnum, hrange, hg, (signature_sameType hg).1 hall⟩
          exact ⟨items, hrender, hwf, hv, hglobal, rfl⟩
        · rw [if_neg hall]
          exact Or.inl rfl

theorem parseFalse_ok {s : List Char} {r : Result} (h : parseW false s = .ok r) :
    ∃ items, render items = s ∧ ItemsWf items ∧ AllValid items ∧ GlobalValid (refs items) ∧
      r = ⟨signature items, [], items.length⟩ := by
  have := parseFalse_spec s
  rwa [h] at this

theorem parseFalse_error {s : List Char} {e : CErr} (h : parseW false s = .error e) :
    Blame (∀ d ∈ dirs (scan s).1, DirShort d) e := by
  have := parseFalse_spec s
  rwa [h] at this

/-! ## where a reference lands in the signature -/

theorem positionsFrom_entry : ∀ (rs : List Ref) (k : Nat) (p : Nat × Entry), p ∈ positionsFrom k rs →
    ∃ r ∈ rs, r.entry = p.2
  | [], _, p, h => by cases h
  | r :: rs, k, p, h => by
    simp only [positionsFrom, List.mem_cons] at h
    rcases h with rfl | h
    · exact ⟨r, by simp, by cases r.idx <;> rfl⟩
    · obtain ⟨r', hr', he⟩ := positionsFrom_entry rs (k + 1) p h
      exact ⟨r', by simp [hr'], he⟩

theorem refs_star_int (d : Directive) (p : Nat) : ∀ r ∈ d.refs p, r.entry.kind ≠ .conv → r.entry.type = "int" := by
  intro r hr hk
  rcases mem_refs hr with ⟨_, _, rfl⟩ | ⟨_, _, rfl⟩ | ⟨_, rfl⟩
  · rfl
  · rfl
  · exact absurd rfl hk

theorem refsFrom_star_int (items : List Item) (k : Nat) : ∀ r ∈ refsFrom k items, r.entry.kind ≠ .conv → r.entry.type = "int" :=
  fun r hr =>
  have ⟨d, _, p, hp⟩ := mem_refsFrom hr
  refs_star_int d p r hp

theorem signature_slot {L : List (Nat × Entry)} (hg : GapFree L) (ht : OneType L) {j : Nat} {e : Entry} (h : (j, e) ∈ L) :
    1 ≤ j ∧ (signatureOf L)[j - 1]? = some (usesOf L j) ∧ e ∈ usesOf L j ∧
      (typesOf (signatureOf L))[j - 1]? = some e.type := by
  obtain ⟨k, hk⟩ := (gapFree_iff L).1 hg
  have hj := (hk j).1 ⟨e, h⟩
  have hmem : e ∈ usesOf L j := mem_usesOf.2 h
  have hslot : (signatureOf L)[j - 1]? = some (usesOf L j) := by
    unfold signatureOf
    rw [gapfree_argCount hk, List.getElem?_map, List.getElem?_range (by omega)]
    simp only [Option.map_some]
    congr 2; omega
  refine ⟨hj.1, hslot, hmem, ?_⟩
  unfold typesOf
  rw [List.getElem?_map, hslot]
  simp only [Option.map_some, Option.some.injEq]
  cases hu : usesOf L j with
  | nil => rw [hu] at hmem; cases hmem
  | cons x xs =>
    have hx : (j, x) ∈ L := mem_usesOf.1 (by rw [hu]; simp)
    exact ht j x e hx h

/-! ## strings whose digit runs `int()` accepts -/

section
open I18n.Generated.CFormatTables (intMaxStrDigits)

def DigitRunsLe (n : Nat) (s : List Char) : Prop :=
  ∀ a ds b, s = a ++ (ds ++ b) → (∀ c ∈ ds, c.isDigit = true) → ds.length ≤ n

/-- the strings on which `int()` cannot refuse a numeral: the interpreter has no limit
    (`sys.get_int_max_str_digits() == 0`, as lib/__init__.py arranges since `fix:` 871d4d7), or no run of ASCII digits
    is longer than the limit -/
def ShortNumerals (s : List Char) : Prop := intMaxStrDigits = 0 ∨ DigitRunsLe intMaxStrDigits s

theorem idxShort_of_unlimited (h0 : intMaxStrDigits = 0) : ∀ idx, IdxShort idx
  | none => trivial
  | some _ => Or.inl h0

theorem dirShort_of_unlimited (h0 : intMaxStrDigits = 0) (d : Directive) : DirShort d := by
  obtain ⟨index, flags, width, prec, body⟩ := d
  refine ⟨idxShort_of_unlimited h0 index, ?_, ?_⟩
  · cases width with
    | none => trivial
    | num ds => exact Or.inl h0
    | star idx => exact idxShort_of_unlimited h0 idx
  · cases prec with
    | none => trivial
    | num ds => exact Or.inl h0
    | star idx => exact idxShort_of_unlimited h0 idx

theorem DigitRunsLe.infix {n : Nat} {s t a b : List Char} (h : DigitRunsLe n s) (hs : s = a ++ (t ++ b)) : DigitRunsLe n t := by
  intro a' ds b' ht hd
  exact h (a ++ a') ds (b' ++ b) (by rw [hs, ht]; simp) hd

theorem dirShort_of_runs {d : Directive} (hd : d.Wf) (h : DigitRunsLe intMaxStrDigits d.renderTail) : DirShort d := by
  obtain ⟨index, flags, width, prec, body⟩ := d
  obtain ⟨w1, w2, w3, w4, w5⟩ := hd
  simp only at w1 w3 w4
  simp only [Directive.renderTail] at h
  refine ⟨?_, ?_, ?_⟩
  · cases index with
    | none => trivial
    | some ds => exact Or.inr <| h [] ds ('$' :: (flags ++ (width.render ++ (prec.render ++ body.render)))) (by simp [renderIdx]) w1.2
  · cases width with
    | none => trivial
    | num ds => exact Or.inr <| h (renderIdx index ++ flags) ds (prec.render ++ body.render) (by simp [Width.render]) w3.1.2
    | star idx =>
      cases idx with
      | none => trivial
      | some ds => exact Or.inr <| h (renderIdx index ++ flags ++ ['*']) ds ('$' :: (prec.render ++ body.render)) (by simp [Width.render, renderIdx]) w3.2
  · cases prec with
    | none => trivial
    | num ds => exact Or.inr <| h (renderIdx index ++ flags ++ width.render ++ ['.']) ds body.render (by simp [Prec.render]) w4
    | star idx =>
      cases idx with
      | none => trivial
      | some ds =>
        exact Or.inr <| h (renderIdx index ++ flags ++ width.render ++ ['.', '*']) ds ('$' :: body.render) (by simp [Prec.render, renderIdx]) w4.2

theorem dirs_infix : ∀ (items : List Item) (rest : List Char), ∀ d ∈ dirs items,
    ∃ a b, render items ++ rest = a ++ (d.renderTail ++ b)
  | [], _, d, hd => by cases hd
  | .lit cs :: more, rest, d, hd => by
    obtain ⟨a, b, h⟩ := dirs_infix more rest d (by simpa [dirs] using hd)
    exact ⟨cs ++ a, b, by simp [render, Item.render, h]⟩
  | .dir d' :: more, rest, d, hd => by
    simp only [dirs, List.mem_cons] at hd
    rcases hd with rfl | hd
    · exact ⟨['%'], render more ++ rest, by simp [render, Item.render, Directive.render]⟩
    · obtain ⟨a, b, h⟩ := dirs_infix more rest d hd
      exact ⟨d'.render ++ a, b, by simp [render, Item.render, h]⟩

theorem dirs_wf : ∀ (items : List Item), ItemsWf items → ∀ d ∈ dirs items, d.Wf
  | [], _, d, hd => by cases hd
  | .lit cs :: more, hw, d, hd => dirs_wf more hw.2.2.2 d (by simpa [dirs] using hd)
  | .dir d' :: more, hw, d, hd => by
    simp only [dirs, List.mem_cons] at hd
    rcases hd with rfl | hd
    · exact hw.1
    · exact dirs_wf more hw.2 d hd

theorem dirShort_of_scan {s : List Char} (h : ShortNumerals s) : ∀ d ∈ dirs (scan s).1, DirShort d := by
  intro d hd
  rcases h with h0 | h
  · exact dirShort_of_unlimited h0 d
  obtain ⟨hwf, rest, hs, _⟩ := scan_sound (s := s) (items := (scan s).1) (complete := (scan s).2) rfl
  obtain ⟨a, b, hab⟩ := dirs_infix (scan s).1 rest d hd
  exact dirShort_of_runs (dirs_wf _ hwf d hd) (h.infix (hs.trans hab))

theorem dirShort_of_render {items : List Item} (hwf : ItemsWf items) (h : ShortNumerals (render items)) :
    ∀ d ∈ dirs items, DirShort d := by
  have := dirShort_of_scan h
  rw [scan_complete hwf] at this
  exact this

end

/-! ## from `parseW false` to `parse`; the witness -/

/-- Whatever `FormatString` accepts is the rendering of valid printf items (each with numerals `int()` takes); the reported
    argument list is their signature and `len(fmt)` their number. -/
theorem parse_ok {s : List Char} {r : Result} (h : parse s = .ok r) :
    ∃ items, render items = s ∧ ItemsWf items ∧ AllValid items ∧ GlobalValid (refs items) ∧
      r.arguments = signature items ∧ r.nitems = items.length := by
  have he := parseW_erase true s
  rw [show parseW true s = .ok r from h] at he
  obtain ⟨items, hrender, hwf, hall, hglobal, hr⟩ := parseFalse_ok he.symm
  exact ⟨items, hrender, hwf, hall, hglobal, congrArg Result.arguments hr, congrArg Result.nitems hr⟩

theorem parse_args_iff_parseFalse {s : List Char} {args : List (List Entry)} :
    (∃ r, parse s = .ok r ∧ r.arguments = args) ↔ ∃ r', parseW false s = .ok r' ∧ r'.arguments = args := by
  rw [← PyKit.map_eq_ok, ← PyKit.map_eq_ok]
  show (parseW true s).map (·.arguments) = .ok args ↔ _
  rw [parseW_arguments]

theorem parse_error_blame {s : List Char} {e : CErr} (h : parse s = .error e) :
    Blame (∀ d ∈ dirs (scan s).1, DirShort d) e := by
  have he := parseW_erase true s
  rw [show parseW true s = .error e from h] at he
  exact parseFalse_error he.symm

/-- `%.<zs>d` — for `zs` a string of zeros a valid directive (precision 0) -/
def zeroPrec (zs : List Char) : Directive :=
  { index := none, flags := [], width := .none, prec := .num zs, body := .std none 'd' }

theorem render_zeroPrec (zs : List Char) : render [.dir (zeroPrec zs)] = '%' :: '.' :: (zs ++ ['d']) := by
  simp [render, Item.render, Directive.render, Directive.renderTail, zeroPrec, renderIdx, Width.render, Prec.render,
    Body.render, renderLen]

theorem decimal_zeros : ∀ (zs : List Char), (∀ c ∈ zs, c = '0') → decimal zs = 0 := by
  intro zs
  unfold decimal
  induction zs with
  | nil => intro _; rfl
  | cons z zs ih =>
    intro h
    have hz : z = '0' := h z (by simp)
    subst hz
    simp only [List.foldl_cons]
    exact ih (fun c hc => h c (by simp [hc]))

theorem zeroPrec_valid {zs : List Char} (hz : ∀ c ∈ zs, c = '0') : Valid [.dir (zeroPrec zs)] := by
  have hwf : (zeroPrec zs).Wf :=
    ⟨trivial, by simp [zeroPrec], trivial, fun c hc => by rw [hz c hc]; decide, (by show 'd' ∈ convChars; decide)⟩
  refine ⟨⟨hwf, trivial⟩, ?_, ?_⟩
  · intro d hd
    simp only [dirs, List.mem_singleton] at hd
    subst hd
    refine ⟨hwf, (by show stdType none 'd' ≠ none; decide), by simp [zeroPrec], trivial, ?_, trivial, by simp [zeroPrec]⟩
    exact ⟨by show decimal zs ≤ INT_MAX; rw [decimal_zeros zs hz]; decide, (by show 'd' ∈ precConvs; decide)⟩
  · have hr : refs [.dir (zeroPrec zs)] = [⟨none, ⟨.conv, "int", 0⟩⟩] := by
      show refsFrom 0 [.dir (zeroPrec zs)] = _
      simp only [refsFrom, Directive.refs, zeroPrec, Body.conv, List.append_nil, List.nil_append]
      have : ('d' ∈ consuming) := by decide
      simp only [this, if_true, idxValue]
      rfl
    rw [hr]
    refine ⟨Or.inl (by simp), by decide, ⟨1, fun j => ?_⟩, ?_⟩
    · simp only [positions, positionsFrom, List.mem_singleton, Prod.mk.injEq]
      constructor
      · rintro ⟨e, rfl, _⟩; omega
      · intro h; exact ⟨_, by omega, rfl⟩
    · intro j e e' h h'
      simp only [positions, positionsFrom, List.mem_singleton, Prod.mk.injEq] at h h'
      rw [h.2, h'.2]

/-- `%.` + 4301 zeros + `d`: the string `Props.C11.witness_outcome` is about (`witness_valid`: its item is valid) -/
def witness : List Char := render [.dir (zeroPrec (List.replicate 4301 '0'))]

theorem witness_valid : Valid [.dir (zeroPrec (List.replicate 4301 '0'))] :=
  zeroPrec_valid fun _ hc => (List.mem_replicate.1 hc).2

end I18n.CFmt
