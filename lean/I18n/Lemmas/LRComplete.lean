import I18n.Lemmas.LRTables
import I18n.Lemmas.ParseSound
/-! Completeness of the LR driver over the dumped tables: every derivation of the stratified C grammar is
    reproduced by the table-driven run, reduction by reduction, and ends in `ok` with that AST.
    One induction over `D k w e`: from any operand-expecting state `s` whose context admits level `k`, with `w` in
    front of a remainder whose first token is an admissible lookahead for level `k` (`LA`), the driver gets, in at
    most `2 * |w|` turns, to the configuration with `e` pushed on top (state `gexp s`) and the remainder unread. -/
namespace I18n.PluralLR
open I18n I18n.PluralParse I18n.Spec

/-- `n` turns lead from `c` to `c'` -/
def Reach (n : Nat) (c c' : Config) : Prop := ∀ f, run T (f + n) c = run T f c'

theorem Reach.refl (c : Config) : Reach 0 c c := fun _ => rfl

theorem Reach.one {c c' : Config} (h : step T c = .next c') : Reach 1 c c' := by
  intro f
  simp only [run, h]

theorem Reach.trans {n m : Nat} {c c' c'' : Config} (h : Reach n c c') (h' : Reach m c' c'') : Reach (n + m) c c'' := by
  intro f
  rw [← Nat.add_assoc, Nat.add_right_comm, h (f + m), h' f]

theorem Reach.shift {s s' : Nat} {v : Val} {st : List (Nat × Val)} {t : Tok} {rest : List Tok}
    (h : decision T s (col (some t)) = .shift s') :
    Reach 1 ⟨(s, v) :: st, t :: rest⟩ ⟨(s', .tok t) :: (s, v) :: st, rest⟩ :=
  .one (step_shift h)

theorem Reach.reduce {s p g sb : Nat} {v u v' : Val} {pr : Prod} {top st : List (Nat × Val)} {rest : List Tok}
    (h : decision T s (col rest.head?) = .reduce p) (hp : T.prods[p]? = some pr) (hlen : top.length + 1 = pr.len)
    (ha : applyAction pr.act (top.reverse.map (·.2) ++ [v]) = some v') (hg : T.gotoAt sb pr.lhs = some g) :
    Reach 1 ⟨(s, v) :: (top ++ (sb, u) :: st), rest⟩ ⟨(g, v') :: (sb, u) :: st, rest⟩ := by
  apply Reach.one
  rw [step_reduce h]
  exact reduce_eq (top := (s, v) :: top) hp (by simpa using hlen) (by simpa using ha) hg

theorem apply_bin {t : Tok} {k : Nat} {mk} (h : binInfo t = some (k, mk)) (a b : Expr) :
    ∃ act, T.prods[prodOf k]? = some ⟨0, 3, act⟩ ∧ applyAction act [.node a, .tok t, .node b] = some (.node (mk a b)) := by
  revert h
  fun_cases binInfo t
  case case9 => rintro ⟨⟩   -- no binary operator
  -- the eight operators: the production of the level carries the action that builds `mk a b`
  all_goals
    rintro ⟨⟩
    exact ⟨_, rfl, rfl⟩

/-- the first token of `rest` (or the end of the input) is an admissible lookahead behind an operand of level `k` -/
def LA (k : Nat) (rest : List Tok) : Prop := laOK k (col rest.head?) = true

theorem LA.mono {k k' : Nat} {rest : List Tok} (h : LA k rest) (hk : k ≤ k') : LA k' rest := laOK_mono h hk

theorem LA.nil (k : Nat) : LA k [] := rfl

theorem LA.rpar (k : Nat) (rest : List Tok) : LA k (.rpar :: rest) := rfl

theorem LA.colon (k : Nat) (rest : List Tok) : LA k (.colon :: rest) := rfl

theorem LA.qm {k : Nat} (hk : 1 ≤ k) (rest : List Tok) : LA k (.qm :: rest) := by
  simp [LA, laOK, col, hk]

/-- a binary operator may follow an operand of its own level or a higher one (left associativity, precedence) -/
theorem LA.binop {t : Tok} {j k : Nat} {mk} (h : binInfo t = some (j, mk)) (hjk : j ≤ k) (rest : List Tok) :
    LA k (t :: rest) := by
  obtain ⟨hj1, hj6⟩ := binInfo_level h
  simp only [LA, List.head?_cons, col_of_binInfo h, laOK, Bool.or_eq_true, Bool.and_eq_true, beq_iff_eq, decide_eq_true_eq]
  omega

/-- Each case replays the run of the driver over the sentence: the shifts and the reduction of the rule, with the
    runs over the operands (the induction hypotheses) in between; the three `rfl`s of a `Reach.reduce` are the
    production's entry in `T.prods`, its length, and what its action function returns. -/
theorem lr_complete {k w e} (d : D k w e) :
    ∀ (s c : Nat) (v : Val) (st : List (Nat × Val)) (rest : List Tok), expects s = some c → c ≤ k → LA k rest →
      ∃ n, n ≤ 2 * w.length ∧ Reach n ⟨(s, v) :: st, w ++ rest⟩ ⟨(gexp s, .node e) :: (s, v) :: st, rest⟩ := by
  induction d with
  | var =>
    -- shift `n` (to state 3); reduce by 4, `exp → n`
    intro s c v st rest hs _ _
    exact ⟨2, by simp, (Reach.shift (shift_var hs)).trans
      (.reduce (top := []) (reduce_var (col_lt _)) rfl rfl rfl (goto_exp hs))⟩
  | int n =>
    -- shift the numeral (to state 4); reduce by 1, `exp → INT`
    intro s c v st rest hs _ _
    exact ⟨2, by simp, (Reach.shift (shift_int hs n)).trans
      (.reduce (top := []) (reduce_int (col_lt _)) rfl rfl rfl (goto_exp hs))⟩
  | @paren ts e d ih =>
    -- shift `(` (to 2); run `ts` (to 8 = `gexp 2`); shift `)` (to 16); reduce by 2, `exp → ( exp )`
    intro s c v st rest hs _ _
    obtain ⟨n, hn, rn⟩ := ih 2 0 (.tok .lpar) ((s, v) :: st) (Tok.rpar :: rest) rfl (Nat.le_refl 0) (.rpar 0 rest)
    rw [show gexp 2 = 8 from rfl] at rn
    refine ⟨1 + n + 1 + 1, by simp; omega, ?_⟩
    simpa using (((Reach.shift (rest := ts ++ Tok.rpar :: rest) (shift_lpar hs)).trans rn).trans (.shift shift_rpar)).trans
      (.reduce (top := [_, _]) (reduce_par (col_lt _)) rfl rfl rfl (goto_exp hs))
  | @not ts e d ih =>
    -- shift `!` (to 1); run `ts` (to 7 = `gexp 1`); reduce by 3, `exp → ! exp`
    intro s c v st rest hs _ hla
    obtain ⟨n, hn, rn⟩ := ih 1 7 (.tok .not) ((s, v) :: st) rest rfl (Nat.le_refl 7) hla
    rw [show gexp 1 = 7 from rfl] at rn
    exact ⟨1 + n + 1, by simp; omega, ((Reach.shift (shift_not hs)).trans rn).trans
      (.reduce (top := [_]) (reduce_not (col_lt _)) rfl rfl rfl (goto_exp hs))⟩
  | @bin k l r a b t mk hk hk6 hbi dl dr ihl ihr =>
    -- run `l` (to `gexp s`); shift `t` (to `k + 9`); run `r` (to `k + 17`); reduce by `prodOf k`, `exp → exp t exp`
    intro s c v st rest hs hck hla
    obtain ⟨n1, hn1, r1⟩ := ihl s c v st (t :: (r ++ rest)) hs hck (.binop hbi (Nat.le_refl k) _)
    have hsh := shift_op hs hck hk hk6
    rw [← col_of_binInfo hbi] at hsh
    obtain ⟨n3, hn3, r3⟩ := ihr (k + 9) (k + 1) (.tok t) ((gexp s, .node a) :: (s, v) :: st) rest (expects_after_op hk hk6)
      (Nat.le_refl _) (hla.mono (by omega))
    rw [gexp_after_op hk hk6] at r3
    obtain ⟨act, hp, hact⟩ := apply_bin hbi a b
    refine ⟨n1 + 1 + n3 + 1, by simp; omega, ?_⟩
    simpa using ((r1.trans (.shift hsh)).trans r3).trans
      (.reduce (top := [_, _]) (reduce_bin hk hk6 (col_lt _) hla) hp rfl hact (goto_exp hs))
  | @up k ts e hk hk6 d ih =>
    intro s c v st rest hs hck hla
    exact ih s c v st rest hs (by omega) (hla.mono (by omega))
  | @cond cs as bs ec ea eb dc da db ihc iha ihb =>
    -- run `cs` (to `gexp s`); shift `?` (to 9); run `as` (to 17 = `gexp 9`); shift `:` (to 24); run `bs` (to 25 =
    -- `gexp 24`); reduce by 9, `exp → exp ? exp : exp`
    intro s c v st rest hs hck hla
    obtain rfl : c = 0 := by omega
    obtain ⟨n1, hn1, r1⟩ := ihc s 0 v st (Tok.qm :: (as ++ Tok.colon :: (bs ++ rest))) hs (by omega) (.qm (Nat.le_refl 1) _)
    obtain ⟨n3, hn3, r3⟩ := iha 9 0 (.tok .qm) ((gexp s, .node ec) :: (s, v) :: st) (Tok.colon :: (bs ++ rest)) rfl
      (Nat.le_refl 0) (.colon 0 _)
    rw [show gexp 9 = 17 from rfl] at r3
    obtain ⟨n5, hn5, r5⟩ := ihb 24 0 (.tok .colon) ((17, .node ea) :: (9, .tok .qm) :: (gexp s, .node ec) :: (s, v) :: st) rest
      rfl (Nat.le_refl 0) hla
    rw [show gexp 24 = 25 from rfl] at r5
    refine ⟨n1 + 1 + n3 + 1 + n5 + 1, by simp; omega, ?_⟩
    simpa using ((((r1.trans (.shift (shift_qm hs))).trans r3).trans (.shift shift_colon)).trans r5).trans
      (.reduce (top := [_, _, _, _]) (reduce_cond (col_lt _) hla) rfl rfl rfl (goto_exp hs))
  | @up0 ts e d ih =>
    intro s c v st rest hs hck hla
    exact ih s c v st rest hs (by omega) (hla.mono (by omega))

/-- from the start state: the run over the sentence (to state 5 = `gexp 0`); reduce by 12, `start → exp` (to 6); accept -/
theorem lrParseWith_complete {ts : List Tok} {e : Expr} (d : D 0 ts e) : lrParseWith T ts = .ok e := by
  obtain ⟨n, hn, rn⟩ := lr_complete d 0 0 .bottom [] [] rfl (Nat.le_refl 0) (.nil 0)
  rw [show gexp 0 = 5 from rfl] at rn
  simp only [List.append_nil] at rn
  have r2 : Reach 1 ⟨[(5, .node e), (0, .bottom)], []⟩ ⟨[(6, .expr e), (0, .bottom)], []⟩ :=
    .reduce (top := []) reduce_start rfl rfl rfl goto_start
  have hstep : step T ⟨[(6, .expr e), (0, .bottom)], []⟩ = .accept (.expr e) := by
    rw [step_eq, List.head?_nil, accept_end]
  obtain ⟨f, hf⟩ : ∃ f, fuelFor ts = f + 1 + (n + 1) := ⟨2 * ts.length + 2 - n, by unfold fuelFor; omega⟩
  unfold lrParseWith
  rw [hf, (rn.trans r2) (f + 1)]
  simp only [run, hstep]

end I18n.PluralLR
