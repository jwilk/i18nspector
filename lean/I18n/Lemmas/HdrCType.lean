import I18n.Lemmas.HdrLines
/-
C15 lemmas: the scanner `matchContentType` for `(\Atext/plain; )?\bcharset=([^\s;]+)\Z` under `re.search`
returns the full form if the value has it, else the left-most (= longest) `charset=` parameter at the end of the value
(`CharsetOf`), and `none` iff the value has no such parameter at all.
-/
namespace I18n.Hdr
open I18n.Spec.HeaderRules I18n.Date I18n.Generated

-- the two literals of the pattern as lists of characters: `csLit_head`, `csLit_length` and the `cons` steps of the search hold by
-- `rfl` on these, not on `"…".toList`; each proof about the model starts by rewriting its literal with `csLit_eq` / `tpLit_eq`
def csLit : Str := ['c','h','a','r','s','e','t','=']
def tpLit : Str := ['t','e','x','t','/','p','l','a','i','n',';',' ']
theorem csLit_eq : "charset=".toList = csLit := String.toList_ofList
theorem tpLit_eq : "text/plain; ".toList = tpLit := String.toList_ofList
theorem tpcs_eq : "text/plain; charset=".toList = tpLit ++ csLit := String.toList_ofList
theorem csLit_length : csLit.length = 8 := rfl
theorem csLit_head (enc : Str) : (csLit ++ enc).head? = some 'c' := rfl

theorem charsetAt_iff (db : UDB) (rest enc : Str) :
    charsetAt db rest = some enc ↔ rest = csLit ++ enc ∧ ValidEnc db enc := by
  unfold charsetAt ValidEnc
  rw [csLit_eq]
  rcases stripPrefix_cases csLit rest with ⟨e0, hs, rfl⟩ | ⟨hs, hno⟩ <;> rw [hs]
  · simp only [Option.ite_none_right_eq_some, Option.some.injEq, Bool.and_eq_true, Bool.not_eq_true', List.all_eq_true, bne_iff_ne, ne_eq,
      List.isEmpty_eq_false_iff, List.append_cancel_left_eq]
    constructor
    · rintro ⟨hv, rfl⟩
      exact ⟨rfl, hv⟩
    · rintro ⟨rfl, hv⟩
      exact ⟨hv, rfl⟩
  · exact iff_of_false nofun fun h => hno enc h.1

/-- the character before position `pre.length` of a text that follows `prev` -/
def lastOr (prev : Option Char) (pre : Str) : Option Char :=
  match pre.getLast? with
  | some c => some c
  | none => prev

/-- a `\bcharset=<enc>\Z` match of `s` after the prefix `pre` (`prev` = the character before `s`) -/
def MatchAt (db : UDB) (prev : Option Char) (s pre enc : Str) : Prop :=
  s = pre ++ csLit ++ enc ∧ ValidEnc db enc ∧ boundary db (lastOr prev pre) (some 'c') = true

/-- what `charsetSearch` returns: the match with the shortest prefix, or that there is none -/
def SearchSpec (db : UDB) (prev : Option Char) (s : Str) : Option Str → Prop
  | some enc => ∃ pre, MatchAt db prev s pre enc ∧ ∀ pre' enc', MatchAt db prev s pre' enc' → pre.length ≤ pre'.length
  | none => ∀ pre enc, ¬ MatchAt db prev s pre enc

theorem lastOr_nil (prev : Option Char) : lastOr prev [] = prev := rfl

theorem lastOr_none (pre : Str) : lastOr none pre = pre.getLast? := by
  unfold lastOr
  cases pre.getLast? <;> rfl

theorem lastOr_cons (prev : Option Char) (c : Char) (pre : Str) : lastOr prev (c :: pre) = lastOr (some c) pre := by
  unfold lastOr
  cases pre with
  | nil => simp
  | cons d r =>
    rw [List.getLast?_cons_cons]
    cases h : (d :: r).getLast? with
    | some x => rfl
    | none => simp at h

theorem matchAt_cons (db : UDB) (prev : Option Char) (c : Char) (cs pre enc : Str) :
    MatchAt db prev (c :: cs) (c :: pre) enc ↔ MatchAt db (some c) cs pre enc := by
  unfold MatchAt
  rw [lastOr_cons]
  simp

theorem matchAt_len (db : UDB) (prev : Option Char) (s pre enc : Str) (h : MatchAt db prev s pre enc) :
    s.length = pre.length + 8 + enc.length := by
  have := congrArg List.length h.1
  simp [csLit_length] at this
  omega

theorem matchAt_nil (db : UDB) (prev : Option Char) (c : Char) (cs enc : Str) :
    MatchAt db prev (c :: cs) [] enc ↔ boundary db prev (some c) = true ∧ charsetAt db (c :: cs) = some enc := by
  have hc : c :: cs = csLit ++ enc → some c = some 'c' := fun e => (congrArg List.head? e).trans (csLit_head enc)
  rw [charsetAt_iff]
  constructor
  · rintro ⟨e, hv, hb⟩
    exact ⟨(hc e).symm ▸ hb, e, hv⟩
  · rintro ⟨hb, e, hv⟩
    exact ⟨e, hv, hc e ▸ hb⟩

theorem charsetSearch_spec (db : UDB) (prev : Option Char) (s : Str) :
    SearchSpec db prev s (charsetSearch db prev s) := by
  induction s generalizing prev with
  | nil =>
    have : charsetSearch db prev [] = none := by
      unfold charsetSearch
      split
      · unfold charsetAt; rfl
      · rfl
    rw [this]
    intro pre enc h
    have := matchAt_len db prev [] pre enc h
    rw [List.length_nil] at this
    omega
  | cons c cs ih =>
    unfold charsetSearch
    cases hfirst : (if boundary db prev (some c) = true then charsetAt db (c :: cs) else none) with
    | some enc =>
      exact ⟨[], (matchAt_nil db prev c cs enc).2 (Option.ite_none_right_eq_some.1 hfirst), fun _ _ _ => Nat.zero_le _⟩
    | none =>
      simp only []
      have hno : ∀ enc, ¬ MatchAt db prev (c :: cs) [] enc := by
        intro enc h
        obtain ⟨hb, hat⟩ := (matchAt_nil db prev c cs enc).1 h
        rw [if_pos hb, hat] at hfirst
        cases hfirst
      have hpre : ∀ pre enc, MatchAt db prev (c :: cs) pre enc → ∃ pre', pre = c :: pre' := by
        intro pre enc h
        cases pre with
        | nil => exact absurd h (hno enc)
        | cons d r =>
          have := h.1
          simp only [List.cons_append, List.cons.injEq] at this
          exact ⟨r, by rw [this.1]⟩
      have := ih (some c)
      cases hr : charsetSearch db (some c) cs with
      | none =>
        rw [hr] at this
        intro pre enc h
        obtain ⟨pre', rfl⟩ := hpre pre enc h
        exact this pre' enc ((matchAt_cons db prev c cs pre' enc).1 h)
      | some enc =>
        rw [hr] at this
        obtain ⟨pre, hm, hmin⟩ := this
        refine ⟨c :: pre, (matchAt_cons db prev c cs pre enc).2 hm, ?_⟩
        intro pre2 enc2 h2
        obtain ⟨pre2', rfl⟩ := hpre pre2 enc2 h2
        have := hmin pre2' enc2 ((matchAt_cons db prev c cs pre2' enc2).1 h2)
        simp only [List.length_cons]; omega

theorem matchAt_det (db : UDB) (prev : Option Char) (s pre enc pre' enc' : Str)
    (h : MatchAt db prev s pre enc) (h' : MatchAt db prev s pre' enc') (hl : pre.length = pre'.length) : enc = enc' := by
  have e : pre ++ (csLit ++ enc) = pre' ++ (csLit ++ enc') := by
    rw [← List.append_assoc, ← List.append_assoc, ← h.1, ← h'.1]
  have := List.append_inj e hl
  exact List.append_cancel_left this.2

theorem searchSpec_unique (db : UDB) (prev : Option Char) (s : Str) (r r' : Option Str)
    (h : SearchSpec db prev s r) (h' : SearchSpec db prev s r') : r = r' := by
  cases r with
  | none =>
    cases r' with
    | none => rfl
    | some enc' => obtain ⟨pre', hm, _⟩ := h'; exact absurd hm (h pre' enc')
  | some enc =>
    cases r' with
    | none => obtain ⟨pre, hm, _⟩ := h; exact absurd hm (h' pre enc)
    | some enc' =>
      obtain ⟨pre, hm, hmin⟩ := h
      obtain ⟨pre', hm', hmin'⟩ := h'
      have l1 := hmin pre' enc' hm'
      have l2 := hmin' pre enc hm
      rw [matchAt_det db prev s pre enc pre' enc' hm hm' (by omega)]

theorem charsetParam_false_iff (db : UDB) (ct enc : Str) :
    CharsetParam db ct false enc ↔ ∃ pre, MatchAt db none ct pre enc := by
  unfold CharsetParam
  rw [csLit_eq]
  simp only [Bool.false_eq_true, false_and, false_or, true_and, MatchAt, lastOr_none]
  constructor
  · rintro ⟨hv, pre, e, hb⟩; exact ⟨pre, e, hv, hb⟩
  · rintro ⟨pre, e, hv, hb⟩; exact ⟨hv, pre, e, hb⟩

theorem charsetParam_true_iff (db : UDB) (ct enc : Str) :
    CharsetParam db ct true enc ↔
      ∃ rest, stripPrefix tpLit ct = some rest ∧ boundary db (some ' ') rest.head? = true ∧ charsetAt db rest = some enc := by
  unfold CharsetParam
  rw [tpcs_eq]
  simp only [true_and, Bool.true_eq_false, false_and, or_false]
  constructor
  · rintro ⟨hv, e, hb⟩
    refine ⟨csLit ++ enc, (stripPrefix_eq_some _ _ _).2 (by rw [e]; simp), by rw [csLit_head]; exact hb, (charsetAt_iff db _ _).2 ⟨rfl, hv⟩⟩
  · rintro ⟨rest, hs, hb, hc⟩
    obtain ⟨e, hv⟩ := (charsetAt_iff db _ _).1 hc
    have e2 := (stripPrefix_eq_some _ _ _).1 hs
    subst e
    rw [csLit_head] at hb
    exact ⟨hv, by rw [e2]; simp, hb⟩

/-- what `matchContentType` returns: the declared charset with its form, or that the value has no charset parameter -/
def CtSpec (db : UDB) (ct : Str) : Option (Bool × Str) → Prop
  | some (full, enc) => CharsetOf db ct full enc
  | none => ∀ full enc, ¬ CharsetParam db ct full enc

theorem ctSpec_charsetSearch (db : UDB) (ct : Str) (hnofull : ∀ e, ¬ CharsetParam db ct true e) :
    CtSpec db ct ((charsetSearch db none ct).map fun enc => (false, enc)) := by
  have hs := charsetSearch_spec db none ct
  cases hr : charsetSearch db none ct with
  | none =>
    rw [hr] at hs
    intro full enc h
    cases full with
    | true => exact hnofull enc h
    | false =>
      obtain ⟨pre, hm⟩ := (charsetParam_false_iff db ct enc).1 h
      exact hs pre enc hm
  | some enc =>
    rw [hr] at hs
    obtain ⟨pre, hm, hmin⟩ := hs
    refine ⟨(charsetParam_false_iff db ct enc).2 ⟨pre, hm⟩, fun _ => ⟨hnofull, ?_⟩⟩
    intro e' h'
    obtain ⟨pre', hm'⟩ := (charsetParam_false_iff db ct e').1 h'
    have := hmin pre' e' hm'
    have l1 := matchAt_len db none ct pre enc hm
    have l2 := matchAt_len db none ct pre' e' hm'
    omega

/-- **content_type_form**: the scanner computes the declared charset as the rule set defines it -/
theorem matchContentType_spec (db : UDB) (ct : Str) : CtSpec db ct (matchContentType db ct) := by
  unfold matchContentType
  rw [tpLit_eq]
  cases hs : stripPrefix tpLit ct with
  | none =>
    simp only []
    apply ctSpec_charsetSearch
    intro e h
    obtain ⟨rest, hs', _⟩ := (charsetParam_true_iff db ct e).1 h
    rw [hs] at hs'; cases hs'
  | some rest =>
    simp only []
    cases hfirst : (if boundary db (some ' ') rest.head? = true then charsetAt db rest else none) with
    | some enc =>
      simp only []
      obtain ⟨hb, hfirst⟩ := Option.ite_none_right_eq_some.1 hfirst
      exact ⟨(charsetParam_true_iff db ct enc).2 ⟨rest, hs, hb, hfirst⟩, fun h => by cases h⟩
    | none =>
      simp only []
      apply ctSpec_charsetSearch
      intro e h
      obtain ⟨rest', hs', hb, hc⟩ := (charsetParam_true_iff db ct e).1 h
      rw [hs] at hs'; injection hs' with hs'; subst hs'
      rw [if_pos hb, hc] at hfirst; cases hfirst

/-- a value declares at most one charset: the full form fixes it, and two longest parameters at the end coincide -/
theorem charsetOf_unique (db : UDB) (ct : Str) {full full' : Bool} {enc enc' : Str}
    (h : CharsetOf db ct full enc) (h' : CharsetOf db ct full' enc') : full = full' ∧ enc = enc' := by
  cases full <;> cases full'
  · obtain ⟨pre, hm⟩ := (charsetParam_false_iff db ct enc).1 h.1
    obtain ⟨pre', hm'⟩ := (charsetParam_false_iff db ct enc').1 h'.1
    have a := (h.2 rfl).2 enc' h'.1
    have b := (h'.2 rfl).2 enc h.1
    have l1 := matchAt_len db none ct pre enc hm
    have l2 := matchAt_len db none ct pre' enc' hm'
    exact ⟨rfl, matchAt_det db none ct pre enc pre' enc' hm hm' (by omega)⟩
  · exact absurd h'.1 ((h.2 rfl).1 enc')
  · exact absurd h.1 ((h'.2 rfl).1 enc)
  · have a := h.1.2; have b := h'.1.2
    rw [tpcs_eq] at a b
    simp only [true_and, Bool.true_eq_false, false_and, or_false] at a b
    exact ⟨rfl, List.append_cancel_left (a.1.symm.trans b.1)⟩

theorem ctSpec_unique (db : UDB) (ct : Str) (r r' : Option (Bool × Str)) (h : CtSpec db ct r) (h' : CtSpec db ct r') : r = r' := by
  cases r with
  | none =>
    cases r' with
    | none => rfl
    | some p => exact absurd h'.1 (h p.1 p.2)
  | some p =>
    cases r' with
    | none => exact absurd h.1 (h' p.1 p.2)
    | some p' =>
      obtain ⟨e1, e2⟩ := charsetOf_unique db ct h h'
      exact congrArg some (Prod.ext e1 e2)

theorem matchContentType_some_iff (db : UDB) (ct : Str) (full : Bool) (enc : Str) :
    matchContentType db ct = some (full, enc) ↔ CharsetOf db ct full enc := by
  constructor
  · intro h; have := matchContentType_spec db ct; rw [h] at this; exact this
  · intro h; exact ctSpec_unique db ct _ _ (matchContentType_spec db ct) h

theorem matchContentType_none_iff (db : UDB) (ct : Str) :
    matchContentType db ct = none ↔ ¬ ∃ full enc, CharsetParam db ct full enc := by
  constructor
  · intro h; have := matchContentType_spec db ct; rw [h] at this
    rintro ⟨full, enc, hp⟩; exact this full enc hp
  · intro h
    exact ctSpec_unique db ct _ none (matchContentType_spec db ct) (fun full enc hp => h ⟨full, enc, hp⟩)

end I18n.Hdr
