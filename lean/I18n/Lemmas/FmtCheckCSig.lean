import I18n.Lemmas.FmtCheckC
import I18n.Props.C11
/-!
# The C comparator on strings: composition with the parser theorems of C11

`cParse (render items)` for valid printf items yields the signature of `Spec.Printf`; its slots are non-empty;
the positional types depend only on which argument is used at which type (`typesOf_signatureOf_congr`) — not on the order of
the references, nor on how often an argument is referred to, nor on which directive refers to it: the core of C14's clause
`reorder_silent` (`Props.C14.c_reorder_silent`).
-/
namespace I18n.FmtCheck
open I18n I18n.FmtSig I18n.CFmt I18n.Spec.Printf I18n.Spec.FmtCompare

theorem signatureOf_slotsOk {L : List (Nat × Entry)} (hg : GapFree L) : SlotsOk (signatureOf L) := by
  obtain ⟨k, hk⟩ := (gapFree_iff L).1 hg
  intro u hu
  unfold signatureOf at hu
  rw [gapfree_argCount hk] at hu
  simp only [List.mem_map, List.mem_range] at hu
  obtain ⟨t, ht, rfl⟩ := hu
  obtain ⟨e, he⟩ := (hk (t + 1)).2 (by omega)
  intro hnil
  have : e ∈ usesOf L (t + 1) := mem_usesOf.2 he
  rw [hnil] at this
  cases this

theorem signatureOf_length {L : List (Nat × Entry)} {k : Nat} (hk : ∀ j, HasKey L j ↔ 1 ≤ j ∧ j < 1 + k) :
    (signatureOf L).length = k := by
  unfold signatureOf
  rw [gapfree_argCount hk]
  simp

/-- which argument is used at which type -/
def PosType (L : List (Nat × Entry)) (j : Nat) (t : String) : Prop := ∃ e, (j, e) ∈ L ∧ e.type = t

theorem posType_iff_mem (L : List (Nat × Entry)) (j : Nat) (t : String) :
    PosType L j t ↔ (j, t) ∈ L.map fun p => (p.1, p.2.type) := by
  simp only [PosType, List.mem_map, Prod.mk.injEq]
  constructor
  · rintro ⟨e, he, rfl⟩
    exact ⟨(j, e), he, rfl, rfl⟩
  · rintro ⟨p, hp, rfl, rfl⟩
    exact ⟨p.2, hp, rfl⟩

theorem typesOf_signatureOf_getElem? {L : List (Nat × Entry)} (hg : GapFree L) (ht : OneType L) (i : Nat) (t : String) :
    (typesOf (signatureOf L))[i]? = some t ↔ PosType L (i + 1) t := by
  obtain ⟨k, hk⟩ := (gapFree_iff L).1 hg
  constructor
  · intro h
    have hi : i < k := by
      have := (List.getElem?_eq_some_iff.1 h).1
      rwa [typesOf_length, signatureOf_length hk] at this
    obtain ⟨e, he⟩ := (hk (i + 1)).2 (by omega)
    obtain ⟨_, _, _, htype⟩ := signature_slot hg ht he
    rw [Nat.add_sub_cancel, h] at htype
    exact ⟨e, he, (Option.some.inj htype).symm⟩
  · rintro ⟨e, he, rfl⟩
    obtain ⟨_, _, _, htype⟩ := signature_slot hg ht he
    exact htype

theorem typesOf_signatureOf_congr {L L' : List (Nat × Entry)} (hg : GapFree L) (ht : OneType L) (hg' : GapFree L') (ht' : OneType L')
    (h : ∀ j t, PosType L j t ↔ PosType L' j t) : typesOf (signatureOf L) = typesOf (signatureOf L') :=
  List.ext_getElem? fun i => Option.ext fun t => by
    rw [typesOf_signatureOf_getElem? hg ht, typesOf_signatureOf_getElem? hg' ht', h]

theorem mem_dirs {d : Directive} : ∀ {items : List Item}, d ∈ dirs items ↔ Item.dir d ∈ items
  | [] => by simp [dirs]
  | .lit _ :: rest => by simp [dirs, mem_dirs (items := rest)]
  | .dir _ :: rest => by simp [dirs, mem_dirs (items := rest)]

/-- the flag `conv.integer` of the item at index `c`, read off the items -/
def itemInteger (items : List Item) (c : Nat) : Bool :=
  match items[c]? with
  | some (.dir d) =>
    match d.body.typeInfo with
    | some ti => ti.integer
    | none => false
  | _ => false

theorem cParse_valid {items : List Item} (hv : Valid items) :
    ∃ f, cParse (render items) = .ok f ∧ f.arguments = signature items ∧ SlotsOk f.arguments ∧
      ∀ c, f.integer.getD c false = itemInteger items c := by
  obtain ⟨r, hr, ha⟩ := I18n.Props.C11.parse_complete hv
  refine ⟨_, by unfold cParse; rw [hr], ha, ?_, ?_⟩
  · show SlotsOk r.arguments
    rw [ha]
    exact signatureOf_slotsOk hv.global.gapFree
  · intro c
    show ((CFmt.scan (render items)).1.map _).getD c false = _
    rw [scan_complete hv.wf]
    simp only [List.getD_eq_getElem?_getD, List.getElem?_map, itemInteger]
    cases hc : items[c]? with
    | none => simp
    | some it =>
      cases it with
      | lit cs => simp [itemInfo]
      | dir d =>
        have hd : d ∈ dirs items := mem_dirs.2 (List.mem_of_getElem? hc)
        have hb := (hv.directives d hd).wf.body
        simp only [Option.map_some, Option.getD_some, itemInfo, typeInfo_spec hb]
        cases d.body.typeInfo <;> rfl

theorem cParse_sound {s : List Char} {f : CFmtX} (h : cParse s = .ok f) :
    ∃ items, render items = s ∧ Valid items ∧ f.arguments = signature items ∧ SlotsOk f.arguments := by
  unfold cParse at h
  cases hp : CFmt.parse s with
  | error e => rw [hp] at h; cases e <;> cases h
  | ok r =>
    rw [hp] at h
    simp only [ParseOutcome.ok.injEq] at h
    obtain ⟨items, h1, h2, h3⟩ := I18n.Props.C11.parse_sound hp
    subst h
    exact ⟨items, h1, h2, h3, by show SlotsOk r.arguments; rw [h3]; exact signatureOf_slotsOk h2.global.gapFree⟩

theorem cParse_slotsOk {s : List Char} {f : CFmtX} (h : cParse s = .ok f) : SlotsOk f.arguments := by
  obtain ⟨_, _, _, _, hs⟩ := cParse_sound h
  exact hs

theorem cParse_nocrash (s : List Char) (e : Py.Exc) : cParse s ≠ .crash e := by
  unfold cParse
  cases hp : CFmt.parse s with
  | ok r => simp
  | error err =>
    cases err with
    | crash x => exact absurd (I18n.Props.C11.parse_error_own hp) Bool.false_ne_true
    | _ => exact nofun

end I18n.FmtCheck
