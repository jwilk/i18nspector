import I18n.Lemmas.ParseString
import I18n.Lemmas.CheckPluralsTags
import I18n.Lemmas.PluralFormsRe
import I18n.Spec.PluralForms
/-!
What the description of the report rests on.  The reader is the reference reading: `parsePluralForms` is the scanner followed
by the expression parser (`parsePluralForms_eq`: its two `ValueError` exits are unreachable), hence
`Spec.PluralForms.declOf` (`parsePluralForms_eq_declOf`, from `search_header`); the strict reader is `strictDeclOf`, and accepts
what the lenient one reads without junk (`strict_iff`).  The parts of the report use disjoint sets of tag names, so the name
of a tag tells which part it came from (`TagOrigin`, `origin_of_parts`, `origin_syntax`).  `ConsistentCount` reads the scan of
the messages in terms of the catalog.
-/
namespace I18n.PluralParse

theorem tooLong_false (len : Nat) : tooLong len = false := by
  simp [tooLong, maxStrDigits]

end I18n.PluralParse

namespace I18n.CheckPlurals
open I18n I18n.Py I18n.Plural I18n.PluralParse I18n.Spec.PluralForms

/-- the reader without its two unreachable exits (`int()` has no digit limit; the expression parser raises no `ValueError`):
    the scanner, then the expression parser on group 2 -/
theorem parsePluralForms_eq (s : List Char) :
    parsePluralForms s = match search [] s with
      | none => .syntaxError
      | some (lj, ds, ex, rj) =>
        match parse ex with
        | .ok e => .ok (digitsToNat ds) e lj rj
        | _ => .syntaxError := by
  unfold parsePluralForms
  cases search [] s with
  | none => rfl
  | some y =>
    obtain ⟨lj, ds, ex, rj⟩ := y
    dsimp only
    rw [tooLong_false, if_neg Bool.false_ne_true]
    cases hp : parse ex with
    | ok e => rfl
    | syntaxError => rfl
    | valueError => exact absurd hp (parse_never_valueError ex)

theorem parsePluralForms_ne_valueError (s : List Char) : parsePluralForms s = .valueError → False := by
  rw [parsePluralForms_eq]
  split
  · nofun
  · split <;> nofun

theorem decimal_eq (ds : List Char) : decimal ds = digitsToNat ds := rfl

/-- the reference reading is the model's scanner followed by the expression parser: the scanner is `pattern.search` of the
    live tree (`search_header`), and groups 1 and 2 are its digits and its expression text -/
theorem declOf_eq_search (v : List Char) :
    declOf v = match CheckPlurals.search [] v with
      | none => none
      | some (lj, ds, ex, rj) =>
        match parse ex with
        | .ok e => some ⟨decimal ds, e, lj, rj⟩
        | _ => none := by
  have hs := search_header v []
  unfold declOf Spec.PluralFormsRe.search
  rw [headerRe_eq]
  cases hm : CheckPlurals.search [] v with
  | none =>
    rw [hm] at hs
    rw [Option.map_eq_none_iff.1 hs]
  | some y =>
    obtain ⟨lj, ds, ex, rj⟩ := y
    rw [hm] at hs
    obtain ⟨f, hf, hfy⟩ := Option.map_eq_some_iff.1 hs
    obtain ⟨h1, h2, h3⟩ : f.pre = lj ∧ f.post = rj ∧ f.caps = [(1, ds), (2, ex)] := by simpa using hfy
    have g1 : f.group 1 = some ds := by simp [Spec.PluralFormsRe.Found.group, h3]
    have g2 : f.group 2 = some ex := by simp [Spec.PluralFormsRe.Found.group, h3]
    simp only [hf, g1, g2, h1, h2]
    cases parse ex <;> rfl

theorem parsePluralForms_eq_declOf (v : List Char) :
    parsePluralForms v = match declOf v with
      | some d => .ok d.n d.e d.ljunk d.rjunk
      | none => .syntaxError := by
  rw [parsePluralForms_eq, declOf_eq_search]
  cases CheckPlurals.search [] v with
  | none => rfl
  | some y =>
    obtain ⟨lj, ds, ex, rj⟩ := y
    dsimp only
    cases parse ex <;> rfl

theorem parsePluralForms_eq_ok_iff {v : List Char} {n : Nat} {e : Expr} {lj rj : List Char} :
    parsePluralForms v = .ok n e lj rj ↔ declOf v = some ⟨n, e, lj, rj⟩ := by
  rw [parsePluralForms_eq_declOf]
  cases declOf v with
  | none => simp
  | some d => obtain ⟨a, b, c, d'⟩ := d; simp

theorem parsePluralForms_eq_syntaxError_iff {v : List Char} : parsePluralForms v = .syntaxError ↔ declOf v = none := by
  rw [parsePluralForms_eq_declOf]
  cases declOf v <;> simp

theorem not_hasDecl_iff {v : List Char} : ¬ HasDecl v ↔ declOf v = none := by
  unfold HasDecl
  cases declOf v <;> simp

theorem parsePluralFormsStrict_eq (v : List Char) :
    parsePluralFormsStrict v = match strictDeclOf v with
      | some (n, e) => .ok n e [] []
      | none => .syntaxError := by
  unfold parsePluralFormsStrict strictDeclOf
  rw [parsePluralForms_eq_declOf]
  cases declOf v with
  | none => rfl
  | some d =>
    simp only [List.isEmpty_iff]
    split <;> rfl

theorem strict_iff {c : List Char} {n : Nat} {e : Expr} {lj rj : List Char} :
    parsePluralFormsStrict c = .ok n e lj rj ↔ parsePluralForms c = .ok n e [] [] ∧ lj = [] ∧ rj = [] := by
  constructor
  · intro h
    unfold parsePluralFormsStrict at h
    cases hp : parsePluralForms c with
    | ok n' e' lj' rj' =>
      rw [hp] at h
      dsimp only at h
      by_cases hempty : lj'.isEmpty ∧ rj'.isEmpty
      · rw [if_pos hempty] at h
        cases h
        have h1 : lj' = [] := by simpa using hempty.1
        have h2 : rj' = [] := by simpa using hempty.2
        subst h1 h2
        exact ⟨rfl, rfl, rfl⟩
      · rw [if_neg hempty] at h
        cases h
    | syntaxError => rw [hp] at h; cases h
    | valueError => rw [hp] at h; cases h
  · rintro ⟨h, rfl, rfl⟩
    simp [parsePluralFormsStrict, h]

theorem strict_of_lenient {c : List Char} {n : Nat} {e : Expr} (h : parsePluralForms c = .ok n e [] []) :
    parsePluralFormsStrict c = .ok n e [] [] :=
  strict_iff.2 ⟨h, rfl, rfl⟩

def isSyntaxName (s : String) : Prop := s = "syntax-error-in-plural-forms" ∨ s = "syntax-error-in-unused-plural-forms"
def isUnusualName (s : String) : Prop := s = "unusual-plural-forms" ∨ s = "unusual-unused-plural-forms"
def isArithName (s : String) : Prop := s = "arithmetic-error-in-plural-forms" ∨ s = "arithmetic-error-in-unused-plural-forms"
def isCodomainName (s : String) : Prop := s = "codomain-error-in-plural-forms" ∨ s = "codomain-error-in-unused-plural-forms"

/-- the names `check_plurals` uses for what it finds out by comparing with the catalog and the registry (not about the
    declaration itself) -/
def isComparisonName (s : String) : Prop :=
  s = "duplicate-header-field-plural-forms" ∨ s = "inconsistent-number-of-plural-forms" ∨
  s = "incorrect-number-of-plural-forms" ∨ isUnusualName s

theorem name_dup {inp : Input} {t : TagCall} (h : t ∈ dupTags inp) : t.name = "duplicate-header-field-plural-forms" := by
  unfold dupTags at h
  split at h
  · rw [List.mem_singleton.1 h]
  · cases h

theorem name_inconsistent {ex : List (Nat × List Char)} {t : TagCall} (h : t ∈ inconsistentTags ex) :
    t.name = "inconsistent-number-of-plural-forms" := by
  unfold inconsistentTags at h
  split at h
  · rw [List.mem_singleton.1 h]
  · cases h

theorem mem_junkTags {lj rj : List Char} {t : TagCall} :
    t ∈ junkTags lj rj ↔ (lj ≠ [] ∧ t = ⟨"leading-junk-in-plural-forms", [.str lj]⟩) ∨
      (rj ≠ [] ∧ t = ⟨"trailing-junk-in-plural-forms", [.str rj]⟩) := by
  unfold junkTags
  cases lj <;> cases rj <;> simp

theorem mem_nplTags {n : Nat} {ex : List (Nat × List Char)} {t : TagCall} :
    t ∈ nplTags n ex ↔ ∃ k x, ex = [(k, x)] ∧ n ≠ k ∧ t = ⟨"incorrect-number-of-plural-forms",
      [.int n, .safe "(Plural-Forms header field)".toList, .str "!=".toList, .int k, .safe "(number of msgstr items)".toList]⟩ := by
  fun_cases nplTags n ex with
  | case1 k x hk =>
    rw [List.mem_singleton]
    constructor
    · rintro rfl
      exact ⟨k, x, rfl, hk, rfl⟩
    · rintro ⟨k', x', h, -, rfl⟩
      cases h
      rfl
  | case2 k x hk =>
    rw [List.mem_nil_iff, false_iff]
    rintro ⟨k', x', h, hk', -⟩
    cases h
    exact hk hk'
  | case3 ex hne =>
    rw [List.mem_nil_iff, false_iff]
    rintro ⟨k, x, hex, -⟩
    exact hne k x hex

theorem name_unusualTag (hp : Bool) (pf : List Char) (hint : Extra) : isUnusualName (unusualTag hp pf hint).name := by
  cases hp
  · right; rfl
  · left; rfl

theorem tagName_arith_eq (hp : Bool) : tagName "arithmetic-error-in" hp =
    if hp then "arithmetic-error-in-plural-forms" else "arithmetic-error-in-unused-plural-forms" := by
  cases hp <;> decide +kernel

theorem tagName_codomain_eq (hp : Bool) : tagName "codomain-error-in" hp =
    if hp then "codomain-error-in-plural-forms" else "codomain-error-in-unused-plural-forms" := by
  cases hp <;> decide +kernel

theorem tagName_arith (hp : Bool) : isArithName (tagName "arithmetic-error-in" hp) := by
  rw [tagName_arith_eq]
  cases hp
  · exact Or.inr rfl
  · exact Or.inl rfl

theorem tagName_codomain (hp : Bool) : isCodomainName (tagName "codomain-error-in" hp) := by
  rw [tagName_codomain_eq]
  cases hp
  · exact Or.inr rfl
  · exact Or.inl rfl

theorem tagName_syntax (hp : Bool) : isSyntaxName (tagName "syntax-error-in" hp) := by
  cases hp
  · exact Or.inr (by decide +kernel)
  · exact Or.inl (by decide +kernel)

theorem name_stop {hp : Bool} {t : TagCall} (h : isStopTag hp t) : isArithName t.name ∨ isCodomainName t.name := by
  obtain ⟨msg, rfl | rfl⟩ := h
  · exact Or.inl (tagName_arith hp)
  · exact Or.inr (tagName_codomain hp)

theorem name_gap {hp : Bool} {rs : List (Nat × Nat)} {t : TagCall} (h : t ∈ gapTags hp rs) : isCodomainName t.name := by
  simp only [gapTags, List.mem_map] at h
  obtain ⟨r, _, rfl⟩ := h
  exact tagName_codomain hp

/-- where a tag of the report about a header value that parses comes from, by its name, the duplicate and inconsistent-number
    tags apart: the parts of the report use disjoint sets of names (only the window's stop diagnostic and the gap claims
    share the codomain-error names) -/
def TagOrigin (inp : Input) (lj rj : List Char) (n : Nat) (hp : Bool) (ut : TagCall) (pick mid last : List TagCall)
    (rs : List (Nat × Nat)) (t : TagCall) : Prop :=
  (t.name = "leading-junk-in-plural-forms" ∧ lj ≠ [] ∧ t = ⟨"leading-junk-in-plural-forms", [.str lj]⟩) ∨
  (t.name = "trailing-junk-in-plural-forms" ∧ rj ≠ [] ∧ t = ⟨"trailing-junk-in-plural-forms", [.str rj]⟩) ∨
  (t.name = "incorrect-number-of-plural-forms" ∧ t ∈ nplTags n (expectedOf inp)) ∨
  (isUnusualName t.name ∧ t = ut ∧ (t ∈ pick ∨ t ∈ mid)) ∨
  ((isArithName t.name ∨ isCodomainName t.name) ∧ (t ∈ last ∨ t ∈ gapTags hp rs))

theorem origin_of_parts (inp : Input) (lj rj : List Char) (n : Nat) (hp : Bool) (ut : TagCall) (hut : isUnusualName ut.name)
    (pick mid last : List TagCall) (rs : List (Nat × Nat)) (hpick : ∀ t ∈ pick, t = ut) (hmid : ∀ t ∈ mid, t = ut)
    (hlast : ∀ t ∈ last, isStopTag hp t) :
    ∀ t ∈ tags0Of inp ++ junkTags lj rj ++ nplTags n (expectedOf inp) ++ pick ++ mid ++ last ++ gapTags hp rs,
      (t.name = "duplicate-header-field-plural-forms" ∧ t ∈ dupTags inp) ∨
      (t.name = "inconsistent-number-of-plural-forms" ∧ t ∈ inconsistentTags (expectedOf inp)) ∨
      TagOrigin inp lj rj n hp ut pick mid last rs t := by
  intro t htm
  simp only [List.mem_append, tags0Of] at htm
  rcases htm with ((((((hd | hi) | hj) | hn) | hp') | hm) | hl) | hg
  · exact Or.inl ⟨name_dup hd, hd⟩
  · exact Or.inr (Or.inl ⟨name_inconsistent hi, hi⟩)
  · rcases mem_junkTags.1 hj with ⟨h1, rfl⟩ | ⟨h1, rfl⟩
    · exact Or.inr (Or.inr (Or.inl ⟨rfl, h1, rfl⟩))
    · exact Or.inr (Or.inr (Or.inr (Or.inl ⟨rfl, h1, rfl⟩)))
  · exact Or.inr (Or.inr (Or.inr (Or.inr (Or.inl ⟨by obtain ⟨k, x, _, _, rfl⟩ := mem_nplTags.1 hn; rfl, hn⟩))))
  · exact Or.inr (Or.inr (Or.inr (Or.inr (Or.inr (Or.inl ⟨hpick t hp' ▸ hut, hpick t hp', Or.inl hp'⟩)))))
  · exact Or.inr (Or.inr (Or.inr (Or.inr (Or.inr (Or.inl ⟨hmid t hm ▸ hut, hmid t hm, Or.inr hm⟩)))))
  · exact Or.inr (Or.inr (Or.inr (Or.inr (Or.inr (Or.inr ⟨name_stop (hlast t hl), Or.inl hl⟩)))))
  · exact Or.inr (Or.inr (Or.inr (Or.inr (Or.inr (Or.inr ⟨Or.inr (name_gap hg), Or.inr hg⟩)))))

theorem origin_syntax (inp : Input) (pf : List Char) :
    ∀ t ∈ tags0Of inp ++ [syntaxTag (hasPlurals inp) pf (hintOf inp)],
      (t.name = "duplicate-header-field-plural-forms" ∧ t ∈ dupTags inp) ∨
      (t.name = "inconsistent-number-of-plural-forms" ∧ t ∈ inconsistentTags (expectedOf inp)) ∨
      (isSyntaxName t.name ∧ t = syntaxTag (hasPlurals inp) pf (hintOf inp)) := by
  intro t htm
  simp only [List.mem_append, tags0Of, List.mem_singleton] at htm
  rcases htm with (hd | hi) | rfl
  · exact Or.inl ⟨name_dup hd, hd⟩
  · exact Or.inr (Or.inl ⟨name_inconsistent hi, hi⟩)
  · exact Or.inr (Or.inr ⟨tagName_syntax _, rfl⟩)

/-- "the (consistent) number of msgstr[] forms of the translated plural messages is `k`" -/
def ConsistentCount (inp : Input) (k : Nat) : Prop := AllEq k (formCounts inp.msgs)

theorem expectedOf_eq_nil (inp : Input) : expectedOf inp = [] ↔ formCounts inp.msgs = [] := by
  simpa [expectedOf] using (scanMsgs_spec inp.msgs false [] (by simp)).1

theorem expected_single_iff (inp : Input) (k : Nat) : (∃ x, expectedOf inp = [(k, x)]) ↔ ConsistentCount inp k := by
  have := (scanMsgs_spec inp.msgs false [] (by simp)).2.1 k
  simpa [expectedOf, ConsistentCount] using this

theorem mem_nplTags_ref {inp : Input} {n : Nat} {t : TagCall} :
    t ∈ nplTags n (expectedOf inp) ↔ ∃ k, ConsistentCount inp k ∧ n ≠ k ∧ t = ⟨"incorrect-number-of-plural-forms",
      [.int n, .safe "(Plural-Forms header field)".toList, .str "!=".toList, .int k, .safe "(number of msgstr items)".toList]⟩ := by
  simp only [mem_nplTags, ← expected_single_iff]
  exact ⟨fun ⟨k, x, h1, h2⟩ => ⟨k, ⟨x, h1⟩, h2⟩, fun ⟨k, ⟨x, h1⟩, h2⟩ => ⟨k, x, h1, h2⟩⟩

theorem exists_ne_iff_not_allEq (l : List Nat) : (∃ a ∈ l, ∃ b ∈ l, a ≠ b) ↔ l ≠ [] ∧ ∀ k, ¬ AllEq k l := by
  constructor
  · rintro ⟨a, ha, b, hb, hab⟩
    exact ⟨List.ne_nil_of_mem ha, fun k hk => hab ((hk.2 a ha).trans (hk.2 b hb).symm)⟩
  · rintro ⟨hne, hall⟩
    obtain ⟨a, t, rfl⟩ := List.exists_cons_of_ne_nil hne
    have : ¬ ∀ j ∈ a :: t, j = a := fun h => hall a ⟨hne, h⟩
    simp only [Classical.not_forall] at this
    obtain ⟨j, hj, hja⟩ := this
    exact ⟨a, List.mem_cons_self, j, hj, Ne.symm hja⟩

theorem inconsistentTags_ne_nil (inp : Input) :
    inconsistentTags (expectedOf inp) ≠ [] ↔ ∃ a ∈ formCounts inp.msgs, ∃ b ∈ formCounts inp.msgs, a ≠ b := by
  -- the tag is there iff `expected_nplurals` has two entries: it is neither empty nor a single pair
  have hlen : inconsistentTags (expectedOf inp) ≠ [] ↔ expectedOf inp ≠ [] ∧ ∀ k, ¬ ∃ x, expectedOf inp = [(k, x)] := by
    unfold inconsistentTags
    rcases expectedOf inp with _ | ⟨⟨k, x⟩, _ | ⟨p, l⟩⟩ <;> simp
  rw [hlen, Ne, expectedOf_eq_nil, exists_ne_iff_not_allEq]
  simp only [expected_single_iff, ConsistentCount]

end I18n.CheckPlurals
