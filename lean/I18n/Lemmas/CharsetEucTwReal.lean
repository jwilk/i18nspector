import I18n.Lemmas.CharsetEucTw
import I18n.Lemmas.CharsetCns
/-!
# C20: EUC-TW over the tables of the system iconv — round trip exactly where it holds, the short form; the reverse direction is
# `eucTwDecode_of_encode` at `invReal_cell`.
# Under these tables canonical = not redundant (`eucTwUnit_canonical_iff`, from the kernel's passes through `cnsReal_canonical`); the
# converse of `eucTwEncode_of_decode_canonical` goes by lengths: a redundant unit is written shorter than it was read (`eucTwUnit_real`).
-/
namespace I18n.Charset
open I18n.Charset.Cns I18n.Generated.CharsetCns

theorem eucTwNoRedundant_succ (cns : CnsTable) (fuel : Nat) (bs : List UInt8) :
    eucTwNoRedundant cns (fuel + 1) bs =
      (!(eucTwUnit cns bs).redundant &&
        ((eucTwUnit cns bs).char?.isNone || eucTwNoRedundant cns fuel (bs.drop (eucTwUnit cns bs).len))) := by
  rw [eucTwNoRedundant]
  cases eucTwUnit cns bs <;> simp [EucUnit.redundant, EucUnit.char?, EucUnit.len]

theorem eucTwNoRedundant_fuel (cns : CnsTable) : ∀ (fuel fuel' : Nat) (bs : List UInt8),
    bs.length ≤ fuel → bs.length ≤ fuel' → eucTwNoRedundant cns fuel bs = eucTwNoRedundant cns fuel' bs := by
  intro fuel
  induction fuel with
  | zero =>
    intro fuel' bs h _
    obtain rfl := List.eq_nil_of_length_eq_zero (Nat.le_zero.1 h)
    cases fuel' <;> rfl
  | succ fuel ih =>
    intro fuel' bs h h'
    cases fuel' with
    | zero =>
      obtain rfl := List.eq_nil_of_length_eq_zero (Nat.le_zero.1 h')
      rfl
    | succ fuel' =>
      rw [eucTwNoRedundant_succ, eucTwNoRedundant_succ]
      cases hc : (eucTwUnit cns bs).char? with
      | none => rfl
      | some ch =>
        have hlen := eucTwUnit_length cns bs
        have hpos := EucUnit.len_pos hc
        rw [ih fuel' _ (by omega) (by omega)]

/-! ## the units the encoder never writes -/

theorem ascii_scalar {c : Nat} (h : c ≤ 0x7F) : isScalar c = true ∧ isTag c = false := by
  refine ⟨?_, isTag_of_ascii h⟩
  simp only [isScalar, Bool.and_eq_true, decide_eq_true_eq, Bool.not_eq_true', Bool.and_eq_false_iff, decide_eq_false_iff_not]
  omega

theorem scalarOk_facts (ch : Nat) (h : scalarOk ch = true) : ch > 0x7F ∧ isScalar ch = true ∧ isTag ch = false := by
  simp only [scalarOk, Bool.and_eq_true, Bool.or_eq_true, Nat.ble_eq] at h
  simp only [isScalar, isTag, Bool.and_eq_true, decide_eq_true_eq, Bool.not_eq_true', Bool.and_eq_false_iff,
    decide_eq_false_iff_not, beq_eq_false_iff_ne, ne_eq]
  omega

theorem cnsReal_scalar {p r c ch : Nat} (h : cnsReal p r c = some ch) : ch > 0x7F ∧ isScalar ch = true ∧ isTag ch = false :=
  scalarOk_facts ch (cnsReal_canonical p r c ch h).1

theorem cnsReal_le_max {p r c ch : Nat} (h : cnsReal p r c = some ch) : ch ≤ 0x10FFFF := by
  have := (cnsReal_scalar h).2.1
  simp only [isScalar, Bool.and_eq_true, decide_eq_true_eq] at this
  exact this.1

theorem eucTwUnit_canonical_iff (bs : List UInt8) :
    (eucTwUnit cnsReal bs).canonical invReal = !(eucTwUnit cnsReal bs).redundant := by
  cases hu : eucTwUnit cnsReal bs with
  | done | illegal | incomplete | ascii _ => rfl
  | two r c ch =>
    obtain ⟨_, _, _, _, _, _, hc, _⟩ := eucTwUnit_two cnsReal bs r c ch hu
    obtain ⟨_, hi⟩ := cnsReal_canonical _ _ _ _ hc
    have hs := cnsReal_scalar hc
    have : invReal ch = some (1, r, c) := by
      rcases hi with hi | hi
      · exact hi
      · omega
    simp [EucUnit.canonical, EucUnit.redundant, this, hs.1]
  | four p r c ch =>
    obtain ⟨_, _, _, _, _, _, _, _, _, _, _, _, hc⟩ := eucTwUnit_four cnsReal bs p r c ch hu
    obtain ⟨_, hi⟩ := cnsReal_canonical _ _ _ _ hc
    have hs := cnsReal_scalar hc
    simp only [EucUnit.canonical, EucUnit.redundant, hs.1, decide_true, Bool.true_and]
    by_cases hp1 : p = 1
    · simp [hp1]
    · by_cases hd : p = 3 ∧ r = 0xA1 ∧ c = 0xB8
      · obtain ⟨rfl, rfl, rfl⟩ := hd
        rw [dup_char ch hc, dup_fact.2.2]
        decide
      · have hinv : invReal ch = some (p, r, c) := hi.resolve_right hd
        have hd' : (p == 3 && r == 0xA1 && c == 0xB8) = false := by
          simpa only [← Bool.not_eq_true, Bool.and_eq_true, beq_iff_eq, and_assoc] using hd
        simp [hinv, hd', bne]

theorem eucTwCanonical_eq_noRedundant : ∀ (fuel : Nat) (bs : List UInt8),
    eucTwCanonical cnsReal invReal fuel bs = eucTwNoRedundant cnsReal fuel bs := by
  intro fuel
  induction fuel with
  | zero => intro bs; rfl
  | succ fuel ih => intro bs; rw [eucTwCanonical_succ, eucTwNoRedundant_succ, eucTwUnit_canonical_iff, ih]

/-! ## where the encoder finds a character -/

theorem invReal_cell : InvNamesCells cnsReal invReal := by
  intro ch p r c h
  obtain ⟨hc, _⟩ := invReal_sound ch p r c h
  obtain ⟨hr, hcc, _, _⟩ := cnsReal_eq_some_iff.1 hc
  have hp : 1 ≤ p ∧ p ≤ 16 := by
    have := cnsReal_plane p r c ch hc
    simp only [planesAccepted, List.contains_cons, List.contains_nil, Bool.or_false, Bool.or_eq_true, beq_iff_eq] at this
    omega
  exact ⟨(cnsReal_scalar hc).2.2, hc, hr, hcc, hp⟩

/-! ## the decoder's units, written back -/

theorem eucTwUnit_real (bs : List UInt8) (ch : Nat) (h : (eucTwUnit cnsReal bs).char? = some ch) :
    isScalar ch = true ∧ isTag ch = false ∧
    ∃ w, eucTwEncodeChar invReal ch = some w ∧
      (((eucTwUnit cnsReal bs).redundant = false ∧ w = (eucTwUnit cnsReal bs).bytes) ∨
       ((eucTwUnit cnsReal bs).redundant = true ∧ w.length < (eucTwUnit cnsReal bs).len)) := by
  have hsc : isScalar ch = true ∧ isTag ch = false := by
    rcases eucTwUnit_char_source cnsReal bs ch h with hle | ⟨p, r, c, hc⟩
    · exact ascii_scalar hle
    · exact (cnsReal_scalar hc).2
  refine ⟨hsc.1, hsc.2, ?_⟩
  cases hred : (eucTwUnit cnsReal bs).redundant with
  | false =>
    have hcan := eucTwUnit_canonical_iff bs
    rw [hred] at hcan
    exact ⟨_, eucTwUnit_canonical_encodes cnsReal invReal bs ch h hcan, .inl ⟨rfl, rfl⟩⟩
  | true =>
    cases hu : eucTwUnit cnsReal bs with
    | done | illegal | incomplete | ascii _ | two _ _ _ => rw [hu] at hred; cases hred
    | four p r c ch' =>
      rw [hu] at h hred; cases h
      obtain ⟨_, _, _, _, _, _, _, _, _, _, _, _, hc⟩ := eucTwUnit_four cnsReal bs p r c ch hu
      -- a redundant unit's character stands in plane 1 as well, and that is where the encoder writes it
      have hinv : ∃ r' c', invReal ch = some (1, r', c') := by
        simp only [EucUnit.redundant, Bool.or_eq_true, Bool.and_eq_true, beq_iff_eq] at hred
        rcases hred with rfl | ⟨⟨rfl, rfl⟩, rfl⟩
        · exact ⟨_, _, (cnsReal_canonical _ _ _ _ hc).2.resolve_right (by omega)⟩
        · exact ⟨_, _, dup_char ch hc ▸ dup_fact.2.2⟩
      obtain ⟨r', c', hinv⟩ := hinv
      have hen := eucTwEncodeChar_of_inv (Nat.lt_of_succ_le (invReal_sound ch 1 r' c' hinv).2) hinv
      -- two bytes against the four of the unit
      exact ⟨_, hen, .inr ⟨rfl, (by decide : 2 < 4)⟩⟩

/-- the invariants of ONE induction along a decoding: the text is no longer than the bytes and holds scalar values that are no
    TAG characters; it encodes, to no more bytes than were read; and to as many only if no unit read was redundant.  They go
    together because each length comparison needs the encoding `bs'` of the rest, which only the induction hypothesis names. -/
theorem eucTwDecodeLoop_real_facts : ∀ (fuel i j : Nat) (bs : List UInt8) (cs : List Nat),
    eucTwDecodeLoop cnsReal fuel i bs = .ok cs →
    cs.length ≤ bs.length ∧ (∀ c ∈ cs, isScalar c = true ∧ isTag c = false) ∧
    ∃ bs', eucTwEncodeFrom invReal j cs = .ok bs' ∧ bs'.length ≤ bs.length ∧
      (bs'.length = bs.length → eucTwNoRedundant cnsReal fuel bs = true) := by
  intro fuel i j bs cs h
  revert j
  refine eucTwDecodeLoop_ok_induction (fun fuel j => ?_) (fun fuel bs ch cs' hc ih j => ?_) fuel i bs cs h
  · -- nothing read, nothing written
    have hnil : eucTwNoRedundant cnsReal fuel [] = true := by cases fuel <;> rfl
    exact ⟨Nat.le_refl _, fun _ hc => (nomatch hc), [], rfl, Nat.le_refl _, fun _ => hnil⟩
  rw [eucTwNoRedundant_succ]
  obtain ⟨h1, h2, bs', h3, h4, h5⟩ := ih (j + 1)
  obtain ⟨g1, g2, w, hw, hcase⟩ := eucTwUnit_real bs ch hc
  have hlen := eucTwUnit_length cnsReal bs
  have hpos := EucUnit.len_pos hc
  have hwl : w.length ≤ (eucTwUnit cnsReal bs).len ∧
      (w.length = (eucTwUnit cnsReal bs).len → (eucTwUnit cnsReal bs).redundant = false) := by
    rcases hcase with ⟨hr, rfl⟩ | ⟨_, hlt⟩
    · exact ⟨Nat.le_of_eq (EucUnit.length_bytes _), fun _ => hr⟩
    · exact ⟨Nat.le_of_lt hlt, fun he => absurd he (Nat.ne_of_lt hlt)⟩
  refine ⟨by rw [List.length_cons]; omega, List.forall_mem_cons.2 ⟨⟨g1, g2⟩, h2⟩, w ++ bs', ?_, ?_, ?_⟩
  · rw [eucTwEncodeFrom, hw, h3]; rfl
  · rw [List.length_append]; omega
  · intro he
    rw [List.length_append] at he
    rw [hwl.2 (by omega), h5 (by omega), hc]; rfl

theorem eucTwNoRedundant_of_roundtrip (fuel i j : Nat) (bs : List UInt8) (cs : List Nat)
    (h : eucTwDecodeLoop cnsReal fuel i bs = .ok cs) (henc : eucTwEncodeFrom invReal j cs = .ok bs) :
    eucTwNoRedundant cnsReal fuel bs = true := by
  obtain ⟨_, _, bs', h3, _, h5⟩ := eucTwDecodeLoop_real_facts fuel i j bs cs h
  rw [henc] at h3
  cases h3
  exact h5 rfl

end I18n.Charset
