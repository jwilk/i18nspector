import I18n.Spec.CGrammar
/-! Soundness of the recursive-descent model: whatever it accepts is derived by the stratified C
    grammar, with the AST it returns.  One induction on the fuel for the four mutually recursive functions at once
    (`SoundAt`, `sound_all`); `parseCond_sound` and `parseLevel_sound` are the two clauses others use. -/
namespace I18n.PluralParse
open I18n I18n.Spec

theorem binInfo_level {t : Tok} {k : Nat} {mk} (h : binInfo t = some (k, mk)) : 1 ≤ k ∧ k ≤ 6 := by
  revert h
  fun_cases binInfo t
  all_goals intro h
  all_goals cases h
  all_goals decide

/-- each function, when it returns `(e, r)`, has consumed a prefix from which its level of the grammar derives `e`.
    The loop is entered with the tree `a` of the left operand read so far: its clause takes a derivation of `a` (from
    the tokens `lts` already consumed) and returns one of the whole — this is where the iterative loop meets the
    left-recursive rule. -/
def SoundAt (f : Nat) : Prop :=
  (∀ ts e r, parseCond f ts = some (e, r) → ∃ pre, ts = pre ++ r ∧ D 0 pre e) ∧
  (∀ k ts e r, 1 ≤ k → k ≤ 7 → parseLevel f k ts = some (e, r) → ∃ pre, ts = pre ++ r ∧ D k pre e) ∧
  (∀ k a lts ts e r, 1 ≤ k → k ≤ 6 → D k lts a → parseLoop f k a ts = some (e, r) →
      ∃ pre, ts = pre ++ r ∧ D k (lts ++ pre) e) ∧
  (∀ ts e r, parseUnary f ts = some (e, r) → ∃ pre, ts = pre ++ r ∧ D 7 pre e)

theorem sound_all : ∀ f, SoundAt f := by
  intro f
  induction f with
  | zero =>
    refine ⟨?_, ?_, ?_, ?_⟩ <;> intros <;> simp_all [parseCond, parseLevel, parseLoop, parseUnary]
  | succ f ih =>
    obtain ⟨ihC, ihL, ihP, ihU⟩ := ih
    refine ⟨?_, ?_, ?_, ?_⟩
    · intro ts e r h
      simp only [parseCond] at h
      split at h
      · cases h
      · rename_i c r1 hc
        obtain ⟨p1, rfl, d1⟩ := ihL 1 ts c _ (Nat.le_refl 1) (by omega) hc
        split at h
        · rename_i a r3 ha
          obtain ⟨p2, rfl, d2⟩ := ihC _ _ _ ha
          split at h
          · rename_i b r4 hb
            obtain ⟨p3, rfl, d3⟩ := ihC _ _ _ hb
            cases h
            refine ⟨p1 ++ .qm :: (p2 ++ .colon :: p3), by simp, ?_⟩
            exact D.cond d1 d2 d3
          · cases h
        · cases h
      · rename_i c r1 hne hc
        cases h
        obtain ⟨p1, rfl, d1⟩ := ihL 1 ts _ _ (Nat.le_refl 1) (by omega) hc
        exact ⟨p1, rfl, D.up0 d1⟩
    · intro k ts e r hk hk7 h
      simp only [parseLevel] at h
      split at h
      · obtain rfl : k = 7 := by omega
        exact ihU _ _ _ h
      · have hk6 : k ≤ 6 := by omega
        split at h
        · cases h
        · rename_i a r1 ha
          obtain ⟨p1, rfl, d1⟩ := ihL (k + 1) ts a r1 (by omega) (by omega) ha
          obtain ⟨p2, rfl, d2⟩ := ihP k a p1 r1 e r hk hk6 (D.up hk hk6 d1) h
          exact ⟨p1 ++ p2, by simp, d2⟩
    · intro k a lts ts e r hk hk6 da h
      simp only [parseLoop] at h
      split at h
      · cases h; exact ⟨[], rfl, by simpa using da⟩
      · rename_i t r0
        split at h
        · rename_i k' mk hbi
          split at h
          · rename_i hkk
            subst hkk
            split at h
            · cases h
            · rename_i b r2 hb
              obtain ⟨p1, rfl, d1⟩ := ihL (k' + 1) r0 b r2 (by omega) (by omega) hb
              have dn : D k' (lts ++ t :: p1) (mk a b) := D.bin t mk hk hk6 hbi da d1
              obtain ⟨p2, rfl, d2⟩ := ihP k' (mk a b) (lts ++ t :: p1) r2 e r hk hk6 dn h
              exact ⟨t :: (p1 ++ p2), by simp, by simpa using d2⟩
          · cases h; exact ⟨[], rfl, by simpa using da⟩
        · cases h; exact ⟨[], rfl, by simpa using da⟩
    · intro ts e r h
      simp only [parseUnary] at h
      split at h
      · rename_i r0
        split at h
        · rename_i e0 r2 he
          cases h
          obtain ⟨p, rfl, d⟩ := ihU _ _ _ he
          exact ⟨.not :: p, rfl, D.not d⟩
        · cases h
      · cases h; exact ⟨[.var], rfl, D.var⟩
      · cases h; exact ⟨[.int _], rfl, D.int _⟩
      · rename_i r0
        split at h
        · rename_i e0 r3 he
          cases h
          obtain ⟨p, rfl, d⟩ := ihC _ _ _ he
          exact ⟨.lpar :: (p ++ [.rpar]), by simp, D.paren d⟩
        · cases h
      · cases h

theorem parseCond_sound {f : Nat} {ts r : List Tok} {e : Expr} (h : parseCond f ts = some (e, r)) :
    ∃ pre, ts = pre ++ r ∧ D 0 pre e := (sound_all f).1 ts e r h

theorem parseLevel_sound {f k : Nat} {ts r : List Tok} {e : Expr} (hk : 1 ≤ k) (hk7 : k ≤ 7)
    (h : parseLevel f k ts = some (e, r)) : ∃ pre, ts = pre ++ r ∧ D k pre e := (sound_all f).2.1 k ts e r hk hk7 h

end I18n.PluralParse
