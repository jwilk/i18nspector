import I18n.Generated.Intexpr
import I18n.Lemmas.PyArith
/-! Soundness of the range analysis (`CodomainEvaluator`) w.r.t. `Evaluator`, stated about the
    definitions the translator generates from lib/intexpr.py: `codomain_main`, by induction on the expression with
    `Sound` as the invariant (an interval holds every value the evaluator can return, no interval means there is none). -/
namespace I18n.Plural
open I18n I18n.Py I18n.Generated.Intexpr

/-- a well-formed interval inside `[0, M)` — or inside `[0, 1]`: comparison and boolean results are
    not overflow-checked by the evaluator, so at width 0 (`M = 1`) the value 1 does occur -/
def Inv (M : Int) (p : Int × Int) : Prop := 0 ≤ p.1 ∧ p.1 ≤ p.2 ∧ (p.2 < M ∨ p.2 ≤ 1)

def Within (p : Int × Int) (ev : Except Exc Int) : Prop := ∀ v, ev = .ok v → p.1 ≤ v ∧ v ≤ p.2

def Sound (M : Int) (r : Option (Int × Int)) (ev : Except Exc Int) : Prop :=
  match r with
  | some p => Inv M p ∧ Within p ev
  | none => ∀ v, ev ≠ .ok v

/-! `checked_sound`, `strict1`, `strict2` are applied by `exact` to goals that hold the generated code unfolded: their
    statements spell the translator's output (`if lo > hi then .ok none else …`, the nested `match` on the operands' results) so
    that the two sides agree by unfolding alone; `ok_of_bind`, `boolop_within` read the same `match` in a hypothesis.  When
    `intexpr2lean.py` emits another shape for these methods, the `exact` steps in `binop_sound` and `codomain_main` fail and
    the statements here have to follow. -/

theorem Inv.le {M : Int} {p : Int × Int} (h : Inv M p) : p.1 ≤ p.2 := h.2.1

theorem Sound.inv {M : Int} {p : Int × Int} {ev : Except Exc Int} (h : Sound M (some p) ev) : Inv M p := h.1

theorem Sound.within {M : Int} {p : Int × Int} {ev : Except Exc Int} (h : Sound M (some p) ev) : Within p ev := h.2

theorem Sound.fails {M : Int} {ev : Except Exc Int} (h : Sound M none ev) (v : Int) : ev ≠ .ok v := h v

theorem sound_checked {M n k lo hi : Int} (hinv : Inv M (lo, hi)) (hk : 0 ≤ k → k < M → lo ≤ k ∧ k ≤ hi) :
    Sound M (some (lo, hi)) (Evaluator._check_overflow M n k) :=
  ⟨hinv, fun v hv => by have := check_overflow_ok hv; simp only; omega⟩

theorem sound_checked_none {M n k : Int} (hk : k < 0 ∨ M ≤ k) :
    Sound M none (Evaluator._check_overflow M n k) :=
  fun v hv => by have := check_overflow_ok hv; omega

/-- `_visit_add`, `_visit_sub`, `_visit_mult`: an interval `(lo, hi)`, empty when `lo > hi`, for a value that
    the evaluator checks for overflow -/
theorem checked_sound {M lo hi : Int} (n : Int) (hlo : 0 ≤ lo) (hhi : hi < M ∨ hi ≤ 1) :
    ∃ r, (if lo > hi then .ok none else .ok (some (lo, hi)) : Except Exc (Option (Int × Int))) = .ok r ∧
      ∀ k, (0 ≤ k → k < M → lo ≤ k ∧ k ≤ hi) → Sound M r (Evaluator._check_overflow M n k) := by
  split
  · exact ⟨_, rfl, fun k hk => sound_checked_none (by omega)⟩
  · exact ⟨_, rfl, fun k hk => sound_checked ⟨hlo, by omega, hhi⟩ hk⟩

theorem binop_sound {M n : Int} (op : BinOp) (x y : Int × Int) (hx : Inv M x) (hy : Inv M y) :
    ∃ r, Codomain.dispatch_BinOp M op x y = .ok r ∧
      ∀ a b, (x.1 ≤ a ∧ a ≤ x.2) → (y.1 ≤ b ∧ b ≤ y.2) →
        Sound M r (Evaluator.dispatch_BinOp M n op a b) := by
  obtain ⟨x0, x1⟩ := x
  obtain ⟨y0, y1⟩ := y
  simp only [Inv] at hx hy
  cases op
  case add =>
    obtain ⟨r, hr, hs⟩ := checked_sound (M := M) (lo := x0 + y0) (hi := min (x1 + y1) (M - 1)) n (by omega) (by omega)
    exact ⟨r, hr, fun a b ha hb => hs (a + b) (by omega)⟩
  case sub =>
    obtain ⟨r, hr, hs⟩ := checked_sound (M := M) (lo := max (x0 - y1) 0) (hi := x1 - y0) n (by omega) (by omega)
    exact ⟨r, hr, fun a b ha hb => hs (a - b) (by omega)⟩
  case mult =>
    obtain ⟨r, hr, hs⟩ := checked_sound (M := M) (lo := x0 * y0) (hi := min (x1 * y1) (M - 1)) n
      (Int.mul_nonneg hx.1 hy.1) (by omega)
    refine ⟨r, hr, fun a b ha hb => hs (a * b) fun _ _ => ?_⟩
    have : x0 * y0 ≤ a * b := Int.mul_le_mul ha.1 hb.1 hy.1 (by omega)
    have : a * b ≤ x1 * y1 := Int.mul_le_mul ha.2 hb.2 (by omega) (by omega)
    omega
  case div =>
    simp only [Codomain.dispatch_BinOp, Codomain._visit_div, Evaluator.dispatch_BinOp, Evaluator._visit_div,
      Prod.mk.injEq]
    by_cases h0 : y0 = 0 ∧ y1 = 0
    · exact ⟨_, if_pos h0, fun a b ha hb v hv => by have := (floordiv_eq_ok (by omega)).1 hv; omega⟩
    · have hm : 0 < max y0 1 := by omega
      rw [if_neg h0, if_pos (by omega), floordiv_ok (by omega), floordiv_ok hm]
      have hq : x0 / y1 ≤ x1 / max y0 1 := ediv_le_ediv_anti hx.1 hx.2.1 hm (by omega)
      have := Int.ediv_nonneg hx.1 (Int.le_trans hy.1 hy.2.1)
      have := Int.ediv_le_self (max y0 1) (Int.le_trans hx.1 hx.2.1)
      refine ⟨_, rfl, fun a b ha hb => ⟨⟨by omega, hq, by omega⟩, fun v hv => ?_⟩⟩
      obtain ⟨hbp, rfl⟩ := (floordiv_eq_ok (by omega)).1 hv
      exact ⟨ediv_le_ediv_anti hx.1 ha.1 hbp hb.2, ediv_le_ediv_anti (by omega) ha.2 hm (by omega)⟩
  case mod =>
    simp only [Codomain.dispatch_BinOp, Codomain._visit_mod, Evaluator.dispatch_BinOp, Evaluator._visit_mod,
      Prod.mk.injEq]
    by_cases h0 : y0 = 0 ∧ y1 = 0
    · exact ⟨_, if_pos h0, fun a b ha hb v hv => by have := (mod_eq_ok (by omega)).1 hv; omega⟩
    · rw [if_neg h0, if_pos (by omega)]
      have key : ∀ a b v, (x0 ≤ a ∧ a ≤ x1) → (y0 ≤ b ∧ b ≤ y1) → Py.mod a b = .ok v →
          0 < b ∧ 0 ≤ v ∧ v < b ∧ v ≤ a ∧ (a < b → v = a) := by
        intro a b v ha hb hv
        obtain ⟨hbp, rfl⟩ := (mod_eq_ok (by omega)).1 hv
        exact ⟨hbp, Int.emod_nonneg a (Int.ne_of_gt hbp), Int.emod_lt_of_pos a hbp, emod_le_self' (by omega) hbp,
          fun h => Int.emod_eq_of_lt (by omega) h⟩
      -- `x[1] < y[0]`: the remainder is the dividend, answer `x`; otherwise it is at most the dividend and below the divisor
      split <;> exact ⟨_, rfl, fun a b ha hb => ⟨by simp only [Inv]; omega, fun v hv => by
        have := key a b v ha hb hv
        simp only
        omega⟩⟩

theorem b2i_within {p : Prop} [Decidable p] {lo hi : Int} (h1 : p → lo ≤ 1 ∧ 1 ≤ hi) (h0 : ¬p → lo ≤ 0 ∧ 0 ≤ hi) :
    Within (lo, hi) (.ok (b2i (decide p))) := by
  intro v hv
  cases hv
  by_cases hp : p
  · simp only [b2i, hp, decide_true, ↓reduceIte]
    exact h1 hp
  · simp only [b2i, hp, decide_false, Bool.false_eq_true, ↓reduceIte]
    exact h0 hp

/-- The equality tests go by their cases; the bounds of an order test are the test on the extreme
    pairs, and the test is monotone in its operands. -/
theorem cmpop_sound {M n : Int} (op : CmpOp) (x y : Int × Int) (hx : Inv M x) (hy : Inv M y) :
    ∃ r, Codomain.dispatch_CmpOp M op x y = .ok r ∧
      ∀ a b, (x.1 ≤ a ∧ a ≤ x.2) → (y.1 ≤ b ∧ b ≤ y.2) →
        Sound M r (Evaluator.dispatch_CmpOp M n op a b) := by
  have h1 := hx.le
  have h2 := hy.le
  cases op
  case eq | noteq =>
    simp only [Codomain.dispatch_CmpOp, Codomain._visit_eq, Codomain._visit_noteq, Evaluator.dispatch_CmpOp,
      Evaluator._visit_eq, Evaluator._visit_noteq]
    repeat' split
    all_goals exact ⟨_, rfl, fun a b ha hb =>
      ⟨by simp only [Inv]; omega, b2i_within (fun _ => by omega) (fun _ => by omega)⟩⟩
  case lt | lte | gt | gte =>
    exact ⟨_, rfl, fun a b ha hb =>
      ⟨⟨(b2i_le_one _).1, b2i_mono (by omega), .inr (b2i_le_one _).2⟩,
        fun v hv => by cases hv; exact ⟨b2i_mono (by omega), b2i_mono (by omega)⟩⟩⟩

theorem unop_sound {M n : Int} (op : UnOp) (x : Int × Int) (hx : Inv M x) :
    ∃ r, Codomain.dispatch_UnOp M op x = .ok r ∧
      ∀ a, (x.1 ≤ a ∧ a ≤ x.2) → Sound M r (Evaluator.dispatch_UnOp M n op a) := by
  obtain ⟨x0, x1⟩ := x
  simp only [Inv] at hx
  cases op
  simp only [Codomain.dispatch_UnOp, Codomain._visit_not, Evaluator.dispatch_UnOp, Evaluator._visit_not,
    Prod.mk.injEq]
  repeat' split
  all_goals exact ⟨_, rfl, fun a ha =>
    ⟨by simp only [Inv]; omega, b2i_within (fun _ => by omega) (fun _ => by omega)⟩⟩

theorem sound_none_of_error {M : Int} {ev : Except Exc Int} {e : Exc} (h : ev = .error e) : Sound M none ev := by
  intro v hv; rw [h] at hv; cases hv

theorem Sound.mono {M : Int} {r : Option (Int × Int)} {ev ev' : Except Exc Int} (h : Sound M r ev)
    (hev : ∀ v, ev' = .ok v → ev = .ok v) : Sound M r ev' := by
  cases r with
  | none => exact fun v hv => h.fails v (hev v hv)
  | some p => exact ⟨h.inv, fun v hv => h.within v (hev v hv)⟩

/-- `_visit_ifexp` when both branches can be taken: the hull of their intervals -/
theorem Sound.hull {M : Int} {x y : Int × Int} {ea eb ev : Except Exc Int} (sa : Sound M (some x) ea)
    (sb : Sound M (some y) eb) (h : ∀ v, ev = .ok v → ea = .ok v ∨ eb = .ok v) :
    Sound M (some (min x.1 y.1, max x.2 y.2)) ev := by
  have ix := sa.inv
  have iy := sb.inv
  simp only [Inv] at ix iy
  refine ⟨by simp only [Inv]; omega, fun v hv => ?_⟩
  rcases h v hv with h | h
  · have := sa.within v h
    simp only; omega
  · have := sb.within v h
    simp only; omega

/-- the `match` is the translator's `x = self._visit(…)` -/
theorem ok_of_bind {x : Except Exc Int} {k : Int → Except Exc Int} {v : Int}
    (h : (match (generalizing := false) x with | .error e => .error e | .ok a => k a : Except Exc Int) = .ok v) :
    ∃ a, x = .ok a ∧ k a = .ok v := by
  cases x with
  | error e => cases h
  | ok a => exact ⟨a, rfl, h⟩

theorem strict1 {M : Int} {ra : Option (Int × Int)} {ea : Except Exc Int}
    {F : Int × Int → Except Exc (Option (Int × Int))} {f : Int → Except Exc Int} (sa : Sound M ra ea)
    (hF : ∀ x, Inv M x → ∃ r, F x = .ok r ∧ ∀ a, (x.1 ≤ a ∧ a ≤ x.2) → Sound M r (f a)) :
    ∃ r, (match (generalizing := false) ra with
          | none => .ok none
          | some x => F x : Except Exc (Option (Int × Int))) = .ok r ∧
      Sound M r (match (generalizing := false) ea with
        | .error e => .error e
        | .ok a => f a) := by
  cases ra with
  | none => exact ⟨none, rfl, fun v hv => let ⟨a, ha, _⟩ := ok_of_bind hv; sa.fails a ha⟩
  | some x =>
    obtain ⟨r, hr, hs⟩ := hF x sa.inv
    refine ⟨r, hr, ?_⟩
    cases ea with
    -- a failure has no value, but `Inv` of the answer is still owed: it comes with the answer's soundness at any operand
    -- in `x`, the lower bound say
    | error e => exact (hs x.1 ⟨Int.le_refl _, sa.inv.le⟩).mono nofun
    | ok a => exact hs a (sa.within a rfl)

theorem strict2 {M : Int} {ra rb : Option (Int × Int)} {ea eb : Except Exc Int}
    {F : Int × Int → Int × Int → Except Exc (Option (Int × Int))} {f : Int → Int → Except Exc Int}
    (sa : Sound M ra ea) (sb : Sound M rb eb)
    (hF : ∀ x y, Inv M x → Inv M y → ∃ r, F x y = .ok r ∧
      ∀ a b, (x.1 ≤ a ∧ a ≤ x.2) → (y.1 ≤ b ∧ b ≤ y.2) → Sound M r (f a b)) :
    ∃ r, (match (generalizing := false) ra with
          | none => .ok none
          | some x => match (generalizing := false) rb with
            | none => .ok none
            | some y => F x y : Except Exc (Option (Int × Int))) = .ok r ∧
      Sound M r (match (generalizing := false) ea with
        | .error e => .error e
        | .ok a => match (generalizing := false) eb with
          | .error e => .error e
          | .ok b => f a b) := by
  refine strict1 sa fun x hx => ?_
  cases rb with
  | none => exact ⟨none, rfl, fun a _ v hv => let ⟨b, hb, _⟩ := ok_of_bind hv; sb.fails b hb⟩
  | some y =>
    obtain ⟨r, hr, hs⟩ := hF x y hx sb.inv
    refine ⟨r, hr, fun a ha => ?_⟩
    cases eb with
    | error e => exact (hs a y.1 ha ⟨Int.le_refl _, sb.inv.le⟩).mono nofun
    | ok b => exact hs a b ha (sb.within b rfl)

/-- the interval to reason with: an analysis without result stands for the empty interval -/
theorem sound_within {M : Int} {r : Option (Int × Int)} {ev : Except Exc Int} (h : Sound M r ev) :
    Within (r.getD (1, 0)) ev := by
  cases r with
  | none => exact fun v hv => absurd hv (h.fails v)
  | some p => exact h.within

/-- the three answers the tests of `_visit_and`, `_visit_or` can give on a well-formed interval:
    always zero, never zero, either.  The source tests `x == (0, 0)` and `x[0] >= 1` (and asserts `x[0] == 0`,
    `x[1] > 0`); each disjunct carries the outcome of every one of these tests, redundantly, so that `simp` resolves
    all of them. -/
theorem inv_cases {M x0 x1 : Int} (h : Inv M (x0, x1)) :
    x0 = 0 ∧ x1 = 0 ∨ x0 ≥ 1 ∧ ¬x0 = 0 ∨ x0 = 0 ∧ x1 > 0 ∧ ¬x1 = 0 := by
  simp only [Inv] at h
  omega

/-- What `&&`, `||` can return, by what the operands' intervals allow: `x.1 ≤ 0 ∧ 0 ≤ x.2` reads "the operand may be zero",
    `x.1 < 0 ∨ 0 < x.2` "it may be non-zero"; the second operand counts only if the first does not decide. -/
theorem boolop_within {M n : Int} {op : BoolOp} {a b : Expr} {x y : Int × Int} {v : Int}
    (wx : Within x (Evaluator.visit M n a)) (wy : Within y (Evaluator.visit M n b))
    (hv : Evaluator.visit M n (.boolop op a b) = .ok v) :
    match (generalizing := false) op with
    | .and => v = 0 ∧ x.1 ≤ 0 ∧ 0 ≤ x.2 ∨
        (x.1 < 0 ∨ 0 < x.2) ∧ (v = 0 ∧ y.1 ≤ 0 ∧ 0 ≤ y.2 ∨ v = 1 ∧ (y.1 < 0 ∨ 0 < y.2))
    | .or => v = 1 ∧ (x.1 < 0 ∨ 0 < x.2) ∨
        x.1 ≤ 0 ∧ 0 ≤ x.2 ∧ (v = 1 ∧ (y.1 < 0 ∨ 0 < y.2) ∨ v = 0 ∧ y.1 ≤ 0 ∧ 0 ≤ y.2) := by
  cases op
  all_goals
    obtain ⟨va, ha, h⟩ := ok_of_bind hv
    have := wx va ha
    split at h
    · cases h
      omega
    · obtain ⟨vb, hb, h⟩ := ok_of_bind h
      have := wy vb hb
      split at h <;> cases h <;> omega

theorem ok_of_ite {c : Prop} [Decidable c] {x y : Except Exc Int} {v : Int} (h : (if c then x else y) = .ok v) :
    x = .ok v ∨ y = .ok v := by
  split at h
  · exact .inl h
  · exact .inr h

/-- The range analysis never crashes (no `assert` fires), its intervals are well
    formed, and it is sound for evaluation at every `n` in `[0, M)`. -/
theorem codomain_main {M : Int} (n : Int) (hn : 0 ≤ n ∧ n < M) (e : Expr) :
    ∃ r, Codomain.visit M e = .ok r ∧ Sound M r (Evaluator.visit M n e) := by
  induction e with
  | num k =>
    simp only [Codomain.visit, Evaluator.visit]
    split
    · exact ⟨_, rfl, sound_checked_none (by omega)⟩
    · exact ⟨_, rfl, sound_checked (by simp only [Inv]; omega) (by omega)⟩
  | name => exact ⟨_, rfl, sound_checked (by simp only [Inv]; omega) (by omega)⟩
  | unaryop op a iha =>
    obtain ⟨ra, ha, sa⟩ := iha
    simp only [Codomain.visit, Evaluator.visit, ha]
    exact strict1 sa (unop_sound (n := n) op)
  | binop a op b iha ihb =>
    obtain ⟨ra, ha, sa⟩ := iha
    obtain ⟨rb, hb, sb⟩ := ihb
    simp only [Codomain.visit, Evaluator.visit, ha, hb]
    exact strict2 sa sb (binop_sound (n := n) op)
  | compare a op b iha ihb =>
    obtain ⟨ra, ha, sa⟩ := iha
    obtain ⟨rb, hb, sb⟩ := ihb
    simp only [Codomain.visit, Evaluator.visit, ha, hb]
    exact strict2 sa sb (cmpop_sound (n := n) op)
  | boolop op a b iha ihb =>
    obtain ⟨ra, ha, sa⟩ := iha
    obtain ⟨rb, hb, sb⟩ := ihb
    have H := fun v => boolop_within (op := op) (v := v) (sound_within sa) (sound_within sb)
    /- The source goes through the operands with `r`, at first the neutral constant (`(1, 1)` for `and`, `(0, 0)` for `or`).
       An operand that always decides returns the deciding constant `D` (`(0, 0)`, resp. `(1, 1)`) at once; one that may decide
       sets `r = (0, 1)`; one without answer returns `None`, or `D` once `r == (0, 1)`; at the end `r`.  With `inv_cases` for
       the operands (always deciding `D`, never `N`, either `E`) the answers are
                 y:  none    D    N       E
           x = D:    D, whatever `y`
           x = N:    none    D    r       (0, 1)
           x = E:    D       D    (0, 1)  (0, 1)
       and `H` (`boolop_within`) gives the values the evaluator can produce in each case. -/
    cases ra with
    | none =>
      -- `x is None` in the first round: `return None`
      cases op <;>
        simp only [Codomain.visit, ha, ne_eq, Prod.mk.injEq, Int.reduceEq, and_self, and_false, false_and,
          not_false_eq_true, ↓reduceIte] <;>
        exact ⟨_, rfl, fun v hv => let ⟨va, hva, _⟩ := ok_of_bind hv; sa.fails va hva⟩
    | some x =>
      obtain ⟨x0, x1⟩ := x
      have hx := inv_cases sa.inv
      cases rb with
      | none =>
        simp only [Option.getD] at H
        cases op
        case and =>
          simp only [Codomain.visit, ha, hb, ne_eq, Prod.mk.injEq, Int.reduceEq, and_self, and_false, false_and,
            not_false_eq_true, ↓reduceIte]
          rcases hx with hx | hx | hx <;> simp only [hx, Int.reduceGE, true_and, false_and, ↓reduceIte]
          · -- always zero: `(0, 0)`
            exact ⟨_, rfl, by simp only [Inv]; omega, fun v hv => by have := H v hv; simp only; omega⟩
          · -- never zero: `None`
            exact ⟨_, rfl, fun v hv => by have := H v hv; omega⟩
          · -- either: `(0, 0)`, the value when `x` is zero; otherwise `y` fails
            exact ⟨_, rfl, by simp only [Inv]; omega, fun v hv => by have := H v hv; simp only; omega⟩
        case or =>
          simp only [Codomain.visit, ha, hb, ne_eq, Prod.mk.injEq, Int.reduceEq, and_self, and_false, false_and,
            not_false_eq_true, ↓reduceIte]
          rcases hx with hx | hx | hx <;> simp only [hx, Int.reduceGE, true_and, ↓reduceIte]
          · -- always zero: `None`
            exact ⟨_, rfl, fun v hv => by have := H v hv; omega⟩
          · -- never zero: `(1, 1)`
            exact ⟨_, rfl, by simp only [Inv]; omega, fun v hv => by have := H v hv; simp only; omega⟩
          · -- either: `(1, 1)`, the value when `x` is not zero; otherwise `y` fails
            exact ⟨_, rfl, by simp only [Inv]; omega, fun v hv => by have := H v hv; simp only; omega⟩
      | some y =>
        obtain ⟨y0, y1⟩ := y
        have hy := inv_cases sb.inv
        simp only [Option.getD] at H
        cases op <;>
          simp only [Codomain.visit, ha, hb, ne_eq, Prod.mk.injEq, Int.reduceEq, and_self, and_false, false_and,
            not_false_eq_true, ↓reduceIte] <;>
          rcases hx with hx | hx | hx <;> rcases hy with hy | hy | hy <;>
          simp only [hx, hy, Int.reduceGE, true_and, false_and, ↓reduceIte] <;>
          exact ⟨_, rfl, by simp only [Inv]; omega, fun v hv => by have := H v hv; simp only; omega⟩
  | ifexp c a b ihc iha ihb =>
    obtain ⟨rc, hc, sc⟩ := ihc
    obtain ⟨ra, ha, sa⟩ := iha
    obtain ⟨rb, hb, sb⟩ := ihb
    simp only [Codomain.visit, Evaluator.visit, hc, ha, hb]
    -- the test is a strict operand; what follows is a branch of the analysis against `if vc ≠ 0 then … else …`
    refine strict1 sc fun ⟨t0, t1⟩ it => ?_
    simp only [Inv] at it
    -- the test may come out either way, is never zero, is always zero
    have ht : t1 > 0 ∧ t0 = 0 ∨ t1 > 0 ∧ ¬t0 = 0 ∨ ¬t1 > 0 ∧ t0 = 0 := by omega
    rcases ht with ht | ht | ht <;> simp only [ht, ↓reduceIte]
    · cases ra with
      | none => exact ⟨_, rfl, fun vc _ => sb.mono fun v hv => (ok_of_ite hv).resolve_left (sa.fails v)⟩
      | some x =>
        cases rb with
        | none => exact ⟨_, rfl, fun vc _ => Sound.mono (r := some x) sa fun v hv => (ok_of_ite hv).resolve_right (sb.fails v)⟩
        | some y => exact ⟨_, rfl, fun vc _ => sa.hull sb fun v => ok_of_ite⟩
    · cases ra <;> exact ⟨_, rfl, fun vc hvc => by rw [if_pos (by omega)]; exact sa⟩
    · exact ⟨_, rfl, fun vc hvc => by rw [if_neg (by omega)]; exact sb⟩

theorem codomain_ok {M : Int} {e : Expr} {r : Option (Int × Int)} (h : Codomain.visit M e = .ok r) {n : Int}
    (hn : 0 ≤ n ∧ n < M) : Sound M r (Evaluator.visit M n e) := by
  obtain ⟨r', hr, hs⟩ := codomain_main n hn e
  cases hr.symm.trans h
  exact hs

end I18n.Plural
