import I18n.Generated.CheckDates
import I18n.Lemmas.GettextDateGenerated
import I18n.Lemmas.PyKitLemmas
import I18n.Lemmas.Kit.Basic
/-!
# `Checker.check_dates` regenerated from `lib/check/__init__.py` equals the hand-written model `Date.checkDates`

The model answers `none` when an exception escapes; the regenerated method raises a particular exception then: the statement is about
`Except.toOption`.  (`C18.NoCrash` shows the model never answers `none`, so the regenerated method never raises: `Props/C18Tie.lean`.)
-/
-- some simp lemmas below fire only on another spelling of the same source (a comparison turned round, a literal set in another order)
set_option linter.unusedSimpArgs false
set_option linter.unusedVariables false
namespace I18n.Date.Gen
open I18n I18n.Date I18n.Date.Py I18n.Generated I18n.PyKit

theorem toOption_bind {ε α β : Type} (a : Except ε α) (k : α → Except ε β) :
    (Except.bind a k).toOption = a.toOption.bind (fun x => (k x).toOption) := by
  cases a <;> rfl

theorem toOption_ok {ε α : Type} (a : α) : (Except.ok a : Except ε α).toOption = some a := rfl
theorem toOption_error {ε α : Type} (e : ε) : (Except.error e : Except ε α).toOption = none := rfl

theorem pot_name : "POT-Creation-Date".toList = Field.pot.name := by decide
theorem po_name : "PO-Revision-Date".toList = Field.po.name := by decide
theorem pot_is_pot : startswith Field.pot.name "POT-".toList = true ∧ startswith Field.pot.name "PO-".toList = false := by decide
theorem po_is_po : startswith Field.po.name "POT-".toList = false ∧ startswith Field.po.name "PO-".toList = true := by decide

/-- the body of `for date in dates:` as regenerated, for a field `f` (`isPo`: what `field.startswith('PO-')` answers), = the model's `checkOne` -/
theorem date_body (c : Ctx) (f : Field) (pub isPo : Bool) (hpo : isPo = decide (f = .po))
    (date : List Char) (out : List Tag)
    (neq : List Char → Bool) (hneq : ∀ b, neq b = decide (date ≠ b)) :
    (if (c.isTemplate && isPo && decide (date = DateTables.boilerplateDate)) = true then (Except.ok out : Except DErr (List Tag))
     else
       Except.bind (if (date.contains 'T' && pub) = true then Except.ok (some "-0000".toList) else Except.ok none) (fun tz_hint =>
         PyKit.tryElse (GettextDate.fix_date_format date tz_hint)
           [(isBoilerplate, Except.ok (out ++ [⟨"boilerplate-in-date", [Arg.safe (f.name ++ ":".toList), Arg.str date]⟩])),
            (isDateSyntaxError, Except.ok (out ++ [⟨"invalid-date", [Arg.safe (f.name ++ ":".toList), Arg.str date]⟩]))]
           (fun fixed_date =>
             Except.bind (if neq fixed_date = true then
                 Except.ok (out ++ [⟨"invalid-date", [Arg.safe (f.name ++ ":".toList), Arg.str date, Arg.str "=>".toList, Arg.str fixed_date]⟩])
               else Except.ok out) (fun out =>
               Except.bind (GettextDate.parse_date fixed_date) (fun stamp =>
                 Except.bind (if stampAfter stamp (utcNow c) = true then
                     Except.ok (out ++ [⟨"date-from-future", [Arg.safe (f.name ++ ":".toList), Arg.str date]⟩])
                   else Except.ok out) (fun out =>
                   if stampBeforeEpoch stamp = true then
                     Except.ok (out ++ [⟨"ancient-date", [Arg.safe (f.name ++ ":".toList), Arg.str date]⟩])
                   else Except.ok out)))))).toOption
      = (checkOne c.now f c.isTemplate pub date).map (out ++ ·) := by
  subst hpo
  simp only [hneq]
  unfold checkOne
  by_cases hex : c.isTemplate = true ∧ f = .po ∧ date = DateTables.boilerplateDate
  · obtain ⟨h1, h2, h3⟩ := hex
    simp [h1, h2, h3, toOption_ok]
  · have hex' : (c.isTemplate && decide (f = .po) && decide (date = DateTables.boilerplateDate)) = false := by
      simpa [Bool.and_assoc] using hex
    simp only [hex', Bool.false_eq_true, if_false, hex]
    have hh : (if (date.contains 'T' && pub) = true then (Except.ok (some "-0000".toList) : Except DErr (Option (List Char))) else Except.ok none)
        = Except.ok (if date.contains 'T' = true ∧ pub = true then some hintPublican else none) := by
      cases date.contains 'T' <;> cases pub <;> rfl
    rw [hh, bind_ok, fix_date_format_eq]
    generalize (if date.contains 'T' = true ∧ pub = true then some hintPublican else none) = hint
    cases hfx : fix date hint with
    -- an exception goes through the `except` clauses in order (`tryElse_error_cons`): the first two are caught, each with its tag; the
    -- other two pass both clauses and leave the method
    | boilerplate => simp [ofOutcome, tryElse_error_cons, isBoilerplate, toOption_ok]
    | syntaxErr => simp [ofOutcome, tryElse_error_cons, isBoilerplate, isDateSyntaxError, DErr.isDateSyntaxError, toOption_ok]
    | hintErr => simp [ofOutcome, tryElse_error_cons, tryElse_error_nil, isBoilerplate, isDateSyntaxError, DErr.isDateSyntaxError, toOption_error]
    | assertErr => simp [ofOutcome, tryElse_error_cons, tryElse_error_nil, isBoilerplate, isDateSyntaxError, DErr.isDateSyntaxError, toOption_error]
    | ok fixed =>
      simp only [ofOutcome, tryElse_ok, ite_ok, bind_ok, parse_date_eq]
      cases parseCanon fixed with
      | none => simp [toOption_error, Except.bind, Except.toOption]
      | some stamp =>
        simp only [bind_ok, ite_ok, toOption_ok, stampAfter, stampBeforeEpoch, utcNow, Option.map]
        by_cases h1 : date = fixed <;> by_cases h2 : stamp.minutes * 60000000 > c.now <;>
          by_cases h3 : stamp.minutes * 60000000 < DateTables.epochMicros <;> simp [h1, h2, h3, List.append_assoc]

theorem checkAll_nil (now : Int) (f : Field) (t p : Bool) : checkAll now f t p [] = some [] := rfl
theorem checkAll_cons (now : Int) (f : Field) (t p : Bool) (d : List Char) (ds : List (List Char)) :
    checkAll now f t p (d :: ds) = (checkOne now f t p d).bind (fun a => (checkAll now f t p ds).map (a ++ ·)) := by
  simp only [checkAll]
  cases checkOne now f t p d with
  | none => rfl
  | some a => cases checkAll now f t p ds <;> rfl

theorem metadata_keys (c : Ctx) :
    metadataGet c "Content-Type".toList = c.contentType.toList ∧ metadataGet c "POT-Creation-Date".toList = c.pot
      ∧ metadataGet c "PO-Revision-Date".toList = c.po := by
  refine ⟨?_, ?_, ?_⟩ <;> unfold metadataGet <;> simp

theorem forEach_two {α τ ε : Type} (body : α → List τ → Except ε (List τ)) (a b : α) (ga gb : Option (List τ)) (out : List τ)
    (ha : ∀ out, (body a out).toOption = ga.map (out ++ ·)) (hb : ∀ out, (body b out).toOption = gb.map (out ++ ·)) :
    (PyKit.forEach [a, b] body out).toOption =
      (match ga with | none => none | some x => match gb with | none => none | some y => some (x ++ y)).map (out ++ ·) := by
  rw [toOption_forEach]
  simp only [List.foldlM_cons, List.foldlM_nil, ha, hb]
  cases ga <;> cases gb <;> simp [List.append_assoc]

/-- the body of `for field in …:` as regenerated, for the field `f` with its values `dates`, = the model's `checkField` -/
theorem field_body (c : Ctx) (f : Field) (isPot isPo : Bool) (hpot : isPot = decide (f = .pot)) (hpo : isPo = decide (f = .po))
    (dates : List (List Char)) (out : List Tag)
    (body : List Char → List Tag → Except DErr (List Tag))
    (hbody : ∀ date out, (body date out).toOption = (checkOne c.now f c.isTemplate (isPublican c.contentType) date).map (out ++ ·)) :
    (if decide ((dates.length : Int) > 1) = true then
        PyKit.forEach (sortedSet dates) body (out ++ [⟨"duplicate-header-field-date", [Arg.str f.name]⟩])
      else if decide ((dates.length : Int) = 0) = true then
        (if (isPot && c.isBinary) = true then Except.ok out else Except.ok (out ++ [⟨"no-date-header-field", [Arg.str f.name]⟩]))
      else PyKit.forEach dates body out).toOption
      = (checkField c f dates).map (out ++ ·) := by
  subst hpot hpo
  have hall : ∀ xs out, (PyKit.forEach xs body out).toOption =
      (checkAll c.now f c.isTemplate (isPublican c.contentType) xs).map (out ++ ·) :=
    toOption_forEach_collect (checkOne c.now f c.isTemplate (isPublican c.contentType)) _ rfl (checkAll_cons _ _ _ _) body hbody
  unfold checkField
  simp only [Kit.natCast_gt_ofNat, Kit.natCast_eq_ofNat]
  by_cases h1 : dates.length > 1
  · simp only [h1, decide_true, if_true, hall]
    cases checkAll c.now f c.isTemplate (isPublican c.contentType) (sortedSet dates) with
    | none => rfl
    | some ts => simp [List.append_assoc]
  · simp only [h1, decide_false, Bool.false_eq_true, if_false]
    by_cases h0 : dates.length = 0
    · simp only [h0, decide_true, if_true]
      by_cases hb : f = .pot ∧ c.isBinary = true
      · obtain ⟨hb1, hb2⟩ := hb
        simp [hb1, hb2, toOption_ok]
      · have hb' : (decide (f = .pot) && c.isBinary) = false := by simpa using hb
        simp [hb', hb, toOption_ok]
    · simp only [h0, decide_false, Bool.false_eq_true, if_false, hall]

theorem check_dates_eq (c : Ctx) (out : List Tag) :
    (CheckDates.check_dates out c).toOption = (checkDates c).map (out ++ ·) := by
  obtain ⟨hk1, hk2, hk3⟩ := metadata_keys c
  unfold CheckDates.check_dates
  simp only [hk1]
  have hct : PyKit.tryExcept (listFirst c.contentType.toList) isIndexError (Except.ok ([] : List Char)) = Except.ok (c.contentType.getD []) := by
    cases c.contentType <;> rfl
  rw [hct, bind_ok]
  have hpub : startswith (c.contentType.getD []) "application/x-publican;".toList = isPublican c.contentType := by
    unfold startswith isPublican publicanPrefix
    cases c.contentType with
    | none => rfl
    | some ct => rfl
  simp only [hpub]
  unfold checkDates
  refine (forEach_two _ _ _ (checkField c .pot c.pot) (checkField c .po c.po) out ?ha ?hb).trans ?_
  case ha =>
    intro out
    simp only [hk2, pot_name, pot_is_pot.1, pot_is_pot.2]
    refine field_body c .pot true false (by decide) (by decide) c.pot out _ ?_
    intro date out
    refine date_body c .pot (isPublican c.contentType) false (by decide) date out _ ?_
    -- the comparison is a parameter of `date_body`: the source may write `date != fixed_date` or `fixed_date != date`
    intro b; first | rfl | simp [ne_comm]
  case hb =>
    intro out
    simp only [hk3, po_name, po_is_po.1, po_is_po.2]
    refine field_body c .po false true (by decide) (by decide) c.po out _ ?_
    intro date out
    refine date_body c .po (isPublican c.contentType) true (by decide) date out _ ?_
    intro b; first | rfl | simp [ne_comm]
  cases checkField c .pot c.pot with
  | none => rfl
  | some a => cases checkField c .po c.po <;> rfl

end I18n.Date.Gen
