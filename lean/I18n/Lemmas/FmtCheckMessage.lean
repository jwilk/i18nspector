import I18n.Lemmas.FmtCheckNamed
/-!
# `check_message` in closed form, generically in the back end

`check_message` first collects the comparisons to make (`Plan`s) and then runs them.  Where the parser raises only its own errors
(`NoCrashOn`), the collecting loops that thread `Except` are `flatMap` / `filterMap` over `stringTags`, `planOf`:
`checkMessage_run`; where moreover `check_args` returns on every plan (`PlanOk`), running them is a `flatMap` over `planTags`
(`runPlans_eq`).  What the cascade `pluralPlan` decides; and `checkMessage_total`: no exception, given an invariant `Good` of
format objects that the parser establishes and under which `check_args` returns.
-/
namespace I18n.FmtCheck
open I18n I18n.FmtSig I18n.Spec.FmtCompare

variable {σ F : Type}

/-- a back end whose parser only raises its own `Error` classes on the given string -/
def NoCrashOn (b : Backend σ F) (s : σ) : Prop := ∀ e, b.parse s ≠ .crash e

/-- the tags `check_string` emits for `s` (`[]` where the parser crashes: `NoCrashOn` is there to exclude it, `checkString_eq`) -/
def stringTags (b : Backend σ F) (ctx : Ctx) (msg : Msg σ) (s : σ) : List TagCall :=
  match b.parse s with
  | .ok f => b.okTags ctx.isTemplate msg.msgidPlural.isSome msg.pfx msg.repr f
  | .own => [⟨b.errTag, [msg.pfx]⟩]
  | .crash _ => []

/-- the format object `check_string` returns (under `NoCrashOn`, likewise) -/
def stringFmt (b : Backend σ F) (s : σ) : Option F :=
  match b.parse s with
  | .ok f => some f
  | _ => none

theorem stringFmt_eq_some {b : Backend σ F} {s : σ} {f : F} : stringFmt b s = some f ↔ b.parse s = .ok f := by
  unfold stringFmt
  cases b.parse s <;> simp

theorem stringTags_ok {b : Backend σ F} (ctx : Ctx) (msg : Msg σ) {s : σ} {f : F} (h : b.parse s = .ok f) :
    stringTags b ctx msg s = b.okTags ctx.isTemplate msg.msgidPlural.isSome msg.pfx msg.repr f := by
  unfold stringTags
  rw [h]

theorem stringTags_own {b : Backend σ F} (ctx : Ctx) (msg : Msg σ) {s : σ} (h : b.parse s = .own) :
    stringTags b ctx msg s = [⟨b.errTag, [msg.pfx]⟩] := by
  unfold stringTags
  rw [h]

theorem checkString_eq (b : Backend σ F) (ctx : Ctx) (msg : Msg σ) (s : σ) (h : NoCrashOn b s) :
    checkString b ctx msg s = .ok (stringTags b ctx msg s, stringFmt b s) := by
  unfold checkString stringTags stringFmt
  cases hp : b.parse s with
  | ok f => rfl
  | own => rfl
  | crash e => exact absurd hp (h e)

/-- the comparison planned for `msgstr[i] = s`, if any: the string must parse and the form index must have a preimage -/
def planOf (b : Backend σ F) (fl : Flags) (f0 f1 : Option F) (pre : CheckPlurals.Preimage) (p : Nat × σ) : Option (Plan F) :=
  match stringFmt b p.2, preimageGet pre p.1 with
  | some d, some pi => some (pluralPlan b f0 f1 p.1 d (pi.filter fl.inRange))
  | _, _ => none

theorem planOf_eq_some {b : Backend σ F} {fl : Flags} {f0 f1 : Option F} {pre : CheckPlurals.Preimage} {p : Nat × σ} {d : Plan F} :
    planOf b fl f0 f1 pre p = some d ↔ ∃ g pi, b.parse p.2 = .ok g ∧ preimageGet pre p.1 = some pi ∧
      pluralPlan b f0 f1 p.1 g (pi.filter fl.inRange) = d := by
  unfold planOf
  split
  next g pi hg hpi =>
    rw [Option.some.injEq]
    refine ⟨fun h => ⟨g, pi, stringFmt_eq_some.1 hg, hpi, h⟩, ?_⟩
    rintro ⟨g', pi', hg', hpi', h⟩
    rw [stringFmt_eq_some.2 hg'] at hg
    rw [hpi'] at hpi
    cases hg
    cases hpi
    exact h
  next hno =>
    exact ⟨fun h => (nomatch h), fun ⟨g, pi, hg, hpi, _⟩ => (hno g pi (stringFmt_eq_some.2 hg) hpi).elim⟩

theorem pluralPlans_eq (b : Backend σ F) (ctx : Ctx) (msg : Msg σ) (fl : Flags) (f0 f1 : Option F) (pre : CheckPlurals.Preimage) :
    ∀ L : List (Nat × σ), (∀ p ∈ L, NoCrashOn b p.2) →
      pluralPlans b ctx msg fl f0 f1 pre L =
        .ok (L.flatMap (fun p => stringTags b ctx msg p.2), L.filterMap (planOf b fl f0 f1 pre))
  | [], _ => rfl
  | (i, s) :: rest, h => by
    rw [pluralPlans, checkString_eq b ctx msg s (h (i, s) List.mem_cons_self),
      pluralPlans_eq b ctx msg fl f0 f1 pre rest fun p hp => h p (List.mem_cons_of_mem _ hp),
      List.flatMap_cons, List.filterMap_cons]
    unfold planOf
    cases stringFmt b s with
    | none => rfl
    | some d =>
      cases preimageGet pre i with
      | none => rfl
      | some pi => rfl

/-- what one planned comparison emits (`[]` where `check_args` raises: `PlanOk` is there to exclude it) -/
def planTags (b : Backend σ F) (pfx : Extra) (d : Plan F) : List TagCall :=
  match d.dst, d.src with
  | some dst, some src =>
    match b.checkArgs pfx d.srcLoc src d.dstLoc dst d.omittedOk with
    | .ok t => t
    | .error _ => []
  | _, _ => []

def PlanOk (b : Backend σ F) (pfx : Extra) (d : Plan F) : Prop :=
  ∀ src dst, d.src = some src → d.dst = some dst → ∃ t, b.checkArgs pfx d.srcLoc src d.dstLoc dst d.omittedOk = .ok t

theorem runPlans_eq (b : Backend σ F) (pfx : Extra) : ∀ plans : List (Plan F), (∀ d ∈ plans, PlanOk b pfx d) →
    runPlans b pfx plans = .ok (plans.flatMap (planTags b pfx))
  | [], _ => rfl
  | d :: rest, h => by
    have ih := runPlans_eq b pfx rest fun d hd => h d (List.mem_cons_of_mem _ hd)
    rw [runPlans, List.flatMap_cons, planTags, ih]
    cases hdst : d.dst with
    | none => rfl
    | some dst =>
      cases hsrc : d.src with
      | none => rfl
      | some src =>
        obtain ⟨t, ht⟩ := h d List.mem_cons_self src dst hsrc hdst
        simp only [ht]

/-! ## the cascade: which source, and when an omission may be tolerated -/

theorem pluralPlan_dst (b : Backend σ F) (f0 f1 : Option F) (i : Nat) (d : F) (p : List Nat) :
    (pluralPlan b f0 f1 i d p).dst = some d ∧ (pluralPlan b f0 f1 i d p).dstLoc = msgstrLoc i := by
  fun_cases pluralPlan b f0 f1 i d p
  all_goals exact ⟨rfl, rfl⟩

theorem pluralPlan_src (b : Backend σ F) (f0 f1 : Option F) (i : Nat) (d : F) (p : List Nat) :
    (p = [1] → (pluralPlan b f0 f1 i d p).src = f0 ∧ (pluralPlan b f0 f1 i d p).srcLoc = "msgid".toList) ∧
    (p ≠ [1] → (pluralPlan b f0 f1 i d p).src = f1 ∧ (pluralPlan b f0 f1 i d p).srcLoc = "msgid_plural".toList) := by
  fun_cases pluralPlan b f0 f1 i d p
  case case1 h => exact ⟨fun _ => ⟨rfl, rfl⟩, fun hn => absurd h hn⟩  -- `p = [1]`
  -- the three arms under `p ≠ [1]` all read `msgid_plural`
  all_goals exact ⟨fun h => absurd h ‹_›, fun _ => ⟨rfl, rfl⟩⟩

/-- **C14's clause `omission_only_if`** (`Props.C14.plural_form_plan`), both ways: the comparison planned for a form tolerates
    an omitted integer argument exactly when the form is selected for a single `n` (or none), or for `0` and one other `n` — and,
    where that single `n` is `1`, `msgid` and `msgid_plural` have equally many items -/
theorem pluralPlan_omittedOk_iff (b : Backend σ F) (f0 f1 : Option F) (i : Nat) (d : F) (p : List Nat) :
    (pluralPlan b f0 f1 i d p).omittedOk = true ↔
      OmissionPermitted p ∧ (p = [1] → ∃ a c, f0 = some a ∧ f1 = some c ∧ b.len a = b.len c) := by
  fun_cases pluralPlan b f0 f1 i d p
  case case1 hp =>  -- `p = [1]`: tolerant iff both source strings parse with equally many items
    have hperm : OmissionPermitted p := Or.inl (by rw [hp]; exact Nat.le_refl 1)
    cases f0 with
    | none =>
      refine ⟨fun h => (nomatch h), fun h => ?_⟩
      obtain ⟨_, _, h0, _⟩ := h.2 hp
      cases h0
    | some a =>
      cases f1 with
      | none =>
        refine ⟨fun h => (nomatch h), fun h => ?_⟩
        obtain ⟨_, _, _, h1, _⟩ := h.2 hp
        cases h1
      | some c =>
        refine ⟨fun h => ⟨hperm, fun _ => ⟨a, c, rfl, rfl, beq_iff_eq.1 h⟩⟩, fun h => ?_⟩
        obtain ⟨_, _, h0, h1, hlen⟩ := h.2 hp
        cases h0
        cases h1
        exact beq_iff_eq.2 hlen
  case case2 hp hl =>  -- at most one `n`, not `[1]`: tolerant
    exact ⟨fun _ => ⟨Or.inl hl, fun h => absurd h hp⟩, fun _ => rfl⟩
  case case3 hp _ hc =>  -- two `n`, the first of them `0`: tolerant
    refine ⟨fun _ => ⟨?_, fun h => absurd h hp⟩, fun _ => rfl⟩
    obtain ⟨hlen, hhead⟩ := Bool.and_eq_true_iff.1 hc
    match p, (beq_iff_eq.1 hlen : p.length = 2), hhead with
    | [a, k], _, hhead =>
      obtain rfl : a = 0 := Option.some.inj (beq_iff_eq.1 hhead)
      exact Or.inr ⟨k, rfl⟩
  case case4 hp hl hc =>  -- anything else: strict
    refine ⟨fun h => (nomatch h), fun h => ?_⟩
    rcases h.1 with h | ⟨k, rfl⟩
    · exact absurd h hl
    · exact absurd rfl hc

/-- a form selected for two or more `n`, other than `{0, k}`, never tolerates an omission -/
theorem pluralPlan_strict (b : Backend σ F) (f0 f1 : Option F) (i : Nat) (d : F) (p : List Nat)
    (h : ¬ OmissionPermitted p) : (pluralPlan b f0 f1 i d p).omittedOk = false :=
  Bool.eq_false_iff.2 fun hc => h ((pluralPlan_omittedOk_iff b f0 f1 i d p).1 hc).1

/-! ## the steps of `check_message` in closed form -/

def msgstrPlanOf (b : Backend σ F) (msg : Msg σ) (f0 : Option F) : Plan F :=
  { srcLoc := "msgid".toList, src := f0, dstLoc := "msgstr".toList, dst := stringFmt b msg.msgstr, omittedOk := false }

theorem msgstrPlan_eq (b : Backend σ F) (ctx : Ctx) (msg : Msg σ) (f0 : Option F) (hs : NoCrashOn b msg.msgstr) :
    msgstrPlan b ctx msg f0 = .ok (if b.truthy msg.msgstr then stringTags b ctx msg msg.msgstr else [],
      if b.truthy msg.msgstr then [msgstrPlanOf b msg f0] else []) := by
  unfold msgstrPlan
  by_cases ht : b.truthy msg.msgstr = true
  · rw [if_pos ht, if_pos ht, if_pos ht, checkString_eq b ctx msg _ hs]
    rfl
  · rw [if_neg ht, if_neg ht, if_neg ht]

/-- string diagnostics and plans for the `msgstr[i]` -/
def pluralPart (b : Backend σ F) (ctx : Ctx) (msg : Msg σ) (fl : Flags) (f0 f1 : Option F) : List TagCall × List (Plan F) :=
  match ctx.preimage with
  | some (q :: pre) =>
    if msg.msgstrPlural.any (fun p => b.truthy p.2) then
      ((sortBy keyLt msg.msgstrPlural).flatMap (fun p => stringTags b ctx msg p.2),
       (sortBy keyLt msg.msgstrPlural).filterMap (planOf b fl f0 f1 (q :: pre)))
    else ([], [])
  | _ => ([], [])

theorem pluralPart_eq (b : Backend σ F) {ctx : Ctx} (msg : Msg σ) (fl : Flags) (f0 f1 : Option F)
    {q : Int × List Nat} {pre : CheckPlurals.Preimage} (hpre : ctx.preimage = some (q :: pre))
    (hany : msg.msgstrPlural.any (fun p => b.truthy p.2) = true) :
    pluralPart b ctx msg fl f0 f1 =
      ((sortBy keyLt msg.msgstrPlural).flatMap (fun p => stringTags b ctx msg p.2),
       (sortBy keyLt msg.msgstrPlural).filterMap (planOf b fl f0 f1 (q :: pre))) := by
  unfold pluralPart
  rw [hpre]
  exact if_pos hany

theorem msgstrPluralPlans_eq (b : Backend σ F) (ctx : Ctx) (msg : Msg σ) (fl : Flags) (f0 f1 : Option F)
    (hs : ∀ p ∈ msg.msgstrPlural, NoCrashOn b p.2) :
    msgstrPluralPlans b ctx msg fl f0 f1 = .ok (pluralPart b ctx msg fl f0 f1) := by
  have hs' : ∀ p ∈ sortBy keyLt msg.msgstrPlural, NoCrashOn b p.2 := fun p hp => hs p ((mem_sortBy _ _ p).1 hp)
  unfold msgstrPluralPlans pluralPart
  cases ctx.preimage with
  | none => rfl
  | some l =>
    cases l with
    | nil => rfl
    | cons q pre =>
      simp only
      by_cases hany : msg.msgstrPlural.any (fun p => b.truthy p.2) = true
      · simp only [hany, ↓reduceIte, pluralPlans_eq b ctx msg fl f0 f1 (q :: pre) _ hs']
      · simp only [hany, Bool.false_eq_true, ↓reduceIte]

def allPlans (b : Backend σ F) (ctx : Ctx) (msg : Msg σ) (fl : Flags) (f0 f1 : Option F) : List (Plan F) :=
  (if b.truthy msg.msgstr then [msgstrPlanOf b msg f0] else []) ++ (pluralPart b ctx msg fl f0 f1).2

theorem mem_allPlans_iff {b : Backend σ F} {ctx : Ctx} {msg : Msg σ} {fl : Flags} {f0 f1 : Option F} {d : Plan F} :
    d ∈ allPlans b ctx msg fl f0 f1 ↔
      (b.truthy msg.msgstr = true ∧ d = msgstrPlanOf b msg f0) ∨ d ∈ (pluralPart b ctx msg fl f0 f1).2 := by
  unfold allPlans
  rw [List.mem_append]
  refine or_congr ?_ Iff.rfl
  by_cases ht : b.truthy msg.msgstr = true
  · rw [if_pos ht, List.mem_singleton]
    exact (and_iff_right ht).symm
  · rw [if_neg ht]
    exact iff_of_false List.not_mem_nil fun h => ht h.1

theorem checkTranslations_run (b : Backend σ F) (ctx : Ctx) (msg : Msg σ) (fl : Flags) (f0 f1 : Option F)
    (hf : fl.fuzzy = false) (he : ctx.hasEncoding = true)
    (hs : NoCrashOn b msg.msgstr) (hforms : ∀ p ∈ msg.msgstrPlural, NoCrashOn b p.2) :
    checkTranslations b ctx msg fl f0 f1 = (runPlans b msg.pfx (allPlans b ctx msg fl f0 f1)).map fun t =>
      (if b.truthy msg.msgstr then stringTags b ctx msg msg.msgstr else []) ++ (pluralPart b ctx msg fl f0 f1).1 ++ t := by
  unfold checkTranslations
  rw [if_neg (by rw [hf]; exact Bool.false_ne_true), if_neg (by rw [he]; exact Bool.false_ne_true),
    msgstrPlan_eq b ctx msg f0 hs, msgstrPluralPlans_eq b ctx msg fl f0 f1 hforms]
  unfold allPlans
  simp only
  cases runPlans b msg.pfx _ <;> rfl

theorem checkTranslations_eq (b : Backend σ F) (ctx : Ctx) (msg : Msg σ) (fl : Flags) (f0 f1 : Option F)
    (hf : fl.fuzzy = false) (he : ctx.hasEncoding = true)
    (hs : NoCrashOn b msg.msgstr) (hforms : ∀ p ∈ msg.msgstrPlural, NoCrashOn b p.2)
    (hargs : ∀ d ∈ allPlans b ctx msg fl f0 f1, PlanOk b msg.pfx d) :
    checkTranslations b ctx msg fl f0 f1 = .ok (
      (if b.truthy msg.msgstr then stringTags b ctx msg msg.msgstr else []) ++ (pluralPart b ctx msg fl f0 f1).1 ++
      (allPlans b ctx msg fl f0 f1).flatMap (planTags b msg.pfx)) := by
  rw [checkTranslations_run b ctx msg fl f0 f1 hf he hs hforms, runPlans_eq b msg.pfx _ hargs]
  rfl

/-! ## `check_message` for a translated message outside templates -/

/-- the domain of the property: a PO file (not a template) with a usable charset, message not fuzzy -/
structure InDomain (ctx : Ctx) (fl : Flags) : Prop where
  notTemplate : ctx.isTemplate = false
  encoding : ctx.hasEncoding = true
  notFuzzy : fl.fuzzy = false

theorem msgidFmt_eq (b : Backend σ F) (ctx : Ctx) (msg : Msg σ) (s : σ) (hn : ctx.isTemplate = false) :
    msgidFmt b ctx msg s = match b.parse s with
      | .ok f => .ok (some ([], some f))
      | .own => .ok none
      | .crash e => .error e := by
  unfold msgidFmt
  simp only [hn, Bool.false_eq_true, ↓reduceIte]
  cases b.parse s <;> rfl

theorem msgidFmt_none_template (b : Backend σ F) (ctx : Ctx) (msg : Msg σ) (s : σ) (h : msgidFmt b ctx msg s = .ok none) : ctx.isTemplate = false := by
  cases hT : ctx.isTemplate with
  | false => rfl
  | true =>
    simp only [msgidFmt, hT, if_true] at h
    cases hc : checkString b ctx msg s <;> simp [hc] at h

theorem msgidFmt_tags_nontemplate (b : Backend σ F) (ctx : Ctx) (msg : Msg σ) (s : σ) (tg : List TagCall) (f : Option F)
    (hT : ctx.isTemplate = false) (h : msgidFmt b ctx msg s = .ok (some (tg, f))) : tg = [] := by
  simp only [msgidFmt, hT, Bool.false_eq_true, if_false] at h
  cases hp : b.parse s <;> simp [hp] at h
  exact h.1

theorem checkMessage_inDomain (b : Backend σ F) (ctx : Ctx) (msg : Msg σ) (fl : Flags) (hdom : InDomain ctx fl)
    {f0 : F} (h0 : b.parse msg.msgid = .ok f0) (f1 : Option F)
    (h1 : match msg.msgidPlural with | none => f1 = none | some sp => ∃ g, b.parse sp = .ok g ∧ f1 = some g) :
    checkMessage b ctx msg fl = (checkTranslations b ctx msg fl (some f0) f1).map (b.checkMsgids msg.repr (some f0) ++ ·) := by
  have hpm : pluralMsgidFmt b ctx msg = .ok (some ([], f1)) := by
    unfold pluralMsgidFmt
    cases hpl : msg.msgidPlural with
    | none => rw [hpl] at h1; simp only at h1; subst h1; rfl
    | some sp =>
      rw [hpl] at h1
      obtain ⟨g, hg, rfl⟩ := h1
      simp only
      rw [msgidFmt_eq b ctx msg _ hdom.notTemplate, hg]
  have htm : templateArgs b ctx msg (some f0) f1 = .ok [] := by
    unfold templateArgs
    rw [hdom.notTemplate]
  unfold checkMessage
  rw [msgidFmt_eq b ctx msg _ hdom.notTemplate, h0]
  simp only [hpm, htm]
  cases checkTranslations b ctx msg fl (some f0) f1 <;> rfl

theorem checkMessage_run (b : Backend σ F) (ctx : Ctx) (msg : Msg σ) (fl : Flags) (hdom : InDomain ctx fl)
    {f0 : F} (h0 : b.parse msg.msgid = .ok f0) (f1 : Option F)
    (h1 : match msg.msgidPlural with | none => f1 = none | some sp => ∃ g, b.parse sp = .ok g ∧ f1 = some g)
    (hs : NoCrashOn b msg.msgstr) (hforms : ∀ p ∈ msg.msgstrPlural, NoCrashOn b p.2) :
    checkMessage b ctx msg fl = (runPlans b msg.pfx (allPlans b ctx msg fl (some f0) f1)).map fun t =>
      b.checkMsgids msg.repr (some f0) ++
        ((if b.truthy msg.msgstr then stringTags b ctx msg msg.msgstr else []) ++ (pluralPart b ctx msg fl (some f0) f1).1 ++ t) := by
  rw [checkMessage_inDomain b ctx msg fl hdom h0 f1 h1,
    checkTranslations_run b ctx msg fl (some f0) f1 hdom.notFuzzy hdom.encoding hs hforms]
  cases runPlans b msg.pfx _ <;> rfl

theorem checkMessage_plain_eq (b : Backend σ F) (ctx : Ctx) (msg : Msg σ) (fl : Flags) (hdom : InDomain ctx fl)
    (hpl : msg.msgidPlural = none) (hforms : msg.msgstrPlural = []) {f0 : F} (h0 : b.parse msg.msgid = .ok f0)
    (ht : b.truthy msg.msgstr = true) :
    checkMessage b ctx msg fl = match b.parse msg.msgstr with
      | .ok f => (b.checkArgs msg.pfx "msgid".toList f0 "msgstr".toList f false).map fun tags =>
          b.checkMsgids msg.repr (some f0) ++ (b.okTags false false msg.pfx msg.repr f ++ tags)
      | .own => .ok (b.checkMsgids msg.repr (some f0) ++ [⟨b.errTag, [msg.pfx]⟩])
      | .crash e => .error e := by
  have hpp : msgstrPluralPlans b ctx msg fl (some f0) none = .ok ([], []) := by
    unfold msgstrPluralPlans
    rw [hforms]
    split <;> rfl
  rw [checkMessage_inDomain b ctx msg fl hdom h0 none (by rw [hpl])]
  -- not through `checkTranslations_run`: that takes `NoCrashOn`, and here the `.crash` outcome is an arm of the statement
  unfold checkTranslations msgstrPlan checkString
  rw [hpl, hdom.notTemplate, hdom.notFuzzy, hdom.encoding]
  cases b.parse msg.msgstr with
  | ok f =>
    simp only [ht, hpp, Bool.false_eq_true, ↓reduceIte, Bool.not_true, List.append_nil, runPlans]
    cases b.checkArgs msg.pfx "msgid".toList f0 "msgstr".toList f false <;> rfl
  | own => simp only [ht, hpp, Bool.false_eq_true, ↓reduceIte, Bool.not_true, List.append_nil, runPlans]; rfl
  | crash e => simp only [ht, Bool.false_eq_true, ↓reduceIte, Bool.not_true]; rfl

theorem checkMessage_plain_bare (b : Backend σ F) (hids : ∀ r o, b.checkMsgids r o = []) (hok : ∀ p r f, b.okTags false false p r f = [])
    (ctx : Ctx) (msg : Msg σ) (fl : Flags) (hdom : InDomain ctx fl) (hpl : msg.msgidPlural = none) (hforms : msg.msgstrPlural = [])
    {f0 f : F} (h0 : b.parse msg.msgid = .ok f0) (ht : b.truthy msg.msgstr = true) (h : b.parse msg.msgstr = .ok f) :
    checkMessage b ctx msg fl = b.checkArgs msg.pfx "msgid".toList f0 "msgstr".toList f false := by
  rw [checkMessage_plain_eq b ctx msg fl hdom hpl hforms h0 ht, h]
  simp only [hids, hok, List.nil_append]
  cases b.checkArgs msg.pfx "msgid".toList f0 "msgstr".toList f false <;> rfl

theorem mem_pluralPart_iff (b : Backend σ F) (ctx : Ctx) (msg : Msg σ) (fl : Flags) (f0 f1 : Option F) (d : Plan F) :
    d ∈ (pluralPart b ctx msg fl f0 f1).2 ↔
      ∃ q pre i s g pi, ctx.preimage = some (q :: pre) ∧ msg.msgstrPlural.any (fun p => b.truthy p.2) = true ∧
        (i, s) ∈ msg.msgstrPlural ∧ b.parse s = .ok g ∧ preimageGet (q :: pre) i = some pi ∧
        d = pluralPlan b f0 f1 i g (pi.filter fl.inRange) := by
  constructor
  · fun_cases pluralPart b ctx msg fl f0 f1
    case case1 q pre hpre hany =>
      intro hd
      obtain ⟨p, hp, hpd⟩ := List.mem_filterMap.1 hd
      obtain ⟨g, pi, hg, hpi, rfl⟩ := planOf_eq_some.1 hpd
      exact ⟨q, pre, p.1, p.2, g, pi, hpre, hany, (mem_sortBy _ _ p).1 hp, hg, hpi, rfl⟩
    all_goals exact fun hd => nomatch hd
  · rintro ⟨q, pre, i, s, g, pi, hpre, hany, hmem, hg, hpi, rfl⟩
    rw [pluralPart_eq b msg fl f0 f1 hpre hany]
    exact List.mem_filterMap.2 ⟨(i, s), (mem_sortBy _ _ _).2 hmem, planOf_eq_some.2 ⟨g, pi, hg, hpi, rfl⟩⟩

/-! ## `check_message` never raises, for any context, when the parser and `check_args` do not -/

/-- the string neither crashes the parser nor parses to something outside `Good` -/
def StrOk (b : Backend σ F) (Good : F → Prop) (s : σ) : Prop :=
  NoCrashOn b s ∧ ∀ f, b.parse s = .ok f → Good f

structure MsgOk (b : Backend σ F) (Good : F → Prop) (msg : Msg σ) : Prop where
  msgid : StrOk b Good msg.msgid
  plural : ∀ s, msg.msgidPlural = some s → StrOk b Good s
  msgstr : StrOk b Good msg.msgstr
  forms : ∀ p ∈ msg.msgstrPlural, StrOk b Good p.2

theorem msgOk_of_strOk (b : Backend σ F) {Good : F → Prop} (h : ∀ s, StrOk b Good s) (msg : Msg σ) : MsgOk b Good msg :=
  ⟨h _, fun s _ => h s, h _, fun p _ => h p.2⟩

def ArgsTotal (b : Backend σ F) (Good : F → Prop) : Prop :=
  ∀ pfx srcLoc f dstLoc g ok, Good f → Good g → ∃ t, b.checkArgs pfx srcLoc f dstLoc g ok = .ok t

def GoodOpt (Good : F → Prop) (o : Option F) : Prop := ∀ f, o = some f → Good f

theorem stringFmt_good (b : Backend σ F) (Good : F → Prop) (s : σ) (h : StrOk b Good s) : GoodOpt Good (stringFmt b s) :=
  fun f hf => h.2 f (stringFmt_eq_some.1 hf)

theorem msgidFmt_total (b : Backend σ F) (Good : F → Prop) (ctx : Ctx) (msg : Msg σ) (s : σ) (h : StrOk b Good s) :
    msgidFmt b ctx msg s = .ok none ∨ ∃ tg fo, msgidFmt b ctx msg s = .ok (some (tg, fo)) ∧ GoodOpt Good fo := by
  unfold msgidFmt
  cases ht : ctx.isTemplate with
  | true =>
    simp only [↓reduceIte, checkString_eq b ctx msg s h.1]
    exact Or.inr ⟨_, _, rfl, stringFmt_good b Good s h⟩
  | false =>
    simp only [Bool.false_eq_true, ↓reduceIte]
    cases hp : b.parse s with
    | ok f => exact Or.inr ⟨[], some f, rfl, fun g hg => by cases hg; exact h.2 f hp⟩
    | own => exact Or.inl rfl
    | crash e => exact absurd hp (h.1 e)

theorem planOk_of_good (b : Backend σ F) (Good : F → Prop) (ha : ArgsTotal b Good) (pfx : Extra) (d : Plan F)
    (hs : GoodOpt Good d.src) (hd : GoodOpt Good d.dst) : PlanOk b pfx d := by
  intro src dst hsrc hdst
  exact ha pfx d.srcLoc src d.dstLoc dst d.omittedOk (hs src hsrc) (hd dst hdst)

theorem allPlans_ok (b : Backend σ F) (Good : F → Prop) (ha : ArgsTotal b Good) (ctx : Ctx) (msg : Msg σ) (fl : Flags)
    (hm : MsgOk b Good msg) (f0 f1 : Option F) (h0 : GoodOpt Good f0) (h1 : GoodOpt Good f1) :
    ∀ d ∈ allPlans b ctx msg fl f0 f1, PlanOk b msg.pfx d := by
  intro d hd
  rcases mem_allPlans_iff.1 hd with ⟨_, rfl⟩ | h
  · exact planOk_of_good b Good ha _ _ h0 (stringFmt_good b Good _ hm.msgstr)
  · obtain ⟨_, _, i, s, g, pi, _, _, hmem, hg, _, rfl⟩ := (mem_pluralPart_iff b ctx msg fl f0 f1 d).1 h
    have hgood : Good g := (hm.forms (i, s) hmem).2 g hg
    apply planOk_of_good b Good ha
    · by_cases hp : pi.filter fl.inRange = [1]
      · rw [((pluralPlan_src b f0 f1 i g _).1 hp).1]; exact h0
      · rw [((pluralPlan_src b f0 f1 i g _).2 hp).1]; exact h1
    · rw [(pluralPlan_dst b f0 f1 i g _).1]
      intro f hf; cases hf; exact hgood

theorem checkTranslations_total (b : Backend σ F) (Good : F → Prop) (ha : ArgsTotal b Good) (ctx : Ctx) (msg : Msg σ) (fl : Flags)
    (hm : MsgOk b Good msg) (f0 f1 : Option F) (h0 : GoodOpt Good f0) (h1 : GoodOpt Good f1) :
    ∃ t, checkTranslations b ctx msg fl f0 f1 = .ok t := by
  by_cases hf : fl.fuzzy = true
  · exact ⟨[], by unfold checkTranslations; simp [hf]⟩
  · by_cases he : ctx.hasEncoding = true
    · simp only [Bool.not_eq_true] at hf
      exact ⟨_, checkTranslations_eq b ctx msg fl f0 f1 hf he hm.msgstr.1 (fun p hp => (hm.forms p hp).1)
        (allPlans_ok b Good ha ctx msg fl hm f0 f1 h0 h1)⟩
    · exact ⟨[], by unfold checkTranslations; simp [hf, he]⟩

theorem checkMessage_total (b : Backend σ F) (Good : F → Prop) (ha : ArgsTotal b Good) (ctx : Ctx) (msg : Msg σ) (fl : Flags)
    (hm : MsgOk b Good msg) : ∃ t, checkMessage b ctx msg fl = .ok t := by
  unfold checkMessage
  rcases msgidFmt_total b Good ctx msg msg.msgid hm.msgid with h | ⟨tg0, f0, h, hg0⟩
  · rw [h]; exact ⟨[], rfl⟩
  · rw [h]
    simp only
    have hsecond : pluralMsgidFmt b ctx msg = .ok none ∨
        ∃ tg1 f1, pluralMsgidFmt b ctx msg = .ok (some (tg1, f1)) ∧ GoodOpt Good f1 := by
      unfold pluralMsgidFmt
      cases hpl : msg.msgidPlural with
      | none => exact Or.inr ⟨[], none, rfl, fun f hf => by cases hf⟩
      | some s => exact msgidFmt_total b Good ctx msg s (hm.plural s hpl)
    rcases hsecond with h2 | ⟨tg1, f1, h2, hg1⟩
    · rw [h2]; exact ⟨[], rfl⟩
    · rw [h2]
      simp only
      have htmpl : ∃ tg2, templateArgs b ctx msg f0 f1 = .ok tg2 := by
        fun_cases templateArgs b ctx msg f0 f1
        case case1 a c _ => exact ha _ _ c _ a true (hg1 c rfl) (hg0 a rfl)
        case case2 => exact ⟨[], rfl⟩
      obtain ⟨tg2, h3⟩ := htmpl
      rw [h3]
      simp only
      obtain ⟨tg4, h4⟩ := checkTranslations_total b Good ha ctx msg fl hm f0 f1 hg0 hg1
      rw [h4]
      exact ⟨_, rfl⟩

end I18n.FmtCheck
