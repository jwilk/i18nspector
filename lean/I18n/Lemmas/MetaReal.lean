import I18n.Model.MetaReal
/-!
What the `MetaReal*` lemma modules and `PipelineReal` share about the composed checker of `Model/MetaReal.lean` (core Lean so that
the driver can run it): what comes out of `seqEmits` (`seqEmits_mem`, `seqEmits_total`); `messagesOut` as `seqEmits` of the lines of
`check_messages` (`messagesOut_eq`), each of which is the expansion of one emission of C16's `Msg.checkMessages`
(`mem_messagesOut_lines`).
-/
namespace I18n.Meta.Real
open I18n

theorem seqEmits_mem (l : List (List RTag × Bool)) (t : RTag) (ht : t ∈ (seqEmits l).1) : ∃ p ∈ l, t ∈ p.1 := by
  induction l with
  | nil => cases ht
  | cons p rest ih =>
    obtain ⟨ts, r⟩ := p
    cases r with
    | true => exact ⟨(ts, true), List.mem_cons_self, ht⟩
    | false =>
      rcases List.mem_append.1 ht with h | h
      · exact ⟨(ts, false), List.mem_cons_self, h⟩
      · obtain ⟨p, hp, hm⟩ := ih h
        exact ⟨p, List.mem_cons_of_mem _ hp, hm⟩

theorem seqEmits_total (l : List (List RTag × Bool)) (h : ∀ p ∈ l, p.2 = false) : (seqEmits l).2 = false := by
  fun_induction seqEmits l with
  | case1 => rfl
  | case2 ts rest => cases h (ts, true) List.mem_cons_self  -- a line that raised
  | case3 ts rest r ih => exact ih fun q hq => h q (List.mem_cons_of_mem _ hq)

/-- the lines of the loop of `check_messages`: each entry's emissions, expanded for that entry -/
def entryLines (w : World) (fc : FmtCheck.Ctx) (es : List Obs) (per : List (List Msg.Emit)) : List (List RTag × Bool) :=
  (es.zip per).flatMap fun p => p.2.map (expandEmit w fc p.1)

theorem entryLines_cons (w : World) (fc : FmtCheck.Ctx) (o : Obs) (es : List Obs) (out : List Msg.Emit) (per : List (List Msg.Emit)) :
    entryLines w fc (o :: es) (out :: per) = out.map (expandEmit w fc o) ++ entryLines w fc es per := rfl

theorem messagesOut_eq (w : World) (fl : BinFlags) (k : RCtx) :
    messagesOut w fl k = seqEmits (entryLines w (fmtCtx k) k.entries (Msg.trace w.menv (msgCtx fl k) (k.entries.map toMsgEntry)).1
      ++ (Msg.trace w.menv (msgCtx fl k) (k.entries.map toMsgEntry)).2.map expandFinal) := rfl

theorem mem_messagesOut_lines {w : World} {fl : BinFlags} {k : RCtx} {p : List RTag × Bool}
    (hp : p ∈ entryLines w (fmtCtx k) k.entries (Msg.trace w.menv (msgCtx fl k) (k.entries.map toMsgEntry)).1
      ++ (Msg.trace w.menv (msgCtx fl k) (k.entries.map toMsgEntry)).2.map expandFinal) :
    ∃ e ∈ Msg.checkMessages w.menv (msgCtx fl k) (k.entries.map toMsgEntry),
      (∃ o, p = expandEmit w (fmtCtx k) o e) ∨ p = expandFinal e := by
  rcases List.mem_append.1 hp with hp | hp
  · simp only [entryLines, List.mem_flatMap, List.mem_map] at hp
    obtain ⟨q, hq, e, he, rfl⟩ := hp
    refine ⟨e, ?_, .inl ⟨q.1, rfl⟩⟩
    simp only [Msg.checkMessages, List.mem_append, List.mem_flatten]
    exact .inl ⟨q.2, (List.of_mem_zip hq).2, he⟩
  · obtain ⟨e, he, rfl⟩ := List.mem_map.1 hp
    refine ⟨e, ?_, .inr rfl⟩
    simp only [Msg.checkMessages, List.mem_append]
    exact .inr he

end I18n.Meta.Real
