import I18n.Spec.PluralCFG
import I18n.Lemmas.LRActions
/-! `Spec.Amb` (the hand transcription of plural.y's expression grammar) is the language of the productions dumped
    from the live rply parser, read as a plain context-free grammar (`gen_iff_amb`). -/
namespace I18n.PluralParse
open I18n I18n.Spec I18n.PluralLR

/-- the dumped productions, without the action names -/
def dumpedProductions : List (String × List String) := Generated.PluralLR.productions.map fun p => (p.1, p.2.1)

/-- `dumpedProductions` written out (`dumped_eq`), so that membership of a rule is decided on a literal -/
def prodList : List (String × List String) :=
    [("S'", ["start"]), ("exp", ["INT"]), ("exp", ["LPAR", "exp", "RPAR"]), ("exp", ["NOT", "exp"]), ("exp", ["VAR"]),
     ("exp", ["exp", "ADDSUB", "exp"]), ("exp", ["exp", "AND", "exp"]), ("exp", ["exp", "CMP", "exp"]),
     ("exp", ["exp", "EQ", "exp"]), ("exp", ["exp", "IF", "exp", "ELSE", "exp"]), ("exp", ["exp", "MULDIV", "exp"]),
     ("exp", ["exp", "OR", "exp"]), ("start", ["exp"])]

theorem dumped_eq : dumpedProductions = prodList := by decide +kernel

theorem _root_.I18n.Spec.Gen.append {ps a b ts1 ts2} (h1 : Gen ps a ts1) (h2 : Gen ps b ts2) : Gen ps (a ++ b) (ts1 ++ ts2) := by
  induction h1 with
  | nil => simpa using h2
  | term t _ ih => exact .term t ih
  | prod hm hr _ _ ih2 =>
    have := Gen.prod hm hr ih2
    simpa using this

theorem _root_.I18n.Spec.Gen.tok (ps) (t : Tok) : Gen ps [kindName t] [t] := .term t .nil

theorem _root_.I18n.Spec.Gen.rule {ps lhs rhs ts} (hm : (lhs, rhs) ∈ ps) (h : Gen ps rhs ts) : Gen ps [lhs] ts := by
  simpa using Gen.prod (syms := []) hm h .nil

theorem binary_kind {t : Tok} (h : isBinary t = true) :
    kindName t = "OR" ∨ kindName t = "AND" ∨ kindName t = "EQ" ∨ kindName t = "CMP" ∨ kindName t = "ADDSUB" ∨ kindName t = "MULDIV" := by
  cases t <;> simp [isBinary, binInfo] at h
  case bool op => cases op <;> simp [kindName]
  case cmp op => cases op <;> simp [kindName]
  case bin op => cases op <;> simp [kindName]

theorem amb_gen {ts : List Tok} (h : Amb ts) : Gen dumpedProductions ["exp"] ts := by
  rw [dumped_eq]
  induction h with
  | var => exact .rule (rhs := ["VAR"]) (by decide) (.tok _ .var)
  | int n => exact .rule (rhs := ["INT"]) (by decide) (.tok _ (.int n))
  | paren _ ih => exact .rule (rhs := ["LPAR", "exp", "RPAR"]) (by decide) (.term .lpar (ih.append (.tok _ .rpar)))
  | not _ ih => exact .rule (rhs := ["NOT", "exp"]) (by decide) (.term .not ih)
  | @bin l r t ht _ _ ihl ihr =>
    have hm : ("exp", ["exp", kindName t, "exp"]) ∈ prodList := by
      rcases binary_kind ht with h | h | h | h | h | h <;> rw [h] <;> decide
    exact .rule hm (ihl.append (.term t ihr))
  | cond _ _ _ ihc iha ihb =>
    exact .rule (rhs := ["exp", "IF", "exp", "ELSE", "exp"]) (by decide) (ihc.append (.term .qm (iha.append (.term .colon ihb))))

theorem col_kindName (t : Tok) : Generated.PluralLR.terminals[col (some t)]? = some (kindName t) := by
  cases t with
  | bool op => cases op <;> rfl
  | cmp op => cases op <;> rfl
  | bin op => cases op <;> rfl
  | _ => rfl

theorem symOfName_kindName (t : Tok) : symOfName (kindName t) = .t (col (some t)) :=
  symOfName_terminal (col_kindName t)

/-- the dumped productions by number: no right-hand side mentions `S'`, production 0 has it on the left, and the
    left-hand side of every other is the goto column of the resolved production -/
theorem tf_prods : ∀ p, p < 13 → ∀ q, Generated.PluralLR.productions[p]? = some q →
    "S'" ∉ q.2.1 ∧ (p = 0 → q.1 = "S'") ∧ ∀ pr, T.prods[p]? = some pr → 1 ≤ p → symOfName q.1 = .nt pr.lhs := by
  decide +kernel

/-- `Gen ⊆ Amb`: a sentential form is spanned by a stack of values of the LR driver — a token for a terminal, for a
    nonterminal what the action function of a production returns on the values spanning its right-hand side; the action
    accepts them because they have the kinds of the right-hand side (`applyAction_defined`), and what it returns spans
    a sentence (`applyAction_ok`). -/
theorem gen_args {syms : List String} {ts : List Tok} (h : Gen dumpedProductions syms ts) : "S'" ∉ syms →
    ∃ args : List Val, args.map kind = (syms.map symOfName).map some ∧ SpansV args ts := by
  induction h with
  | nil => exact fun _ => ⟨[], rfl, SpansV_nil.2 rfl⟩
  | term t _ ih =>
    intro h0
    obtain ⟨args, hk, hsp⟩ := ih (fun h => h0 (List.mem_cons_of_mem _ h))
    exact ⟨.tok t :: args, by simp only [List.map_cons, hk, symOfName_kindName]; rfl, SpansV_tok_cons.2 ⟨_, rfl, hsp⟩⟩
  | @prod lhs rhs syms ts1 ts2 hm _ _ ih1 ih2 =>
    intro h0
    obtain ⟨args2, hk2, hsp2⟩ := ih2 (fun h => h0 (List.mem_cons_of_mem _ h))
    obtain ⟨q, hq, ⟨⟩⟩ := List.mem_map.1 hm
    obtain ⟨p, hp⟩ := List.mem_iff_getElem?.1 hq
    have hp13 : p < 13 := (List.getElem?_eq_some_iff.1 hp).1
    obtain ⟨hS, hp0, hlhs⟩ := tf_prods p hp13 q hp
    have hp1 : 1 ≤ p := Nat.pos_of_ne_zero fun h => h0 (hp0 h ▸ List.mem_cons_self)
    obtain ⟨args1, hk1, hsp1⟩ := ih1 hS
    -- the right-hand side as the driver sees it
    have hpin := congrArg (·[p]?) rhs_pin
    simp only [List.getElem?_map, hp, Option.map_some, List.getElem?_range hp13, Option.some.injEq] at hpin
    rw [hpin] at hk1
    obtain ⟨pr, v, hpr, hact⟩ := applyAction_defined p hp1 hp13 args1 hk1
    refine ⟨v :: args2, ?_, SpansV_cons.2 ⟨ts1, ts2, rfl, applyAction_ok hact hsp1, hsp2⟩⟩
    simp only [List.map_cons, hk2, hlhs pr hpr hp1, applyAction_kind_lhs hpr hact]

theorem gen_iff_amb (ts : List Tok) : Gen dumpedProductions ["start"] ts ↔ Amb ts := by
  constructor
  · intro h
    obtain ⟨args, hk, hsp⟩ := gen_args h (by decide)
    rw [show (["start"].map symOfName).map some = [some (Sym.nt 1)] by decide +kernel] at hk
    rcases args with _ | ⟨v, _ | ⟨_, _⟩⟩
    · cases hk
    · have hv := SpansV_singleton.1 hsp
      cases v <;> simp [kind] at hk
      exact hv
    · simp at hk
  · intro h
    exact .rule (rhs := ["exp"]) (by rw [dumped_eq]; decide) (amb_gen h)

end I18n.PluralParse
