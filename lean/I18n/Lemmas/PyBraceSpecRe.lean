import I18n.Lemmas.BraceReKit
import I18n.Lemmas.PyBraceTables
import I18n.Lemmas.PyBraceScan
-- Nothing of `PyBraceSpec` is used below.  Both files run `fun_cases` on `sPrec`, `sFillAlign`, `sLit`, …; each run declares the
-- same auxiliary constants, and `Props.C13`, which imports both, fails with "environment already contains" unless one of the two
-- files imports the other.
import I18n.Lemmas.PyBraceSpec
/-
The first match of the live parse tree of `pybrace._format_spec_re` under the backtracking semantics, at the start of a
specification, is `T2` (`matchAt_formatSpecRe`), and it succeeds iff `scanSpec` does (`formatSpecRe_accepts`).
`R9` … `R2` are the tails of the pattern (`Rn` from the stage of group `n` on), `T9` … `T2` their deterministic readings: the
stage functions of `scanSpec` called one after the other, with positions and captures; `bt_R9` … `bt_R2` prove them equal,
from the end backwards.  `Tn` and `scanSpec` are related through `isSome` only (`Tn_isSome`, `scanSpec_isSome`).
-/
namespace I18n.PyBrace
open I18n.BraceChars I18n.Spec.BraceRe

theorem cls_type (c : Char) : clsTest liveDB false [.word, .lit 37] c = (isWord c || c == '%') := by
  rw [← Kit.Char.toNat_beq c '%']
  simp [clsTest, ClsItem.test, liveDB]

theorem cls_digit (c : Char) : clsTest liveDB false [.digit] c = isDigit c := by
  simp [clsTest, ClsItem.test, liveDB]

theorem cls_ascii_digit (c : Char) : clsTest liveDB false [.range 48 57] c = isAsciiDigit c := by
  simp only [clsTest, ClsItem.test, List.any_cons, List.any_nil, Bool.or_false, Bool.xor_false, isAsciiDigit, Char.le_def,
    UInt32.le_iff_toNat_le]
  rfl

theorem cls_sign (c : Char) : clsTest liveDB false [.lit 32, .lit 43, .lit 45] c = isSign c :=
  (cls_any_of liveDB [' ', '+', '-'] c).trans (by simp [isSign, Bool.beq_eq_decide_eq, Bool.or_assoc])

theorem cls_align (c : Char) : clsTest liveDB false [.lit 60, .lit 62, .lit 61, .lit 94] c = isAlign c :=
  (cls_any_of liveDB ['<', '>', '=', '^'] c).trans (by simp [isAlign, Bool.beq_eq_decide_eq, Bool.or_assoc])

theorem cls_not_close (c : Char) : clsTest liveDB true [.lit 125] c = (c != '}') :=
  (cls_none_of liveDB ['}'] c).trans (by simp [bne, Bool.beq_eq_decide_eq])

def R9 : Re := .seq (.opt (.group 9 (.cls false [.word, .lit 37]))) .eos
def R8 : Re := .seq (.opt (.seq (chr '.') (.group 8 (.plus (.cls false [.digit]))))) R9
def R7 : Re := .seq (.opt (.group 7 (chr ','))) R8
def R6 : Re := .seq (.opt (.group 6 (.plus (.cls false [.range 48 57])))) R7
def R5 : Re := .seq (.opt (.group 5 (chr '0'))) R6
def R4 : Re := .seq (.opt (.group 4 (chr '#'))) R5
def R3 : Re := .seq (.opt (.group 3 (.cls false [.lit 32, .lit 43, .lit 45]))) R4
def R2 : Re :=
  .seq (.opt (.seq (.opt (.group 1 (.cls true [.lit 125]))) (.group 2 (.cls false [.lit 60, .lit 62, .lit 61, .lit 94])))) R3

theorem pinned_spec_split : pinnedFormatSpecRe = .seq .bos R2 := rfl

def T9 (st : St) : Option St :=
  match sType st.rest with
  | (none, []) => some st
  | (some _, []) => some ⟨[], st.pos + 1, (9, st.pos, st.pos + 1) :: st.caps⟩
  | _ => none

def T8 (st : St) : Option St :=
  match sPrec st.rest with
  | (some p, r) => T9 ⟨r, st.pos + 1 + p.length, (8, st.pos + 1, st.pos + 1 + p.length) :: st.caps⟩
  | (none, _) => T9 st

def T7 (st : St) : Option St :=
  match sLit ',' st.rest with
  | (true, r) => T8 ⟨r, st.pos + 1, (7, st.pos, st.pos + 1) :: st.caps⟩
  | (false, _) => T8 st

def T6 (st : St) : Option St :=
  match sWidth st.rest with
  | (some w, r) => T7 ⟨r, st.pos + w.length, (6, st.pos, st.pos + w.length) :: st.caps⟩
  | (none, _) => T7 st

def T5 (st : St) : Option St :=
  match sLit '0' st.rest with
  | (true, r) => T6 ⟨r, st.pos + 1, (5, st.pos, st.pos + 1) :: st.caps⟩
  | (false, _) => T6 st

def T4 (st : St) : Option St :=
  match sLit '#' st.rest with
  | (true, r) => T5 ⟨r, st.pos + 1, (4, st.pos, st.pos + 1) :: st.caps⟩
  | (false, _) => T5 st

def T3 (st : St) : Option St :=
  match sSign st.rest with
  | (some _, r) => T4 ⟨r, st.pos + 1, (3, st.pos, st.pos + 1) :: st.caps⟩
  | (none, _) => T4 st

def T2 (st : St) : Option St :=
  match sFillAlign st.rest with
  | (some _, some _, r) => T3 ⟨r, st.pos + 2, (2, st.pos + 1, st.pos + 2) :: (1, st.pos, st.pos + 1) :: st.caps⟩
  | (none, some _, r) => T3 ⟨r, st.pos + 1, (2, st.pos, st.pos + 1) :: st.caps⟩
  | (_, none, _) => T3 st

/- whether a later stage succeeds depends on the text alone: where a stage takes nothing it leaves the text as it is (each
   case of its scanner shows that), and position and captures do not matter to what follows -/

theorem T9_isSome (r : List Char) (p : Nat) (c : Caps) : (T9 ⟨r, p, c⟩).isSome = (sType r).2.isEmpty := by
  simp only [T9]
  cases h : sType r with
  | mk o r' => cases o <;> cases r' <;> simp

theorem T8_isSome (r : List Char) (p : Nat) (c : Caps) : (T8 ⟨r, p, c⟩).isSome = (sType (sPrec r).2).2.isEmpty := by
  simp only [T8]
  fun_cases sPrec r <;> exact T9_isSome ..

theorem T7_isSome (r : List Char) (p : Nat) (c : Caps) :
    (T7 ⟨r, p, c⟩).isSome = (sType (sPrec (sLit ',' r).2).2).2.isEmpty := by
  simp only [T7]
  fun_cases sLit ',' r <;> exact T8_isSome ..

theorem T6_isSome (r : List Char) (p : Nat) (c : Caps) :
    (T6 ⟨r, p, c⟩).isSome = (sType (sPrec (sLit ',' (sWidth r).2).2).2).2.isEmpty := by
  simp only [T6]
  fun_cases sWidth r <;> exact T7_isSome ..

theorem T6_indep (r : List Char) (p p' : Nat) (c c' : Caps) : (T6 ⟨r, p, c⟩).isSome = (T6 ⟨r, p', c'⟩).isSome := by
  rw [T6_isSome, T6_isSome]

theorem T5_isSome (r : List Char) (p : Nat) (c : Caps) :
    (T5 ⟨r, p, c⟩).isSome = (sType (sPrec (sLit ',' (sWidth (sLit '0' r).2).2).2).2).2.isEmpty := by
  simp only [T5]
  fun_cases sLit '0' r <;> exact T6_isSome ..

theorem T4_isSome (r : List Char) (p : Nat) (c : Caps) :
    (T4 ⟨r, p, c⟩).isSome = (sType (sPrec (sLit ',' (sWidth (sLit '0' (sLit '#' r).2).2).2).2).2).2.isEmpty := by
  simp only [T4]
  fun_cases sLit '#' r <;> exact T5_isSome ..

theorem T3_isSome (r : List Char) (p : Nat) (c : Caps) :
    (T3 ⟨r, p, c⟩).isSome = (sType (sPrec (sLit ',' (sWidth (sLit '0' (sLit '#' (sSign r).2).2).2).2).2).2).2.isEmpty := by
  simp only [T3]
  fun_cases sSign r <;> exact T4_isSome ..

theorem T2_isSome (r : List Char) (p : Nat) (c : Caps) :
    (T2 ⟨r, p, c⟩).isSome =
      (sType (sPrec (sLit ',' (sWidth (sLit '0' (sLit '#' (sSign (sFillAlign r).2.2).2).2).2).2).2).2).2.isEmpty := by
  simp only [T2]
  fun_cases sFillAlign r <;> exact T3_isSome ..

theorem bt_R9 (st : St) : bt liveDB R9 st some = T9 st := by
  obtain ⟨rest, pos, caps⟩ := st
  simp only [R9, bt_seq, bt_opt_or, bt_group, bt_eos, T9]
  fun_cases sType rest with
  | case1 c r hc =>
    -- a type character is taken; both readings succeed only at the end of the text, and `c :: r` is not the end
    simp only [bt_cls_cons, cls_type, hc, if_true]
    cases r <;> rfl
  | case2 c r hc =>
    simp only [bt_cls_cons, cls_type, hc]
    rfl
  | case3 => rfl

theorem T9_cons {c : Char} {r : List Char} {pos : Nat} {caps : Caps} (h : T9 ⟨c :: r, pos, caps⟩ ≠ none) :
    r = [] ∧ (isWord c || c == '%') = true := by
  simp only [T9, sType] at h
  by_cases hc : (isWord c || c == '%') = true
  · simp only [hc, if_true] at h
    cases r with
    | nil => exact ⟨rfl, hc⟩
    | cons d r' => simp at h
  · simp [hc] at h

theorem T9_nil (pos : Nat) (caps : Caps) : T9 ⟨[], pos, caps⟩ = some ⟨[], pos, caps⟩ := by simp [T9, sType]

theorem T9_of_not_type {c : Char} (hc : (isWord c || c == '%') = false) (r : List Char) (pos : Nat) (caps : Caps) :
    T9 ⟨c :: r, pos, caps⟩ = none := by
  simp [T9, sType, hc]

theorem bt_R8 (st : St) : bt liveDB R8 st some = T8 st := by
  obtain ⟨rest, pos, caps⟩ := st
  simp only [R8, bt_seq, bt_opt_or, funext bt_R9]
  cases rest with
  | nil => rfl
  | cons c r =>
    rw [bt_chr_cons]
    by_cases hc : c = '.'
    · subst hc
      -- the run of digits is maximal: the type that may follow is a single last character
      rw [if_pos rfl, bt_group, bt_plus_cls liveDB false _ _ cls_digit _ (fun c0 r0 p0 cp0 _ hne => by
        rw [(T9_cons hne).1]; simp [T9_nil])]
      simp only [T8, sPrec, T9_of_not_type (c := '.') (by decide), Option.or_none]
      cases r.takeWhile isDigit <;> simp
    · simp [hc, T8, sPrec_cons_ne hc]

/- `Tn_inert`: no stage from `n` on takes `c`, so `Tn` fails on `c :: r` -/
theorem T8_inert {c : Char} (h1 : c ≠ '.') (h2 : (isWord c || c == '%') = false) (r : List Char) (pos : Nat) (caps : Caps) :
    T8 ⟨c :: r, pos, caps⟩ = none := by
  simp [T8, sPrec_cons_ne h1, T9_of_not_type h2]

theorem T7_inert {c : Char} (h0 : c ≠ ',') (h1 : c ≠ '.') (h2 : (isWord c || c == '%') = false) (r : List Char) (pos : Nat) (caps : Caps) :
    T7 ⟨c :: r, pos, caps⟩ = none := by
  simp [T7, sLit_cons_ne h0, T8_inert h1 h2]

theorem T6_inert {c : Char} (hd : isAsciiDigit c = false) (h0 : c ≠ ',') (h1 : c ≠ '.') (h2 : (isWord c || c == '%') = false)
    (r : List Char) (pos : Nat) (caps : Caps) : T6 ⟨c :: r, pos, caps⟩ = none := by
  simp [T6, sWidth_nodigit hd, T7_inert h0 h1 h2]

theorem T5_inert {c : Char} (hz : c ≠ '0') (hd : isAsciiDigit c = false) (h0 : c ≠ ',') (h1 : c ≠ '.')
    (h2 : (isWord c || c == '%') = false) (r : List Char) (pos : Nat) (caps : Caps) : T5 ⟨c :: r, pos, caps⟩ = none := by
  simp [T5, sLit_cons_ne hz, T6_inert hd h0 h1 h2]

theorem T4_inert {c : Char} (ha : c ≠ '#') (hz : c ≠ '0') (hd : isAsciiDigit c = false) (h0 : c ≠ ',') (h1 : c ≠ '.')
    (h2 : (isWord c || c == '%') = false) (r : List Char) (pos : Nat) (caps : Caps) : T4 ⟨c :: r, pos, caps⟩ = none := by
  simp [T4, sLit_cons_ne ha, T5_inert hz hd h0 h1 h2]

theorem T3_inert {c : Char} (hs : isSign c = false) (ha : c ≠ '#') (hz : c ≠ '0') (hd : isAsciiDigit c = false) (h0 : c ≠ ',')
    (h1 : c ≠ '.') (h2 : (isWord c || c == '%') = false) (r : List Char) (pos : Nat) (caps : Caps) : T3 ⟨c :: r, pos, caps⟩ = none := by
  simp [T3, sSign_no hs, T4_inert ha hz hd h0 h1 h2]

theorem align_inert {a : Char} (h : isAlign a = true) :
    isSign a = false ∧ a ≠ '#' ∧ a ≠ '0' ∧ isAsciiDigit a = false ∧ a ≠ ',' ∧ a ≠ '.' ∧ (isWord a || a == '%') = false ∧ isDigit a = false := by
  rcases align_cases h with rfl | rfl | rfl | rfl <;> decide

theorem T3_align {a : Char} (h : isAlign a = true) (r : List Char) (pos : Nat) (caps : Caps) : T3 ⟨a :: r, pos, caps⟩ = none := by
  obtain ⟨hs, ha, hz, hd, h0, h1, h2, _⟩ := align_inert h
  exact T3_inert hs ha hz hd h0 h1 h2 r pos caps

/- Each stage is an optional group in front of the next: the deterministic reading takes the group when it matches.  That this
   is the first successful path needs, case by case along the stage's scanner, that the next stage cannot succeed on the text the
   group has declined. -/

theorem bt_R7 (st : St) : bt liveDB R7 st some = T7 st := by
  obtain ⟨rest, pos, caps⟩ := st
  simp only [R7, bt_seq, bt_opt_or, bt_group, funext bt_R8, T7]
  fun_cases sLit ',' rest with
  | case1 r => rw [bt_chr_cons, if_pos rfl, T8_inert (by decide) (by decide), Option.or_none]
  | case2 c r hc => rw [bt_chr_cons, if_neg hc, Option.none_or]
  | case3 => rfl

theorem T7_nil (pos : Nat) (caps : Caps) : T7 ⟨[], pos, caps⟩ = some ⟨[], pos, caps⟩ := by
  simp [T7, sLit, T8, sPrec, T9_nil]

theorem T7_digit {c : Char} (hc : isAsciiDigit c = true) {r : List Char} {pos : Nat} {caps : Caps}
    (h : T7 ⟨c :: r, pos, caps⟩ ≠ none) : r = [] := by
  have h0 : c ≠ ',' := ne_of_class hc (by decide)
  have h1 : c ≠ '.' := ne_of_class hc (by decide)
  simp only [T7, sLit_cons_ne h0, T8, sPrec_cons_ne h1] at h
  exact (T9_cons h).1

theorem bt_R6 (st : St) : bt liveDB R6 st some = T6 st := by
  obtain ⟨rest, pos, caps⟩ := st
  simp only [R6, bt_seq, bt_opt_or, bt_group, funext bt_R7, T6]
  -- after a digit, what follows the width succeeds only at the end of the text, so the run of digits is maximal
  rw [bt_plus_cls liveDB false _ _ cls_ascii_digit _ fun c0 r0 p0 _ hc0 hne => by rw [T7_digit hc0 hne]; simp [T7_nil]]
  fun_cases sWidth rest with
  | case1 h0 => simp [h0]
  | case2 hne =>
    rw [if_neg fun h => hne (List.isEmpty_iff.1 h)]
    refine or_eq_left fun h => ?_
    -- the width was declined: `rest` begins with a digit, so what follows succeeds only if that digit is the whole text
    cases rest with
    | nil => exact absurd rfl hne
    | cons c r =>
      have hc : isAsciiDigit c = true := by
        cases hc : isAsciiDigit c with
        | true => rfl
        | false => simp [hc] at hne
      obtain rfl := T7_digit hc (Option.isSome_iff_ne_none.1 h)
      simp [hc, T7_nil]

/-- a zero that the zero flag declined is read by the width, which then stops where it would have stopped anyway -/
theorem T6_zero (r : List Char) (p p' : Nat) (c c' : Caps) : (T6 ⟨'0' :: r, p, c⟩).isSome = (T6 ⟨r, p', c'⟩).isSome := by
  rw [T6_isSome, T6_isSome, sWidth_snd, sWidth_snd]
  rfl

theorem bt_R5 (st : St) : bt liveDB R5 st some = T5 st := by
  obtain ⟨rest, pos, caps⟩ := st
  simp only [R5, bt_seq, bt_opt_or, bt_group, funext bt_R6, T5]
  fun_cases sLit '0' rest with
  | case1 r =>
    rw [bt_chr_cons, if_pos rfl]
    exact or_eq_left fun h => T6_zero _ pos _ caps _ ▸ h
  | case2 c r hc => rw [bt_chr_cons, if_neg hc, Option.none_or]
  | case3 => rfl

theorem bt_R4 (st : St) : bt liveDB R4 st some = T4 st := by
  obtain ⟨rest, pos, caps⟩ := st
  simp only [R4, bt_seq, bt_opt_or, bt_group, funext bt_R5, T4]
  fun_cases sLit '#' rest with
  | case1 r =>
    rw [bt_chr_cons, if_pos rfl, T5_inert (by decide) (by decide) (by decide) (by decide) (by decide), Option.or_none]
  | case2 c r hc => rw [bt_chr_cons, if_neg hc, Option.none_or]
  | case3 => rfl

theorem bt_R3 (st : St) : bt liveDB R3 st some = T3 st := by
  obtain ⟨rest, pos, caps⟩ := st
  simp only [R3, bt_seq, bt_opt_or, bt_group, funext bt_R4, T3]
  fun_cases sSign rest with
  | case1 c r hc =>
    rw [bt_cls_cons, cls_sign, if_pos hc]
    rcases sign_cases hc with rfl | rfl | rfl <;>
      rw [T4_inert (by decide) (by decide) (by decide) (by decide) (by decide) (by decide), Option.or_none]
  | case2 c r hc => rw [bt_cls_cons, cls_sign, if_neg hc, Option.none_or]
  | case3 => rfl

theorem T3_second_align {a : Char} (h : isAlign a = true) (f : Char) (r : List Char) (pos : Nat) (caps : Caps) :
    T3 ⟨f :: a :: r, pos, caps⟩ = none := by
  obtain ⟨hs, ha, hz, hd, h0, h1, h2, hdd⟩ := align_inert h
  by_cases c1 : isSign f = true
  · simp [T3, sSign_yes c1, T4_inert ha hz hd h0 h1 h2]
  · have c1' : isSign f = false := by simpa using c1
    simp only [T3, sSign_no c1']
    by_cases c2 : f = '#'
    · subst c2; simp [T4, sLit_eq, T5_inert hz hd h0 h1 h2]
    · simp only [T4, sLit_cons_ne c2]
      by_cases c3 : f = '0'
      · subst c3; simp [T5, sLit_eq, T6_inert hd h0 h1 h2]
      · simp only [T5, sLit_cons_ne c3]
        by_cases c4 : isAsciiDigit f = true
        · simp [T6, sWidth_digit c4, hd, T7_inert h0 h1 h2]
        · have c4' : isAsciiDigit f = false := by simpa using c4
          simp only [T6, sWidth_nodigit c4']
          by_cases c5 : f = ','
          · subst c5; simp [T7, sLit_eq, T8_inert h1 h2]
          · simp only [T7, sLit_cons_ne c5]
            by_cases c6 : f = '.'
            · subst c6
              have := sPrec_dot_nodigit (r := a :: r) (by intro d r' hh; cases hh; exact hdd)
              simp [T8, this, T9_of_not_type (c := '.') (by decide)]
            · simp only [T8, sPrec_cons_ne c6, T9, sType]
              by_cases c7 : (isWord f || f == '%') = true
              · simp [c7]
              · simp [c7]

theorem bt_R2 (st : St) : bt liveDB R2 st some = T2 st := by
  obtain ⟨rest, pos, caps⟩ := st
  simp only [R2, bt_seq, bt_opt_or, bt_group, funext bt_R3, T2]
  -- three readings in order: fill and alignment, alignment alone, neither.  Once one with an alignment applies, the later
  -- readings of the same text get stuck on the alignment character (`T3_align`, `T3_second_align`)
  fun_cases sFillAlign rest with
  | case1 f a r h =>
    obtain ⟨hf, ha⟩ : f ≠ '}' ∧ isAlign a = true := by simpa using h
    simp [bt_cls_cons, cls_not_close, cls_align, hf, ha, T3_align ha, T3_second_align ha]
  | case2 f a r h hf =>
    have ha : f ≠ '}' → isAlign a = false := by simpa using h
    have hc : f ≠ '}' := fun hc => absurd (hc ▸ hf) (by decide)
    rw [T3_align hf, Option.or_none]
    simp [bt_cls_cons, cls_not_close, cls_align, hc, hf, ha hc]
  | case3 f a r h hf =>
    have ha : f ≠ '}' → isAlign a = false := by simpa using h
    by_cases hc : f = '}'
    · subst hc; simp [bt_cls_cons, cls_not_close, cls_align, hf]
    · simp [bt_cls_cons, cls_not_close, cls_align, hc, hf, ha hc]
  | case4 f hf =>
    rw [T3_align hf, Option.or_none]
    simp [bt_cls_cons, bt_cls_nil, cls_not_close, cls_align, hf]
  | case5 f hf => simp [bt_cls_cons, bt_cls_nil, cls_not_close, cls_align, hf]
  | case6 => rfl

theorem matchAt_formatSpecRe (cs : List Char) :
    matchAt liveDB I18n.Generated.PyBraceTables.formatSpecRe cs 0 = T2 ⟨cs, 0, []⟩ := by
  rw [formatSpecRe_pin.1, pinned_spec_split]
  simp only [matchAt, bt_seq, bt_bos, if_true]
  exact bt_R2 _

theorem scanSpec_isSome (cs : List Char) :
    (scanSpec cs).isSome =
      (sType (sPrec (sLit ',' (sWidth (sLit '0' (sLit '#' (sSign (sFillAlign cs).2.2).2).2).2).2).2).2).2.isEmpty := by
  simp only [scanSpec]
  cases (sType (sPrec (sLit ',' (sWidth (sLit '0' (sLit '#' (sSign (sFillAlign cs).2.2).2).2).2).2).2).2).2 <;> rfl

theorem formatSpecRe_accepts (cs : List Char) :
    (matchAt liveDB I18n.Generated.PyBraceTables.formatSpecRe cs 0).isSome = (scanSpec cs).isSome := by
  rw [matchAt_formatSpecRe, T2_isSome, scanSpec_isSome]

end I18n.PyBrace
