import I18n.Lemmas.PoLines
import I18n.Lemmas.Kit.Assoc
/-! polib's loop state: what the specification can see of it (`Same`, `abs`), the string fields (`Fld`), noise lines,
`process` once the transition and the handler's result are known, and the closing of a finished entry (`flush`, `Done`, `Fresh`).  `PoCatalog.content`, which the statements of C10 are
written with, is defined here because `abs` needs it. -/
namespace I18n.Lemmas.PoCatalog
open I18n.Po

/-- an entry without the line number polib records for it -/
def content (e : Entry) : Entry := { e with linenum := 0 }

end I18n.Lemmas.PoCatalog

namespace I18n.Lemmas.PoFsm
open I18n I18n.Po I18n.Spec.PoSpelling I18n.Lemmas.PoKit I18n.Lemmas.PoLines
open I18n.Generated.PolibFsm (St Sym Handler)
open PoCatalog (content)

/-- equal up to the two scratch variables `tokens[0]` and `entry_obsolete`: every non-blank line overwrites the first, and the
    second too unless it is an ignored `#~| …` line -/
def Same (a b : PState) : Prop :=
  a.entries = b.entries ∧ a.header = b.header ∧ a.cur = b.cur ∧ a.state = b.state ∧ a.msgstrIndex = b.msgstrIndex

theorem Same.refl (a : PState) : Same a a := ⟨rfl, rfl, rfl, rfl, rfl⟩

theorem same_set {a b : PState} (h : Same a b) (o : Bool) (t : Option Text) :
    { a with entryObsolete := o, lastTok := t } = { b with entryObsolete := o, lastTok := t } := by
  obtain ⟨h1, h2, h3, h4, h5⟩ := h
  cases a; cases b; simp_all

theorem same_of_set (a : PState) (o : Bool) (t : Option Text) : Same a { a with entryObsolete := o, lastTok := t } :=
  ⟨rfl, rfl, rfl, rfl, rfl⟩

theorem noise_step (env : Env) (hsp : env.isSpace = pyIsSpace) (enc : Bytes) (n : Nat) (z : Noise) (hz : z.Valid) (s : PState) :
    ∃ s', stepLine env enc n z.render s = .ok s' ∧ Same s s' := by
  cases z with
  | blank ws => exact ⟨s, stepLine_blank hsp enc n ws hz s, Same.refl s⟩
  | ignoredPrev lpad mid rpad =>
    obtain ⟨hl, hr, hm1, hm2⟩ := hz
    obtain ⟨hs, hsplit⟩ := line_front n lpad _ mid rpad hl hr (Tok.ignoredPrev hm1 hm2) (by decide)
    refine ⟨{ s with lastTok := some ['#', '~', '|'] }, ?_, ⟨rfl, rfl, rfl, rfl, rfl⟩⟩
    simp only [List.cons_append, List.nil_append] at hs hsplit
    simp only [Noise.render, stepLine, hsp, hs, hsplit]
    simp
  | bare lpad k rpad =>
    obtain ⟨hl, hr, hk⟩ := hz
    have hksp : pyIsSpace k = false := by rcases hk with rfl | rfl | rfl <;> decide
    have := stepLine_tok hsp enc n lpad ['#', k] [] rpad hl hr (Tok.bare hksp) (by simp; decide) (by simp)
      (by rcases hk with rfl | rfl | rfl <;> decide) s
    rw [List.append_nil, show splitWs pyIsSpace 1 [] = [] from rfl] at this
    refine ⟨{ s with entryObsolete := false, lastTok := some ['#', k] }, ?_, same_of_set s _ _⟩
    simp only [Noise.render]
    rw [this]
    rcases hk with rfl | rfl | rfl
    · exact (dispatch_hashk .gc env enc n [] [] _).trans (if_pos rfl)
    · exact (dispatch_hashk .oc env enc n [] [] _).trans (if_pos rfl)
    · exact (dispatch_hashk .fl env enc n [] [] _).trans (if_pos rfl)

theorem parseLoop_append (env : Env) (enc : Bytes) (n : Nat) (a b : List Text) (s : PState) :
    parseLoop env enc n (a ++ b) s =
      match parseLoop env enc n a s with
      | .error e => .error e
      | .ok s' => parseLoop env enc (n + a.length) b s' := by
  induction a generalizing n s with
  | nil => simp [parseLoop]
  | cons l ls ih =>
    simp only [List.cons_append, parseLoop]
    cases stepLine env enc (n + 1) l s with
    | error e => rfl
    | ok s1 =>
      simp only [ih]
      have : n + 1 + ls.length = n + (ls.length + 1) := by omega
      simp [this]

theorem parseLoop_last {env : Env} {enc : Bytes} {n : Nat} {b : List Text} {l : Text} {s s' : PState}
    (h : parseLoop env enc n (b ++ [l]) s = .ok s') : ∃ s1, stepLine env enc (n + b.length + 1) l s1 = .ok s' := by
  rw [parseLoop_append] at h
  split at h
  · cases h
  · next s1 _ =>
    simp only [parseLoop] at h
    split at h
    · cases h
    · next h2 => exact ⟨s1, h2.trans h⟩

/-- the string-valued fields of an entry that a keyword line starts and continuation lines extend.  For each of them the
    state after its keyword line (`Fld.st`), the symbol of the line (`Fld.sym`) and the handler (`Fld.handler`) carry its name in
    polib's three enumerations; `Fld.get`/`Fld.set` are what `handle_mc` reads and writes when the state is `Fld.st`. -/
inductive Fld where
  | ct | mi | mp | ms | mx | pc | pm | pp
  deriving DecidableEq

def Fld.st : Fld → St
  | .ct => .ct | .mi => .mi | .mp => .mp | .ms => .ms | .mx => .mx | .pc => .pc | .pm => .pm | .pp => .pp

def Fld.sym : Fld → Sym
  | .ct => .ct | .mi => .mi | .mp => .mp | .ms => .ms | .mx => .mx | .pc => .pc | .pm => .pm | .pp => .pp

def Fld.handler : Fld → Handler
  | .ct => .ct | .mi => .mi | .mp => .mp | .ms => .ms | .mx => .mx | .pc => .pc | .pm => .pm | .pp => .pp

/-- the operand of `+=` in `handle_mc`: `msgid` starts as `''`, the others as `None` -/
def Fld.get (s : PState) : Fld → Option Text
  | .ct => s.cur.msgctxt
  | .mi => some s.cur.msgid
  | .mp => s.cur.msgidPlural
  | .ms => s.cur.msgstr
  | .mx => dictGet? s.msgstrIndex s.cur.msgstrPlural
  | .pc => s.cur.previousMsgctxt
  | .pm => s.cur.previousMsgid
  | .pp => s.cur.previousMsgidPlural

def Fld.set (s : PState) (v : Text) : Fld → PState
  | .ct => { s with cur := { s.cur with msgctxt := some v } }
  | .mi => { s with cur := { s.cur with msgid := v } }
  | .mp => { s with cur := { s.cur with msgidPlural := some v } }
  | .ms => { s with cur := { s.cur with msgstr := some v } }
  | .mx => { s with cur := { s.cur with msgstrPlural := dictSet s.msgstrIndex v s.cur.msgstrPlural } }
  | .pc => { s with cur := { s.cur with previousMsgctxt := some v } }
  | .pm => { s with cur := { s.cur with previousMsgid := some v } }
  | .pp => { s with cur := { s.cur with previousMsgidPlural := some v } }

theorem dictGet?_eq_lookup (k : Nat) (d : List (Nat × Text)) : dictGet? k d = d.lookup k :=
  Kit.eq_lookup (g := fun d k => dictGet? k d) (fun _ => rfl) (fun _ _ _ _ => rfl) d k

theorem dictSet_eq_set (k : Nat) (v : Text) (d : List (Nat × Text)) : dictSet k v d = Kit.set k v d :=
  Kit.eq_set (s := dictSet k v) rfl (fun _ _ _ => rfl) d

theorem dictSet_fresh (k : Nat) (v : Text) (d : List (Nat × Text)) (h : ∀ kv ∈ d, kv.1 < k) : dictSet k v d = d ++ [(k, v)] :=
  (dictSet_eq_set k v d).trans (Kit.set_fresh k v fun kv hkv => Nat.ne_of_lt (h kv hkv))

theorem fld_get_set (f : Fld) (s : PState) (v : Text) : f.get (f.set s v) = some v := by
  cases f <;> simp [Fld.get, Fld.set, dictGet?_eq_lookup, dictSet_eq_set, Kit.lookup_set]

theorem fld_set_set (f : Fld) (s : PState) (v w : Text) : f.set (f.set s v) w = f.set s w := by
  cases f <;> simp [Fld.set, dictSet_eq_set, Kit.set_set]

theorem fld_set_state (f : Fld) (s : PState) (v : Text) : (f.set s v).state = s.state := by
  cases f <;> rfl

theorem transition_mc (f : Fld) : transition .mc f.st = some .mc := by cases f <;> decide +kernel

theorem handle_mc (env : Env) (enc : Bytes) (n : Nat) (f : Fld) (cs : List Choice) (t : Text)
    (hu : unescape env enc (render cs) = some t) (s : PState) (hst : s.state = f.st) (v : Text) (hget : f.get s = some v) :
    handle env enc n .mc (quoted cs) s = some (f.set s (v ++ t), false) := by
  cases f <;> simp_all [handle, inner_quoted, Fld.st, Fld.get, Fld.set, appendOpt]

theorem process_mc (env : Env) (enc : Bytes) (n : Nat) (f : Fld) (cs : List Choice) (t : Text)
    (hu : unescape env enc (render cs) = some t) (s : PState) (hst : s.state = f.st) (v : Text) (hget : f.get s = some v) :
    process env enc n .mc (quoted cs) s = .ok (f.set s (v ++ t)) := by
  simp only [process, hst, transition_mc, handle_mc env enc n f cs t hu s hst v hget]
  simp

/-- a state with the two scratch variables at their defaults -/
def mk (es : List Entry) (hd : Text) (cur : Entry) (st : St) (mi : Nat) : PState :=
  { entries := es, header := hd, cur := cur, state := st, msgstrIndex := mi }

theorem same_mk (s : PState) : Same s (mk s.entries s.header s.cur s.state s.msgstrIndex) := ⟨rfl, rfl, rfl, rfl, rfl⟩

theorem same_mk_iff {s : PState} {es hd cur st mi} :
    Same s (mk es hd cur st mi) ↔ s.entries = es ∧ s.header = hd ∧ s.cur = cur ∧ s.state = st ∧ s.msgstrIndex = mi := Iff.rfl

theorem process_of (env : Env) (enc : Bytes) (n : Nat) (sym : Sym) (h : Handler) (tok : Text) (s s' : PState) (ch : Bool)
    (htr : transition sym s.state = some h) (hh : handle env enc n h tok s = some (s', ch)) :
    process env enc n sym tok s =
      .ok (if ch then (match h.toSt? with | some nx => { s' with state := nx } | none => s') else s') := by
  simp only [process, htr, hh]
  cases ch <;> simp
  cases h.toSt? <;> rfl

/-- the state without the line numbers polib records and without the two scratch variables -/
def abs (s : PState) : PState := mk (s.entries.map content) s.header (content s.cur) s.state s.msgstrIndex

theorem abs_entries (s : PState) : (abs s).entries = s.entries.map content := rfl
theorem abs_cur (s : PState) : (abs s).cur = content s.cur := rfl
theorem abs_state (s : PState) : (abs s).state = s.state := rfl

theorem abs_edit (s : PState) (g : Entry → Entry) (hg : ∀ c, content (g c) = g (content c)) (nx : St) :
    abs { s with cur := g s.cur, state := nx } = { abs s with cur := g (abs s).cur, state := nx } := by
  simp only [abs, mk, hg]

theorem abs_of_same {s s' : PState} (h : Same s s') : abs s = abs s' := by
  obtain ⟨h1, h2, h3, h4, h5⟩ := h
  simp only [abs, h1, h2, h3, h4, h5]

theorem abs_set (f : Fld) (s : PState) (v : Text) : abs (f.set s v) = f.set (abs s) v := by cases f <;> rfl

theorem abs_get (f : Fld) (s : PState) : f.get (abs s) = f.get s := by cases f <;> rfl

/-- `flushIfDone` as `abs` sees it: `abs` erases the line number, and `{ linenum := 0 }` is `{}` -/
abbrev flush (a : PState) : PState := flushIfDone 0 a

/-- a message is complete: the next comment, `msgctxt` or `msgid` line closes the entry -/
def Done (s : PState) : Prop := s.state = .ms ∨ s.state = .mx

/-- nothing of an entry has been read yet: the start, or the file's header comment -/
structure Fresh (s : PState) : Prop where
  state : s.state = .st ∨ s.state = .he
  cur : s.cur = {}

theorem not_done_of_state {s : PState} {st : St} (h : s.state = st) (hst : st ≠ .ms ∧ st ≠ .mx) : ¬ Done s := by
  rintro (hd | hd)
  · exact hst.1 (h.symm.trans hd)
  · exact hst.2 (h.symm.trans hd)

theorem Done.not_fresh {s : PState} (hd : Done s) : ¬ Fresh s := fun hf => by
  rcases hd with h | h <;> rcases hf.state with h' | h' <;> cases h.symm.trans h'

theorem abs_flush (n : Nat) (s : PState) : abs (flushIfDone n s) = flush (abs s) := by
  unfold flush flushIfDone
  -- `abs` keeps the state, so both sides take the same branch
  by_cases h : s.state = .ms ∨ s.state = .mx
  · rw [if_pos h, if_pos (by rw [abs_state]; exact h)]; simp [abs, mk, content]
  · rw [if_neg h, if_neg (by rw [abs_state]; exact h)]

theorem flushIfDone_state (n : Nat) (s : PState) : (flushIfDone n s).state = s.state := by
  unfold flushIfDone; split <;> rfl

theorem flushIfDone_header (n : Nat) (s : PState) : (flushIfDone n s).header = s.header := by
  unfold flushIfDone; split <;> rfl

theorem flushIfDone_entryObsolete (n : Nat) (s : PState) : (flushIfDone n s).entryObsolete = s.entryObsolete := by
  unfold flushIfDone; split <;> rfl

theorem flush_of_not_done (a : PState) (h : ¬ Done a) : flush a = a := if_neg h

theorem Done.flush {a : PState} (h : Done a) : flush a = { a with entries := a.entries ++ [a.cur], cur := {} } := if_pos h

theorem Fresh.flush {a : PState} (h : Fresh a) : flush a = a := flush_of_not_done a fun hd => hd.not_fresh h

theorem Fresh.init : Fresh (abs {}) := ⟨Or.inl rfl, rfl⟩

/-- the state into which a keyword line for field `f` writes its string: `msgid_plural`, `msgstr` go on with the current
    entry, the others close a finished one first; `msgid` also records the obsolete marker of its line.  (`msgstr[N]` sets the
    index as well, so `PoRun.run_mx` writes its start state out; the `.mx` case only makes `start_state` hold of every field.) -/
def Fld.start (f : Fld) (o : Bool) (a : PState) : PState :=
  match f with
  | .mp | .ms | .mx => { a with state := f.st }
  | .mi => { flush a with cur := { (flush a).cur with obsolete := o }, state := f.st }
  | _ => { flush a with state := f.st }

theorem start_state (f : Fld) (o : Bool) (a : PState) : (f.start o a).state = f.st := by cases f <;> rfl

theorem set_start_state (f : Fld) (o : Bool) (a : PState) (v : Text) : (f.set (f.start o a) v).state = f.st :=
  (fld_set_state f _ v).trans (start_state f o a)

theorem set_start_entries (f : Fld) (o : Bool) (a : PState) (v : Text) :
    (f.set (f.start o a) v).entries = match f with | .mp | .ms | .mx => a.entries | _ => (flush a).entries := by
  cases f <;> simp only [Fld.set, Fld.start]

theorem set_start_header (f : Fld) (o : Bool) (a : PState) (v : Text) : (f.set (f.start o a) v).header = a.header := by
  cases f <;> simp only [Fld.set, Fld.start, flushIfDone_header]

theorem set_start_cur (f : Fld) (o : Bool) (a : PState) (v : Text) :
    (f.set (f.start o a) v).cur =
      (f.set (match f with
        | .mp | .ms | .mx => a
        | .mi => { flush a with cur := { (flush a).cur with obsolete := o } }
        | _ => flush a) v).cur := by
  cases f <;> simp only [Fld.set, Fld.start]

end I18n.Lemmas.PoFsm
