import I18n.Lemmas.Kit.List
import I18n.Lemmas.MsgBasic
/-
What the hand-written scanners that stand for the regexes decide, stated declaratively:
`search_for_conflict_marker` (`^prefix.+suffix$`, MULTILINE), the `range:` pattern `\A([0-9]+)[.][.]([0-9]+)\Z` with the
flag syntax around it, and `findall` of a pattern whose alternatives consume one character each.
-/
namespace I18n.Msg
open I18n.Tags (Str lit)

theorem isMarkerLine_iff (pre suf line : Str) :
    isMarkerLine pre suf line = true ↔ ∃ m, m ≠ [] ∧ line = pre ++ m ++ suf := by
  simp only [isMarkerLine, Bool.and_eq_true, decide_eq_true_eq]
  constructor
  · rintro ⟨⟨hp, hs⟩, hl⟩
    obtain ⟨m, rfl⟩ := exists_mid hp hs (by omega)
    exact ⟨m, by rintro rfl; simp at hl; omega, rfl⟩
  · rintro ⟨m, hm, rfl⟩
    refine ⟨⟨?_, ?_⟩, ?_⟩
    · exact List.isPrefixOf_iff_prefix.mpr ⟨m ++ suf, by simp⟩
    · exact List.isSuffixOf_iff_suffix.mpr ⟨pre ++ m, by simp⟩
    · have : 0 < m.length := List.length_pos_iff.mpr hm
      simp; omega

theorem splitLines_eq (s : Str) : splitLines s = s.splitOn 10 :=
  Kit.eq_splitOn rfl (fun c cs w ws h => by rw [splitLines, h]) s

theorem searchMarker_eq_some (pre suf s line : Str) :
    searchMarker pre suf s = some line ↔
      ∃ before after, splitLines s = before ++ line :: after ∧ (∃ m, m ≠ [] ∧ line = pre ++ m ++ suf) ∧
        ∀ l ∈ before, ¬∃ m, m ≠ [] ∧ l = pre ++ m ++ suf := by
  simp only [searchMarker, List.find?_eq_some_iff_append, isMarkerLine_iff]
  constructor
  · rintro ⟨h1, before, after, h2, h3⟩
    refine ⟨before, after, h2, h1, ?_⟩
    intro l hl hm
    have := h3 l hl
    rw [Bool.not_eq_true', ← Bool.not_eq_true, isMarkerLine_iff] at this
    exact this hm
  · rintro ⟨before, after, h2, h1, h3⟩
    refine ⟨h1, before, after, h2, ?_⟩
    intro l hl
    rw [Bool.not_eq_true', ← Bool.not_eq_true, isMarkerLine_iff]
    exact h3 l hl

theorem searchMarker_isSome (pre suf s : Str) :
    (searchMarker pre suf s).isSome ↔ ∃ l ∈ splitLines s, ∃ m, m ≠ [] ∧ l = pre ++ m ++ suf := by
  simp only [searchMarker, List.find?_isSome, isMarkerLine_iff]

theorem matchRange_eq_some (sep s : Str) (i j : Nat) (hsep : ∃ c rest, sep = c :: rest ∧ isAsciiDigit c = false) :
    matchRange sep s = some (i, j) ↔
      ∃ d₁ d₂, s = d₁ ++ sep ++ d₂ ∧ d₁ ≠ [] ∧ d₂ ≠ [] ∧ d₁.all isAsciiDigit = true ∧ d₂.all isAsciiDigit = true ∧
        i = decVal d₁ ∧ j = decVal d₂ := by
  constructor
  · intro h
    -- the three tests of `matchRange` passed: `s` is its leading digits, then `sep`, then `t`
    simp only [matchRange, startsWith, Option.ite_none_left_eq_some, Option.some.injEq, Prod.mk.injEq, Bool.not_eq_true',
      Bool.not_eq_false, List.isPrefixOf_iff_prefix] at h
    obtain ⟨h1, ⟨t, ht⟩, h3, rfl, rfl⟩ := h
    rw [← ht, List.drop_left] at h3 ⊢
    simp only [Bool.or_eq_true, Bool.not_eq_true', not_or, Bool.not_eq_false, List.isEmpty_iff] at h1 h3
    have hs : s = s.takeWhile isAsciiDigit ++ sep ++ t := by
      rw [List.append_assoc, ht, List.takeWhile_append_dropWhile]
    exact ⟨s.takeWhile isAsciiDigit, t, hs, h1, h3.1, List.all_takeWhile, h3.2, rfl, rfl⟩
  · obtain ⟨c, srest, rfl, hc⟩ := hsep
    rintro ⟨d₁, d₂, rfl, h1, h2, h3, h4, rfl, rfl⟩
    -- the leading digits are `d₁`: the separator begins with a non-digit
    obtain ⟨htw, hdw⟩ := Kit.span_append (p := isAsciiDigit) (a := d₁) (b := c :: srest ++ d₂) (by simpa using h3) (by simp [hc])
    rw [List.append_assoc, matchRange]
    simp only [htw, hdw]
    simp [startsWith, h1, h2, h4]

theorem parseRange_eq_some (env : FlagEnv) (hsep : ∃ c rest, env.rangeSep = c :: rest ∧ isAsciiDigit c = false) (f : Str) (i j : Nat) :
    parseRange env f = some (i, j) ↔
      ∃ d₁ d₂, strip env.rangeStrip (f.drop env.rangePrefix.length) = d₁ ++ env.rangeSep ++ d₂ ∧ d₁ ≠ [] ∧ d₂ ≠ [] ∧
        d₁.all isAsciiDigit = true ∧ d₂.all isAsciiDigit = true ∧ i = decVal d₁ ∧ j = decVal d₂ ∧ i < j := by
  have : parseRange env f = some (i, j) ↔
      matchRange env.rangeSep (strip env.rangeStrip (f.drop env.rangePrefix.length)) = some (i, j) ∧ i < j := by
    rw [parseRange]
    rcases matchRange env.rangeSep (strip env.rangeStrip (f.drop env.rangePrefix.length)) with _ | ⟨a, b⟩
    · simp
    · simp only [Option.ite_none_right_eq_some, Option.some.injEq, Prod.mk.injEq]
      constructor
      · rintro ⟨hlt, rfl, rfl⟩; exact ⟨⟨rfl, rfl⟩, hlt⟩
      · rintro ⟨⟨rfl, rfl⟩, hlt⟩; exact ⟨hlt, rfl, rfl⟩
  rw [this, matchRange_eq_some _ _ _ _ hsep]
  simp only [← exists_and_right, and_assoc]

theorem mem_findAllFrom_iff (word : Nat → Bool) (alts : List Alt) : ∀ (s : Str) (prev : Option Nat) (c : Nat),
    c ∈ findAllFrom word alts prev s ↔
      ∃ a b, s = a ++ c :: b ∧ alts.any (altMatch word ((a.getLast?).or prev) c b.head?) = true
  | [], _, _ => by simp [findAllFrom]
  | x :: rest, prev, c => by
    have hlast : ∀ a : List Nat, ((x :: a).getLast?).or prev = (a.getLast?).or (some x) := fun a => by
      rw [List.getLast?_cons]; cases a.getLast? <;> simp
    have hstep : c ∈ findAllFrom word alts prev (x :: rest) ↔
        (x = c ∧ alts.any (altMatch word prev c rest.head?) = true) ∨ c ∈ findAllFrom word alts (some x) rest := by
      simp only [findAllFrom]
      by_cases hit : alts.any (altMatch word prev x rest.head?) = true
      · rw [if_pos hit, List.mem_cons]
        exact or_congr_left ⟨fun e => ⟨e.symm, e ▸ hit⟩, fun e => e.1.symm⟩
      · rw [if_neg hit]
        exact (or_iff_right fun ⟨e, h⟩ => hit (e ▸ h)).symm
    -- the position is the first one, or one in the rest
    rw [hstep, mem_findAllFrom_iff word alts rest (some x) c, Kit.exists_split_cons_at]
    simp only [hlast, List.getLast?_nil, Option.none_or]

theorem ccMatch_of_mem_findAllFrom (word : Nat → Bool) (alts : List Alt) (s : Str) (prev : Option Nat) (c : Nat)
    (h : c ∈ findAllFrom word alts prev s) : ∃ a ∈ alts, ccMatch word a.2.1 c = true := by
  obtain ⟨_, _, _, hit⟩ := (mem_findAllFrom_iff word alts s prev c).mp h
  obtain ⟨a, ha, hm⟩ := List.any_eq_true.mp hit
  simp only [altMatch, Bool.and_eq_true] at hm
  exact ⟨a, ha, hm.1.2⟩

end I18n.Msg
