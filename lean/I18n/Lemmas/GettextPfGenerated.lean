import I18n.Generated.GettextPf
/-!
# `parse_plural_forms` regenerated from `lib/gettext.py` equals the hand-written model (both values of `strict`)
-/
namespace I18n.CheckPlurals.Gen
open I18n I18n.CheckPlurals I18n.Generated

theorem lax_eq (s : List Char) :
    GettextPf.parse_plural_forms_lax s = Py.ofResult (parsePluralForms s) := by
  simp only [GettextPf.parse_plural_forms_lax, parsePluralForms, Py.intOfNumeral, Py.parseExpression]
  cases search [] s with
  | none => rfl
  | some m =>
    obtain ⟨lj, ds, ex, rj⟩ := m
    simp only []
    cases PluralParse.tooLong ds.length with
    | true => rfl
    | false =>
      simp only [Bool.false_eq_true, if_false]
      cases PluralParse.parse ex <;> rfl

theorem strict_eq (s : List Char) :
    GettextPf.parse_plural_forms_strict s =
      (match Py.ofResult (parsePluralFormsStrict s) with
       | .ok (n, e, _, _) => .ok (n, e)
       | .error x => .error x) := by
  simp only [GettextPf.parse_plural_forms_strict, parsePluralFormsStrict, parsePluralForms, Py.intOfNumeral, Py.parseExpression]
  cases search [] s with
  | none => rfl
  | some m =>
    obtain ⟨lj, ds, ex, rj⟩ := m
    simp only []
    cases PluralParse.tooLong ds.length with
    | true => rfl
    | false =>
      simp only [Bool.false_eq_true, if_false]
      cases PluralParse.parse ex with
      | ok e =>
        cases lj <;> cases rj <;> simp [Py.ofResult]
      | syntaxError => rfl
      | valueError => rfl

end I18n.CheckPlurals.Gen
