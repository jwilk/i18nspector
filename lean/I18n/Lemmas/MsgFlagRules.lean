import I18n.Lemmas.MsgNoCrash
/-
Reading single flag tags off `flagTags`: the per-flag part and the four dictionary read-outs.
-/
namespace I18n.Msg
open I18n.Tags (Str lit Extra)
open I18n.Spec.MessageRules

theorem has_flagTags_perFlag (env : FlagEnv) (e : Entry) (t : MTag) (h1 : t ≠ .conflictingMessageFlags)
    (h2 : t ≠ .duplicateMessageFlag) (h3 : t ≠ .redundantMessageFlag) :
    has t (flagTags env e) = e.flags.any fun f => has t (perFlag env e e.flags f) := by
  rw [has_flagTags, has_rangeTail_false env e _ t h1 h2, has_positivePairs_false env e _ t h1,
    has_conflictLoop_false env e _ t h1, has_redundantLoop_false env e _ t h3]
  simp only [Bool.or_false]

theorem has_conflictLoop (env : FlagEnv) (e : Entry) (ff : List ((Str × Str) × Str)) :
    has .conflictingMessageFlags (conflictLoop env e ff) = true ↔
      ∃ pn ∈ env.conflictPairs, ∃ fmt, (pn.1, fmt) ∈ keysOf ff ∧ (pn.2, fmt) ∈ keysOf ff := by
  simp only [conflictLoop, has_flatMap, has_map, List.any_eq_true, isTag_tagR, decide_true, and_true,
    mem_commonKeys, mem_keysOf_formatFlagsOf]

theorem has_positivePairs (env : FlagEnv) (e : Entry) (pos : List (Str × Str)) :
    has .conflictingMessageFlags (positivePairs env e pos) = true ↔
      ∃ f1 ∈ keysOf pos, ∃ f2 ∈ keysOf pos, strLt f1 f2 = true ∧ shareExample env f1 f2 = false := by
  simp only [positivePairs, has_flatMap, List.any_eq_true, mem_toSorted]
  constructor
  · rintro ⟨f1, h1, f2, h2, h⟩
    refine ⟨f1, h1, f2, h2, ?_⟩
    cases hl : strLt f1 f2 <;> cases hs : shareExample env f1 f2 <;> simp [hl, hs] at h ⊢
  · rintro ⟨f1, h1, f2, h2, hl, hs⟩
    exact ⟨f1, h1, f2, h2, by simp [hl, hs]⟩

theorem has_redundantLoop {env : FlagEnv} (henv : env.BraceFree) (e : Entry) (fs : List Str) :
    has .redundantMessageFlag (redundantLoop env e (formatDict env fs)) = true ↔
      ∃ fmt, (([] : Str), fmt) ∈ keysOf (formatDict env fs) ∧ (lit "possible", fmt) ∈ keysOf (formatDict env fs) := by
  rw [redundantLoop_eq henv]
  simp only [has_map, List.any_eq_true, isTag_tagR, decide_true, and_true, mem_commonKeys, mem_keysOf_formatFlagsOf]

/-- `henv` is what keeps `safe_format` from raising on the positive flag -/
theorem has_redundant_flagTags {env : FlagEnv} (henv : env.BraceFree) (e : Entry) :
    has .redundantMessageFlag (flagTags env e) = true ↔
      ∃ fmt, (∃ f ∈ e.flags, flagKind env f = .format [] fmt) ∧
             (∃ f ∈ e.flags, flagKind env f = .format (lit "possible") fmt) := by
  -- of the five parts only `redundantLoop` can carry the tag
  have hper : (e.flags.any fun f => has .redundantMessageFlag (perFlag env e e.flags f)) = false :=
    List.any_eq_false.mpr fun f _ => by simp [has_perFlag]
  rw [has_flagTags, hper, has_rangeTail_false env e _ .redundantMessageFlag (by decide) (by decide),
    has_positivePairs_false env e _ .redundantMessageFlag (by decide),
    has_conflictLoop_false env e _ .redundantMessageFlag (by decide)]
  simp only [Bool.or_false, Bool.false_or, has_redundantLoop henv, mem_keysOf_formatDict, mem_toSorted]

theorem mem_keysOf_foldl_rangeStep (env : FlagEnv) (flags : List Str) (r : Nat × Nat) :
    ∀ (fs : List Str) (acc : List ((Nat × Nat) × List (Str × Nat))),
      r ∈ keysOf (fs.foldl (rangeStep env flags) acc) ↔ r ∈ keysOf acc ∨ ∃ f ∈ fs, rangeOf env f = some r
  | [], acc => by simp
  | f :: fs, acc => by
    rw [List.foldl_cons, mem_keysOf_foldl_rangeStep env flags r fs, rangeStep]
    cases hr : rangeOf env f with
    | none => simp [hr]
    | some r' =>
      -- the step adds the key `r'`; the rest is the order of the disjuncts
      simp only [rangeAdd, mem_keysOf_assocSet, List.mem_cons, exists_eq_or_imp, hr, Option.some.injEq, eq_comm (a := r'),
        or_assoc, or_left_comm (a := r = r')]

theorem rangeDict_nodup (env : FlagEnv) (flags fs : List Str) : (keysOf (rangeDict env flags fs)).Nodup :=
  List.foldlRecOn fs (rangeStep env flags) (motive := fun d => (keysOf d).Nodup) List.nodup_nil fun d hd f _ => by
    rw [rangeStep]
    cases rangeOf env f with
    | none => exact hd
    | some r => exact nodup_keysOf_assocSet _ _ _ hd

theorem mem_keysOf_rangeDict (env : FlagEnv) (flags fs : List Str) (r : Nat × Nat) :
    r ∈ keysOf (rangeDict env flags fs) ↔ ∃ f ∈ fs, rangeOf env f = some r := by
  unfold rangeDict
  rw [mem_keysOf_foldl_rangeStep]
  simp [keysOf]

theorem mem_keysOf_rangeDict_toSorted (env : FlagEnv) (flags : List Str) (r : Nat × Nat) :
    r ∈ keysOf (rangeDict env flags (toSorted strLt flags)) ↔ ∃ f ∈ flags, rangeOf env f = some r := by
  simp [mem_keysOf_rangeDict]

theorem length_gt_one_iff_of_nodup {α : Type} : ∀ {l : List α}, l.Nodup → (l.length > 1 ↔ ∃ a ∈ l, ∃ b ∈ l, a ≠ b)
  | [], _ => by simp
  | [x], _ => by simp
  | x :: y :: rest, h => by
    simp only [List.nodup_cons, List.mem_cons, not_or] at h
    constructor
    · intro _; exact ⟨x, by simp, y, by simp, h.1.1⟩
    · intro _; simp

theorem rangeDict_length (env : FlagEnv) (flags : List Str) :
    (rangeDict env flags (toSorted strLt flags)).length > 1 ↔
      ∃ f ∈ flags, ∃ g ∈ flags, ∃ r₁ r₂, rangeOf env f = some r₁ ∧ rangeOf env g = some r₂ ∧ r₁ ≠ r₂ := by
  have hnd := rangeDict_nodup env flags (toSorted strLt flags)
  have hmem := mem_keysOf_rangeDict_toSorted env flags
  have hlen : (rangeDict env flags (toSorted strLt flags)).length = (keysOf (rangeDict env flags (toSorted strLt flags))).length := by
    simp [keysOf]
  rw [hlen, length_gt_one_iff_of_nodup hnd]
  constructor
  · rintro ⟨a, ha, b, hb, hne⟩
    obtain ⟨f, hf, hfa⟩ := (hmem a).mp ha
    obtain ⟨g, hg, hgb⟩ := (hmem b).mp hb
    exact ⟨f, hf, g, hg, a, b, hfa, hgb, hne⟩
  · rintro ⟨f, hf, g, hg, a, b, hfa, hgb, hne⟩
    exact ⟨a, (hmem a).mpr ⟨f, hf, hfa⟩, b, (hmem b).mpr ⟨g, hg, hgb⟩, hne⟩

theorem has_conflicting_rangeTail (env : FlagEnv) (e : Entry) (rd : List ((Nat × Nat) × List (Str × Nat)))
    (hnd : (keysOf rd).Nodup) :
    has .conflictingMessageFlags (rangeTail env e rd) = decide (rd.length > 1) := by
  have hlen : (toSorted pairLt (keysOf rd)).length = rd.length := by
    rw [length_toSorted_of_nodup _ _ hnd]; simp [keysOf]
  rcases rd with _ | ⟨x, _ | ⟨y, rest⟩⟩
  · simp [rangeTail]
  · obtain ⟨k, c⟩ := x
    simp only [rangeTail, List.length_singleton, Nat.lt_irrefl, if_false]
    split <;> simp
  · rcases hts : toSorted pairLt (keysOf (x :: y :: rest)) with _ | ⟨r1, _ | ⟨r2, more⟩⟩
    · simp [hts] at hlen
    · simp [hts] at hlen
    · simp [rangeTail, hts]

theorem has_duplicate_rangeTail (env : FlagEnv) (e : Entry) (rd : List ((Nat × Nat) × List (Str × Nat))) :
    has .duplicateMessageFlag (rangeTail env e rd) = true ↔ ∃ r c, rd = [(r, c)] ∧ (c.map (·.2)).sum > 1 := by
  rcases rd with _ | ⟨⟨r, c⟩, _ | ⟨y, rest⟩⟩
  · simp [rangeTail]
  · have hone : (∃ r' c', [(r, c)] = [(r', c')] ∧ (c'.map (·.2)).sum > 1) ↔ (c.map (·.2)).sum > 1 :=
      ⟨by rintro ⟨_, _, h, hs⟩; cases h; exact hs, fun hs => ⟨r, c, rfl, hs⟩⟩
    rw [hone]
    by_cases hs : (c.map (·.2)).sum > 1 <;> simp [rangeTail, hs]
  · have hlen : ((r, c) :: y :: rest).length > 1 := by simp
    have hmany : ¬∃ r' c', (r, c) :: y :: rest = [(r', c')] ∧ (c'.map (·.2)).sum > 1 := by
      rintro ⟨_, _, h, _⟩; cases h
    rw [rangeTail.eq_def, if_pos hlen, iff_false_right hmany]
    split <;> simp

end I18n.Msg
