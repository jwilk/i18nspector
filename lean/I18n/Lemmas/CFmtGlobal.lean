import I18n.Lemmas.CFmtValid
/-!
# The argument bookkeeping of `FormatString` against the global rules of `Spec.Printf`

The loop over the items is a `Stage` that registers `refsFrom` of the items (`steps_stage`).  On the log it leaves, `collect`
(the `pop(i)` loop) succeeds exactly when the keys are an interval from 1, i.e. `GapFree` (`collect_spec`, `gapFree_iff`), and
returns the uses argument by argument, `argCount` of them (`gapfree_argCount`); the `frozenset` test is `OneType` (`allSameType_iff`).
-/
namespace I18n.CFmt
open I18n.Spec.Printf

/-- every directive is a valid conversion specification whose numerals `int()` accepts: when the scan loop succeeds -/
def AllValid (items : List Item) : Prop := ∀ d ∈ dirs items, DirShort d ∧ ValidDirective d

/-- **The scan loop** with warnings off, as a stage: it succeeds iff every directive is valid (and short), has then registered all
    argument references of the string, in order, and counted the items -/
theorem steps_stage : ∀ (items : List Item) (st : St), ItemsWf items →
    Stage st (steps false items st) (∀ d ∈ dirs items, DirShort d) (∀ d ∈ dirs items, ValidDirective d)
      (refsFrom st.nitems items) (st.nitems + items.length)
  | [], st, _ => Stage.pure.congr (by simp [dirs]) (by simp [dirs])
  -- one item is `items += […]`, for a directive after its `Conversion`; the rest runs from a state with one more item
  | .lit cs :: rest, st, hwf => by
    rw [List.length_cons, ← Nat.add_assoc, Nat.add_right_comm]
    exact (Stage.pure.tick.seq fun a m => steps_stage rest ⟨a, m, _, _⟩ hwf.2.2.2).congr (by simp [dirs]) (by simp [dirs])
  | .dir d :: rest, st, hwf => by
    rw [List.length_cons, ← Nat.add_assoc, Nat.add_right_comm]
    exact ((conversion_stage hwf.1 st).tick.seq fun a m => steps_stage rest ⟨a, m, _, _⟩ hwf.2).congr (by simp [dirs]) (by simp [dirs])

theorem steps_ok_iff (items : List Item) (st st' : St) (hwf : ItemsWf items) :
    steps false items st = .ok st' ↔
      AllValid items ∧ ∃ st1, addAll st (refsFrom st.nitems items) = .ok st1 ∧ st' = setN (st.nitems + items.length) st1 := by
  have hall : ((∀ d ∈ dirs items, DirShort d) ∧ ∀ d ∈ dirs items, ValidDirective d) ↔ AllValid items := by
    simp only [AllValid, imp_and, forall_and]
  rw [(steps_stage items st hwf).ok_iff, ← and_assoc, hall]

/-! ## the gap check -/

/-- `j in self._argument_map`, on the log `L` of registered references -/
def HasKey (L : List (Nat × Entry)) (j : Nat) : Prop := ∃ e, (j, e) ∈ L

theorem usesOf_filter_ne (L : List (Nat × Entry)) {i j : Nat} (h : j ≠ i) :
    usesOf (L.filter (fun p => p.1 != i)) j = usesOf L j := by
  simp only [usesOf, List.filter_filter]
  congr 1
  apply List.filter_congr
  intro p _
  by_cases hp : p.1 = j
  · subst hp; simp [h]
  · have : (p.1 == j) = false := by simpa using hp
    simp [this]

theorem hasKey_filter_ne (L : List (Nat × Entry)) (i j : Nat) :
    HasKey (L.filter (fun p => p.1 != i)) j ↔ HasKey L j ∧ j ≠ i := by
  simp only [HasKey, List.mem_filter, bne_iff_ne, ne_eq]
  constructor
  · rintro ⟨e, h1, h2⟩; exact ⟨⟨e, h1⟩, h2⟩
  · rintro ⟨⟨e, h1⟩, h2⟩; exact ⟨e, h1, h2⟩

theorem hasKey_iff_filter {L : List (Nat × Entry)} {i : Nat} : HasKey L i ↔ L.filter (fun p => p.1 == i) ≠ [] := by
  rw [List.ne_nil_iff_exists_cons]
  constructor
  · rintro ⟨e, he⟩
    exact List.ne_nil_iff_exists_cons.1 (List.ne_nil_of_mem (List.mem_filter.2 ⟨he, beq_self_eq_true i⟩))
  · rintro ⟨x, xs, h⟩
    obtain ⟨h1, h2⟩ := List.mem_filter.1 (h ▸ List.mem_cons_self : x ∈ L.filter (fun p => p.1 == i))
    exact ⟨x.2, beq_iff_eq.1 h2 ▸ h1⟩

theorem keys_succ {L : List (Nat × Entry)} {i k : Nat} (hi : HasKey L i) :
    (∀ j, HasKey L j ↔ i ≤ j ∧ j < i + (k + 1)) ↔
      ∀ j, HasKey (L.filter (fun p => p.1 != i)) j ↔ i + 1 ≤ j ∧ j < i + 1 + k := by
  simp only [hasKey_filter_ne]
  constructor
  · intro h j
    rw [h j]
    omega
  · intro h j
    by_cases hj : j = i
    · subst hj
      exact ⟨fun _ => by omega, fun _ => hi⟩
    · constructor
      · intro hk
        have := (h j).1 ⟨hk, hj⟩
        omega
      · intro hk
        exact ((h j).2 (by omega)).1

theorem uses_range_succ (L : List (Nat × Entry)) (i k : Nat) :
    (List.range (k + 1)).map (fun t => usesOf L (i + t)) =
      usesOf L i :: (List.range k).map (fun t => usesOf (L.filter (fun p => p.1 != i)) (i + 1 + t)) := by
  rw [List.range_succ_eq_map, List.map_cons, List.map_map]
  congr 1
  apply List.map_congr_left
  intro t _
  rw [usesOf_filter_ne L (by omega : i + 1 + t ≠ i)]
  simp only [Function.comp_apply, Nat.add_assoc, Nat.add_comm 1 t]

/-- `hL` (all keys lie in the `fuel` numbers from `i` on) is what keeps the model's last branch — fuel used up with keys left, the
    `assert not map` that cannot fail — out of the statement; `positions_bounds` supplies it with `NL_ARGMAX` for `fuel`. -/
theorem collect_spec (fuel i : Nat) (L : List (Nat × Entry)) (hL : ∀ p ∈ L, i ≤ p.1 ∧ p.1 < i + fuel) :
    (∀ A, collect fuel i L = .ok A ↔
      ∃ k, (∀ j, HasKey L j ↔ i ≤ j ∧ j < i + k) ∧ A = (List.range k).map (fun t => usesOf L (i + t))) ∧
    (∀ e, collect fuel i L = .error e → e = .MissingArgument) := by
  have nilcase : ∀ (i : Nat) (A : List (List Entry)), (Except.ok [] : Except CErr _) = .ok A ↔
      ∃ k, (∀ j, HasKey [] j ↔ i ≤ j ∧ j < i + k) ∧ A = (List.range k).map (fun t => usesOf [] (i + t)) := by
    intro i A
    constructor
    · rintro ⟨⟩
      exact ⟨0, fun j => ⟨fun ⟨e, he⟩ => (by cases he), fun h => (by omega)⟩, rfl⟩
    · rintro ⟨k, hk, rfl⟩
      cases k with
      | zero => rfl
      | succ k =>
        obtain ⟨e, he⟩ := (hk i).2 ⟨Nat.le_refl _, by omega⟩
        cases he
  induction fuel generalizing i L with
  | zero =>
    have : L = [] := by
      cases L with
      | nil => rfl
      | cons p ps => have := hL p (by simp); omega
    subst this
    exact ⟨nilcase i, fun e he => by cases he⟩
  | succ fuel ih =>
    cases hLe : L with
    | nil => exact ⟨nilcase i, fun e he => by cases he⟩
    | cons p0 ps =>
      rw [← hLe]
      have hne : L.isEmpty = false := by rw [hLe]; rfl
      have hmem0 : p0 ∈ L := by rw [hLe]; simp
      simp only [collect, hne, Bool.false_eq_true, if_false]
      cases hg : L.filter (fun p => p.1 == i) with
      | nil =>
        refine ⟨fun A => ⟨fun h => (by cases h), ?_⟩, fun e he => (by cases he; rfl)⟩
        rintro ⟨k, hk, _⟩
        -- `L` has a key (that of `p0`), so the interval is not empty and `i`, its first number, is a key: but no entry has it
        have h0 := (hk p0.1).1 ⟨p0.2, hmem0⟩
        exact (hasKey_iff_filter.1 ((hk i).2 ⟨Nat.le_refl _, by omega⟩) hg).elim
      | cons x xs =>
        have hki : HasKey L i := hasKey_iff_filter.2 (hg ▸ List.cons_ne_nil x xs)
        have huse : (x :: xs).map (·.2) = usesOf L i := by rw [← hg]; rfl
        obtain ⟨ihA, ihE⟩ := ih (i + 1) (L.filter (fun p => p.1 != i)) (by
          intro p hp
          obtain ⟨hp1, hp2⟩ := List.mem_filter.1 hp
          have := hL p hp1
          have hp2 : p.1 ≠ i := by simpa using hp2
          omega)
        simp only [huse]
        constructor
        · intro A
          constructor
          · intro h
            cases hc : collect fuel (i + 1) (L.filter (fun p => p.1 != i)) with
            | error e =>
              rw [hc] at h
              cases h
            | ok A' =>
              rw [hc] at h
              cases h
              obtain ⟨k', hk', rfl⟩ := (ihA A').1 hc
              exact ⟨k' + 1, (keys_succ hki).2 hk', (uses_range_succ L i k').symm⟩
          · rintro ⟨k, hk, rfl⟩
            cases k with
            | zero =>
              have := (hk i).1 hki
              omega
            | succ k => rw [(ihA _).2 ⟨k, (keys_succ hki).1 hk, rfl⟩, uses_range_succ]
        · intro e he
          cases hc : collect fuel (i + 1) (L.filter (fun p => p.1 != i)) with
          | error e' =>
            rw [hc] at he
            cases he
            exact ihE _ hc
          | ok A' =>
            rw [hc] at he
            cases he

/-! ## number of arguments, one type per argument -/

theorem foldl_max_ge (L : List (Nat × Entry)) (a : Nat) :
    a ≤ L.foldl (fun m p => max m p.1) a ∧ ∀ p ∈ L, p.1 ≤ L.foldl (fun m p => max m p.1) a := by
  induction L generalizing a with
  | nil => simp
  | cons x xs ih =>
    obtain ⟨h1, h2⟩ := ih (max a x.1)
    simp only [List.foldl_cons, List.mem_cons, forall_eq_or_imp]
    exact ⟨by omega, by omega, h2⟩

theorem foldl_max_mem (L : List (Nat × Entry)) (a : Nat) :
    L.foldl (fun m p => max m p.1) a = a ∨ ∃ p ∈ L, p.1 = L.foldl (fun m p => max m p.1) a := by
  induction L generalizing a with
  | nil => simp
  | cons x xs ih =>
    simp only [List.foldl_cons]
    rcases ih (max a x.1) with h | ⟨p, hp, he⟩
    · rw [h]
      by_cases hx : a ≤ x.1
      · exact Or.inr ⟨x, by simp, by omega⟩
      · exact Or.inl (by omega)
    · exact Or.inr ⟨p, by simp [hp], he⟩

theorem gapfree_argCount {L : List (Nat × Entry)} {k : Nat} (h : ∀ j, HasKey L j ↔ 1 ≤ j ∧ j < 1 + k) :
    argCount L = k := by
  unfold argCount
  -- the maximum is at least `k`, which is a key unless it is `0`
  have hk : k ≤ L.foldl (fun m p => max m p.1) 0 := by
    cases k with
    | zero => exact Nat.zero_le _
    | succ k =>
      obtain ⟨e, he⟩ := (h (k + 1)).2 (by omega)
      exact (foldl_max_ge L 0).2 _ he
  -- and at most `k`: it is `0` or a key
  rcases foldl_max_mem L 0 with h0 | ⟨p, hp, he⟩
  · omega
  · have := (h p.1).1 ⟨p.2, hp⟩
    omega

theorem gapFree_iff (L : List (Nat × Entry)) :
    GapFree L ↔ ∃ k, ∀ j, HasKey L j ↔ 1 ≤ j ∧ j < 1 + k := by
  unfold GapFree HasKey
  constructor
  · rintro ⟨k, hk⟩; exact ⟨k, fun j => by rw [hk j]; omega⟩
  · rintro ⟨k, hk⟩; exact ⟨k, fun j => by rw [hk j]; omega⟩

theorem mem_usesOf {L : List (Nat × Entry)} {j : Nat} {e : Entry} : e ∈ usesOf L j ↔ (j, e) ∈ L := by
  simp only [usesOf, List.mem_map, List.mem_filter, beq_iff_eq]
  constructor
  · rintro ⟨p, ⟨hp, rfl⟩, rfl⟩; exact hp
  · intro h; exact ⟨(j, e), ⟨h, rfl⟩, rfl⟩

theorem sameType_iff (g : List Entry) : sameType g = true ↔ ∀ e ∈ g, ∀ e' ∈ g, e.type = e'.type := by
  cases g with
  | nil => simp [sameType]
  | cons x xs =>
    simp only [sameType, List.all_eq_true, beq_iff_eq, List.mem_cons, forall_eq_or_imp]
    constructor
    · intro h
      refine ⟨⟨trivial, fun e' he' => (h e' he').symm⟩, fun e he => ⟨h e he, fun e' he' => (h e he).trans (h e' he').symm⟩⟩
    · intro h e he
      exact (h.2 e he).1

theorem allSameType_iff {L : List (Nat × Entry)} {k : Nat} (hk : ∀ j, HasKey L j ↔ 1 ≤ j ∧ j < 1 + k) :
    ((List.range k).map (fun t => usesOf L (1 + t))).all sameType = true ↔ OneType L := by
  simp only [List.all_eq_true, List.mem_map, List.mem_range, forall_exists_index, and_imp,
    forall_apply_eq_imp_iff₂, sameType_iff, mem_usesOf, OneType]
  constructor
  · intro h j e e' he he'
    have := (hk j).1 ⟨e, he⟩
    have hj : 1 + (j - 1) = j := by omega
    have := h (j - 1) (by omega) e (by rw [hj]; exact he) e' (by rw [hj]; exact he')
    exact this
  · intro h t _ e he e' he'
    exact h _ e e' he he'

end I18n.CFmt
