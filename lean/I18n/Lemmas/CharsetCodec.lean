import I18n.Model.Charset
import I18n.Spec.Charset
/-!
# C20: the charmap codecs in closed form (where the first item without an image stands) — totality, lengths, round trip
# (for every table); and `injSeen`, the one-pass test of `InjectiveOnDefined` the kernel runs on the shipped tables
-/
namespace I18n.Charset
open I18n.Spec.Charset (InjectiveOnDefined ValidSpan)

def definedAt (table : List Nat) (b : UInt8) : Bool :=
  match table[b.toNat]? with
  | none => false
  | some c => c != undefinedCp

theorem definedAt_iff {table : List Nat} {b : UInt8} :
    definedAt table b = true ↔ ∃ c, table[b.toNat]? = some c ∧ c ≠ undefinedCp := by
  unfold definedAt
  cases table[b.toNat]? <;> simp

theorem charmapDecodeFrom_cons_defined {table : List Nat} {b : UInt8} {c : Nat} (hb : table[b.toNat]? = some c)
    (hc : c ≠ undefinedCp) (i : Nat) (bs : List UInt8) :
    charmapDecodeFrom table i (b :: bs) = (charmapDecodeFrom table (i + 1) bs).map (c :: ·) := by
  simp only [charmapDecodeFrom, hb, hc, if_false]
  cases charmapDecodeFrom table (i + 1) bs <;> rfl

theorem charmapDecodeFrom_cons_undefined {table : List Nat} {b : UInt8} (hb : definedAt table b = false) (i : Nat)
    (bs : List UInt8) : charmapDecodeFrom table i (b :: bs) = .error (i, i + 1) := by
  unfold definedAt at hb
  unfold charmapDecodeFrom
  cases h : table[b.toNat]? with
  | none => rfl
  | some c => rw [h, bne_eq_false_iff_eq] at hb; exact if_pos hb

theorem charmapEncodeFrom_cons_some {enc : Nat → Option UInt8} {c : Nat} {b : UInt8} (hc : enc c = some b) (i : Nat)
    (cs : List Nat) : charmapEncodeFrom enc i (c :: cs) = (charmapEncodeFrom enc (i + 1) cs).map (b :: ·) := by
  simp only [charmapEncodeFrom, hc]
  cases charmapEncodeFrom enc (i + 1) cs <;> rfl

theorem charmapEncodeFrom_cons_none {enc : Nat → Option UInt8} {c : Nat} (hc : enc c = none) (i : Nat) (cs : List Nat) :
    charmapEncodeFrom enc i (c :: cs) = .error (i, i + 1 + (cs.takeWhile fun c => (enc c).isNone).length) := by
  simp only [charmapEncodeFrom, hc]

/-! ## the codecs in closed form -/

theorem charmapDecodeFrom_eq (table : List Nat) : ∀ (bs : List UInt8) (i : Nat),
    charmapDecodeFrom table i bs =
      match bs.findIdx? (fun b => !definedAt table b) with
      | none => .ok (bs.map fun b => (table[b.toNat]?).getD 0)
      | some n => .error (i + n, i + n + 1) := by
  intro bs
  induction bs with
  | nil => intro i; rfl
  | cons b bs ih =>
    intro i
    rw [List.findIdx?_cons]
    cases hd : definedAt table b with
    | false => rw [charmapDecodeFrom_cons_undefined hd]; rfl
    | true =>
      obtain ⟨c, hb, hc⟩ := definedAt_iff.1 hd
      rw [charmapDecodeFrom_cons_defined hb hc, ih (i + 1), List.map_cons, hb]
      -- the recursion counts from `i + 1`, `findIdx?` adds one to the index found in the tail
      cases bs.findIdx? _ with
      | none => rfl
      | some n =>
        simp only [Bool.not_true, Bool.false_eq_true, if_false, Option.map_some, Except.map]
        rw [Nat.add_assoc, Nat.add_comm 1]

theorem charmapEncodeFrom_eq (enc : Nat → Option UInt8) : ∀ (cs : List Nat) (i : Nat),
    charmapEncodeFrom enc i cs =
      match cs.findIdx? (fun c => (enc c).isNone) with
      | none => .ok (cs.map fun c => (enc c).getD 0)
      | some n => .error (i + n, i + n + 1 + ((cs.drop (n + 1)).takeWhile fun c => (enc c).isNone).length) := by
  intro cs
  induction cs with
  | nil => intro i; rfl
  | cons c cs ih =>
    intro i
    rw [List.findIdx?_cons]
    cases hc : enc c with
    | none => rw [charmapEncodeFrom_cons_none hc]; rfl
    | some b =>
      rw [charmapEncodeFrom_cons_some hc, ih (i + 1), List.map_cons, hc]
      cases cs.findIdx? _ with
      | none => rfl
      | some n =>
        simp only [Option.isNone_some, Bool.false_eq_true, if_false, Option.map_some, Except.map, List.drop_succ_cons]
        rw [Nat.add_assoc, Nat.add_comm 1]

theorem charmapDecodeFrom_eq_ok_iff {table : List Nat} {i : Nat} {bs : List UInt8} {cs : List Nat} :
    charmapDecodeFrom table i bs = .ok cs ↔
      (∀ b ∈ bs, definedAt table b = true) ∧ bs.map (fun b => (table[b.toNat]?).getD 0) = cs := by
  rw [charmapDecodeFrom_eq]
  cases h : bs.findIdx? _ with
  | none =>
    rw [List.findIdx?_eq_none_iff] at h
    have hall : ∀ b ∈ bs, definedAt table b = true := by simpa using h
    exact ⟨fun e => ⟨hall, Except.ok.inj e⟩, fun e => congrArg Except.ok e.2⟩
  | some n =>
    obtain ⟨hn, hat, _⟩ := List.findIdx?_eq_some_iff_getElem.1 h
    refine ⟨fun e => (nomatch e), fun hall => ?_⟩
    rw [hall.1 _ (List.getElem_mem hn)] at hat
    cases hat

theorem charmapEncodeFrom_eq_ok_iff {enc : Nat → Option UInt8} {i : Nat} {cs : List Nat} {bs : List UInt8} :
    charmapEncodeFrom enc i cs = .ok bs ↔ (∀ c ∈ cs, (enc c).isSome = true) ∧ cs.map (fun c => (enc c).getD 0) = bs := by
  rw [charmapEncodeFrom_eq]
  cases h : cs.findIdx? _ with
  | none =>
    rw [List.findIdx?_eq_none_iff] at h
    have hall : ∀ c ∈ cs, (enc c).isSome = true := by simpa using h
    exact ⟨fun e => ⟨hall, Except.ok.inj e⟩, fun e => congrArg Except.ok e.2⟩
  | some n =>
    obtain ⟨hn, hat, _⟩ := List.findIdx?_eq_some_iff_getElem.1 h
    refine ⟨fun e => (nomatch e), fun hall => ?_⟩
    have := hall.1 _ (List.getElem_mem hn)
    rw [Option.isNone_iff_eq_none.1 hat] at this
    cases this

theorem charmapDecodeFrom_exists_ok_iff (table : List Nat) (bs : List UInt8) (i : Nat) :
    (∃ cs, charmapDecodeFrom table i bs = .ok cs) ↔ ∀ b ∈ bs, definedAt table b = true :=
  ⟨fun ⟨_, h⟩ => (charmapDecodeFrom_eq_ok_iff.1 h).1, fun h => ⟨_, charmapDecodeFrom_eq_ok_iff.2 ⟨h, rfl⟩⟩⟩

theorem charmapEncodeFrom_exists_ok_iff (enc : Nat → Option UInt8) (cs : List Nat) (i : Nat) :
    (∃ bs, charmapEncodeFrom enc i cs = .ok bs) ↔ ∀ c ∈ cs, (enc c).isSome = true :=
  ⟨fun ⟨_, h⟩ => (charmapEncodeFrom_eq_ok_iff.1 h).1, fun h => ⟨_, charmapEncodeFrom_eq_ok_iff.2 ⟨h, rfl⟩⟩⟩

theorem charmapDecodeFrom_ok_length (table : List Nat) (bs : List UInt8) (i : Nat) (cs : List Nat)
    (h : charmapDecodeFrom table i bs = .ok cs) : cs.length = bs.length := by
  rw [← (charmapDecodeFrom_eq_ok_iff.1 h).2, List.length_map]

theorem charmapEncodeFrom_ok_length (enc : Nat → Option UInt8) (cs : List Nat) (i : Nat) (bs : List UInt8)
    (h : charmapEncodeFrom enc i cs = .ok bs) : bs.length = cs.length := by
  rw [← (charmapEncodeFrom_eq_ok_iff.1 h).2, List.length_map]

theorem charmapDecodeFrom_mem (table : List Nat) (i : Nat) (bs : List UInt8) (cs : List Nat)
    (h : charmapDecodeFrom table i bs = .ok cs) : ∀ c ∈ cs, c ∈ table := by
  obtain ⟨hdef, rfl⟩ := charmapDecodeFrom_eq_ok_iff.1 h
  intro c hc
  obtain ⟨b, hb, rfl⟩ := List.mem_map.1 hc
  obtain ⟨c, hc, _⟩ := definedAt_iff.1 (hdef b hb)
  rw [hc]
  exact List.mem_of_getElem? hc

theorem charmapDecodeFrom_complete (table : List Nat) (hlen : table.length = 256) (hdef : ∀ c ∈ table, c ≠ undefinedCp)
    (bs : List UInt8) (i : Nat) : ∃ cs, charmapDecodeFrom table i bs = .ok cs := by
  refine (charmapDecodeFrom_exists_ok_iff table bs i).2 fun b _ => ?_
  have hlt : b.toNat < table.length := by rw [hlen]; exact b.toNat_lt
  exact definedAt_iff.2 ⟨table[b.toNat], List.getElem?_eq_getElem hlt, hdef _ (List.getElem_mem hlt)⟩

/-! ## encode(decode(b)) = b -/

theorem lastIndexFrom_some (c : Nat) : ∀ (l : List Nat) (i j : Nat),
    lastIndexFrom c i l = some j → i ≤ j ∧ l[j - i]? = some c := by
  intro l
  induction l with
  | nil => intro i j h; simp [lastIndexFrom] at h
  | cons x xs ih =>
    intro i j h
    simp only [lastIndexFrom] at h
    split at h
    · next j' hj' =>
      -- found further on
      cases h
      have := ih _ _ hj'
      refine ⟨by omega, ?_⟩
      have e : j - i = (j - (i + 1)) + 1 := by omega
      rw [e, List.getElem?_cons_succ]
      exact this.2
    · split at h
      · next hx =>
        -- not further on, but here
        cases h
        simp [hx]
      · cases h

theorem lastIndexFrom_exists (c : Nat) : ∀ (l : List Nat) (i k : Nat),
    l[k]? = some c → ∃ j, lastIndexFrom c i l = some j := by
  intro l
  induction l with
  | nil => intro i k h; simp at h
  | cons x xs ih =>
    intro i k h
    simp only [lastIndexFrom]
    cases hrec : lastIndexFrom c (i + 1) xs with
    | some j => exact ⟨j, rfl⟩
    | none =>
      cases k with
      | zero =>
        simp at h
        subst h
        exact ⟨i, by simp⟩
      | succ k =>
        rw [List.getElem?_cons_succ] at h
        obtain ⟨j, hj⟩ := ih (i + 1) k h
        rw [hrec] at hj
        cases hj

theorem encLookup_of_entry (table : List Nat) (hinj : InjectiveOnDefined table) (b : UInt8) (c : Nat)
    (hb : table[b.toNat]? = some c) (hc : c ≠ undefinedCp) : encLookup table c = some b := by
  unfold encLookup
  have hlt : b.toNat < 256 := b.toNat_lt
  have htake : (table.take 256)[b.toNat]? = some c := by
    rw [List.getElem?_take]; simp [hlt, hb]
  obtain ⟨j, hj⟩ := lastIndexFrom_exists c (table.take 256) 0 b.toNat htake
  have hj' := lastIndexFrom_some c _ _ _ hj
  have hjc : table[j]? = some c := by
    have := hj'.2
    simp only [Nat.sub_zero] at this
    rw [List.getElem?_take] at this
    split at this
    · exact this
    · cases this
  have : j = b.toNat := hinj j b.toNat c hjc hb hc
  have hne : ¬ (c = undefinedCp ∧ needDict table = false) := fun h => hc h.1
  simp only [hne, if_false, hj, Option.map_some]
  subst this
  simp

theorem encLookup_sound (table : List Nat) (c : Nat) (b : UInt8) (h : encLookup table c = some b) :
    table[b.toNat]? = some c ∧ (needDict table = false → c ≠ undefinedCp) := by
  unfold encLookup at h
  split at h
  · cases h
  · next hne =>
    cases hj : lastIndexFrom c 0 (table.take 256) with
    | none => simp [hj] at h
    | some j =>
      simp only [hj, Option.map_some, Option.some.injEq] at h
      have hs := lastIndexFrom_some c _ _ _ hj
      have hlt := (List.getElem?_eq_some_iff.1 hs.2).1
      have hlen : (table.take 256).length ≤ 256 := by simp [List.length_take]; omega
      have hj256 : j < 256 := by omega
      have hb : b.toNat = j := by
        rw [← h, UInt8.toNat_ofNat']; omega
      have hget := hs.2
      simp only [Nat.sub_zero] at hget
      rw [List.getElem?_take] at hget
      simp only [hj256, if_true] at hget
      refine ⟨by rw [hb]; exact hget, fun hd hc => hne ⟨hc, hd⟩⟩

/-- **round trip**: on a table injective on its defined entries, whatever decodes encodes back to the same bytes -/
theorem charmap_roundtrip (table : List Nat) (hinj : InjectiveOnDefined table) (bs : List UInt8) (cs : List Nat)
    (h : charmapDecode table bs = .ok cs) : charmapEncode table cs = .ok bs := by
  obtain ⟨hdef, rfl⟩ := charmapDecodeFrom_eq_ok_iff.1 h
  have henc : ∀ b ∈ bs, encLookup table ((table[b.toNat]?).getD 0) = some b := by
    intro b hb
    obtain ⟨c, hc, hne⟩ := definedAt_iff.1 (hdef b hb)
    rw [hc]
    exact encLookup_of_entry table hinj b c hc hne
  refine charmapEncodeFrom_eq_ok_iff.2 ⟨fun c hc => ?_, ?_⟩
  · obtain ⟨b, hb, rfl⟩ := List.mem_map.1 hc
    rw [henc b hb]; rfl
  · rw [List.map_map]
    refine (List.map_congr_left fun b hb => ?_).trans (List.map_id _)
    rw [Function.comp_apply, henc b hb]; rfl

theorem injectiveOnDefined_cons (x : Nat) (xs : List Nat) (hx : ∀ c ∈ xs, c ≠ undefinedCp → x ≠ c)
    (h : InjectiveOnDefined xs) : InjectiveOnDefined (x :: xs) := by
  intro i j c hi hj hc
  cases i with
  | zero =>
    cases j with
    | zero => rfl
    | succ j =>
      rw [List.getElem?_cons_zero, Option.some.injEq] at hi
      rw [List.getElem?_cons_succ] at hj
      exact (hx c (List.mem_of_getElem? hj) hc hi).elim
  | succ i =>
    cases j with
    | zero =>
      rw [List.getElem?_cons_zero, Option.some.injEq] at hj
      rw [List.getElem?_cons_succ] at hi
      exact (hx c (List.mem_of_getElem? hi) hc hj).elim
    | succ j =>
      rw [List.getElem?_cons_succ] at hi hj
      rw [h i j c hi hj hc]

/-- no defined entry occurs twice, tested in one pass: the code points met so far are the bits of `seen` -/
def injSeen (seen : Nat) : List Nat → Bool
  | [] => true
  | x :: xs => if x = undefinedCp then injSeen seen xs else !seen.testBit x && injSeen (seen ||| 1 <<< x) xs

theorem injSeen_sound : ∀ (l : List Nat) (seen : Nat), injSeen seen l = true →
    InjectiveOnDefined l ∧ ∀ y ∈ l, y ≠ undefinedCp → seen.testBit y = false
  | [], _, _ => ⟨fun i j c hi => by simp at hi, fun _ hy => nomatch hy⟩
  | x :: xs, seen, h => by
    unfold injSeen at h
    split at h
    · next hx =>
      obtain ⟨h1, h2⟩ := injSeen_sound xs seen h
      refine ⟨injectiveOnDefined_cons x xs (fun c _ hc hxc => hc (hxc ▸ hx)) h1, fun y hy hne => ?_⟩
      rcases List.mem_cons.1 hy with rfl | hy
      · exact (hne hx).elim
      · exact h2 y hy hne
    · next hx =>
      rw [Bool.and_eq_true, Bool.not_eq_true'] at h
      obtain ⟨h1, h2⟩ := injSeen_sound xs _ h.2
      -- a later entry has its bit clear in `seen ||| 1 <<< x`: it is not `x`, and was not met before `x` either
      have key : ∀ y ∈ xs, y ≠ undefinedCp → x ≠ y ∧ seen.testBit y = false := by
        intro y hy hne
        have := h2 y hy hne
        rw [Nat.testBit_or, Bool.or_eq_false_iff, Nat.one_shiftLeft, Nat.testBit_two_pow, decide_eq_false_iff_not] at this
        exact ⟨this.2, this.1⟩
      refine ⟨injectiveOnDefined_cons x xs (fun c hc hne => (key c hc hne).1) h1, fun y hy hne => ?_⟩
      rcases List.mem_cons.1 hy with rfl | hy
      · exact h.1
      · exact (key y hy hne).2

theorem injSeen_injective (l : List Nat) (h : injSeen 0 l = true) : InjectiveOnDefined l :=
  (injSeen_sound l 0 h).1

end I18n.Charset
