import I18n.Lemmas.FmtCheckNamed
import I18n.Lemmas.Kit.Sorted
/-!
# The perl-brace and python-brace comparators in closed form, against `Spec.FmtCompare`; the order of the output

`checkArgsPerlBrace_eq`; `checkArgsPyBrace_named` (an instance of `namedTags`).  `sorted(...)` of distinct keys under a strict
total order (`strLt`, `BKey.lt`) is THE increasing list of its members, so the output is determined, order included
(`sortedDiff_spec`, `namedTags_determined`).  The third named comparator, Python-%, is in `FmtCheckPy`.
-/
namespace I18n.FmtCheck
open I18n I18n.FmtSig I18n.Spec.FmtCompare

/-- a frozenset, listed without repetition -/
def PerlWf (s : PerlBraceSig) : Prop := s.args.Nodup

/-- reference view: the set of placeholder names -/
def perlNamed (s : PerlBraceSig) : Named (List Char) Unit := s.args.map fun k => (k, ())

@[simp] theorem keys_perlNamed (s : PerlBraceSig) : keys (perlNamed s) = s.args := by
  simp [keys, perlNamed, Function.comp_def]

def perlUnknownTag (pfx : Extra) (srcLoc dstLoc : List Char) (k : List Char) : TagCall :=
  tagUnknown "perl-brace-format-string-unknown-argument" pfx (.str k) srcLoc dstLoc

def perlMissingTag (pfx : Extra) (srcLoc dstLoc : List Char) (k : List Char) : TagCall :=
  tagMissing "perl-brace-format-string-missing-argument" pfx (.str k) srcLoc dstLoc

def perlTolerated (src dst : PerlBraceSig) (omittedOk : Bool) : Bool :=
  (src.args.filter (fun k => !dst.args.contains k)).length == 1 && omittedOk

theorem checkArgsPerlBrace_eq (pfx : Extra) (srcLoc : List Char) (src : PerlBraceSig) (dstLoc : List Char) (dst : PerlBraceSig)
    (omittedOk : Bool) :
    checkArgsPerlBrace pfx srcLoc src dstLoc dst omittedOk = .ok (
      (sortBy strLt (dst.args.filter (fun k => !src.args.contains k))).map (perlUnknownTag pfx srcLoc dstLoc) ++
      (sortBy strLt (if perlTolerated src dst omittedOk then [] else src.args.filter (fun k => !dst.args.contains k))).map
        (perlMissingTag pfx srcLoc dstLoc)) := rfl

def BraceWf (s : PyBraceSig) : Prop := MapWf s.args

def noType : TySet := ⟨false, false, false⟩

/-- the type set of an argument: that of its first use (after parsing all uses carry the common set) -/
def headTy : List TySet → TySet
  | t :: _ => t
  | [] => noType

/-- reference view: argument (number or name) ↦ set of types it may have -/
def braceNamed (s : PyBraceSig) : Named BKey TySet := viewOf headTy s.args

def Compatible (a b : TySet) : Prop := (a.inter b).nonempty = true

def braceTypeTag (pfx : Extra) (srcLoc dstLoc : List Char) (a b : TySet) : TagCall :=
  tagTypeMismatch "python-brace-format-string-argument-type-mismatch" pfx b.joined dstLoc a.joined srcLoc

def braceUnknownTag (pfx : Extra) (srcLoc dstLoc : List Char) (k : BKey) : TagCall :=
  tagUnknown "python-brace-format-string-unknown-argument" pfx k.extra srcLoc dstLoc

def braceMissingTag (pfx : Extra) (srcLoc dstLoc : List Char) (k : BKey) : TagCall :=
  tagMissing "python-brace-format-string-missing-argument" pfx k.extra srcLoc dstLoc

def braceMissing (src dst : PyBraceSig) : List BKey :=
  (src.args.map (·.1)).filter fun k => !(dst.args.map (·.1)).contains k

def braceTolerated (src dst : PyBraceSig) (omittedOk : Bool) : Bool :=
  mapTolerated (fun a : TySet => a.int) src.args (braceMissing src dst) omittedOk

theorem checkArgsPyBrace_named (pfx : Extra) (srcLoc : List Char) (src : PyBraceSig) (dstLoc : List Char) (dst : PyBraceSig)
    (omittedOk : Bool) :
    checkArgsPyBrace pfx srcLoc src dstLoc dst omittedOk =
      namedTags BKey.lt (braceClash pfx srcLoc dstLoc) (fun a => a.int)
        (braceUnknownTag pfx srcLoc dstLoc) (braceMissingTag pfx srcLoc dstLoc)
        src.args dst.args omittedOk := by
  simp only [checkArgsPyBrace, namedTags]
  cases mapTypeTags (braceClash pfx srcLoc dstLoc) src.args dst.args _ with
  | error e => rfl
  | ok t1 => cases missingKeys (fun a : TySet => a.int) src.args _ omittedOk <;> rfl

theorem checkArgsPyBrace_eq (pfx : Extra) (srcLoc : List Char) (src : PyBraceSig) (dstLoc : List Char) (dst : PyBraceSig)
    (omittedOk : Bool) (hs : BraceWf src) (hd : BraceWf dst) :
    checkArgsPyBrace pfx srcLoc src dstLoc dst omittedOk = .ok (
      (sortBy BKey.lt ((dst.args.map (·.1)).filter fun k => (src.args.map (·.1)).contains k)).flatMap
          (clashAt (braceClash pfx srcLoc dstLoc) src.args dst.args) ++
      (sortBy BKey.lt ((dst.args.map (·.1)).filter fun k => !(src.args.map (·.1)).contains k)).map (braceUnknownTag pfx srcLoc dstLoc) ++
      (sortBy BKey.lt (if braceTolerated src dst omittedOk then [] else braceMissing src dst)).map (braceMissingTag pfx srcLoc dstLoc)) := by
  rw [checkArgsPyBrace_named]
  exact namedTags_eq _ _ _ _ _ _ _ _ hs.2 hd.2

theorem braceClash_eq_some (pfx : Extra) (srcLoc dstLoc : List Char) (a b : TySet) (t : TagCall) :
    braceClash pfx srcLoc dstLoc a b = some t ↔ ¬ Compatible a b ∧ t = braceTypeTag pfx srcLoc dstLoc a b := by
  unfold braceClash Compatible braceTypeTag
  cases (a.inter b).nonempty <;> simp [eq_comm]

theorem braceClash_spec (pfx : Extra) (srcLoc dstLoc : List Char) :
    ClashSpec (braceClash pfx srcLoc dstLoc) headTy Compatible (braceTypeTag pfx srcLoc dstLoc) :=
  fun s0 _ d0 _ => braceClash_eq_some pfx srcLoc dstLoc s0 d0

/-! ## `sorted(...)` emits the keys in increasing order: the output is determined, not only its members -/

def Sorted {α : Type} (lt : α → α → Bool) (l : List α) : Prop := l.Pairwise (fun a b => lt a b = true)

/-- `sorted`'s insertion and the kit's (which skips an element already there) agree when the element is new -/
theorem insertBy_eq_kit {α : Type} [DecidableEq α] (lt : α → α → Bool) {x : α} :
    ∀ {l : List α}, x ∉ l → insertBy lt x l = Kit.insertBy lt x l
  | [], _ => rfl
  | y :: ys, hx => by
    have hne : x ≠ y := fun e => hx (e ▸ List.mem_cons_self)
    rw [insertBy, Kit.insertBy, if_neg hne, insertBy_eq_kit lt fun hm => hx (List.mem_cons_of_mem _ hm)]

theorem sortBy_eq_sortedSet {α : Type} [DecidableEq α] (lt : α → α → Bool) : ∀ {l : List α}, l.Nodup → sortBy lt l = Kit.sortedSet lt l
  | [], _ => rfl
  | x :: xs, hn => by
    have hn' := List.nodup_cons.1 hn
    show insertBy lt x (sortBy lt xs) = Kit.insertBy lt x (Kit.sortedSet lt xs)
    rw [sortBy_eq_sortedSet lt hn'.2, insertBy_eq_kit lt fun hm => hn'.1 ((Kit.mem_sortedSet lt).1 hm)]

theorem sortBy_sorted {α : Type} [DecidableEq α] {lt : α → α → Bool} (h : Kit.StrictTotal lt) (l : List α) (hn : l.Nodup) :
    Sorted lt (sortBy lt l) := by
  rw [sortBy_eq_sortedSet lt hn]
  exact Kit.pairwise_sortedSet h l

theorem strLt_eq : ∀ a b : List Char, strLt a b = decide (a < b) :=
  Kit.eq_decide_lt rfl (fun _ _ => rfl) (fun _ _ => rfl) fun _ _ _ _ => by simp only [strLt]

theorem strLt_strictTotal : Kit.StrictTotal strLt := by
  rw [show strLt = fun a b => decide (a < b) from funext fun a => funext (strLt_eq a)]
  exact Kit.strictTotal_decide_lt

theorem bkeyLt_strictTotal : Kit.StrictTotal BKey.lt := by
  refine ⟨?_, ?_, ?_⟩
  · intro a; cases a <;> simp [BKey.lt, strLt_strictTotal.irrefl]
  · -- a number is below every name and no name below a number: the mixed cases go by `simp`
    intro a b c h1 h2
    cases a <;> cases b <;> cases c <;> simp only [BKey.lt, decide_eq_true_eq, Bool.false_eq_true] at h1 h2 ⊢
    case idx.idx.idx => omega
    case name.name.name => exact strLt_strictTotal.trans _ _ _ h1 h2
  · intro a b h1 hne
    cases a <;> cases b <;> simp only [BKey.lt, decide_eq_false_iff_not, decide_eq_true_eq, Bool.true_eq_false, ne_eq, BKey.idx.injEq,
      BKey.name.injEq] at h1 hne ⊢
    case idx.idx => omega
    case name.name => exact strLt_strictTotal.tri _ _ h1 hne

theorem sortedDiff_spec {κ : Type} [DecidableEq κ] [BEq κ] [LawfulBEq κ] {lt : κ → κ → Bool} (hlt : Kit.StrictTotal lt) {a : List κ} (ha : a.Nodup)
    (b : List κ) (drop : Bool) :
    Sorted lt (sortBy lt (if drop then [] else a.filter fun k => !b.contains k)) ∧
      ∀ k, k ∈ sortBy lt (if drop then [] else a.filter fun k => !b.contains k) ↔ (k ∈ a ∧ k ∉ b) ∧ drop = false := by
  cases drop
  · exact ⟨sortBy_sorted hlt _ (ha.filter _), fun k => by simp [mem_sortBy]⟩
  · simp [sortBy, Sorted]

theorem namedTags_determined {κ ν τ : Type} [DecidableEq κ] [BEq κ] [LawfulBEq κ] {lt : κ → κ → Bool} (hlt : Kit.StrictTotal lt)
    (clash : ν → ν → Option TagCall) (isInt : ν → Bool) (unknownTag missingTag : κ → TagCall) (view : List ν → τ)
    (src dst : List (κ × List ν)) (omittedOk : Bool) (hs : MapWf src) (hd : MapWf dst) :
    ∃ K U M, namedTags lt clash isInt unknownTag missingTag src dst omittedOk =
        .ok (K.flatMap (clashAt clash src dst) ++ U.map unknownTag ++ M.map missingTag) ∧
      Sorted lt K ∧ (∀ k, k ∈ K ↔ k ∈ keys (viewOf view src) ∧ k ∈ keys (viewOf view dst)) ∧
      Sorted lt U ∧ (∀ k, k ∈ U ↔ Unknown (viewOf view src) (viewOf view dst) k) ∧
      Sorted lt M ∧ (∀ k, k ∈ M ↔ Missing (viewOf view src) (viewOf view dst) k ∧
        mapTolerated isInt src ((src.map (·.1)).filter fun k => !(dst.map (·.1)).contains k) omittedOk = false) := by
  have hU := sortedDiff_spec hlt hd.1 (src.map (·.1)) false
  have hM := sortedDiff_spec hlt hs.1 (dst.map (·.1))
    (mapTolerated isInt src ((src.map (·.1)).filter fun k => !(dst.map (·.1)).contains k) omittedOk)
  unfold Unknown Missing
  rw [keys_viewOf, keys_viewOf]
  refine ⟨_, _, _, namedTags_eq lt clash isInt unknownTag missingTag src dst omittedOk hs.2 hd.2, ?_, ?_, hU.1, ?_, hM.1, hM.2⟩
  · exact sortBy_sorted hlt _ (hd.1.filter _)
  · intro k
    rw [mem_sortBy, mem_filter_contains]
    exact And.comm
  · simpa using hU.2

end I18n.FmtCheck
