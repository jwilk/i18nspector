import I18n.Lemmas.PoCatalog
import I18n.Lemmas.PoFlags
import I18n.Lemmas.PoFile
/-! The catalog: the comment lines of an entry (with the reading of `#:` references, `occurrence_item`), entry after entry, the
file's header comment: `Po.parseLines` rebuilds the catalog (`run_catalog`, `parse_catalog`).  At the end
`PoCatalog.parse_msgs`, the same for message lines alone. -/
namespace I18n.Lemmas.PoComments
open I18n I18n.Po I18n.Spec.PoSpelling I18n.Lemmas.PoKit I18n.Lemmas.PoLines I18n.Lemmas.PoFsm I18n.Lemmas.PoRun I18n.Lemmas.PoCatalog
open I18n.Generated.PolibFsm (St Sym Handler)

theorem joinComment_eq (acc t : Text) : (if (acc != []) = true then acc ++ ['\n'] else acc) ++ t = joinComment acc t := by
  unfold joinComment
  cases acc <;> simp

theorem transition_gc (st : St) : transition .gc st = some .gc := by cases st <;> decide +kernel
theorem transition_fl (st : St) : transition .fl st = some .fl := by cases st <;> decide +kernel
theorem transition_oc (st : St) : transition .oc st = some .oc := by cases st <;> decide +kernel

/-- the states a comment line of an entry leaves: none closes an entry, message lines and translator comments may follow -/
theorem after_comment : ∀ st ∈ [St.tc, .gc, .fl, .oc, .pc, .pm, .pp],
    ¬ (st = .ms ∨ st = .mx) ∧ MsgReady st ∧ transition .tc st = some .tc := by
  unfold MsgReady
  decide +kernel

theorem apply_keeps (cls : List CommentSp) (c : Entry) (hc : NoMsgField c) : NoMsgField (cls.foldl CommentSp.apply c) := by
  induction cls generalizing c with
  | nil => exact hc
  | cons cl rest ih =>
    apply ih
    cases cl with
    | previous kind psep x => cases kind <;> exact ⟨hc.msgctxt, hc.msgidPlural, hc.msgstr, hc.msgstrPlural⟩
    | _ => exact ⟨hc.msgctxt, hc.msgidPlural, hc.msgstr, hc.msgstrPlural⟩

theorem digit_isDigit : ∀ d : Fin 10, pyIsDigit (digitChar d.val) = true := by decide
theorem digit_ne_colon : ∀ d : Fin 10, digitChar d.val ≠ ':' := by decide

theorem token_ne_nil_nonspace (r : RefItem) (hr : r.Valid) : r.token ≠ [] ∧ ∀ c ∈ r.token, pyIsSpace c = false := by
  cases r with
  | withLine file line =>
    refine ⟨by simp [RefItem.token], ?_⟩
    intro c hc
    simp only [RefItem.token, List.mem_append, List.mem_cons, List.mem_map] at hc
    rcases hc with hc | rfl | ⟨d, _, rfl⟩
    · exact hr.2 c hc
    · decide
    · exact digit_nonspace d
  | noLine name =>
    obtain ⟨hne, -, hns⟩ := hr
    exact ⟨hne, hns⟩

theorem splitWs_refs (items : List (Text × RefItem)) (first : Bool) (hv : refsValid first items) (n : Nat) (hn : items.length ≤ n) :
    splitWs pyIsSpace n (refsBody items) = items.map fun x => x.2.token := by
  induction items generalizing first n with
  | nil => cases n <;> simp [refsBody, splitWs]
  | cons x rest ih =>
    obtain ⟨sep, r⟩ := x
    obtain ⟨hbl, hfirst, hr, hrest⟩ := hv
    obtain ⟨htne, htns⟩ := token_ne_nil_nonspace r hr
    cases n with
    | zero => simp at hn
    | succ m =>
      have hrest_head : ∀ c t, refsBody rest = c :: t → pyIsSpace c = true := by
        intro c t e
        cases rest with
        | nil => simp [refsBody] at e
        | cons y ys =>
          obtain ⟨sep', r'⟩ := y
          obtain ⟨hbl', hf', _, _⟩ := hrest
          obtain ⟨b, bs, hb⟩ := List.exists_cons_of_ne_nil (hf' rfl)
          rw [hb] at e
          simp [refsBody] at e
          rw [← e.1]; exact blank_space sep' hbl' b (by rw [hb]; simp)
      simp only [refsBody, List.append_assoc]
      rw [splitWs_pad (m + 1) sep _ (blank_space sep hbl), splitWs_tok m r.token (refsBody rest) htne htns hrest_head,
        ih false hrest m (by simpa using hn)]
      simp

theorem refsBody_ne_nil_endsNonSpace (items : List (Text × RefItem)) (first : Bool) (hne : items ≠ []) (hv : refsValid first items) :
    refsBody items ≠ [] ∧ endsNonSpace (refsBody items) := by
  induction items generalizing first with
  | nil => exact absurd rfl hne
  | cons x rest ih =>
    obtain ⟨sep, r⟩ := x
    obtain ⟨hbl, hfirst, hr, hrest⟩ := hv
    obtain ⟨htne, htns⟩ := token_ne_nil_nonspace r hr
    refine ⟨by simp [refsBody, htne], ?_⟩
    cases rest with
    | nil =>
      rw [refsBody, refsBody, List.append_nil]
      exact lastNot_append sep r.token htne fun c e => htns c (List.mem_of_getLast? e)
    | cons y ys =>
      obtain ⟨h1, h2⟩ := ih false (by simp) hrest
      exact lastNot_append (sep ++ r.token) _ h1 h2

theorem refs_len (items : List (Text × RefItem)) (first : Bool) (hv : refsValid first items) : items.length ≤ (refsBody items).length := by
  induction items generalizing first with
  | nil => simp
  | cons x rest ih =>
    obtain ⟨sep, r⟩ := x
    obtain ⟨_, _, hr', hrest⟩ := hv
    have := List.length_pos_iff.mpr (token_ne_nil_nonspace r hr').1
    have h2 := ih false hrest
    simp only [refsBody, List.length_append, List.length_cons] at h2 ⊢
    omega

theorem occurrence_item (env : Env) (hdig : env.isDigit = pyIsDigit) (r : RefItem) (hr : r.Valid) : occurrence env r.token = r.pair := by
  cases r with
  | withLine file line =>
    have hds : ':' ∉ line.map fun d => digitChar d.val := by
      intro hm; simp only [List.mem_map] at hm; obtain ⟨d, _, hd⟩ := hm; exact digit_ne_colon d hd
    have hall : allIn pyIsDigit (line.map fun d => digitChar d.val) = true := by
      have hne : (line.map fun d => digitChar d.val) ≠ [] := by simpa using hr.1
      simp only [allIn, Bool.and_eq_true, Bool.not_eq_true', List.all_eq_true, List.mem_map]
      refine ⟨by cases h : (line.map fun d => digitChar d.val) <;> simp_all, ?_⟩
      rintro c ⟨d, _, rfl⟩; exact digit_isDigit d
    simp [occurrence, RefItem.token, RefItem.pair, rsplit1_of_split ':' file _ hds, hdig, hall]
  | noLine name =>
    obtain ⟨-, hcolon, -⟩ := hr
    simp [occurrence, RefItem.token, RefItem.pair, rsplit1_of_not_mem ':' name hcolon]

theorem refs_occ (env : Env) (hdig : env.isDigit = pyIsDigit) (items : List (Text × RefItem)) (first : Bool) (hv : refsValid first items) :
    (items.map fun x => x.2.token).map (occurrence env) = items.map fun x => x.2.pair := by
  induction items generalizing first with
  | nil => rfl
  | cons x rest ih =>
    obtain ⟨sep, r⟩ := x
    obtain ⟨_, _, hr', hrest⟩ := hv
    simp only [List.map_cons, occurrence_item env hdig r hr', ih false hrest]

/-- the field a `#|` line of each kind writes -/
def prevFld : PrevKind → Fld
  | .msgctxt => .pc
  | .msgid => .pm
  | .msgidPlural => .pp

theorem transition_prev (kind : PrevKind) (st : St) : transition (prevFld kind).sym st = some (prevFld kind).handler := by
  cases kind <;> cases st <;> decide +kernel

theorem isPrevKw_kind (kind : PrevKind) : IsPrevKw kind.kw (prevFld kind).sym := by
  cases kind
  · exact isPrevKw_msgctxt
  · exact isPrevKw_msgid
  · exact isPrevKw_msgid_plural

variable {env : Env} {enc : Bytes} (hsp : env.isSpace = pyIsSpace)
include hsp

/-- a translator comment before anything else goes to the file header -/
theorem run_he (h : HeaderLine) (hv : h.Valid) (a : PState) (hst : a.state = .st ∨ a.state = .he) :
    Run env enc [h.render] a { a with header := joinComment a.header h.text, state := .he } :=
  Run.call (calls_hash_line hsp h.text h.rpad hv.1 hv.2) fun n s hs _ => by
    subst hs
    have htr : transition .tc s.state = some .he := by rcases hst with h | h <;> rw [show s.state = _ from h] <;> rfl
    refine ⟨_, process_of env enc n .tc .he _ s { s with header := joinComment s.header h.text } true htr ?_, rfl⟩
    simp only [handle, joinComment_eq]
    by_cases ht : h.text = [] <;> simp [ht]

theorem run_header (hs : List HeaderLine) (hv : ∀ h ∈ hs, h.Valid) (a : PState) (hf : Fresh a) :
    ∃ b, Run env enc (hs.map HeaderLine.render) a b ∧ Fresh b ∧ b.entries = a.entries ∧
      b.header = (hs.map HeaderLine.text).foldl joinComment a.header := by
  induction hs generalizing a with
  | nil => exact ⟨a, Run.nil a, hf, rfl, rfl⟩
  | cons h rest ih =>
    obtain ⟨b, h2, f2, e2, d2⟩ := ih (fun x hx => hv x (by simp [hx])) { a with header := joinComment a.header h.text, state := .he }
      ⟨Or.inr rfl, hf.cur⟩
    exact ⟨b, Run.cons (run_he hsp h (hv h (by simp)) a hf.state) h2, f2, e2, d2⟩

theorem run_tc (text rpad : Text) (ht : endsNonSpace text) (hr : allSpace rpad) (a : PState)
    (htr : transition .tc a.state = some .tc) :
    Run env enc (CommentSp.tcomment text rpad).lines a
      { flush a with cur := CommentSp.apply (flush a).cur (.tcomment text rpad), state := .tc } :=
  Run.call (calls_hash_line hsp text rpad ht hr) fun n s hs _ => by
    subst hs
    refine process_edit .tc .tc .tc rfl _ n s (fun c => CommentSp.apply c (.tcomment text rpad)) (fun _ => rfl) htr ?_
    simp only [handle, joinComment_eq, CommentSp.apply]
    by_cases h : text = []
    · simp [h, lstripHash]
    · simp [h, lstripHash, List.dropWhile]

theorem run_gc (ws : Char) (hws : blankChar ws) (text rpad : Text) (hne : text ≠ []) (ht : endsNonSpace text)
    (hr : allSpace rpad) (a : PState) :
    Run env enc (CommentSp.extracted ws text rpad).lines a
      { flush a with cur := CommentSp.apply (flush a).cur (.extracted ws text rpad), state := .gc } :=
  Run.call (calls_hashk_line hsp .gc ws hws text rpad hne ht hr) fun n s hs _ => by
    subst hs
    refine process_edit .gc .gc .gc rfl _ n s (fun c => CommentSp.apply c (.extracted ws text rpad)) (fun _ => rfl) (transition_gc _) ?_
    simp only [handle, joinComment_eq, CommentSp.apply, List.drop_succ_cons, List.drop_zero]

theorem run_fl (ws : Char) (hws : blankChar ws) (ps : List FlagPiece) (rpad : Text) (hps : ps ≠ [])
    (hv : ∀ x ∈ ps, x.Valid pyIsSpace) (hne : flagBody ps ≠ []) (ht : endsNonSpace (flagBody ps)) (hr : allSpace rpad)
    (a : PState) (hold : ∀ f ∈ (flush a).cur.flags, FlagItem pyIsSpace f) :
    Run env enc (CommentSp.flags ws ps rpad).lines a
      { flush a with cur := CommentSp.apply (flush a).cur (.flags ws ps rpad), state := .fl } :=
  Run.call (calls_hashk_line hsp .fl ws hws (flagBody ps) rpad hne ht hr) fun n s hs _ => by
    subst hs
    refine process_edit .fl .fl .fl rfl _ n s (fun c => CommentSp.apply c (.flags ws ps rpad)) (fun _ => rfl) (transition_fl _) ?_
    rw [← abs_flush n s] at hold
    rw [← hsp] at hv hold
    exact Lemmas.PoFlags.handle_fl env enc (by rw [hsp]; decide) (fun c h => by rw [hsp]; exact Lemmas.PoFlags.isFlagSpace_space c h)
      ps hps hv ws n s hold

theorem run_oc (hdig : env.isDigit = pyIsDigit) (ws : Char) (hws : blankChar ws) (items : List (Text × RefItem))
    (rpad : Text) (hne : items ≠ []) (hv : refsValid true items) (hr : allSpace rpad) (a : PState) :
    Run env enc (CommentSp.refs ws items rpad).lines a
      { flush a with cur := CommentSp.apply (flush a).cur (.refs ws items rpad), state := .oc } :=
  have ⟨hbne, hbend⟩ := refsBody_ne_nil_endsNonSpace items true hne hv
  Run.call (calls_hashk_line hsp .oc ws hws (refsBody items) rpad hbne hbend hr) fun n s hs _ => by
    subst hs
    refine process_edit .oc .oc .oc rfl _ n s (fun c => CommentSp.apply c (.refs ws items rpad)) (fun _ => rfl) (transition_oc _) ?_
    have hsplit : splitAllWs pyIsSpace (refsBody items) = items.map fun x => x.2.token :=
      splitWs_refs items true hv _ (refs_len items true hv)
    simp only [handle, CommentSp.apply, List.drop_succ_cons, List.drop_zero, hsp, hsplit, refs_occ env hdig items true hv]

variable {E : Codec} (hE : CodecOk env enc E)
include hE

theorem run_prev (kind : PrevKind) (psep : Text) (hpsep : psep ≠ []) (hpbl : Blank psep)
    (x : StrSp) (hx : x.Valid E) (a : PState) :
    Run env enc (CommentSp.previous kind psep x).lines a
      { flush a with cur := CommentSp.apply (flush a).cur (.previous kind psep x), state := (prevFld kind).st } := by
  have hc : ContCalls E env enc (.previous psep) := fun g hg =>
    ⟨false, calls_prev_cont_line hsp psep hpsep hpbl g hg.lpad hg.rpad⟩
  have := run_str hsp hE (.previous psep) hc (prevFld kind) kind.kw x hx a _ (start_state _ false a) <|
    Run.call (calls_prev_kw_line hsp psep hpsep hpbl kind.kw _ (isPrevKw_kind kind) x.sep hx.sep_ne hx.sep_blank x.first
      hx.first.lpad hx.first.rpad) fun n s hs ho => by
      subst hs
      rw [← ho]
      exact process_kw (prevFld kind) (by cases kind <;> nofun) _ _
        (Lemmas.PoUnescape.unescape_spelling hE _ hx.first.choices hx.first.okSeq) n s (transition_prev kind s.state)
  -- for each kind the two states are the same structure literal
  cases kind <;> exact this

/-- the comment lines of an entry: seen through the next flush, only the current entry has changed.  `hdig`: the interpreter's
    digit class is needed to read a `#:` line; asked for wherever there is a comment line at all, which is what the callers know
    (`C10.load_spells_partial` assumes it outright, `PoCatalog.parse_msgs` has no comment lines) -/
theorem run_comments (cls : List CommentSp) (hv : ∀ cl ∈ cls, cl.Valid E) (a : PState)
    (hdig : cls ≠ [] → env.isDigit = pyIsDigit)
    (hmr : MsgReady a.state) (htc : transition .tc a.state = some .tc ∨ ∀ cl ∈ cls, cl.isTc = false)
    (hfl : ∀ f ∈ (flush a).cur.flags, FlagItem pyIsSpace f) :
    ∃ b, Run env enc (cls.flatMap CommentSp.lines) a b ∧
      flush b = { flush a with cur := cls.foldl CommentSp.apply (flush a).cur, state := b.state } ∧ MsgReady b.state := by
  induction cls generalizing a with
  | nil => exact ⟨a, Run.nil a, by rw [← flushIfDone_state 0 a]; rfl, hmr⟩
  | cons cl rest ih =>
    have hvr : ∀ x ∈ rest, x.Valid E := fun x hx => hv x (by simp [hx])
    -- after a line that has made `cl`'s change and leaves a state from which nothing is flushed
    have next : ∀ nx ∈ [St.tc, .gc, .fl, .oc, .pc, .pm, .pp],
        Run env enc cl.lines a { flush a with cur := CommentSp.apply (flush a).cur cl, state := nx } →
        (∀ f ∈ (CommentSp.apply (flush a).cur cl).flags, FlagItem pyIsSpace f) →
        ∃ b, Run env enc ((cl :: rest).flatMap CommentSp.lines) a b ∧
          flush b = { flush a with cur := (cl :: rest).foldl CommentSp.apply (flush a).cur, state := b.state } ∧ MsgReady b.state := by
      intro nx hnx h1 hfl1
      obtain ⟨hnd, hmr1, htc1⟩ := after_comment nx hnx
      have hf1 := flush_of_not_done { flush a with cur := CommentSp.apply (flush a).cur cl, state := nx } hnd
      obtain ⟨b, h2, e2, m2⟩ := ih hvr { flush a with cur := CommentSp.apply (flush a).cur cl, state := nx } (fun _ => hdig (by simp))
        hmr1 (Or.inl htc1) (by rw [hf1]; exact hfl1)
      exact ⟨b, by simpa using Run.append h1 h2, by rw [e2, hf1]; rfl, m2⟩
    have hcl := hv cl (by simp)
    cases cl with
    | noise z =>
      have hz : ∀ y ∈ [z], y.Valid := fun y hy => List.mem_singleton.1 hy ▸ hcl
      have h1 : Run env enc (CommentSp.noise z).lines a a := run_noise hsp [z] hz a
      obtain ⟨b, h2, e2, m2⟩ := ih hvr a (fun _ => hdig (by simp)) hmr (htc.imp_right fun h x hx => h x (by simp [hx])) hfl
      exact ⟨b, List.flatMap_cons ▸ Run.append h1 h2, e2, m2⟩
    | tcomment text rpad =>
      obtain ⟨ht, hr⟩ := hcl
      have htc' : transition .tc a.state = some .tc := by
        rcases htc with h | h
        · exact h
        · cases h _ List.mem_cons_self  -- but `cl` is a translator comment
      exact next .tc (by decide) (run_tc hsp text rpad ht hr a htc') hfl
    | extracted ws text rpad =>
      obtain ⟨hws, hne, ht, hr⟩ := hcl
      exact next .gc (by decide) (run_gc hsp ws hws text rpad hne ht hr a) hfl
    | flags ws ps rpad =>
      obtain ⟨hws, hps, hpv, hne, ht, hr⟩ := hcl
      refine next .fl (by decide) (run_fl hsp ws hws ps rpad hps hpv hne ht hr a hfl) fun f hf => ?_
      simp only [CommentSp.apply, List.mem_append, List.mem_map] at hf
      rcases hf with hf | ⟨x, hx, rfl⟩
      · exact hfl f hf
      · exact (hpv x hx).item
    | refs ws items rpad =>
      obtain ⟨hws, hne, hrv, hr⟩ := hcl
      exact next .oc (by decide) (run_oc hsp (hdig (by simp)) ws hws items rpad hne hrv hr a) hfl
    | previous kind psep x =>
      obtain ⟨hpsep, hpbl, hx⟩ := hcl
      have hfl1 : ∀ f ∈ (CommentSp.apply (flush a).cur (.previous kind psep x)).flags, FlagItem pyIsSpace f := by
        cases kind <;> exact hfl
      exact next (prevFld kind).st (by cases kind <;> decide) (run_prev hsp hE kind psep hpsep hpbl x hx a) hfl1

variable (hdec : env.decimal = pyDecimal)
include hdec

theorem run_entry (e : EntrySp) (he : e.Valid E)
    (a : PState) (hdig : e.comments ≠ [] → env.isDigit = pyIsDigit) (hs : Done a ∨ Fresh a)
    (hfirst : Fresh a → ∀ cl ∈ e.comments, cl.isTc = false) :
    ∃ b, Run env enc e.lines a b ∧ Done b ∧ b.header = a.header ∧ b.entries = (flush a).entries ∧ b.cur = e.entry := by
  have hcur : (flush a).cur = {} := by
    rcases hs with h | h
    · rw [h.flush]
    · rw [h.flush, h.cur]
  have hmr : MsgReady a.state := hs.elim .of_done .of_fresh
  have htc : transition .tc a.state = some .tc ∨ ∀ cl ∈ e.comments, cl.isTc = false :=
    hs.imp (fun h => by rcases h with h | h <;> rw [h] <;> rfl) hfirst
  obtain ⟨b0, h0, e0, m0⟩ := run_comments hsp hE e.comments he.comments a hdig hmr htc (by rw [hcur]; simp)
  obtain ⟨b1, h1, f1, f2, f3, f4⟩ := run_msg hsp hE hdec e.msg he.msg b0 m0 (by
    rw [e0, hcur]; exact apply_keeps e.comments {} .empty)
  refine ⟨b1, Run.append h0 h1, f4, ?_, by rw [f1, e0], by rw [f3, e0, hcur]; rfl⟩
  calc b1.header = b0.header := f2
    _ = (flush b0).header := (flushIfDone_header 0 b0).symm
    _ = (flush a).header := by rw [e0]
    _ = a.header := flushIfDone_header 0 a

/-- the entries after the first: each starts where an entry is complete, so `Fresh` concerns the first one only -/
theorem run_rest (rest : List EntrySp) (hv : ∀ x ∈ rest, x.Valid E) (hdig : ∀ x ∈ rest, x.comments ≠ [] → env.isDigit = pyIsDigit)
    (a : PState) (hd : Done a) :
    ∃ b, Run env enc (rest.flatMap EntrySp.lines) a b ∧ Done b ∧ b.header = a.header ∧
      b.entries ++ [b.cur] = a.entries ++ a.cur :: rest.map EntrySp.entry := by
  induction rest generalizing a with
  | nil => exact ⟨a, Run.nil a, hd, rfl, rfl⟩
  | cons y ys ih =>
    obtain ⟨b1, h1, d1, g1, g2, g3⟩ := run_entry hsp hE hdec y (hv y (by simp)) a (hdig y (by simp)) (Or.inl hd)
      fun hf => absurd hf hd.not_fresh
    obtain ⟨b, h, d, l1, l2⟩ := ih (fun x hx => hv x (by simp [hx])) (fun x hx => hdig x (by simp [hx])) b1 d1
    refine ⟨b, List.flatMap_cons ▸ Run.append h1 h, d, l1.trans g1, ?_⟩
    rw [l2, g2, g3, hd.flush, List.map_cons, List.append_assoc, List.singleton_append]

/-- entry after entry: all but the last one appended, the last one complete -/
theorem run_entries (e : EntrySp) (rest : List EntrySp)
    (hv : ∀ x ∈ e :: rest, x.Valid E) (hdig : ∀ x ∈ e :: rest, x.comments ≠ [] → env.isDigit = pyIsDigit) (a : PState)
    (hs : Done a ∨ Fresh a) (hfirst : Fresh a → ∀ cl ∈ e.comments, cl.isTc = false) :
    ∃ b, Run env enc ((e :: rest).flatMap EntrySp.lines) a b ∧ Done b ∧ b.header = a.header ∧
      b.entries ++ [b.cur] = (flush a).entries ++ (e :: rest).map EntrySp.entry := by
  obtain ⟨b1, h1, d1, g1, g2, g3⟩ := run_entry hsp hE hdec e (hv e (by simp)) a (hdig e (by simp)) hs hfirst
  obtain ⟨b, h, d, l1, l2⟩ := run_rest hsp hE hdec rest (fun x hx => hv x (by simp [hx])) (fun x hx => hdig x (by simp [hx])) b1 d1
  exact ⟨b, List.flatMap_cons ▸ Run.append h1 h, d, l1.trans g1, by rw [l2, g2, g3, List.map_cons]⟩

theorem run_catalog (cat : CatalogSp) (hv : cat.Valid E)
    (hdig : ∀ x ∈ cat.entries, x.comments ≠ [] → env.isDigit = pyIsDigit) :
    ∃ b, Run env enc cat.lines (abs {}) b ∧ b.header = cat.headerText ∧ b.entries ++ [b.cur] = cat.entries.map EntrySp.entry := by
  obtain ⟨hA, hH, hB, hEs, hne, hfirst, _⟩ := hv
  obtain ⟨e, rest, hes⟩ := List.exists_cons_of_ne_nil hne
  obtain ⟨b1, h1, f1, e1, d1⟩ := run_header hsp cat.header hH (abs {}) Fresh.init
  obtain ⟨b2, h2, _, d2, l2⟩ := run_entries hsp hE hdec e rest (hes ▸ hEs) (hes ▸ hdig) b1 (Or.inr f1) (fun _ => hfirst e (by rw [hes]; rfl))
  refine ⟨b2, ?_, d2.trans d1, ?_⟩
  · rw [CatalogSp.lines, hes]
    exact Run.append (run_noise hsp _ hA _) (Run.append h1 (Run.append (run_noise hsp _ hB _) h2))
  · rw [l2, hes, f1.flush, e1]; rfl

/-- **the catalog theorem at the level of polib's line loop**; the digit class of the interpreter matters only where a `#:`
    line can stand -/
theorem parse_catalog (cat : CatalogSp) (hv : cat.Valid E)
    (hdig : ∀ x ∈ cat.entries, x.comments ≠ [] → env.isDigit = pyIsDigit) :
    ∃ f, parseLines env enc cat.lines = .ok f ∧ f.header = cat.headerText ∧
      f.entries.map content = cat.entries.map EntrySp.entry := by
  obtain ⟨b, hrun, hh, he⟩ := run_catalog hsp hE hdec cat hv hdig
  obtain ⟨s, hs, rfl⟩ := hrun 0 {} rfl
  -- the last line is a message line, so `finish` keeps the entry under construction
  have htok : Lemmas.PoFile.TokOk s := by
    obtain ⟨bl, l, hcl, hmsg⟩ := Lemmas.PoFile.catalog_last E cat hv
    obtain ⟨s1, h2⟩ := parseLoop_last (hcl ▸ hs)
    exact Lemmas.PoFile.msgLine_tokOk env hsp enc l hmsg _ s1 _ h2
  refine ⟨finish s, by rw [parseLines, hs], ?_, ?_⟩ <;> rw [Lemmas.PoFile.finish_tokOk s htok]
  · exact hh
  · rw [abs_entries, abs_cur] at he
    simpa using he

end I18n.Lemmas.PoComments

namespace I18n.Lemmas.PoCatalog
open I18n I18n.Po I18n.Spec.PoSpelling I18n.Lemmas.PoLines

section
variable (E : Codec) (env : Env) (hsp : env.isSpace = pyIsSpace) (hdec : env.decimal = pyDecimal) (enc : Bytes) (hE : CodecOk env enc E)
include hsp hdec hE

theorem parse_msgs (noise0 : List Noise) (hn : ∀ z ∈ noise0, z.Valid) (ms : List MsgSp) (hne : ms ≠ [])
    (hv : ∀ m ∈ ms, m.Valid E) (hend : ∀ m, ms.getLast? = some m → m.EndsReal) :
    ∃ f, parseLines env enc (noise0.map Noise.render ++ ms.flatMap MsgSp.lines) = .ok f ∧ f.header = [] ∧
      f.entries.map content = ms.map (fun m => m.entry {}) := by
  -- the catalog without header comment whose entries are the messages, none with a comment line
  have hcat : CatalogSp.Valid E ⟨noise0, [], [], ms.map (⟨[], ·⟩)⟩ := by
    refine ⟨hn, nofun, nofun, ?_, ?_, ?_, ?_⟩
    · intro e he
      obtain ⟨m, hm, rfl⟩ := List.mem_map.1 he
      exact ⟨nofun, hv m hm⟩
    · exact fun h => hne (List.map_eq_nil_iff.1 h)
    · intro e he cl hcl
      rw [List.head?_map, Option.map_eq_some_iff] at he
      obtain ⟨m, -, rfl⟩ := he
      cases hcl
    · intro e he
      rw [List.getLast?_map, Option.map_eq_some_iff] at he
      obtain ⟨m, hm, rfl⟩ := he
      exact hend m hm
  have hdig : ∀ e ∈ ms.map (⟨[], ·⟩ : MsgSp → EntrySp), e.comments ≠ [] → env.isDigit = pyIsDigit := by
    intro e he hc
    obtain ⟨m, -, rfl⟩ := List.mem_map.1 he
    exact absurd rfl hc
  obtain ⟨f, h1, h2, h3⟩ := Lemmas.PoComments.parse_catalog hsp hE hdec _ hcat hdig
  refine ⟨f, ?_, h2, h3.trans List.map_map⟩
  simpa [CatalogSp.lines, List.flatMap_map, EntrySp.lines] using h1

end

end I18n.Lemmas.PoCatalog
