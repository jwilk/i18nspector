import I18n.Generated.LingFn
/-!
# `lib/ling.py` regenerated (`Generated/LingFn.lean`: `Language._simple_format`, `get_unrepresentable_characters`) equals the model

The model functions are C20's `Charset.getUnrepresentable` and its loop `unrepLoop` (`Model/Charset.lean`); the kit is `Model/LingPy.lean`
(`LPy`), whose loop with `break` carries a `Bool` where `PyKit.forEachBrk` carries a `Step`.  Used by `Props/C20Tie.lean`.
-/
namespace I18n.Charset.LGen
open I18n I18n.Charset I18n.Generated

/-- `_simple_format(territory=…)`: `ll` or `ll_CC` -/
theorem simple_format_eq (l : LPy.Language) (territory : Bool) :
    LingFn._simple_format l territory =
      .ok (match l.territory_code with
           | some t => if territory then l.language_code ++ [95] ++ t else l.language_code
           | none => l.language_code) := by
  simp only [LingFn._simple_format]
  cases l.territory_code with
  | none => rfl
  | some t => cases territory <;> simp [LPy.lit]

/-- the model's outcome in the kit's vocabulary: `.error ()` is an exception other than UnicodeError -/
def ofModel : Except Unit (List Name) → Except LPy.Exn (List Name)
  | .ok r => .ok r
  | .error () => .error .other

/-- the `for character in characters:` loop as regenerated (any body that does what the generated one does) = `unrepLoop`, from any
    accumulated result -/
theorem forEachBrk_unrepLoop (encode : List Nat → Enc) (body : Name → List Name → Except LPy.Exn (Bool × List Name))
    (hbody : ∀ ch acc, body ch acc = (match encode ch with
      | .ok => .ok (false, acc)
      | .crash => .error .other
      | .encodeError true => .ok (true, acc ++ [ch])
      | .encodeError false => .ok (false, acc ++ [ch]))) :
    ∀ (chars : List Name) (acc : List Name),
      LPy.forEachBrk chars body acc = (match unrepLoop encode chars with | .ok r => .ok (acc ++ r) | .error () => .error .other) := by
  intro chars
  induction chars with
  | nil => intro acc; simp [LPy.forEachBrk, unrepLoop]
  | cons ch rest ih =>
    intro acc
    simp only [LPy.forEachBrk, unrepLoop, hbody]
    cases encode ch with
    | ok => simp only [ih]
    | crash => rfl
    | encodeError b =>
      cases b
      · simp only [ih]
        cases unrepLoop encode rest with
        | ok r => simp
        | error e => rfl
      · simp

/-- `get_unrepresentable_characters(encoding, strict=…)` as regenerated: the two look-ups (`ll_CC` if there is a territory, then `ll`),
    `None` when neither lists characters, else `getUnrepresentable` -/
theorem get_unrepresentable_eq (chars : Name → Option Name → Bool → Option (List Name)) (encode : List Nat → Enc)
    (l : LPy.Language) (strict : Bool) :
    LingFn.get_unrepresentable_characters chars encode l strict =
      (match (match (match l.territory_code with
                     | some t => chars (l.language_code ++ [95] ++ t) l.modifier strict
                     | none => none) with
              | some cs => some cs
              | none => chars l.language_code l.modifier strict) with
       | none => .ok none
       | some cs => (ofModel (getUnrepresentable encode cs)).map some) := by
  unfold LingFn.get_unrepresentable_characters
  dsimp only
  -- each look-up is the scrutinee (`arg 2`) of a `match … | .error e => .error e | .ok characters => …`; it returns what the model looks up:
  -- under `ll_CC`, where there is a territory,
  conv =>
    lhs; arg 2
    tactic =>
      show _ = Except.ok (match l.territory_code with
        | some t => chars (l.language_code ++ [95] ++ t) l.modifier strict
        | none => none)
      rw [simple_format_eq]
      cases l.territory_code <;> rfl
  dsimp only
  generalize (match l.territory_code with
    | some t => chars (l.language_code ++ [95] ++ t) l.modifier strict
    | none => none) = c1
  -- and under `ll`, where that found nothing
  conv =>
    lhs; arg 2
    tactic =>
      show _ = Except.ok (match c1 with | some cs => some cs | none => chars l.language_code l.modifier strict)
      rw [simple_format_eq]
      cases c1 <;> cases l.territory_code <;> rfl
  dsimp only
  generalize (match c1 with | some cs => some cs | none => chars l.language_code l.modifier strict) = c2
  cases c2 with
  | none => rfl
  | some cs =>
    dsimp only
    rw [forEachBrk_unrepLoop encode _ ?hbody]
    case hbody =>
      intro ch acc
      simp only [LPy.strEncode]
      cases encode ch with
      | encodeError b => cases b <;> rfl
      | _ => rfl
    simp only [getUnrepresentable, LPy.strEncode]
    cases encode cs.flatten with
    | ok => rfl
    | crash => rfl
    | encodeError b =>
      simp only [LPy.Exn.isUnicodeError, if_true]
      cases unrepLoop encode cs with
      | ok r => simp [ofModel, Except.map]
      | error e => rfl

end I18n.Charset.LGen
