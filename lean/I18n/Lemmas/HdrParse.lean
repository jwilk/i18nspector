import I18n.Spec.HeaderRules
import I18n.Lemmas.Kit.List
/-
C15 lemmas: `gettext.parse_header` — the lines are the `\n`-separated pieces (a final `\n` is a terminator), and a line
is classified as the field `k: v` exactly when it has the shape of the field grammar (`FieldLine`), so the field names are ASCII
(`parseHeader_ascii`); `stripBlanks` takes the one blank off a value that neither begins nor ends with a blank (`stripBlanks_of`).
-/
namespace I18n.Hdr
open I18n.Spec.HeaderRules

theorem splitColon_eq (l : Str) :
    splitColon l = (l.takeWhile (· != ':'), (l.dropWhile (· != ':')).tail?) := by
  induction l with
  | nil => rfl
  | cons c cs ih =>
    unfold splitColon
    by_cases h : c = ':'
    · subst h; rfl
    · have hc : (c != ':') = true := bne_iff_ne.2 h
      rw [if_neg h, ih, List.takeWhile_cons_of_pos (p := (· != ':')) hc, List.dropWhile_cons_of_pos (p := (· != ':')) hc]

theorem colon_span (l k r : Str) :
    (l.takeWhile (· != ':') = k ∧ l.dropWhile (· != ':') = r) ↔ l = k ++ r ∧ ':' ∉ k ∧ ∀ c ∈ r.head?, c = ':' := by
  rw [Kit.span_iff]
  simp only [bne_iff_ne, ne_eq, bne_eq_false_iff_eq]
  rw [List.forall_mem_ne']

theorem splitColon_iff (l k : Str) (r : Option Str) :
    splitColon l = (k, r) ↔ l = k ++ (match r with | some v => ':' :: v | none => []) ∧ ':' ∉ k := by
  rw [splitColon_eq, Prod.mk.injEq]
  constructor
  · rintro ⟨hk, rfl⟩
    obtain ⟨e, hn, hc⟩ := (colon_span l k _).1 ⟨hk, rfl⟩
    refine ⟨?_, hn⟩
    cases hd : l.dropWhile (· != ':') with
    | nil => rw [hd] at e; exact e
    | cons c v => rw [hd] at e hc; obtain rfl := hc c rfl; exact e
  · rintro ⟨e, hn⟩
    obtain ⟨hk, hd⟩ := (colon_span l k _).2 ⟨e, hn, by cases r <;> simp⟩
    rw [hk, hd]
    cases r <;> exact ⟨rfl, rfl⟩

theorem splitColon_some (l k v : Str) : splitColon l = (k, some v) ↔ (l = k ++ ':' :: v ∧ ':' ∉ k) :=
  splitColon_iff l k (some v)

theorem splitColon_none (l k : Str) : splitColon l = (k, none) ↔ (k = l ∧ ':' ∉ l) := by
  rw [splitColon_iff, List.append_nil]
  constructor
  · rintro ⟨rfl, h⟩
    exact ⟨rfl, h⟩
  · rintro ⟨rfl, h⟩
    exact ⟨rfl, h⟩

theorem isFieldNameChar_iff (c : Char) : isFieldNameChar c = true ↔ NameChar c := by
  unfold isFieldNameChar NameChar
  have hc : c ≠ ':' ↔ c.toNat ≠ 0x3A := not_congr Char.toNat_inj.symm
  simp only [Bool.or_eq_true, Bool.and_eq_true, decide_eq_true_eq, hc]
  omega

theorem isValidFieldName_iff (k : Str) : isValidFieldName k = true ↔ (k ≠ [] ∧ ∀ c ∈ k, NameChar c) := by
  unfold isValidFieldName
  simp only [Bool.and_eq_true, Bool.not_eq_true', List.all_eq_true, isFieldNameChar_iff]
  constructor
  · rintro ⟨h1, h2⟩; exact ⟨by intro e; simp [e] at h1, h2⟩
  · rintro ⟨h1, h2⟩; exact ⟨by cases k <;> simp_all, h2⟩

theorem graphic_not_blank (c : Char) (h : 0x21 ≤ c.toNat ∧ c.toNat ≤ 0x7E) : isBlank c = false := by
  have h1 : c ≠ ' ' := by intro e; subst e; simp at h
  have h2 : c ≠ '\t' := by intro e; subst e; simp at h
  simp [isBlank, h1, h2]

theorem stripBlanks_of (c : Char) (r : Str) (hc : isBlank c = false)
    (hl : ∀ d, (c :: r).getLast? = some d → isBlank d = false) : stripBlanks (' ' :: c :: r) = c :: r := by
  have hb : isBlank ' ' = true := by decide
  have e1 : ((' ' :: c :: r).dropWhile isBlank) = c :: r := by
    rw [List.dropWhile_cons_of_pos hb, List.dropWhile_cons_of_neg (by simp [hc])]
  unfold stripBlanks
  rw [e1]
  have hne : (c :: r).reverse ≠ [] := by simp
  cases hrev : (c :: r).reverse with
  | nil => exact absurd hrev hne
  | cons d ds =>
    have hd : (c :: r).getLast? = some d := by
      rw [← List.head?_reverse, hrev]; rfl
    have := hl d hd
    rw [List.dropWhile_cons_of_neg (by simp [this]), ← hrev, List.reverse_reverse]

theorem parseLine_field_iff (l k v : Str) : parseLine l = .field k v ↔ FieldLine l k v := by
  unfold parseLine FieldLine
  constructor
  · intro h
    cases hs : splitColon l with
    | mk k0 r0 =>
      rw [hs] at h
      cases r0 with
      | none => simp at h
      | some rest =>
        simp only [] at h
        split at h
        · rename_i hv
          injection h with h1 h2
          subst h1; subst h2
          obtain ⟨e, _⟩ := (splitColon_some l k0 rest).1 hs
          obtain ⟨hne, hall⟩ := (isValidFieldName_iff k0).1 hv
          exact ⟨rest, e, hne, hall, rfl⟩
        · cases h
  · rintro ⟨rest, e, hne, hall, rfl⟩
    have hnc : ':' ∉ k := fun hm => (hall ':' hm).2.2 rfl
    rw [(splitColon_some l k rest).2 ⟨e, hnc⟩]
    simp only []
    rw [if_pos ((isValidFieldName_iff k).2 ⟨hne, hall⟩)]

theorem parseLine_stray_iff (l s : Str) : parseLine l = .stray s ↔ (s = l ∧ ¬ ∃ k v, FieldLine l k v) := by
  have hc : (∃ k v, parseLine l = .field k v) ∨ parseLine l = .stray l := by
    unfold parseLine
    split
    · split
      · exact Or.inl ⟨_, _, rfl⟩
      · exact Or.inr rfl
    · exact Or.inr rfl
  simp only [← parseLine_field_iff]
  rcases hc with ⟨k, v, hf⟩ | hs
  · rw [hf]
    exact ⟨fun h => (nomatch h), fun h => absurd ⟨k, v, rfl⟩ h.2⟩
  · rw [hs]
    exact ⟨fun h => ⟨(Line.stray.inj h).symm, fun ⟨_, _, h'⟩ => (nomatch h')⟩, fun h => by rw [h.1]⟩

theorem splitOn_eq (sep : Char) (s : Str) : splitOn sep s = s.splitOn sep :=
  Kit.eq_splitOn rfl (fun c cs w ws h => by rw [splitOn, h]) s

theorem splitOn_ne_nil (sep : Char) (s : Str) : splitOn sep s ≠ [] :=
  splitOn_eq sep s ▸ List.splitOn_ne_nil sep s

theorem joinWith_cons_cons (sep a b : Str) (r : List Str) :
    joinWith sep (a :: b :: r) = a ++ sep ++ joinWith sep (b :: r) := rfl

theorem joinWith_eq (sep : Str) (l : List Str) : joinWith sep l = sep.intercalate l := by
  induction l with
  | nil => rfl
  | cons a r ih =>
    cases r with
    | nil => simp [joinWith, List.intercalate]
    | cons b r' =>
      rw [joinWith_cons_cons, ih]
      simp [List.intercalate, List.intersperse]

theorem joinWith_concat (sep a : Str) (L : List Str) (h : L ≠ []) : joinWith sep (L ++ [a]) = joinWith sep L ++ sep ++ a := by
  induction L with
  | nil => exact absurd rfl h
  | cons x r ih =>
    cases r with
    | nil => rfl
    | cons y r2 =>
      rw [List.cons_append, List.cons_append, joinWith_cons_cons, ← List.cons_append, ih (by simp), joinWith_cons_cons]
      simp only [List.append_assoc]

theorem headerLines_spec (s : Str) : LinesOf s (headerLines s) := by
  unfold headerLines LinesOf
  simp only []
  have hne := splitOn_ne_nil '\n' s
  have hno : ∀ l ∈ splitOn '\n' s, '\n' ∉ l := fun l hl => Kit.not_mem_of_mem_splitOn (splitOn_eq '\n' s ▸ hl)
  have hj : joinWith ['\n'] (splitOn '\n' s) = s := by
    rw [joinWith_eq, splitOn_eq]; exact List.intercalate_splitOn '\n'
  split
  · rename_i hl
    obtain ⟨L, hL⟩ := List.getLast?_eq_some_iff.1 hl
    rw [hL] at hj hno ⊢
    rw [List.dropLast_concat]
    refine ⟨fun l hm => hno l (by simp [hm]), ?_⟩
    by_cases hd : L = []
    · subst hd
      exact Or.inl ⟨hj.symm, rfl⟩
    · exact Or.inr (Or.inl ⟨hd, by rw [← hj, joinWith_concat _ _ _ hd, List.append_nil]⟩)
  · rename_i hl
    refine ⟨hno, ?_⟩
    right; right
    have hsne : s ≠ [] := by
      intro e; subst e; simp [splitOn] at hl
    refine ⟨hne, hsne, hj.symm, ?_⟩
    -- the text does not end in `\n`: else the last piece would be empty
    intro hlast
    obtain ⟨init, rfl⟩ := List.getLast?_eq_some_iff.1 hlast
    exact hl (by rw [splitOn_eq, List.splitOn_append_cons_self, List.splitOn_nil, List.getLast?_concat])

def LinesAscii (ls : List Line) : Prop := ∀ k v, Line.field k v ∈ ls → ∀ c ∈ k, c.toNat < 128

theorem parseHeader_ascii (t : Str) : LinesAscii (parseHeader t) := by
  intro k v h c hc
  obtain ⟨l, _, hl⟩ := List.mem_map.1 h
  obtain ⟨_, _, _, hall, _⟩ := (parseLine_field_iff l k v).1 hl
  have := (hall c hc).2.1
  omega

end I18n.Hdr
