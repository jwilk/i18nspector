import I18n.Lemmas.MoBytes
/-! `Spec.serialize` produces legal MO files: every layout of the family satisfies `Spec.Encodes`
(`serialize_encodes`).  `encodes_of_tables` reduces `Encodes` to: the file starts with the magic and the four words,
and the two descriptor tables and every string with its NUL are `Slice`s of it where those words and the rows say;
`file_slices` and `placeStrings_spec` give these slices for `serialize`, whichever table comes first. -/
namespace I18n.Mo
open I18n.Mo.Spec

theorem placeStrings_cons (base : Nat) (s : Bytes) (ss pads : List Bytes) :
    placeStrings base (s :: ss) pads =
      (pads.headD [] ++ (s ++ [0]) ++ (placeStrings (base + (pads.headD []).length + s.length + 1) ss pads.tail).1,
        (s.length, base + (pads.headD []).length) :: (placeStrings (base + (pads.headD []).length + s.length + 1) ss pads.tail).2) := by
  simp only [placeStrings, List.append_assoc, List.cons_append, List.nil_append]

theorem placeStrings_spec : ∀ (ss : List Bytes) (base : Nat) (pads : List Bytes),
    (placeStrings base ss pads).2.length = ss.length ∧
    ∀ i (hi : i < ss.length), ∃ off,
      (placeStrings base ss pads).2[i]? = some (ss[i].length, base + off) ∧
      Slice (placeStrings base ss pads).1 off (ss[i] ++ [0])
  | [], _, _ => ⟨rfl, fun i hi => absurd hi (Nat.not_lt_zero i)⟩
  | s :: ss, base, pads => by
    obtain ⟨ihl, ihi⟩ := placeStrings_spec ss (base + (pads.headD []).length + s.length + 1) pads.tail
    rw [placeStrings_cons]
    refine ⟨by rw [List.length_cons, ihl, List.length_cons], fun i hi => ?_⟩
    cases i with
    | zero => exact ⟨(pads.headD []).length, rfl, pads.headD [], _, rfl, rfl⟩
    | succ i =>
      obtain ⟨off, h1, p, q, e, rfl⟩ := ihi i (Nat.lt_of_succ_lt_succ hi)
      refine ⟨(pads.headD [] ++ (s ++ [0]) ++ p).length, ?_, _, q, ?_, rfl⟩
      · rw [List.getElem?_cons_succ, h1, List.getElem_cons_succ]
        simp only [List.length_append, List.length_cons, List.length_nil, Nat.add_assoc, Nat.zero_add]
      · simp only [e, List.getElem_cons_succ, List.append_assoc]

theorem descTable_length (be : Bool) : ∀ ds : List (Nat × Nat), (descTable be ds).length = 8 * ds.length
  | [] => rfl
  | (l, o) :: ds => by
    simp only [descTable, List.length_append, encodeWord_length, descTable_length be ds, List.length_cons]
    omega

theorem descTable_spec (be : Bool) : ∀ (ds : List (Nat × Nat)) (i l o : Nat), ds[i]? = some (l, o) →
    Slice (descTable be ds) (8 * i) (encodeWord be l ++ encodeWord be o)
  | [], i, l, o, h => by simp at h
  | (l', o') :: ds, 0, l, o, h => by
    obtain ⟨rfl, rfl⟩ : l' = l ∧ o' = o := by simpa using h
    exact ⟨[], descTable be ds, by simp [descTable, List.append_assoc], rfl⟩
  | (l', o') :: ds, i + 1, l, o, h => by
    have hm : Slice (descTable be ((l', o') :: ds)) 8 (descTable be ds) :=
      ⟨encodeWord be l' ++ encodeWord be o', [], by simp [descTable], by simp [encodeWord_length]⟩
    have := hm.trans (descTable_spec be ds i l o (by simpa using h))
    rwa [show 8 + 8 * i = 8 * (i + 1) by omega] at this

theorem StringAt_of_table {be : Bool} {b : Bytes} {T : Nat} {ds : List (Nat × Nat)} {j off : Nat} {s : Bytes}
    (hsize : b.length < 2 ^ 32) (hT : Slice b T (descTable be ds)) (hd : ds[j]? = some (s.length, off))
    (hs : Slice b off (s ++ [0])) : StringAt be b (T + 8 * j) s := by
  have hsl := hT.trans (descTable_spec be ds j _ _ hd)
  have hle := hs.length_le
  rw [List.length_append, List.length_singleton] at hle
  refine ⟨off, ⟨by omega, hsl.left⟩, ⟨by omega, ?_⟩, hs⟩
  have := hsl.right
  rwa [encodeWord_length] at this

theorem magicOf_length (be : Bool) : (magicOf be).length = 4 := by cases be <;> rfl

theorem header_slices {be : Bool} {w0 w1 w2 w3 : Nat} {R b : Bytes}
    (hb : magicOf be ++ (encodeWords be [w0, w1, w2, w3] ++ R) = b) :
    Slice b 0 (magicOf be) ∧ Slice b 4 (encodeWord be w0) ∧ Slice b 8 (encodeWord be w1) ∧ Slice b 12 (encodeWord be w2) ∧
      Slice b 16 (encodeWord be w3) := by
  have hpre : Slice b 0 (magicOf be ++ (encodeWord be w0 ++ (encodeWord be w1 ++
      (encodeWord be w2 ++ (encodeWord be w3 ++ []))))) := ⟨[], R, by rw [← hb]; simp only [encodeWords, List.nil_append, List.append_assoc], rfl⟩
  have h4 := hpre.right
  have h8 := h4.right
  have h12 := h8.right
  have h16 := h12.right
  simp only [magicOf_length, encodeWord_length] at h4 h8 h12 h16
  exact ⟨hpre.left, h4.left, h8.left, h12.left, h16.left⟩

theorem encodes_of_header {be : Bool} {cat : List CatEntry} {hidden : Bool} {major minor ko to : Nat} {R b : Bytes}
    (hb : magicOf be ++ (encodeWords be [major * 65536 + minor, cat.length, ko, to] ++ R) = b)
    (hmaj : major ≤ 1) (hmin : minor < 65536)
    (hsize : b.length < 2 ^ 32) (hn : cat.length ≤ b.length) (hko : ko ≤ b.length) (hto : to ≤ b.length)
    (hflag : HiddenFlag be b minor hidden)
    (hk : ∀ j (hj : j < cat.length), StringAt be b (ko + 8 * j) cat[j].key)
    (hv : ∀ j (hj : j < cat.length), StringAt be b (to + 8 * j) cat[j].value) (hs : Sorted (cat.map CatEntry.key0)) :
    Encodes b cat hidden := by
  obtain ⟨h0, h4, h8, h12, h16⟩ := header_slices hb
  have hE : EntriesAt be b ko to 0 cat := (EntriesAt_iff cat 0).2 fun j hj => by
    rw [Nat.zero_add]
    exact ⟨hk j hj, hv j hj⟩
  exact .intro
    { magic := h0, count := ⟨Nat.lt_of_le_of_lt hn hsize, h8⟩, keys := ⟨Nat.lt_of_le_of_lt hko hsize, h12⟩,
      values := ⟨Nat.lt_of_le_of_lt hto hsize, h16⟩ }
    ⟨by omega, h4⟩ hmaj hmin hflag hE hs

theorem encodes_of_tables {be : Bool} {cat : List CatEntry} {hidden : Bool} {major minor ko to : Nat} {R b : Bytes}
    {kd vd : List (Nat × Nat)}
    (hb : magicOf be ++ (encodeWords be [major * 65536 + minor, cat.length, ko, to] ++ R) = b)
    (hmaj : major ≤ 1) (hmin : minor < 65536) (hsize : b.length < 2 ^ 32) (hflag : HiddenFlag be b minor hidden)
    (hK : Slice b ko (descTable be kd)) (hV : Slice b to (descTable be vd)) (hl : kd.length = cat.length)
    (hk : ∀ j (hj : j < cat.length), ∃ off, kd[j]? = some (cat[j].key.length, off) ∧ Slice b off (cat[j].key ++ [0]))
    (hv : ∀ j (hj : j < cat.length), ∃ off, vd[j]? = some (cat[j].value.length, off) ∧ Slice b off (cat[j].value ++ [0]))
    (hs : Sorted (cat.map CatEntry.key0)) : Encodes b cat hidden := by
  have h1 := hK.length_le
  have h2 := hV.length_le
  rw [descTable_length, hl] at h1
  refine encodes_of_header hb hmaj hmin hsize (by omega) (by omega) (by omega) hflag (fun j hj => ?_) (fun j hj => ?_) hs
  · obtain ⟨off, hd, hs⟩ := hk j hj
    exact StringAt_of_table hsize hK hd hs
  · obtain ⟨off, hd, hs⟩ := hv j hj
    exact StringAt_of_table hsize hV hd hs

theorem file_slices (be : Bool) {W : Bytes} (X T1 G T2 G2 S Z : Bytes) (hW : W.length = 16) :
    Slice (magicOf be ++ (W ++ (X ++ (T1 ++ (G ++ (T2 ++ (G2 ++ (S ++ Z)))))))) (20 + X.length) T1 ∧
    Slice (magicOf be ++ (W ++ (X ++ (T1 ++ (G ++ (T2 ++ (G2 ++ (S ++ Z)))))))) (20 + X.length + T1.length + G.length) T2 ∧
    Slice (magicOf be ++ (W ++ (X ++ (T1 ++ (G ++ (T2 ++ (G2 ++ (S ++ Z))))))))
      (20 + X.length + T1.length + G.length + T2.length + G2.length) S :=
  ⟨⟨magicOf be ++ W ++ X, G ++ T2 ++ G2 ++ S ++ Z, by simp only [List.append_assoc],
      by simp only [List.length_append, magicOf_length, hW]⟩,
   ⟨magicOf be ++ W ++ X ++ T1 ++ G, G2 ++ S ++ Z, by simp only [List.append_assoc],
      by simp only [List.length_append, magicOf_length, hW]⟩,
   ⟨magicOf be ++ W ++ X ++ T1 ++ G ++ T2 ++ G2, Z, by simp only [List.append_assoc],
      by simp only [List.length_append, magicOf_length, hW]⟩⟩

theorem hiddenFlag_of_ok {l : Layout} {cat : List CatEntry} (hok : l.OK cat) (W R : Bytes) (hW : W.length = 16) :
    HiddenFlag l.be (magicOf l.be ++ W ++ l.headerExtra ++ R) l.minor l.hidden := by
  unfold HiddenFlag Layout.hidden
  by_cases h1 : l.minor > 1
  · simp [h1]
  · by_cases h2 : l.minor = 1
    · obtain ⟨hns, x, y, hxy, hxl⟩ := hok.sysdep h2
      simp only [h2, if_true]
      refine ⟨l.nSysdep, ⟨hns, magicOf l.be ++ W ++ x, y ++ R, ?_, ?_⟩, by simp⟩
      · simp only [hxy, List.append_assoc]
      · simp [magicOf_length, hW, hxl]
    · simp [h1, h2]

theorem serialize_encodes (cat : List CatEntry) (l : Layout) (hok : l.OK cat) :
    Encodes (serialize cat l) cat l.hidden := by
  have hsize := hok.size
  obtain ⟨hPl, hPi⟩ := placeStrings_spec (cat.map CatEntry.key ++ cat.map CatEntry.value)
    (20 + l.headerExtra.length + 8 * cat.length + l.gap.length + 8 * cat.length + l.gap2.length) l.pads
  unfold serialize at hsize ⊢
  simp only [] at hsize ⊢
  generalize placeStrings _ _ l.pads = SD at hPl hPi hsize ⊢
  obtain ⟨strings, descs⟩ := SD
  simp only [List.length_append, List.length_map] at hPl hPi
  have htake : (descs.take cat.length).length = cat.length := by rw [List.length_take]; omega
  have hdrop : (descs.drop cat.length).length = cat.length := by rw [List.length_drop]; omega
  have hW : ∀ a b c d : Nat, (encodeWords l.be [a, b, c, d]).length = 16 := fun _ _ _ _ => by
    simp only [encodeWords, List.length_append, encodeWord_length, List.length_nil]
  -- the rows of the two halves of `descs` point into the pool, wherever the pool sits
  have rows : ∀ {b : Bytes}, Slice b (20 + l.headerExtra.length + 8 * cat.length + l.gap.length + 8 * cat.length + l.gap2.length) strings →
      (∀ j (hj : j < cat.length), ∃ off, (descs.take cat.length)[j]? = some (cat[j].key.length, off) ∧ Slice b off (cat[j].key ++ [0])) ∧
      (∀ j (hj : j < cat.length), ∃ off, (descs.drop cat.length)[j]? = some (cat[j].value.length, off) ∧ Slice b off (cat[j].value ++ [0])) := by
    intro b hS
    refine ⟨fun j hj => ?_, fun j hj => ?_⟩
    · obtain ⟨off, h1, h2⟩ := hPi j (by omega)
      rw [List.getElem_append_left (by simpa using hj), List.getElem_map] at h1 h2
      exact ⟨_, by rw [List.getElem?_take_of_lt hj]; exact h1, hS.trans h2⟩
    · obtain ⟨off, h1, h2⟩ := hPi (cat.length + j) (by omega)
      rw [List.getElem_append_right (by simp)] at h1 h2
      simp only [List.length_map, Nat.add_sub_cancel_left, List.getElem_map] at h1 h2
      exact ⟨_, by rw [List.getElem?_drop]; exact h1, hS.trans h2⟩
  cases hv : l.valuesTableFirst <;> simp only [hv, Bool.false_eq_true, if_false, if_true, List.append_assoc] at hsize ⊢
  · obtain ⟨h1, h2, hS⟩ := file_slices l.be l.headerExtra (descTable l.be (descs.take cat.length)) l.gap
      (descTable l.be (descs.drop cat.length)) l.gap2 strings l.trailer (hW _ _ _ _)
    rw [descTable_length, htake] at h2 hS
    rw [descTable_length, hdrop] at hS
    exact encodes_of_tables rfl hok.major_le hok.minor_lt hsize
      (by simpa only [List.append_assoc] using hiddenFlag_of_ok hok _ _ (hW _ _ _ _)) h1 h2 htake (rows hS).1 (rows hS).2 hok.sorted
  · obtain ⟨h1, h2, hS⟩ := file_slices l.be l.headerExtra (descTable l.be (descs.drop cat.length)) l.gap
      (descTable l.be (descs.take cat.length)) l.gap2 strings l.trailer (hW _ _ _ _)
    rw [descTable_length, hdrop] at h2 hS
    rw [descTable_length, htake] at hS
    exact encodes_of_tables rfl hok.major_le hok.minor_lt hsize
      (by simpa only [List.append_assoc] using hiddenFlag_of_ok hok _ _ (hW _ _ _ _)) h2 h1 htake (rows hS).1 (rows hS).2 hok.sorted

end I18n.Mo
