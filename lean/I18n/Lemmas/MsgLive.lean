import I18n.Lemmas.MsgRegex
import I18n.Spec.MessageRules
/-
The environment generated from /repo (`liveEnv`) is `Sane`, whatever expat answers as long as it raises nothing but `ExpatError`.
-/
namespace I18n.Msg
open I18n.Tags
open I18n.Spec.MessageRules

def allInRange (p : Nat → Bool) (r : Nat × Nat) : Bool := (List.range (r.2 - r.1 + 1)).all fun i => p (r.1 + i)

theorem allInRange_spec {p : Nat → Bool} {r : Nat × Nat} (h : allInRange p r = true) {c : Nat} (h1 : r.1 ≤ c) (h2 : c ≤ r.2) :
    p c = true := by
  simp only [allInRange, List.all_eq_true, List.mem_range] at h
  have := h (c - r.1) (by omega)
  rwa [show r.1 + (c - r.1) = c by omega] at this

/-- the generated class is positive, `\w`-free, and every code point in it has a name in the probed table -/
def liveNamesOk : Bool :=
  Generated.StringFormats.unusualAlts.all fun a =>
    !a.2.1.1 && !a.2.1.2.2 &&
      a.2.1.2.1.all (allInRange fun c => ((assocGet c Generated.StringFormats.unusualNames).getD none).isSome)

theorem live_names (xml : Str → XmlVerdict) (s : Str) (c : Nat) (h : c ∈ (liveEnv xml).findUnusual s) :
    ((liveEnv xml).charName c).isSome := by
  obtain ⟨a, ha, hc⟩ := ccMatch_of_mem_findAllFrom _ _ s none c h
  have hok : liveNamesOk = true := by decide +kernel
  simp only [liveNamesOk, List.all_eq_true, Bool.and_eq_true, Bool.not_eq_true'] at hok
  obtain ⟨⟨hneg, hw⟩, hr⟩ := hok a ha
  simp only [ccMatch, hneg, hw, Bool.false_and, Bool.or_false, Bool.false_eq_true, if_false, inRanges,
    List.any_eq_true, Bool.and_eq_true, decide_eq_true_eq] at hc
  obtain ⟨r, hrm, h1, h2⟩ := hc
  exact allInRange_spec (hr r hrm) h1 h2

theorem live_sane (xml : Str → XmlVerdict) (hx : ∀ s, xml s ≠ .other) : Sane (liveEnv xml) :=
  ⟨hx, live_names xml,
    (by decide +kernel : ∀ f ∈ Generated.StringFormats.stringFormats, ∀ c ∈ f.1, c ≠ 123 ∧ c ≠ 125),
    (by decide +kernel : ∀ p ∈ Generated.StringFormats.formatPrefixes, ∀ c ∈ p, c ≠ 123 ∧ c ≠ 125)⟩

end I18n.Msg
