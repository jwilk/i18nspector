import I18n.Lemmas.HdrFields
import I18n.Lemmas.HdrDomains
import I18n.Lemmas.Kit.Assoc
/-
C15 lemmas: the `if/elif` chains over an e-mail address (Report-Msgid-Bugs-To, Last-Translator, Language-Team)
decide the documented order of precedence `AddrIs` (`addrVerdict`); the `translator_emails` dictionary answers with the last
of the sorted Last-Translator values that has the address (`SameTranslator`); per field, tags emitted ↔ rule.
-/
namespace I18n.Hdr
open I18n.Spec.HeaderRules I18n.Date I18n.Generated I18n.Domains

def addrVerdict (x : Ext) (boiler : List String) (addr : Str) : AddrVerdict :=
  if isEmailInSpecialDomain x.db.lower addr then .reserved
  else if (boiler.map String.toList).contains addr then .boilerplate
  else if isEmailInDotlessDomain addr then .dotless
  else .fine

theorem hasAt_iff (addr : Str) : hasAt addr = true ↔ HasAt addr := by simp [hasAt, HasAt]

theorem addrVerdict_iff (x : Ext) (boiler : List String) (addr : Str) (h : HasAt addr) (v : AddrVerdict) :
    addrVerdict x boiler addr = v ↔ AddrIs x boiler addr v := by
  have hs := isEmailInSpecialDomain_iff x addr h
  have hd := isEmailInDotlessDomain_iff addr h
  have hb : (boiler.map String.toList).contains addr = true ↔ addr ∈ boiler.map String.toList := by simp
  unfold addrVerdict
  by_cases c1 : isEmailInSpecialDomain x.db.lower addr = true
  · have s1 := hs.1 c1
    cases v <;> simp [c1, AddrIs, s1]
  · have s1 : ¬ SpecialEmail x addr := fun e => c1 (hs.2 e)
    by_cases c2 : (boiler.map String.toList).contains addr = true
    · have b1 := hb.1 c2
      cases v <;> simp [c1, AddrIs, s1, b1]
    · have b1 : addr ∉ boiler.map String.toList := fun e => c2 (hb.2 e)
      by_cases c3 : isEmailInDotlessDomain addr = true
      · have d1 := hd.1 c3
        cases v <;> simp [c1, c3, AddrIs, s1, b1, d1]
      · have d1 : ¬ DotlessEmail addr := fun e => c3 (hd.2 e)
        cases v <;> simp [c1, c3, AddrIs, s1, b1, d1]

theorem addrIs_unique {x : Ext} {boiler : List String} {addr : Str} {v w : AddrVerdict}
    (hv : AddrIs x boiler addr v) (hw : AddrIs x boiler addr w) : v = w := by
  cases v <;> cases w <;> simp_all only [AddrIs, not_true_eq_false, not_false_eq_true, false_and, and_false, and_true]

theorem addrVerdict_match {α : Type} (x : Ext) (boiler : List String) (addr : Str) (r b d f : α) :
    (match addrVerdict x boiler addr with | .reserved => r | .boilerplate => b | .dotless => d | .fine => f) =
      if isEmailInSpecialDomain x.db.lower addr then r else if (boiler.map String.toList).contains addr then b
      else if isEmailInDotlessDomain addr then d else f := by
  unfold addrVerdict
  cases isEmailInSpecialDomain x.db.lower addr <;> cases (boiler.map String.toList).contains addr <;>
    cases isEmailInDotlessDomain addr <;> rfl

theorem mem_byVerdict (x : Ext) (boiler : List String) (addr : Str) (t : TagCall) (n r b d f : List TagCall) :
    t ∈ (if !hasAt addr then n
         else match addrVerdict x boiler addr with | .reserved => r | .boilerplate => b | .dotless => d | .fine => f) ↔
      (¬ HasAt addr ∧ t ∈ n)
      ∨ (HasAt addr ∧ ((AddrIs x boiler addr .reserved ∧ t ∈ r) ∨ (AddrIs x boiler addr .boilerplate ∧ t ∈ b)
          ∨ (AddrIs x boiler addr .dotless ∧ t ∈ d) ∨ (AddrIs x boiler addr .fine ∧ t ∈ f))) := by
  by_cases ha : HasAt addr
  · simp only [(hasAt_iff addr).2 ha, ← addrVerdict_iff x boiler addr ha]
    cases addrVerdict x boiler addr <;> simp [ha]
  · have hb : hasAt addr = false := Bool.eq_false_iff.2 (mt (hasAt_iff addr).1 ha)
    simp [hb, ha]

theorem reportOne_eq (x : Ext) (v : Str) :
    reportOne x v =
      if !hasAt (x.parseaddr v) then
        (if (x.urlScheme v).getD [] = [] then [tag "invalid-report-msgid-bugs-to" [sx v]] else [])
      else match addrVerdict x ["EMAIL@ADDRESS"] (x.parseaddr v) with
        | .reserved => [tag "invalid-report-msgid-bugs-to" [sx v]]
        | .boilerplate => [tag "boilerplate-in-report-msgid-bugs-to" [sx v]]
        | .dotless => [tag "invalid-report-msgid-bugs-to" [sx v]]
        | .fine => [] := by
  rw [addrVerdict_match]
  -- `reportOne` compares the scheme with `HeaderFields.emptyScheme.toList`; the kernel evaluates that constant to `[]` (`source_pins`)
  rfl

theorem mem_reportOne (x : Ext) (v : Str) (t : TagCall) :
    t ∈ reportOne x v ↔
      (¬ HasAt (x.parseaddr v) ∧ (x.urlScheme v = none ∨ x.urlScheme v = some []) ∧
          t = ⟨"invalid-report-msgid-bugs-to", [.str v]⟩)
       ∨ (HasAt (x.parseaddr v) ∧
          ((AddrIs x ["EMAIL@ADDRESS"] (x.parseaddr v) .reserved ∧ t = ⟨"invalid-report-msgid-bugs-to", [.str v]⟩)
           ∨ (AddrIs x ["EMAIL@ADDRESS"] (x.parseaddr v) .boilerplate ∧ t = ⟨"boilerplate-in-report-msgid-bugs-to", [.str v]⟩)
           ∨ (AddrIs x ["EMAIL@ADDRESS"] (x.parseaddr v) .dotless ∧ t = ⟨"invalid-report-msgid-bugs-to", [.str v]⟩))) := by
  -- a URL that cannot be parsed counts as one without a scheme
  have hscheme : (x.urlScheme v).getD [] = [] ↔ x.urlScheme v = none ∨ x.urlScheme v = some [] := by
    cases x.urlScheme v <;> simp
  rw [reportOne_eq, mem_byVerdict, List.mem_ite_nil_right, hscheme]
  simp [tag, sx]

theorem mem_reportTags (x : Ext) (ls : List Line) (t : TagCall) :
    t ∈ reportTags x (buildMeta ls []) ↔ ReportRule x (fieldLines ls) t := by
  unfold reportTags ReportRule cnt
  rw [meta_getS]
  generalize vals (fieldLines ls) "Report-Msgid-Bugs-To" = vs
  by_cases hall : ∀ v ∈ vs, v = []
  · -- nothing but empty values: the field counts as absent
    have hvs : (if dedup vs = [[]] then [] else dedup vs) = [] := by
      by_cases hne : vs = []
      · subst hne; simp [dedup]
      · rw [if_pos ((dedup_eq_single_nil vs).2 ⟨hne, hall⟩)]
    have hno : ¬ ∃ w ∈ vs, w ≠ [] := fun ⟨w, hw, hn⟩ => hn (hall w hw)
    simp only [hvs, List.length_nil, if_true, List.flatMap_nil, List.append_nil, List.mem_append, List.mem_ite_nil_right,
      List.mem_singleton, hno, false_and, and_false, exists_false, or_false]
    exact ⟨fun h => h.elim Or.inr fun h => Or.inl ⟨hall, h⟩, fun h => h.elim (fun h => Or.inr h.2) Or.inl⟩
  · have hex : ∃ w ∈ vs, w ≠ [] := by
      simpa using hall
    have hne1 : dedup vs ≠ [[]] := fun e => hall ((dedup_eq_single_nil vs).1 e).2
    have hne0 : (dedup vs).length ≠ 0 := by
      obtain ⟨w, hw, _⟩ := hex
      intro e
      have := (dedup_length_zero vs).1 e
      have : vs = [] := List.length_eq_zero_iff.1 this
      simp [this] at hw
    simp only [hne1, if_false, hne0, List.mem_append, List.mem_flatMap, mem_dedup, mem_reportOne, List.not_mem_nil, or_false,
      List.mem_ite_nil_right, List.mem_singleton, hall, hex, false_and, false_or, true_and]
    exact Iff.rfl

theorem translatorOne_eq (x : Ext) (tmpl : Bool) (v : Str) :
    translatorOne x tmpl v =
      if !hasAt (x.parseaddr v) then [tag "invalid-last-translator" [sx v]]
      else match addrVerdict x ["EMAIL@ADDRESS"] (x.parseaddr v) with
        | .reserved => [tag "invalid-last-translator" [sx v]]
        | .boilerplate => if tmpl then [] else [tag "boilerplate-in-last-translator" [sx v]]
        | .dotless => [tag "invalid-last-translator" [sx v]]
        | .fine => [] := by
  rw [addrVerdict_match]
  rfl

theorem mem_translatorOne (x : Ext) (tmpl : Bool) (v : Str) (t : TagCall) :
    t ∈ translatorOne x tmpl v ↔
      (¬ HasAt (x.parseaddr v) ∧ t = ⟨"invalid-last-translator", [.str v]⟩)
      ∨ (HasAt (x.parseaddr v) ∧
          ((AddrIs x ["EMAIL@ADDRESS"] (x.parseaddr v) .reserved ∧ t = ⟨"invalid-last-translator", [.str v]⟩)
           ∨ (AddrIs x ["EMAIL@ADDRESS"] (x.parseaddr v) .boilerplate ∧ tmpl = false ∧
                t = ⟨"boilerplate-in-last-translator", [.str v]⟩)
           ∨ (AddrIs x ["EMAIL@ADDRESS"] (x.parseaddr v) .dotless ∧ t = ⟨"invalid-last-translator", [.str v]⟩))) := by
  rw [translatorOne_eq, mem_byVerdict]
  simp [tag, sx]

theorem dictGet_eq (d : List (Str × Str)) (k : Str) : dictGet d k = d.lookup k := by
  simp only [dictGet, ← Kit.find?_key_eq_lookup, Bool.beq_eq_decide_eq]

theorem dictGet_dictSet (k v k' : Str) (d : List (Str × Str)) :
    dictGet (dictSet k v d) k' = if k' = k then some v else dictGet d k' := by
  rw [dictGet_eq, dictGet_eq, Kit.eq_set' (s := dictSet k v) rfl (fun _ _ _ => rfl) d, Kit.lookup_set]
  simp only [beq_iff_eq]

theorem translatorEmails_foldl (x : Ext) (ts : List Str) (d : List (Str × Str)) :
    translatorEmails x ts d = ts.foldl (fun d v => dictSet (x.parseaddr v) v d) d := by
  induction ts generalizing d with
  | nil => rfl
  | cons t ts ih => simp [translatorEmails, ih]

theorem dictGet_translatorEmails (x : Ext) (ts : List Str) (d : List (Str × Str)) (a : Str) :
    dictGet (translatorEmails x ts d) a =
      match ts.reverse.find? (fun v => decide (x.parseaddr v = a)) with
      | some v => some v
      | none => dictGet d a := by
  induction ts generalizing d with
  | nil => simp [translatorEmails]
  | cons v rest ih =>
    simp only [translatorEmails, ih, List.reverse_cons, List.find?_append]
    cases h : rest.reverse.find? (fun v => decide (x.parseaddr v = a)) with
    | some w => simp
    | none =>
      simp only [Option.none_or, dictGet_dictSet]
      by_cases e : x.parseaddr v = a
      · simp [e]
      · have : ¬ a = x.parseaddr v := fun h => e h.symm
        simp [e, this]

theorem teamOne_eq (x : Ext) (tmpl : Bool) (emails : List (Str × Str)) (v : Str) :
    teamOne x tmpl emails v =
      if !hasAt (x.parseaddr v) then []
      else match addrVerdict x ["EMAIL@ADDRESS", "LL@li.org"] (x.parseaddr v) with
        | .reserved => [tag "invalid-language-team" [sx v]]
        | .boilerplate => if tmpl then [] else [tag "boilerplate-in-language-team" [sx v]]
        | .dotless => [tag "invalid-language-team" [sx v]]
        | .fine => match dictGet emails (x.parseaddr v) with
          | some translator => [tag "language-team-equal-to-last-translator" [sx v, sx translator]]
          | none => [] := by
  rw [addrVerdict_match]
  rfl

theorem mem_teamOne (x : Ext) (tmpl : Bool) (ts : List Str) (v : Str) (t : TagCall) :
    t ∈ teamOne x tmpl (translatorEmails x ts []) v ↔
      HasAt (x.parseaddr v) ∧
      ((AddrIs x ["EMAIL@ADDRESS", "LL@li.org"] (x.parseaddr v) .reserved ∧ t = ⟨"invalid-language-team", [.str v]⟩)
       ∨ (AddrIs x ["EMAIL@ADDRESS", "LL@li.org"] (x.parseaddr v) .boilerplate ∧ tmpl = false ∧
            t = ⟨"boilerplate-in-language-team", [.str v]⟩)
       ∨ (AddrIs x ["EMAIL@ADDRESS", "LL@li.org"] (x.parseaddr v) .dotless ∧ t = ⟨"invalid-language-team", [.str v]⟩)
       ∨ (AddrIs x ["EMAIL@ADDRESS", "LL@li.org"] (x.parseaddr v) .fine ∧
            ∃ tr, (ts.reverse.find? fun w => decide (x.parseaddr w = x.parseaddr v)) = some tr ∧
              t = ⟨"language-team-equal-to-last-translator", [.str v, .str tr]⟩)) := by
  rw [teamOne_eq, dictGet_translatorEmails, mem_byVerdict]
  cases ts.reverse.find? (fun w => decide (x.parseaddr w = x.parseaddr v)) <;> simp [tag, sx, dictGet]

theorem mem_checkTranslator_rule (x : Ext) (f : File) (ls : List Line) (t : TagCall) :
    t ∈ checkTranslator x f.kind.isTemplate (buildMeta ls []) ↔
      TranslatorRule x f (fieldLines ls) t ∨ TeamRule x f (fieldLines ls) t := by
  unfold checkTranslator TranslatorRule TeamRule SameTranslator cnt
  rw [meta_getS, meta_getS]
  dsimp only
  rw [dedup_eq_sortedSet (vals (fieldLines ls) "Last-Translator")]
  simp only [List.mem_append, List.mem_flatMap, mem_dedup, mem_sortedSet, mem_countTags, mem_translatorOne, mem_teamOne, or_assoc]
  exact Iff.rfl

end I18n.Hdr
