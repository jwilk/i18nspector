import I18n.Lemmas.FmtCheckBrace
import I18n.Props.C14
import I18n.Model.Meta
/-!
The brace parsers of C13 as the strings C14's argument checks read (for C01).  C14 models `check_message` of the python-brace and
perl-brace checkers over *parsed* strings (`FmtCheck.BraceStr`) and proves it total provided the outcome of parsing is never a crash
and every signature is a well-formed dict (`MsgOk`).  Here the outcome is COMPUTED from the text by C13's parser models, for which
both provisos hold on every text (`Lemmas/FmtCheckBrace.lean`); `kmsgReal` is then the message as each of the four format back ends
sees it, a function of the entry alone.
-/
namespace I18n.PipelineBrace
open I18n I18n.FmtCheck I18n.FmtSig

def tySet (t : PyBrace.TySet) : TySet := ⟨t.float, t.int, t.str⟩

def bkey : PyBrace.Key → BKey
  | .idx n => .idx n
  | .name s => .name s

/-- `fmt.argument_map` and `len(fmt)` of a parsed python-brace string -/
def pySig (r : PyBrace.Result) : PyBraceSig :=
  ⟨r.argMap.map fun p => (bkey p.1, p.2.map fun a => tySet a.types), r.items.length⟩

/-- `bool(s)` and `strformat.pybrace.FormatString(s)` -/
def pyBraceStr (s : List Char) : BraceStr PyBraceSig :=
  ⟨!s.isEmpty,
   match PyBrace.parse s with
   | .ok r => .ok (pySig r)
   | .error (.own _ _) => .own
   | .error (.crash e) => .crash e⟩

/-- **every text is a good python-brace string**: `pyBraceStr s` carries `FmtCheck.pyBraceParse s`, which never crashes (C13
    `brace_error_own`) and yields a well-formed signature (C13's `_argument_map` invariant `SigOK`) -/
theorem pyBraceStr_ok (s : List Char) : StrOk pyBraceBackend BraceWf (pyBraceStr s) :=
  ⟨pyBraceParse_nocrash s, fun _ hf => pyBraceParse_wf hf⟩

def perlSig (r : PerlBrace.Result) : PerlBraceSig := ⟨r.arguments, r.items.length⟩

def perlBraceStr (s : List Char) : BraceStr PerlBraceSig :=
  ⟨!s.isEmpty,
   match PerlBrace.parse s with
   | .ok r => .ok (perlSig r)
   | .error (.error _) => .own
   | .error (.crash e) => .crash e⟩

/-- every text is a good perl-brace string: `perlBraceStr s` carries `FmtCheck.perlBraceParse s` (C13 `perl_error_own`) -/
theorem perlBraceStr_ok (s : List Char) : StrOk perlBraceBackend (fun _ => True) (perlBraceStr s) :=
  ⟨perlBraceParse_nocrash s, fun _ _ => trivial⟩

def msgOf {σ : Type} (f : List Char → σ) (o : Meta.Obs) (pfx repr : Extra) : Msg σ :=
  { msgid := f o.msgid, msgidPlural := o.msgidPlural.map f, msgstr := f o.msgstrOrEmpty,
    msgstrPlural := o.msgstrPlural.map fun kv => (kv.1, f kv.2), pfx := pfx, repr := repr }

theorem msgOf_ok {σ F : Type} (b : Backend σ F) (Good : F → Prop) (f : List Char → σ) (hf : ∀ s, StrOk b Good (f s))
    (o : Meta.Obs) (pfx repr : Extra) : MsgOk b Good (msgOf f o pfx repr) := by
  refine ⟨hf _, ?_, hf _, ?_⟩
  · intro s hs
    simp only [msgOf, Option.map_eq_some_iff] at hs
    obtain ⟨t, _, rfl⟩ := hs
    exact hf t
  · intro p hp
    simp only [msgOf, List.mem_map] at hp
    obtain ⟨q, _, rfl⟩ := hp
    exact hf q.2

/-- `self._message_format_checkers[name]` applied to the message: `reprs o` are `message_repr(message, template='{}:')` and
    `message_repr(message)` (functions of msgid and msgctxt) -/
def kmsgReal (reprs : Meta.Obs → Extra × Extra) (o : Meta.Obs) (name : List Char) : KMsg :=
  if name = "c".toList then .c (msgOf id o (reprs o).1 (reprs o).2)
  else if name = "python".toList then .python (msgOf id o (reprs o).1 (reprs o).2)
  else if name = "python-brace".toList then .pyBrace (msgOf pyBraceStr o (reprs o).1 (reprs o).2)
  else if name = "perl-brace".toList then .perlBrace (msgOf perlBraceStr o (reprs o).1 (reprs o).2)
  else .other

/-- **no format checker raises**, whatever the message, the context and the flags (C14's four `check_message_nocrash` theorems,
    the two brace ones with their provisos discharged from C13) -/
theorem kmsgReal_nocrash (reprs : Meta.Obs → Extra × Extra) (o : Meta.Obs) (name : List Char) (ctx : Ctx) (fl : Flags) :
    ∃ ts, (kmsgReal reprs o name).check ctx fl = .ok ts := by
  fun_cases kmsgReal reprs o name
  · exact Props.C14.c_check_message_nocrash ctx _ fl
  · exact Props.C14.python_check_message_nocrash ctx _ fl
  · exact Props.C14.pybrace_check_message_nocrash ctx _ fl (msgOf_ok _ _ _ pyBraceStr_ok o _ _)
  · exact Props.C14.perlbrace_check_message_nocrash ctx _ fl (msgOf_ok _ _ _ perlBraceStr_ok o _ _)
  · exact ⟨[], rfl⟩

end I18n.PipelineBrace
