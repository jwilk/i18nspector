import I18n.Lemmas.DateScan
/- `hasBoilerplate` (model of `_search_for_date_boilerplate`) ↔ the declarative `HasBoilerplate`; `strip` ↔ `Stripped`. -/
namespace I18n.Date
open I18n.Spec.Date I18n.Generated

def BoilerHere (s : List Char) : Prop :=
  (∃ r, s = ['-','M','O','-'] ++ r)
  ∨ (∃ c r, s = ['-','D','A'] ++ c :: r ∧ White c)
  ∨ (∃ c r, s = c :: ['H','O',':'] ++ r ∧ White c)
  ∨ (s = [':','M','I'])
  ∨ (∃ r, s = [':','M','I','+'] ++ r)
  ∨ (s = ['+','Z','O','N','E'])

theorem altDA_iff (s : List Char) :
    altDA s = true ↔ ∃ c r, s = ['-','D','A'] ++ c :: r ∧ White c := by
  simp only [← stripPre_some, ← isSpace_iff]
  unfold altDA
  rcases stripPre ['-','D','A'] s with _ | _ | _ <;> simp

theorem altHO_iff (s : List Char) :
    altHO s = true ↔ ∃ c r, s = c :: ['H','O',':'] ++ r ∧ White c := by
  unfold altHO
  cases s with
  | nil => simp
  | cons c s =>
    simp only [Bool.and_eq_true, isSpace_iff, isSome_stripPre]
    constructor
    · rintro ⟨hw, r, e⟩; exact ⟨c, r, by rw [e]; rfl, hw⟩
    · rintro ⟨c', r, e, hw⟩
      simp only [List.cons_append, List.cons.injEq] at e
      obtain ⟨rfl, e⟩ := e
      exact ⟨hw, r, by rw [e]; rfl⟩

theorem altMI_iff (s : List Char) :
    altMI s = true ↔ (s = [':','M','I']) ∨ (∃ r, s = [':','M','I','+'] ++ r) := by
  have e (r : List Char) : [':','M','I','+'] ++ r = [':','M','I'] ++ '+' :: r := rfl
  rw [← List.append_nil [':','M','I']]
  simp only [e, ← stripPre_some]
  unfold altMI
  rcases stripPre [':','M','I'] s with _ | _ | _ <;> simp

theorem altZONE_iff (s : List Char) :
    altZONE s = true ↔ s = ['+','Z','O','N','E'] := by
  rw [← List.append_nil ['+','Z','O','N','E'], ← stripPre_some]
  unfold altZONE
  rcases stripPre ['+','Z','O','N','E'] s with _ | _ | _ <;> simp

theorem boilerAt_iff (s : List Char) : boilerAt s = true ↔ BoilerHere s := by
  unfold boilerAt BoilerHere
  simp only [Bool.or_eq_true, isSome_stripPre, altDA_iff, altHO_iff, altMI_iff, altZONE_iff, or_assoc]

theorem boilerAny_iff (s : List Char) : boilerAny s = true ↔ ∃ l r, s = l ++ r ∧ BoilerHere r := by
  induction s with
  | nil =>
    simp only [boilerAny, Bool.false_eq_true, false_iff]
    rintro ⟨l, r, e, hb⟩
    obtain ⟨-, rfl⟩ := List.nil_eq_append_iff.mp e
    rcases hb with ⟨r, h⟩ | ⟨c, r, h, _⟩ | ⟨c, r, h, _⟩ | h | ⟨r, h⟩ | h <;> simp at h
  | cons c s ih =>
    rw [boilerAny, Bool.or_eq_true, boilerAt_iff, ih, Kit.exists_split_append c s fun _ r => BoilerHere r]

theorem hasBoilerplate_iff (s : List Char) : hasBoilerplate s = true ↔ HasBoilerplate s := by
  unfold hasBoilerplate HasBoilerplate
  simp only [Bool.or_eq_true, isSome_stripPre, boilerAny_iff, BoilerHere]
  constructor
  · rintro (h | ⟨l, r, e, hb⟩)
    · exact Or.inl h
    · subst e
      rcases hb with ⟨r', h⟩ | ⟨c, r', h, hw⟩ | ⟨c, r', h, hw⟩ | h | ⟨r', h⟩ | h
      · exact Or.inr (Or.inl ⟨l, r', by rw [h]; simp⟩)
      · exact Or.inr (Or.inr (Or.inl ⟨l, c, r', by rw [h]; simp, hw⟩))
      · exact Or.inr (Or.inr (Or.inr (Or.inl ⟨l, c, r', by rw [h]; simp, hw⟩)))
      · exact Or.inr (Or.inr (Or.inr (Or.inr (Or.inl ⟨l, by rw [h]⟩))))
      · exact Or.inr (Or.inr (Or.inr (Or.inr (Or.inr (Or.inl ⟨l, r', by rw [h]; simp⟩)))))
      · exact Or.inr (Or.inr (Or.inr (Or.inr (Or.inr (Or.inr ⟨l, by rw [h]⟩)))))
  · rintro (h | ⟨l, r, h⟩ | ⟨l, c, r, h, hw⟩ | ⟨l, c, r, h, hw⟩ | ⟨l, h⟩ | ⟨l, r, h⟩ | ⟨l, h⟩)
    · exact Or.inl h
    · exact Or.inr ⟨l, _, by rw [h]; simp, Or.inl ⟨r, rfl⟩⟩
    · exact Or.inr ⟨l, _, by rw [h]; simp, Or.inr (Or.inl ⟨c, r, rfl, hw⟩)⟩
    · exact Or.inr ⟨l, _, by rw [h]; simp, Or.inr (Or.inr (Or.inl ⟨c, r, rfl, hw⟩))⟩
    · exact Or.inr ⟨l, _, h, Or.inr (Or.inr (Or.inr (Or.inl rfl)))⟩
    · exact Or.inr ⟨l, _, by rw [h]; simp, Or.inr (Or.inr (Or.inr (Or.inr (Or.inl ⟨r, rfl⟩))))⟩
    · exact Or.inr ⟨l, _, h, Or.inr (Or.inr (Or.inr (Or.inr (Or.inr rfl))))⟩

theorem strip_last (s : List Char) : ∀ c, (strip s).getLast? = some c → ¬ White c := by
  intro c hc
  obtain ⟨_, _, _, hh⟩ := dropWhile_sound (s.dropWhile isSpace).reverse
  apply hh c
  unfold strip at hc
  rwa [List.getLast?_reverse] at hc

theorem strip_spec (s : List Char) : Stripped s (strip s) := by
  obtain ⟨l, e1, hl, hh⟩ := dropWhile_sound s
  obtain ⟨l', e2, hl', _⟩ := dropWhile_sound (s.dropWhile isSpace).reverse
  have e3 : s.dropWhile isSpace = strip s ++ l'.reverse := by
    have := congrArg List.reverse e2
    simpa [strip] using this
  refine ⟨l, l'.reverse, ?_, hl, ?_, ?_, ?_⟩
  · rw [List.append_assoc, ← e3]; exact e1
  · intro c hc; exact hl' c (List.mem_reverse.mp hc)
  · intro c hc
    apply hh c
    rw [e3]
    cases hs : strip s with
    | nil => rw [hs] at hc; cases hc
    | cons x xs => rw [hs] at hc; simpa using hc
  · exact strip_last s

theorem stripped_unique {s t : List Char} (h : Stripped s t) : t = strip s := by
  obtain ⟨l, r, rfl, hl, hr, hh, hlast⟩ := h
  unfold strip
  cases t with
  | nil =>
    have : ∀ c ∈ l ++ [] ++ r, White c := by
      intro c hc
      simp only [List.append_nil, List.mem_append] at hc
      rcases hc with hc | hc
      · exact hl c hc
      · exact hr c hc
    have e := dropWhile_append (r := []) this (by simp)
    rw [List.append_nil] at e
    rw [e]; rfl
  | cons a t =>
    have e1 : (l ++ (a :: t) ++ r).dropWhile isSpace = (a :: t) ++ r := by
      rw [List.append_assoc]
      exact dropWhile_append hl (by intro c hc; simp at hc; subst hc; exact hh a rfl)
    rw [e1, List.reverse_append]
    have e2 : (r.reverse ++ (a :: t).reverse).dropWhile isSpace = (a :: t).reverse := by
      apply dropWhile_append
      · intro c hc; exact hr c (List.mem_reverse.mp hc)
      · intro c hc
        rw [List.head?_reverse] at hc
        exact hlast c hc
    rw [e2, List.reverse_reverse]

theorem strip_id {t : List Char} (h1 : ∀ c, t.head? = some c → ¬ White c) (h2 : ∀ c, t.getLast? = some c → ¬ White c) :
    strip t = t :=
  (stripped_unique ⟨[], [], (List.append_nil t).symm, fun _ h => absurd h List.not_mem_nil,
    fun _ h => absurd h List.not_mem_nil, h1, h2⟩).symm

end I18n.Date
