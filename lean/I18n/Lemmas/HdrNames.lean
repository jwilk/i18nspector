import I18n.Spec.HeaderRules
import I18n.Lemmas.HdrExempt
import I18n.Lemmas.Kit.Sorted
/-
C15 lemmas: the tag names the rule set (hence the model) can emit, and the cross-check against the tag names found
in the `self.tag(…)` calls of the six `check_*` methods by the translator's ast walk.
-/
namespace I18n.Hdr
open I18n.Spec.HeaderRules I18n.Date I18n.Generated

/-- a sorted list that contains every tag name the header stages of the model can emit (`reported_name`) -/
def modelTagNames : List String := [
  "ancient-date", "boilerplate-in-content-type", "boilerplate-in-date", "boilerplate-in-initial-comments",
  "boilerplate-in-language-team", "boilerplate-in-last-translator", "boilerplate-in-project-id-version",
  "boilerplate-in-report-msgid-bugs-to", "conflict-marker-in-header-entry", "date-from-future", "distant-header-entry",
  "duplicate-flag-for-header-entry", "duplicate-header-entry", "duplicate-header-field",
  "duplicate-header-field-content-transfer-encoding", "duplicate-header-field-content-type", "duplicate-header-field-date",
  "duplicate-header-field-language-team", "duplicate-header-field-last-translator", "duplicate-header-field-mime-version",
  "duplicate-header-field-project-id-version", "duplicate-header-field-report-msgid-bugs-to",
  "empty-msgid-message-with-plural-forms", "empty-msgid-message-with-source-code-references", "fuzzy-header-entry",
  "invalid-content-transfer-encoding", "invalid-content-type", "invalid-date", "invalid-language-team",
  "invalid-last-translator", "invalid-mime-version", "invalid-report-msgid-bugs-to",
  "language-team-equal-to-last-translator", "no-content-transfer-encoding-header-field", "no-content-type-header-field",
  "no-date-header-field", "no-language-team-header-field", "no-last-translator-header-field",
  "no-mime-version-header-field", "no-package-name-in-project-id-version", "no-project-id-version-header-field",
  "no-report-msgid-bugs-to-header-field", "no-version-in-project-id-version", "non-ascii-compatible-encoding",
  "non-portable-encoding", "stray-header-line", "unexpected-flag-for-header-entry", "unknown-encoding",
  "unknown-header-field", "unrepresentable-characters", "unusual-character-in-header-entry"]

/-- walks `modelTagNames` (`List.Mem.tail`) to the place where the literal stands (`List.Mem.head`) -/
macro "nm" : tactic => `(tactic| (unfold modelTagNames; repeat constructor))

def stageMethods : List String :=
  ["check_comments", "check_dates", "check_headers", "check_mime", "check_project", "check_translator"]

def insertS (x : String) : List String → List String
  | [] => [x]
  | y :: ys => if x = y then y :: ys else if x < y then x :: y :: ys else y :: insertS x ys

/-- the tag names in the `self.tag(…)` calls of the six methods, as found by the ast walk on this run, sorted -/
def sourceTagNames : List String :=
  ((HeaderFields.tagsOf.filter fun e => stageMethods.contains e.1).flatMap fun e => e.2.1).foldr insertS []

theorem map_insertS (x : String) (l : List String) :
    (insertS x l).map String.toList = Kit.insertBy (fun a b => decide (a < b)) x.toList (l.map String.toList) := by
  induction l with
  | nil => rfl
  | cons y ys ih =>
    have he : x.toList = y.toList ↔ x = y := String.toList_inj
    have hl : x.toList < y.toList ↔ x < y := Iff.rfl
    simp only [insertS, Kit.insertBy, List.map_cons, he, hl, decide_eq_true_eq]
    split
    · rfl
    · split
      · rfl
      · rw [List.map_cons, ih]

theorem map_foldr_insertS (l : List String) :
    (l.foldr insertS []).map String.toList = Kit.sortedSet (fun a b => decide (a < b)) (l.map String.toList) := by
  induction l with
  | nil => rfl
  | cons x l ih => rw [List.foldr_cons, map_insertS, ih]; rfl

/- Comparing two string literals makes the kernel decode both.  The sort is therefore carried over to the lists of characters
   (`map_foldr_insertS`), where `String.toList_ofList` spells every name out without decoding it. -/
theorem sourceTagNames_eq : sourceTagNames = modelTagNames := by
  apply (List.map_inj_right (f := String.toList) (fun _ _ => String.toList_inj.1)).1
  rw [sourceTagNames, map_foldr_insertS]
  unfold HeaderFields.tagsOf modelTagNames stageMethods
  simp only [List.filter_cons, List.filter_nil, List.contains_cons, List.contains_nil, String.reduceBEq, Bool.or_false, Bool.or_true, if_true, if_false, Bool.false_eq_true,
    List.flatMap_cons, List.flatMap_nil, List.map_cons, List.map_nil, List.cons_append, List.nil_append, List.append_nil]
  repeat rw [String.toList_ofList]
  decide +kernel

/-- the six methods contain `self.tag` calls for exactly the tag names of the model, and none with a
    computed name -/
theorem tag_sites_pin :
    sourceTagNames = modelTagNames ∧
    ((HeaderFields.tagsOf.filter fun e => stageMethods.contains e.1).all fun e => !e.2.2) = true ∧
    (stageMethods.all fun m => HeaderFields.tagsOf.any fun e => e.1 == m) = true :=
  ⟨sourceTagNames_eq, by decide +kernel⟩

theorem checkDates_names (c : Ctx) (ds : List Tag) (h : checkDates c = some ds) :
    ∀ d ∈ ds, d.name ∈ modelTagNames := by
  rw [checkDates_eq] at h
  injection h with h
  subst h
  have per : ∀ (f : Field) (dates : List (List Char)), ∀ d ∈ perDate c.now f c.isTemplate (isPublican c.contentType) dates,
      d.name ∈ modelTagNames := by
    intro f dates d hd
    rcases perDate_name_cases _ _ _ _ _ d hd with h | h | h | h <;> rw [h] <;> nm
  have one : ∀ (f : Field) (dates : List (List Char)), ∀ d ∈ fieldTags c f dates, d.name ∈ modelTagNames := by
    intro f dates d hd
    rcases (mem_fieldTags c f dates d).1 hd with ⟨_, rfl⟩ | ⟨_, _, rfl⟩ | hd
    · nm
    · nm
    · exact per _ _ d hd
  intro d hd
  rcases List.mem_append.1 hd with hd | hd
  · exact one _ _ d hd
  · exact one _ _ d hd

theorem ofCharsetTag_name (ct : Str) (c : Charset.Tag) : (ofCharsetTag ct c).name ∈ modelTagNames := by
  cases c with
  | boilerplate => nm
  | unknownEncoding e => nm
  | nonAsciiCompatible e => nm
  | nonPortable e p => cases p <;> nm
  | unrepresentable e cs => nm

theorem reported_name (x : Ext) (cs : CharsetCheck) (now : Int) (f : File) (t : TagCall)
    (h : Reported x cs now f t) : t.name ∈ modelTagNames := by
  unfold Reported at h
  simp only [] at h
  rcases h with h | h | h | h | h | h | h | h | h | h | h | h
  · -- CommentRule
    obtain ⟨_, _, _, rfl⟩ := h; nm
  · -- EntryRule
    rcases h with ⟨_, rfl⟩ | ⟨e, i, _, h⟩
    · nm
    · rcases h with ⟨_, rfl⟩ | ⟨_, rfl⟩ | ⟨_, rfl⟩ | ⟨_, _, rfl⟩ | ⟨_, _, _, rfl⟩ | ⟨_, _, rfl⟩ | ⟨_, _, _, rfl⟩ <;> nm
  · -- StrayRule
    rcases h with ⟨_, _, _, rfl⟩ | ⟨_, _, _, _, _, _, rfl⟩ <;> nm
  · -- NameRule
    rcases h with ⟨_, _, _, _, _, _, rfl⟩ | ⟨_, _, _, _, rfl⟩ <;> nm
  · -- FixedRule, MIME-Version.  The names of `FixedRule` are concatenations: evaluated once here, not at every place of the list
    rcases h with ⟨_, rfl⟩ | ⟨_, rfl⟩ | ⟨_, _, _, rfl⟩
    · show "no-mime-version-header-field" ∈ modelTagNames
      nm
    · show "duplicate-header-field-mime-version" ∈ modelTagNames
      nm
    · show "invalid-mime-version" ∈ modelTagNames
      nm
  · -- FixedRule, Content-Transfer-Encoding
    rcases h with ⟨_, rfl⟩ | ⟨_, rfl⟩ | ⟨_, _, _, rfl⟩
    · show "no-content-transfer-encoding-header-field" ∈ modelTagNames
      nm
    · show "duplicate-header-field-content-transfer-encoding" ∈ modelTagNames
      nm
    · show "invalid-content-transfer-encoding" ∈ modelTagNames
      nm
  · -- ContentTypeRule
    rcases h with ⟨_, rfl⟩ | ⟨_, rfl⟩ | ⟨ct, _, h⟩
    · nm
    · nm
    · rcases h with ⟨_, rfl⟩ | ⟨_, _, _, _, _, _, h⟩
      · nm
      · rcases h with ⟨c, _, rfl⟩ | ⟨_, rfl⟩
        · exact ofCharsetTag_name ct c
        · nm
  · -- DateRule
    obtain ⟨ds, hd, d, hm, rfl⟩ := h
    exact checkDates_names _ ds hd d hm
  · -- ProjectRule
    rcases h with ⟨_, rfl⟩ | ⟨_, rfl⟩ | ⟨_, _, h⟩
    · nm
    · nm
    · rcases h with ⟨_, rfl⟩ | ⟨_, ⟨_, rfl⟩ | ⟨_, rfl⟩⟩ <;> nm
  · -- ReportRule
    rcases h with ⟨_, rfl⟩ | ⟨_, rfl⟩ | ⟨_, _, _, h⟩
    · nm
    · nm
    · rcases h with ⟨_, _, rfl⟩ | ⟨_, ⟨_, rfl⟩ | ⟨_, rfl⟩ | ⟨_, rfl⟩⟩ <;> nm
  · -- TranslatorRule
    rcases h with ⟨_, rfl⟩ | ⟨_, rfl⟩ | ⟨_, _, h⟩
    · nm
    · nm
    · rcases h with ⟨_, rfl⟩ | ⟨_, ⟨_, rfl⟩ | ⟨_, _, rfl⟩ | ⟨_, rfl⟩⟩ <;> nm
  · -- TeamRule
    rcases h with ⟨_, rfl⟩ | ⟨_, rfl⟩ | ⟨_, _, _, h⟩
    · nm
    · nm
    · rcases h with ⟨_, rfl⟩ | ⟨_, _, rfl⟩ | ⟨_, rfl⟩ | ⟨_, _, _, rfl⟩ <;> nm

end I18n.Hdr
