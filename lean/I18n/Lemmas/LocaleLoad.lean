import I18n.Lemmas.LocaleFixCodes
import I18n.Lemmas.Kit.Assoc
/-
The ISO tables.  The tables the code has loaded (`Generated.Locale.iso639`, `iso3166`) ARE what `_read_iso_codes` builds from the
rows of data/iso-codes (`Generated.Locale.languageCodes`, `territoryKeys`): pins by kernel evaluation.  By the dict law of the bucket representation
the loop builds, from any data file of the expected form, exactly the relation it writes (`lookupIn_loadIso639_iff`); the language
table is the instance at data/iso-codes (`lookupLanguage_iff`), and what `fix_codes` does to a code is read off the rows of the data file.
-/
namespace I18n.Locale

/-! ### the reader: `d[k] = v`, bucket by bucket -/

/-- the dict law for `assocSet`, by its own induction: `assocSet` rewrites EVERY entry with the key (`map`), where `Kit.set`
    replaces the first, so it is no instance of `Kit.eq_set` and `Kit.lookup_set` does not apply (the two agree on distinct keys) -/
theorem assocSet_lookup_eq (b : List (List Char × List Char)) (k v k' : List Char) :
    (assocSet b k v).lookup k' = if k' = k then some v else b.lookup k' := by
  have hmap : ∀ t : List (List Char × List Char), (t.map fun e => if e.1 == k then (k, v) else e).lookup k' =
      if k' = k then (t.lookup k).map (fun _ => v) else t.lookup k' := by
    intro t
    induction t with
    | nil => simp
    | cons e t ih =>
      rw [List.map_cons, List.lookup_cons, List.lookup_cons, List.lookup_cons, ih]
      by_cases hk : k' = k
      · subst hk; cases he : e.1 == k' <;> simp [he, BEq.comm (a := k')]
      · have hk' : (k' == k) = false := by simpa using hk
        cases he : e.1 == k
        · simp [hk]
        · have : e.1 = k := by simpa using he
          simp [hk, hk', this]
  have hany : b.any (fun e => e.1 == k) = (b.lookup k).isSome := by
    induction b with
    | nil => rfl
    | cons e t ih => rw [List.any_cons, List.lookup_cons, ih, BEq.comm]; cases k == e.1 <;> simp
  unfold assocSet
  rw [hany]
  cases hl : b.lookup k with
  | some x => rw [Option.isSome_some, if_pos rfl, hmap, hl]; rfl
  | none =>
    by_cases hk : k' = k
    · subst hk; simp [List.lookup_append, hl]
    · have : (k' == k) = false := by simpa using hk
      simp [List.lookup_append, List.lookup_cons, hk, this]

/-- what one row of the data file writes -/
def writes (r : List Char × List Char) : List (List Char × List Char) :=
  if r.2 ≠ [] then [(r.2, r.2), (r.1, r.2)] else [(r.1, r.1)]

/-- the bucket of `c` after the writes `ws`: only the writes to keys that start with `c` matter -/
def bucketOf (c : Char) (ws : List (List Char × List Char)) (b : List (List Char × List Char)) : List (List Char × List Char) :=
  (ws.filter fun w => w.1.head? == some c).foldl (fun b w => assocSet b w.1 w.2) b

theorem bucketOf_nil (c : Char) (b : List (List Char × List Char)) : bucketOf c [] b = b := rfl

theorem bucketOf_cons (c : Char) (w : List Char × List Char) (ws b : List (List Char × List Char)) :
    bucketOf c (w :: ws) b = bucketOf c ws (if w.1.head? == some c then assocSet b w.1 w.2 else b) := by
  unfold bucketOf
  rw [List.filter_cons]
  split <;> rfl

theorem setIn_map (cs : List Char) (B : Char → List (List Char × List Char)) (k v : List Char) :
    setIn (cs.map fun c => (c, B c)) k v = cs.map fun c => (c, bucketOf c [(k, v)] (B c)) := by
  cases k with
  | nil => rfl
  | cons c0 kt =>
    simp only [setIn, List.map_map]
    apply List.map_congr_left
    intro c _
    rw [bucketOf_cons, bucketOf_nil]
    by_cases h : c = c0
    · subst h; simp
    · have : (c0 == c) = false := by simpa using fun e => h e.symm
      simp [h, this]

theorem foldl_setIn (cs : List Char) : ∀ (ws : List (List Char × List Char)) (B : Char → List (List Char × List Char)),
    ws.foldl (fun T w => setIn T w.1 w.2) (cs.map fun c => (c, B c)) = cs.map fun c => (c, bucketOf c ws (B c))
  | [], _ => rfl
  | w :: ws, B => by
    rw [List.foldl_cons, setIn_map, foldl_setIn cs ws]
    simp only [bucketOf_cons, bucketOf_nil]

theorem loadIso639_eq (cs : List Char) (rows : List (List Char × List Char)) :
    loadIso639 cs rows = cs.map fun c => (c, bucketOf c (rows.flatMap writes) []) := by
  have step : loadStep = fun T r => (writes r).foldl (fun T w => setIn T w.1 w.2) T := by
    funext T r
    unfold loadStep writes
    split <;> rfl
  unfold loadIso639
  rw [step, ← List.foldl_flatMap, foldl_setIn]

/-- a dict built by assignments: the last write to a key wins -/
theorem bucketOf_lookup_eq (c : Char) (k : List Char) (hc : k.head? = some c) : ∀ (ws b : List (List Char × List Char)),
    (bucketOf c ws b).lookup k = (ws.reverse.lookup k).or (b.lookup k)
  | [], _ => rfl
  | w :: ws, b => by
    have ih := bucketOf_lookup_eq c k hc ws
    rw [bucketOf_cons, ih, List.reverse_cons, List.lookup_append, Option.or_assoc]
    obtain ⟨a, x⟩ := w
    by_cases hk : k = a
    · subst hk
      rw [if_pos (by simp [hc]), assocSet_lookup_eq, if_pos rfl, List.lookup_cons_self]
      rfl
    · -- a write to another key, in this bucket or not, leaves `k` alone
      have hk' : (k == a) = false := by simpa using hk
      have : ([(a, x)].lookup k).or (b.lookup k) = b.lookup k := by simp [List.lookup_cons, hk']
      rw [this]
      split
      · rw [assocSet_lookup_eq, if_neg hk]
      · rfl

theorem lookupIn_map_eq (B : Char → List (List Char × List Char)) (c : Char) (kt : List Char) (cs : List Char) :
    lookupIn (cs.map fun c => (c, B c)) (c :: kt) = if c ∈ cs then (B c).lookup (c :: kt) else none := by
  simp only [lookupIn]
  induction cs with
  | nil => rfl
  | cons d cs ih =>
    rw [List.map_cons, List.lookup_cons]
    by_cases hd : c = d
    · subst hd; simp
    · have : (c == d) = false := by simpa using hd
      simp only [this, List.mem_cons, hd, false_or]
      exact ih

/-! ### the pins -/

/-- PIN: the table the code has loaded is the dict the loop of `_read_iso_codes` builds from the rows of data/iso-codes
    (same keys, same values, same insertion order within each bucket) -/
theorem iso639_is_loaded :
    loadIso639 (Generated.Locale.iso639.map (·.1)) Generated.Locale.languageCodes = Generated.Locale.iso639 := by
  rw [loadIso639_eq]
  decide +kernel

/-- PIN: `_iso_3166` is the upper-cased key list of the territory section -/
theorem iso3166_is_loaded : loadIso3166 Generated.Locale.territoryKeys = Generated.Locale.iso3166 := by decide +kernel

/-! ### the data file, and the table as the relation the loop writes -/

/-- `Pairwise (· < ·)` as one pass along the list, for `rows_sane`: the library's `Decidable` instance of `Pairwise` compares
    every pair -/
def ascending : List (List Char) → Bool
  | a :: b :: t => decide (a < b) && ascending (b :: t)
  | _ => true

/-- data/iso-codes as `_read_iso_codes` expects it: three-letter codes in ascending order (`misc.check_sorted`; strictly,
    `ConfigParser` refuses a repeated key), each with a two-letter equivalent or none, lower-case letters throughout -/
theorem rows_sane : ascending (Generated.Locale.languageCodes.map (·.1)) = true ∧
    ∀ r ∈ Generated.Locale.languageCodes, (r.1.length = 3 ∧ (r.2.length = 0 ∨ r.2.length = 2)) ∧
      (∀ c ∈ r.1, isLower c = true) ∧ ∀ c ∈ r.2, isLower c = true := by decide +kernel

theorem bucket_of_lower (c : Char) (h : isLower c = true) : c ∈ Generated.Locale.iso639.map (·.1) := by
  have hcs : Generated.Locale.iso639.map (·.1) = (List.range 26).map fun i => Char.ofNat (97 + i) := by decide +kernel
  simp only [isLower, Spec.LocaleRe.inRanges, lowerR, List.any_cons, List.any_nil, Bool.or_false, Bool.and_eq_true,
    decide_eq_true_eq] at h
  rw [hcs, List.mem_map]
  exact ⟨c.toNat - 97, List.mem_range.2 (by omega), by rw [show 97 + (c.toNat - 97) = c.toNat by omega, Char.ofNat_toNat]⟩

/-- the code both codes of a row are mapped to -/
def canon (r : List Char × List Char) : List Char := if r.2 ≠ [] then r.2 else r.1

theorem canon_of_ne {r : List Char × List Char} (h : r.2 ≠ []) : canon r = r.2 := if_pos h

theorem canon_of_nil {r : List Char × List Char} (h : r.2 = []) : canon r = r.1 := if_neg (not_not_intro h)

theorem mem_writes (rows : List (List Char × List Char)) (k v : List Char) :
    (k, v) ∈ rows.flatMap writes ↔ ∃ r ∈ rows, v = canon r ∧ (k = r.1 ∨ (k = r.2 ∧ r.2 ≠ [])) := by
  rw [List.mem_flatMap]
  refine exists_congr fun r => and_congr_right fun _ => ?_
  by_cases h : r.2 = []
  · -- one write, `d[lll] = lll`
    rw [writes, if_neg (not_not_intro h), canon_of_nil h, List.mem_singleton, Prod.mk.injEq]
    exact ⟨fun ⟨hk, hv⟩ => ⟨hv, .inl hk⟩, fun ⟨hv, hk⟩ => ⟨hk.resolve_right fun h2 => h2.2 h, hv⟩⟩
  · -- two writes, `d[ll] = ll` and `d[lll] = ll`
    rw [writes, if_pos h, canon_of_ne h]
    simp only [List.mem_cons, List.not_mem_nil, or_false, Prod.mk.injEq]
    constructor
    · rintro (⟨hk, hv⟩ | ⟨hk, hv⟩)
      · exact ⟨hv, .inr ⟨hk, h⟩⟩
      · exact ⟨hv, .inl hk⟩
    · rintro ⟨hv, hk | ⟨hk, -⟩⟩
      · exact .inr ⟨hk, hv⟩
      · exact .inl ⟨hk, hv⟩

theorem ascending_pairwise : ∀ (l : List (List Char)), ascending l = true → l.Pairwise (· < ·)
  | [], _ => .nil
  | [_], _ => List.pairwise_singleton ..
  | a :: b :: t, h => by
    simp only [ascending, Bool.and_eq_true, decide_eq_true_eq] at h
    have ih := ascending_pairwise (b :: t) h.2
    refine List.pairwise_cons.2 ⟨fun c hc => ?_, ih⟩
    rcases List.mem_cons.1 hc with rfl | hc
    · exact h.1
    · exact List.lt_trans h.1 ((List.pairwise_cons.1 ih).1 c hc)

theorem row_of_code (rows : List (List Char × List Char)) (h : (rows.map (·.1)).Pairwise (· < ·)) :
    ∀ r ∈ rows, ∀ r' ∈ rows, r.1 = r'.1 → r = r' := by
  have ne {a b : List Char × List Char} (hlt : a.1 < b.1) : a.1 ≠ b.1 := fun e => List.lt_irrefl _ (e ▸ hlt)
  have h := List.pairwise_map.1 h
  exact fun r hr r' hr' => List.Pairwise.forall_of_forall_of_flip (R := fun a b => a.1 = b.1 → a = b) (fun _ _ _ => rfl)
    (h.imp fun hlt e => absurd e (ne hlt)) (h.imp fun hlt e => absurd e.symm (ne hlt)) hr hr'

/-- no key is written with two values: a three-letter code identifies its row and is no row's two-letter code -/
theorem writes_functional (rows : List (List Char × List Char)) (hasc : ascending (rows.map (·.1)) = true)
    (hlen : ∀ r ∈ rows, r.1.length = 3 ∧ (r.2.length = 0 ∨ r.2.length = 2))
    (k v v' : List Char) (hv : (k, v) ∈ rows.flatMap writes) (hv' : (k, v') ∈ rows.flatMap writes) : v = v' := by
  obtain ⟨r, hr, rfl, hk⟩ := (mem_writes ..).1 hv
  obtain ⟨r', hr', rfl, hk'⟩ := (mem_writes ..).1 hv'
  have l := hlen r hr
  have l' := hlen r' hr'
  rcases hk with rfl | ⟨rfl, h2⟩ <;> rcases hk' with e | ⟨e, h2'⟩
  · rw [row_of_code rows (ascending_pairwise _ hasc) r hr r' hr' e]
  · rw [e] at l; rcases l'.2 with l' | l' <;> omega
  · rw [e] at l; rcases l.2 with l | l <;> omega
  · rw [canon_of_ne h2, canon_of_ne h2', e]

/-- `_read_iso_codes` on any data file of the expected form — three-letter codes in ascending order, each with a two-letter
    equivalent or none — when every code begins with a letter that has a bucket (`setIn` drops a write whose bucket is missing):
    the dict is exactly the relation the loop writes -/
theorem lookupIn_loadIso639_iff (cs : List Char) (rows : List (List Char × List Char))
    (hasc : ascending (rows.map (·.1)) = true)
    (hlen : ∀ r ∈ rows, r.1.length = 3 ∧ (r.2.length = 0 ∨ r.2.length = 2))
    (hcs : ∀ k v, (k, v) ∈ rows.flatMap writes → ∃ c t, k = c :: t ∧ c ∈ cs)
    (k v : List Char) :
    lookupIn (loadIso639 cs rows) k = some v ↔ (k, v) ∈ rows.flatMap writes := by
  rw [loadIso639_eq]
  constructor
  · intro h
    match k, h with
    | c :: t, h =>
      rw [lookupIn_map_eq] at h
      split at h
      · rw [bucketOf_lookup_eq c _ rfl, List.lookup_nil, Option.or_none] at h
        exact List.mem_reverse.1 (Kit.lookup_mem h)
      · cases h
  · intro h
    obtain ⟨c, t, rfl, hc⟩ := hcs k v h
    rw [lookupIn_map_eq, if_pos hc, bucketOf_lookup_eq c _ rfl, List.lookup_nil, Option.or_none]
    exact Kit.lookup_of_mem _ v _
      (fun v' hv' => writes_functional _ hasc hlen _ _ _ (List.mem_reverse.1 hv') h)
      (List.mem_reverse.2 h)

theorem lookupLanguage_iff (k v : List Char) :
    lookupLanguage k = some v ↔ (k, v) ∈ Generated.Locale.languageCodes.flatMap writes := by
  unfold lookupLanguage
  rw [← iso639_is_loaded]
  refine lookupIn_loadIso639_iff _ _ rows_sane.1 (fun r hr => (rows_sane.2 r hr).1) (fun k v h => ?_) k v
  -- the key is a code of some row, so it begins with a lower-case letter, and that letter has a bucket
  obtain ⟨r, hr, -, hk⟩ := (mem_writes ..).1 h
  obtain ⟨hlen, low1, low2⟩ := rows_sane.2 r hr
  rcases hk with rfl | ⟨rfl, h2⟩
  · match r.1, hlen.1, low1 with
    | c :: t, _, low => exact ⟨c, t, rfl, bucket_of_lower c (low c List.mem_cons_self)⟩
  · match r.2, h2, low2 with
    | c :: t, _, low => exact ⟨c, t, rfl, bucket_of_lower c (low c List.mem_cons_self)⟩

/-! ### what `fix_codes` does to a language code, in terms of the data file -/

theorem lookupLanguage_idem (k v : List Char) (h : lookupLanguage k = some v) : lookupLanguage v = some v := by
  rw [lookupLanguage_iff, mem_writes] at *
  obtain ⟨r, hr, rfl, -⟩ := h
  refine ⟨r, hr, rfl, ?_⟩
  by_cases h2 : r.2 = []
  · exact .inl (canon_of_nil h2)
  · exact .inr ⟨canon_of_ne h2, h2⟩

theorem lookupLanguage_from_data (k v : List Char) (h : lookupLanguage k = some v) :
    ∃ r ∈ Generated.Locale.languageCodes,
      (r.2 ≠ [] ∧ v = r.2 ∧ (k = r.2 ∨ k = r.1)) ∨ (r.2 = [] ∧ k = r.1 ∧ v = r.1) := by
  rw [lookupLanguage_iff, mem_writes] at h
  obtain ⟨r, hr, rfl, hk⟩ := h
  refine ⟨r, hr, ?_⟩
  by_cases h2 : r.2 = []
  · exact .inr ⟨h2, hk.resolve_right fun h => h.2 h2, canon_of_nil h2⟩
  · exact .inl ⟨h2, canon_of_ne h2, hk.elim .inr fun h => .inl h.1⟩

theorem lookupLanguage_of_row (r : List Char × List Char) (hr : r ∈ Generated.Locale.languageCodes) :
    (r.2 ≠ [] → lookupLanguage r.1 = some r.2 ∧ lookupLanguage r.2 = some r.2) ∧ (r.2 = [] → lookupLanguage r.1 = some r.1) := by
  simp only [lookupLanguage_iff, mem_writes]
  refine ⟨fun h => ⟨?_, ?_⟩, fun h => ?_⟩
  · exact ⟨r, hr, (canon_of_ne h).symm, .inl rfl⟩
  · exact ⟨r, hr, (canon_of_ne h).symm, .inr ⟨rfl, h⟩⟩
  · exact ⟨r, hr, (canon_of_nil h).symm, .inl rfl⟩

theorem lookupLanguage_shape (k v : List Char) (h : lookupLanguage k = some v) : v = k ∨ (k.length = 3 ∧ v.length = 2) := by
  rw [lookupLanguage_iff, mem_writes] at h
  obtain ⟨r, hr, rfl, hk⟩ := h
  obtain ⟨l1, l2⟩ := (rows_sane.2 r hr).1
  rcases hk with rfl | ⟨rfl, h2⟩
  · by_cases h2 : r.2 = []
    · exact .inl (canon_of_nil h2)
    · rw [canon_of_ne h2]
      exact .inr ⟨l1, l2.resolve_left fun h0 => h2 (List.length_eq_zero_iff.1 h0)⟩
  · exact .inl (canon_of_ne h2)

theorem fixCodes_idem (l l' : Language) (f : Bool) (h : fixCodes l = .ok (l', f)) : fixCodes l' = .ok (l', false) := by
  obtain ⟨v, hv, hc, rfl, rfl⟩ := (fixCodes_ok_iff ..).1 h
  exact (fixCodes_ok_iff ..).2 ⟨v, lookupLanguage_idem _ _ hv, hc, rfl, by simp⟩

end I18n.Locale
