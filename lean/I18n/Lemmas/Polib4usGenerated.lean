import I18n.Generated.Polib4us
import I18n.Lemmas.PoKit
import I18n.PyKit
/-!
# `lib/polib4us.py` regenerated (`Generated/Polib4us.lean`) equals the model of `Model/Po.lean`

What the equalities of `Props/C10Tie.lean` are assembled from: one escape and a run of escapes (`body_byte_eq`, `escapesSub_eq`),
`_is_ignored_comment`, and the loop of `Codecs.open` as a fold of `stepModel`.
-/
namespace I18n.Po.PGen
open I18n I18n.Po I18n.Generated

/-- the shapes `escapeBody` produces -/
def validBody (b : Text) : Bool :=
  match b with
  | [c] => (simpleByte c).isSome || isOct c
  | [c, d] => (isOct c && isOct d) || (c == 'x' && isHex d)
  | [c, d, e] => (isOct c && isOct d && isOct e) || (c == 'x' && isHex d && isHex e)
  | _ => false

theorem escapeBody_valid (s b r : Text) (h : escapeBody s = some (b, r)) : validBody b = true := by
  revert h
  fun_cases escapeBody s <;> intro h <;> simp only [Option.some.injEq, Prod.mk.injEq, reduceCtorEq] at h
  all_goals
    obtain ⟨rfl, -⟩ := h
    simp_all [validBody]

theorem escapeRun_valid (fuel : Nat) (s : Text) : ∀ b ∈ (escapeRun fuel s).1, validBody b = true := by
  fun_induction escapeRun fuel s with
  | case2 fuel t body rest heb bs r hrun ih =>
    intro b hb
    rcases List.mem_cons.1 hb with rfl | hb
    · exact escapeBody_valid _ _ _ heb
    · exact ih b (by rw [hrun]; exact hb)
  | _ => simp

theorem isOct_cases (c : Char) (h : isOct c = true) : c ∈ ['0', '1', '2', '3', '4', '5', '6', '7'] := by
  simp only [isOct, Bool.and_eq_true, decide_eq_true_eq, Char.le_def, UInt32.le_iff_toNat_le] at h
  have key : ∀ n : Fin 56, 48 ≤ n.val → Char.ofNat n.val ∈ ['0', '1', '2', '3', '4', '5', '6', '7'] := by decide +kernel
  have := key ⟨c.toNat, Nat.lt_succ_of_le h.2⟩ h.1
  rwa [Char.ofNat_toNat] at this

/-- the octal fix-up followed by `literal_eval`, on every three-digit octal escape: the value modulo 256, as the model has it -/
theorem three_octal_table : ∀ c ∈ ['0', '1', '2', '3', '4', '5', '6', '7'], ∀ d ∈ ['0', '1', '2', '3', '4', '5', '6', '7'],
    ∀ e ∈ ['0', '1', '2', '3', '4', '5', '6', '7'],
    Py.bodyByte (Py.bigOctal1 Polib4us._wrap_octal_escape [c, d, e]) = some (escapeByte [c, d, e]) := by
  decide +kernel

theorem x_not_oct : isOct 'x' = false := by decide

/-- one escape: the two substitutions then `literal_eval` give the model's byte -/
theorem body_byte_eq (b : Text) (h : validBody b = true) :
    Py.bodyByte (Py.bigOctal1 Polib4us._wrap_octal_escape (Py.shortX1 b)) = some (escapeByte (fixShortX b)) := by
  match b, h with
  | [c], h => simp [Py.shortX1, Py.bigOctal1, Py.bodyByte, fixShortX, escapeByte]; cases simpleByte c <;> rfl
  | [c, d], h =>
    simp only [validBody, Bool.or_eq_true, Bool.and_eq_true, beq_iff_eq] at h
    by_cases hx : c = 'x'
    · subst hx
      have h7 : ¬ ('x' ≤ '7') := by decide
      simp [Py.shortX1, Py.bigOctal1, Py.bodyByte, fixShortX, escapeByte, h7]
    · simp [Py.shortX1, Py.bigOctal1, Py.bodyByte, fixShortX, escapeByte, hx]
  | [c, d, e], h =>
    simp only [validBody, Bool.or_eq_true, Bool.and_eq_true, beq_iff_eq] at h
    have hs : Py.shortX1 [c, d, e] = [c, d, e] := rfl
    have hf : fixShortX [c, d, e] = [c, d, e] := rfl
    rw [hs, hf]
    rcases h with ⟨⟨hc, hd⟩, he⟩ | ⟨⟨hx, hd⟩, he⟩
    · exact three_octal_table c (isOct_cases c hc) d (isOct_cases d hd) e (isOct_cases e he)
    · subst hx
      have h7 : ¬ ('x' ≤ '7') := by decide
      simp [Py.bigOctal1, Py.bodyByte, escapeByte, h7]
  | [], h => simp [validBody] at h
  | _ :: _ :: _ :: _ :: _, h => simp [validBody] at h

theorem run_bytes_eq : ∀ (run : Py.Run), (∀ b ∈ run, validBody b = true) →
    Py.bodyBytes (Py.bigOctalSub Polib4us._wrap_octal_escape (Py.shortXSub run)) = some (run.map fun b => escapeByte (fixShortX b)) := by
  intro run
  induction run with
  | nil => intro _; rfl
  | cons b rest ih =>
    intro h
    have hb := body_byte_eq b (h b (by simp))
    have hr := ih (fun x hx => h x (by simp [hx]))
    simp only [Py.bigOctalSub, Py.shortXSub, List.map_cons, Py.bodyBytes] at hr ⊢
    rw [hb, hr]

/-- the inner `unescape(match)` as regenerated, on a match of `_escapes_re`: ASCII first, else the file's charset — `decodeRun` -/
theorem unescape_inner_eq (env : Env) (enc : Bytes) (run : Py.Run) (h : ∀ b ∈ run, validBody b = true) :
    Polib4us.polib_unescape_unescape env enc run =
      (match decodeAscii (run.map fun b => escapeByte (fixShortX b)) with
       | some t => .ok t
       | none => Py.encodingsDecode env (run.map fun b => escapeByte (fixShortX b)) enc) := by
  simp only [Polib4us.polib_unescape_unescape, Py.literalEval, run_bytes_eq run h, Py.decodeAsciiBytes]
  cases decodeAscii (run.map fun b => escapeByte (fixShortX b)) <;> simp [Py.Exn.isUnicodeDecodeError]

theorem unescape_inner_toOption (env : Env) (enc : Bytes) (run : Py.Run) (h : ∀ b ∈ run, validBody b = true) :
    (Polib4us.polib_unescape_unescape env enc run).toOption = decodeRun env enc run := by
  rw [unescape_inner_eq env enc run h]
  simp only [decodeRun, Py.encodingsDecode]
  cases decodeAscii (run.map fun b => escapeByte (fixShortX b)) with
  | some t => rfl
  | none => cases env.decode enc (run.map fun b => escapeByte (fixShortX b)) <;> rfl

/-- `_escapes_re.sub(unescape, s)` with the regenerated inner function = `unescapeAux` -/
theorem escapesSub_eq (env : Env) (enc : Bytes) : ∀ (fuel : Nat) (s : Text),
    (Py.escapesSub (Polib4us.polib_unescape_unescape env enc) fuel s).toOption = unescapeAux env enc fuel s := by
  intro fuel
  induction fuel with
  | zero => intro s; rfl
  | succ fuel ih =>
    intro s
    cases s with
    | nil => rfl
    | cons c cs =>
      simp only [Py.escapesSub, unescapeAux]
      have hv := escapeRun_valid (c :: cs).length (c :: cs)
      generalize escapeRun (c :: cs).length (c :: cs) = r at hv
      obtain ⟨bodies, rest⟩ := r
      cases bodies with
      | nil =>
        simp only []
        rw [← ih cs]
        cases Py.escapesSub (Polib4us.polib_unescape_unescape env enc) fuel cs <;> rfl
      | cons b bs =>
        simp only []
        have hin := unescape_inner_toOption env enc (b :: bs) hv
        cases hF : Polib4us.polib_unescape_unescape env enc (b :: bs) with
        | error e =>
          rw [hF] at hin
          have hnone : decodeRun env enc (b :: bs) = none := hin.symm
          simp only [hnone]
          rfl
        | ok t =>
          rw [hF] at hin
          simp only [Except.toOption] at hin
          rw [← hin]
          simp only []
          rw [← ih rest]
          cases Py.escapesSub (Polib4us.polib_unescape_unescape env enc) fuel rest <;> rfl

/-- `Codecs._is_ignored_comment(line)` as regenerated: IndexError on a line without tokens, else `isIgnoredComment` -/
theorem is_ignored_eq (env : Env) (line : Text) :
    Polib4us.Codecs__is_ignored_comment env line =
      (match splitWs env.isSpace 1 line with
       | [] => .error .index
       | _ :: _ => .ok (isIgnoredComment env line)) := by
  simp only [Polib4us.Codecs__is_ignored_comment, isIgnoredComment, Py.listGet]
  cases splitWs env.isSpace 1 line with
  | nil => rfl
  | cons t ts => simp [Bool.or_assoc]

theorem tokens_ne_nil (env : Env) (line : Text) (h1 : line ≠ []) (h2 : allIn env.isSpace line = false) :
    ∃ t ts, splitWs env.isSpace 1 line = t :: ts := by
  obtain ⟨c, hc, hpc⟩ : ∃ c ∈ line, env.isSpace c = false := by
    have : line.all env.isSpace = false := by
      cases line with
      | nil => exact (h1 rfl).elim
      | cons c cs => simpa [allIn] using h2
    simpa [List.all_eq_false] using this
  exact List.exists_cons_of_ne_nil (Lemmas.PoKit.splitWs_ne_nil 1 line c hc hpc)

/-- the state of the loop of `Codecs.open`: (empty, what was yielded, pending comments) -/
abbrev LoopState := Bool × List Text × List Text

/-- one iteration of the loop, as the model has it -/
def stepModel (env : Env) (line : Text) (s : LoopState) : LoopState :=
  let l' := normalise line
  if holdBack env l' then (s.1, s.2.1, s.2.2 ++ [l']) else (false, s.2.1 ++ s.2.2 ++ [l'], [])

theorem forEach_eq {α σ : Type} (xs : List α) (body : α → σ → Except Py.Exn σ) (s : σ) :
    Py.forEach xs body s = PyKit.forEach xs body s := by
  induction xs generalizing s with
  | nil => rfl
  | cons x xs ih =>
    simp only [Py.forEach, PyKit.forEach, ih]
    cases body x s <;> rfl

/-- what the generator has yielded after the loop and the final `if empty: yield '# '` = `preLoop` -/
theorem foldl_preLoop (env : Env) : ∀ (ls : List Text) (e : Bool) (o p : List Text),
    (ls.foldl (fun s l => stepModel env l s) (e, o, p)).2.1 ++
      (if (ls.foldl (fun s l => stepModel env l s) (e, o, p)).1 then [['#', ' ']] else []) = o ++ preLoop env ls p e := by
  intro ls
  induction ls with
  | nil => intro e o p; cases e <;> simp [preLoop]
  | cons l ls ih =>
    intro e o p
    have hs : stepModel env l (e, o, p) =
        if holdBack env (normalise l) then (e, o, p ++ [normalise l]) else (false, o ++ p ++ [normalise l], []) := rfl
    rw [List.foldl_cons, hs]
    simp only [preLoop]
    by_cases hh : holdBack env (normalise l) = true
    · rw [if_pos hh, if_pos hh]
      exact ih e o (p ++ [normalise l])
    · rw [if_neg hh, if_neg hh, ih false (o ++ p ++ [normalise l]) []]
      simp

/- `hold_decision`, `body_step`, `after_loop`: the one place of the ties where text of `Generated/Polib4us.lean` (the body and the last
   block of `Codecs_open`) stands in a statement.  `C10Tie.generated_codecs_open_eq` closes with `exact body_step …` / `exact after_loop …`,
   that is up to definitional equality, so the bound names (`tmp3`, `out_`, `pending_comments`, `line`) do not matter, while the nesting of
   the `match`/`if`, the order of the three tests and the order of the state triple do: an edit of `Codecs.open` that changes those is
   outside what these three statements survive (no row of DESIGN-notes/polib4us-tie-edits.json is of that kind). -/

/-- the test of the loop body, with its short circuit: `_is_ignored_comment` is only asked about lines that have a token -/
theorem hold_decision (env : Env) (l : Text) :
    (if (l.take 2 == [] || l.take 2 == ['#', ' ']) = true then (Except.ok true : Except Py.Exn Bool)
     else if allIn env.isSpace l = true then .ok true
     else Polib4us.Codecs__is_ignored_comment env l) = .ok (holdBack env l) := by
  simp only [holdBack]
  by_cases h1 : (l.take 2 == [] || l.take 2 == ['#', ' ']) = true
  · rw [if_pos h1]; simp only [h1, Bool.true_or]
  · by_cases h2 : allIn env.isSpace l = true
    · rw [if_neg h1, if_pos h2]; simp only [h2, Bool.or_true, Bool.true_or]
    · have hne : l ≠ [] := by
        intro hl
        subst hl
        simp at h1
      obtain ⟨t, ts, hts⟩ := tokens_ne_nil env l hne (by simpa using h2)
      have h1' : (l.take 2 == [] || l.take 2 == ['#', ' ']) = false := by simpa using h1
      have h2' : allIn env.isSpace l = false := by simpa using h2
      rw [is_ignored_eq, hts]
      simp only [h1', h2', Bool.false_eq_true, if_false, Bool.false_or]

/-- the loop body as regenerated is one step of the model -/
theorem body_step (env : Env) (line : Text) (e : Bool) (o p : List Text) :
    (match (if atypical line = true then (Except.ok (['#', ' '] ++ List.drop 1 line) : Except Py.Exn Text) else Except.ok line) with
     | Except.error x => Except.error x
     | Except.ok line =>
       match (if (List.take 2 line == [] || List.take 2 line == ['#', ' ']) = true then (Except.ok true : Except Py.Exn Bool)
              else if allIn env.isSpace line = true then Except.ok true
              else Polib4us.Codecs__is_ignored_comment env line) with
       | Except.error x => Except.error x
       | Except.ok tmp3 =>
         if tmp3 = true then (Except.ok (e, o, p ++ [line]) : Except Py.Exn LoopState) else Except.ok (false, o ++ p ++ [line], [])) =
      .ok (stepModel env line (e, o, p)) := by
  simp only [stepModel, normalise]
  by_cases ha : atypical line = true
  · simp only [ha, if_true, hold_decision, List.cons_append, List.nil_append]
    cases holdBack env ('#' :: ' ' :: List.drop 1 line) <;> simp
  · simp only [ha, if_false, Bool.false_eq_true, hold_decision]
    cases holdBack env line <;> simp

/-- the environment's codec named `'ASCII'` is `decodeAscii`.  `Codecs.open` decodes a file whose charset is not ASCII-compatible with
    `encodings.decode(·, 'ASCII')`, the model's `decodeFile` with `decodeAscii` itself: this is what makes the two agree.  It holds of
    `C10.asciiEnv` by `rfl`; no other environment of the development has it proved. -/
def AsciiIsAscii (env : Env) : Prop :=
  ∀ bs, env.decode asciiName bs = (match decodeAscii bs with | some t => .text t | none => .ude)

-- `pending_comments` is bound by the pattern of the generated text and not read after the loop
set_option linter.unusedVariables false in
/-- after the loop: `if empty: yield '# '`, and the result is `preprocess` -/
theorem after_loop (env : Env) (t : Text) :
    (match (Except.ok ((iterlines t).foldl (fun s l => stepModel env l s) (true, [], [])) : Except Py.Exn LoopState) with
     | Except.error e => Except.error e
     | Except.ok (empty, out_, pending_comments) =>
       if empty = true then (Except.ok (out_ ++ [['#', ' ']]) : Except Py.Exn (List Text)) else Except.ok out_) =
      .ok (preprocess env t) := by
  have h := foldl_preLoop env (iterlines t) true [] []
  simp only [preprocess]
  generalize (iterlines t).foldl (fun s l => stepModel env l s) (true, [], []) = r at h
  obtain ⟨e', o', p'⟩ := r
  simp only [List.nil_append] at h
  rw [← h]
  cases e' <;> simp

end I18n.Po.PGen
