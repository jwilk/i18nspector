import I18n.Spec.LocaleTags
import I18n.Lemmas.Kit.Assoc
/-
`get_language_for_name`: it returns a language that comes from the name table, or raises `LookupError` and nothing else
(`getLanguageForName_spec`).  The side condition, that every code in the generated name table is a locale name, is `names_parse`
(kernel evaluation).  `named_eq` is the form the field stage and the X-Poedit stage of `check_language` use.
-/
namespace I18n.Locale
open I18n.Spec.LocaleTags

/-- every locale name in the name table is in the locale grammar -/
def namesParse (T : List (List Char × List Char)) : Bool := T.all fun e => (parseLanguage e.2).isSome

theorem names_parse : namesParse Generated.Locale.nameToCode = true := by decide +kernel

theorem nameCode_parses (n c : List Char) (h : nameCode n = some c) : ∃ l, parseLanguage c = some l := by
  have hm := Kit.lookup_mem h
  have := List.all_eq_true.1 names_parse (n, c) hm
  exact Option.isSome_iff_exists.1 this

theorem tryName_some (n : List Char) (r : Except LErr Language) (h : tryName n = some r) :
    ∃ c l, nameCode n = some c ∧ parseLanguage c = some l ∧ r = .ok l := by
  unfold tryName at h
  split at h
  next => cases h
  next c hc =>
    obtain ⟨l, hl⟩ := nameCode_parses n c hc
    cases h
    exact ⟨c, l, hc, hl, by simp [parseLanguageE, hl]⟩

theorem firstName_some (ns : List (List Char)) (r : Except LErr Language) (h : firstName ns = some r) :
    ∃ n ∈ ns, ∃ c l, nameCode (strip n) = some c ∧ parseLanguage c = some l ∧ r = .ok l := by
  induction ns with
  | nil => cases h
  | cons n t ih =>
    simp only [firstName] at h
    cases hr : tryName (strip n) with
    | some r' =>
      rw [hr] at h
      cases h
      exact ⟨n, List.mem_cons_self, tryName_some _ _ hr⟩
    | none =>
      rw [hr] at h
      obtain ⟨n', hn', h'⟩ := ih h
      exact ⟨n', List.mem_cons_of_mem _ hn', h'⟩

/-- `get_language_for_name` raises `LookupError` or returns a language that comes from the name table: for the whole (munched)
    name, a `;`-separated alternative, `B, A` read as `A B`, or a `,`-separated part -/
theorem getLanguageForName_spec (m : List Char) :
    getLanguageForName m = .error .lookupError ∨
    ∃ l n c, getLanguageForName m = .ok l ∧ nameCode n = some c ∧ parseLanguage c = some l ∧
      (n = m ∨ (∃ x ∈ splitOn ';' m, n = strip x)
        ∨ n = strip ((m.dropWhile (· ≠ ',')).drop 1) ++ ' ' :: strip (m.takeWhile (· ≠ ','))
        ∨ (∃ x ∈ splitOn ',' m, n = strip x)) := by
  fun_cases getLanguageForName m
  case case1 r hr => -- the whole name
    obtain ⟨c, l, hc, hl, rfl⟩ := tryName_some _ _ hr
    exact .inr ⟨l, m, c, rfl, hc, hl, .inl rfl⟩
  case case2 _ r hr => -- an alternative between `;`
    split at hr
    · obtain ⟨n, hn, c, l, hc, hl, rfl⟩ := firstName_some _ _ hr
      exact .inr ⟨l, strip n, c, rfl, hc, hl, .inr (.inl ⟨n, hn, rfl⟩)⟩
    · cases hr
  case case3 r hr => -- `B, A` read as `A B`
    obtain ⟨c, l, hc, hl, rfl⟩ := tryName_some _ _ hr
    exact .inr ⟨l, _, c, rfl, hc, hl, .inr (.inr (.inl rfl))⟩
  case case4 c hc => -- the parts between `,` name one code
    have hmem : c ∈ ((splitOn ',' m).filterMap (fun n => nameCode (strip n))).eraseDups :=
      (congrArg (c ∈ ·) hc).mpr (List.mem_singleton_self c)
    rw [List.mem_eraseDups, List.mem_filterMap] at hmem
    obtain ⟨n, hn, hnc⟩ := hmem
    obtain ⟨l, hl⟩ := nameCode_parses _ c hnc
    exact .inr ⟨l, strip n, c, by simp [parseLanguageE, hl], hnc, hl, .inr (.inr (.inr ⟨n, hn, rfl⟩))⟩
  case case5 => exact .inl rfl -- … no code, or several
  case case6 => exact .inl rfl -- neither `;` nor `,` helps

theorem getLanguageForName_cases (m : List Char) :
    (∃ l, getLanguageForName m = .ok l) ∨ getLanguageForName m = .error .lookupError := by
  rcases getLanguageForName_spec m with h | ⟨l, _, _, h, _⟩
  · exact .inr h
  · exact .inl ⟨l, h⟩

theorem getLanguageForName_whole (m c : List Char) (h : nameCode m = some c) :
    getLanguageForName m = parseLanguageE c := by
  unfold getLanguageForName tryName
  simp [h]

theorem named_eq (munch : List Char → List Char) (v : List Char) :
    getLanguageForName (munch v) = (match named munch v with | some l => .ok l | none => .error .lookupError) := by
  unfold named
  rcases getLanguageForName_cases (munch v) with ⟨l, h⟩ | h <;> simp [h]

end I18n.Locale
