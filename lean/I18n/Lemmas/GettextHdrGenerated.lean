import I18n.Generated.GettextHdr
import I18n.Lemmas.HdrPyKit
import I18n.Lemmas.PyKitLemmas
/-!
# `lib.gettext.parse_header` regenerated = `Hdr.parseHeader`

`I18n.Generated.GettextHdr` is rewritten by `tools/translate/gettexthdr2lean.py` from the current source on every run.
The proof never names a bound variable of the generated text.
-/
namespace I18n.Hdr.Gen
open I18n I18n.Hdr I18n.Generated

/-- `lines[-1]` is there (`split` never answers the empty list), and after `if lines[-1] == '': lines.pop()` the lines are the model's.
    No `match` in the statement: the one of the generated text is its own constant, so a lemma with a `match` could not be rewritten with. -/
theorem header_lines_step (s : Str) :
    ∃ last, PyKit.listGetInt (HdrPy.split '\n' s) (-1 : Int) = .ok last ∧
      (if decide (last = ([] : List Char)) then HdrPy.pop (HdrPy.split '\n' s) else .ok (HdrPy.split '\n' s)) = .ok (headerLines s) := by
  have hne := splitOn_ne_nil '\n' s
  rw [PyKit.listGetInt_neg_one]
  unfold headerLines
  simp only [HdrPy.split]
  cases hl : (splitOn '\n' s).getLast? with
  | none => simp [List.getLast?_eq_none_iff] at hl; exact absurd hl hne
  | some last =>
    refine ⟨last, rfl, ?_⟩
    by_cases he : last = []
    · subst he
      simp [HdrPy.pop_of_ne_nil _ hne]
    · have : ¬ (some last = some ([] : Str)) := by simpa using he
      simp [he, this]

theorem parse_header_eq (s : Str) : GettextHdr.parse_header s = .ok (parseHeader s) := by
  unfold_generated_gettexthdr
  obtain ⟨last, hlast, hlines⟩ := header_lines_step s
  rw [hlast]
  -- `simp only []` reduces the `match … with | .ok x => …` whose scrutinee the rewrite has just made an `.ok`
  simp only []
  rw [hlines]
  simp only []
  rw [PyKit.forEach_emit (fun l => [parseLine l])]
  · simp [parseHeader, ← List.map_eq_flatMap]
  · intro line _ acc
    rw [HdrPy.split1_colon]
    rcases hsc : Hdr.splitColon line with ⟨k, _ | v⟩
    · simp [parseLine, hsc]
    · by_cases hv : isValidFieldName k = true <;> simp [parseLine, hsc, hv, PyKit.listGet, HdrPy.strip_blanks]

end I18n.Hdr.Gen
