import I18n.PyKit
import I18n.PyLoops
import I18n.Lemmas.Kit.Assoc
/-!
# Lemmas about the Python kit combinators, for the equality proofs of the ties by translation (`Props/C*Tie.lean`)

The inversions `map_eq_ok`, `map_eq_error`, `ok_and_iff` and `ite_tail_append` are also
used outside the ties, by lemma modules of the model.

How a tie proof is written, so that it goes through again when the source is edited without a change of behaviour
(`tools/tie_edits*.py`): the generated definition is unfolded through the macro its file emits (`unfold_generated_…`); no bound
variable of the generated text is named; a stage is named by `generalize` on its shape, a loop body the translator prints twice by
`generalize hB : (fun … => _) = body`; simp sets carry a comparison in both orientations.  Traps: a `match` in generated text is an
auxiliary constant of that definition, so a lemma with a `match` in its statement does not rewrite it (state the lemma without one, or
`cases` on the scrutinee); `simp only []` reduces such a `match` once its scrutinee is a constructor; the loop-carried tuple is ordered
by first assignment in the loop body, and the relations over it name components by position (`Hdr.Gen.HSt`, `Msg.Gen.GSt`); `conv` into
generated text (`arg 2`: the scrutinee of a `match`) is by position.

`Except.bind` congruence lets a proof go stage by stage: `match c with | .error e => .error e | .ok x => rest` printed as
`Except.bind c (fun x => rest)` (option `binds` of `tools/translate/pytr/objfn.py`) is peeled with `bind_congr`.  Where the translator
prints the `match` itself no lemma about `Except.bind` applies (the matcher is a constant of the generated definition): there the step is
`cases h : c`.

What a loop of the kit computes, by what is known of its body, each by induction on the list: the body cannot fail
(`forEach_pure`, and from it `forEach_emit` / `forEach_ok`: a `List.foldl`); it cannot fail and keeps a relation to the model's
state (`forEach_rel`); it is one step of a recursive model function (`forEach_map`).  Only where the body may fail and the model
collects element by element is the loop read as core's `List.foldlM` (`forEach_hom`): in `Except ε` itself (`forEach_eq_foldlM`, then
`foldlM_append`: `forEach_collect`), or in `Option`, the exception forgotten (`toOption_forEach`, `toOption_forEach_collect`).
A loop over `range(a, len(xs))` whose body reads `xs[k]` is the loop over `xs.drop a` (`forEachRet_range`).
-/
namespace I18n.PyKit

theorem bind_ok {ε α β : Type} (a : α) (k : α → Except ε β) : Except.bind (.ok a) k = k a := rfl
theorem bind_error {ε α β : Type} (e : ε) (k : α → Except ε β) : Except.bind (.error e : Except ε α) k = .error e := rfl

theorem bind_congr {ε α β : Type} {a a' : Except ε α} {k k' : α → Except ε β} (h1 : a = a') (h2 : ∀ x, k x = k' x) :
    Except.bind a k = Except.bind a' k' := by
  subst h1
  cases a with
  | error e => rfl
  | ok x => exact h2 x

theorem bind_congr' {ε α β : Type} {a a' : Except ε α} {k k' : α → Except ε β} (h1 : a = a') (h2 : ∀ x, a' = .ok x → k x = k' x) :
    Except.bind a k = Except.bind a' k' := by
  subst h1
  cases a with
  | error e => rfl
  | ok x => exact h2 x rfl

theorem bind_of_ok {ε α β : Type} {a : Except ε α} {x : α} {k : α → Except ε β} (h : a = .ok x) : Except.bind a k = k x := by
  subst h; rfl

theorem bind_of_error {ε α β : Type} {a : Except ε α} {e : ε} {k : α → Except ε β} (h : a = .error e) : Except.bind a k = .error e := by
  subst h; rfl

theorem match_eq_bind {ε α β : Type} (a : Except ε α) (k : α → Except ε β) :
    (match a with | .error e => .error e | .ok x => k x) = Except.bind a k := by
  cases a <;> rfl

/-! ### inversions: what a returned or raised result says of the parts -/

theorem bind_eq_ok {ε α β : Type} {a : Except ε α} {k : α → Except ε β} {y : β} (h : Except.bind a k = .ok y) :
    ∃ x, a = .ok x ∧ k x = .ok y := by
  cases a with
  | error e => cases h
  | ok x => exact ⟨x, rfl, h⟩

theorem map_eq_ok {ε α β : Type} {a : Except ε α} {f : α → β} {y : β} : Except.map f a = .ok y ↔ ∃ x, a = .ok x ∧ f x = y := by
  cases a with
  | error e =>
    constructor
    · intro h; cases h
    · rintro ⟨_, h, _⟩; cases h
  | ok x =>
    constructor
    · intro h; injection h with h; exact ⟨x, rfl, h⟩
    · rintro ⟨_, h, rfl⟩; cases h; rfl

theorem map_eq_error {ε α β : Type} {a : Except ε α} {f : α → β} {e : ε} : Except.map f a = .error e ↔ a = .error e := by
  cases a with
  | error e' => exact ⟨fun h => by injection h with h; rw [h], fun h => by injection h with h; rw [h]; rfl⟩
  | ok x =>
    constructor
    · intro h; cases h
    · intro h; cases h

theorem ok_and_iff {ε α : Type} {p : Except ε α} {v : α} (h : p = .ok v) (P : α → Prop) : (∃ r, p = .ok r ∧ P r) ↔ P v := by
  subst h
  exact ⟨fun ⟨_, e, hr⟩ => by cases e; exact hr, fun hv => ⟨_, rfl, hv⟩⟩

theorem eq_ok_of_toOption {ε α : Type} {p : Except ε α} {v : α} (h : p.toOption = some v) : p = .ok v := by
  cases p with
  | error e => cases h
  | ok a => injection h with h; rw [h]

/-! ### `for` loops -/

/-- Reading the outcome of a loop in another monad (`φ`: forgetting which exception was raised, say) is running the loop there, each
    pass of the body read by `φ`: all it takes is that `φ` returns what was returned and that nothing follows an exception. -/
theorem forEach_hom {m : Type → Type} [Monad m] [LawfulMonad m] {α σ ε : Type} (φ : Except ε σ → m σ)
    (hok : ∀ s, φ (.ok s) = pure s) (herr : ∀ e (k : σ → m σ), φ (.error e) >>= k = φ (.error e))
    (body : α → σ → Except ε σ) (xs : List α) (s : σ) :
    φ (forEach xs body s) = xs.foldlM (fun s x => φ (body x s)) s := by
  induction xs generalizing s with
  | nil => rw [forEach, List.foldlM_nil, hok]
  | cons x xs ih =>
    rw [forEach, List.foldlM_cons]
    cases body x s with
    | error e => exact (herr e _).symm
    | ok s' => rw [hok, pure_bind]; exact ih s'

theorem forEach_eq_foldlM {α σ ε : Type} (body : α → σ → Except ε σ) (xs : List α) (s : σ) :
    forEach xs body s = xs.foldlM (fun s x => body x s) s :=
  forEach_hom id (fun _ => rfl) (fun _ _ => rfl) body xs s

theorem toOption_forEach {α σ ε : Type} (body : α → σ → Except ε σ) (xs : List α) (s : σ) :
    (forEach xs body s).toOption = xs.foldlM (fun s x => (body x s).toOption) s :=
  forEach_hom Except.toOption (fun _ => rfl) (fun _ _ => rfl) body xs s

theorem foldlM_append {m : Type → Type} [Monad m] [LawfulMonad m] {α τ : Type} (one : α → m (List τ)) (all : List α → m (List τ))
    (hnil : all [] = pure []) (hcons : ∀ x xs, all (x :: xs) = one x >>= fun a => (a ++ ·) <$> all xs) (xs : List α) (out : List τ) :
    xs.foldlM (fun out x => (out ++ ·) <$> one x) out = (out ++ ·) <$> all xs := by
  induction xs generalizing out with
  | nil => simp [hnil]
  | cons x xs ih => simp [hcons, ih, List.append_assoc]

theorem forEach_collect {α τ ε : Type} (one : α → Except ε (List τ)) (all : List α → Except ε (List τ))
    (hnil : all [] = .ok []) (hcons : ∀ x xs, all (x :: xs) = one x >>= fun a => (a ++ ·) <$> all xs)
    (body : α → List τ → Except ε (List τ)) (hb : ∀ x out, body x out = (out ++ ·) <$> one x) (xs : List α) (out : List τ) :
    forEach xs body out = (out ++ ·) <$> all xs := by
  rw [forEach_eq_foldlM]
  simp only [hb]
  exact foldlM_append one all hnil hcons xs out

theorem toOption_forEach_collect {α τ ε : Type} (one : α → Option (List τ)) (all : List α → Option (List τ))
    (hnil : all [] = some []) (hcons : ∀ x xs, all (x :: xs) = one x >>= fun a => (a ++ ·) <$> all xs)
    (body : α → List τ → Except ε (List τ)) (hb : ∀ x out, (body x out).toOption = (out ++ ·) <$> one x) (xs : List α) (out : List τ) :
    (forEach xs body out).toOption = (out ++ ·) <$> all xs := by
  rw [toOption_forEach]
  simp only [hb]
  exact foldlM_append one all hnil hcons xs out

theorem forEach_map {α β σ ε : Type} (f : β → α) (body : α → σ → Except ε σ) (g : List β → σ → Except ε σ)
    (hnil : ∀ s, g [] s = .ok s)
    (hcons : ∀ b rest s, g (b :: rest) s = (body (f b) s).bind (g rest)) :
    ∀ (l : List β) (s : σ), forEach (l.map f) body s = g l s := by
  intro l
  induction l with
  | nil => intro s; simp [forEach, hnil]
  | cons b rest ih =>
    intro s
    simp only [List.map, forEach, hcons]
    cases body (f b) s with
    | error e => rfl
    | ok s' => exact ih s'

theorem forEach_ext {α σ ε : Type} (xs : List α) (body body' : α → σ → Except ε σ) (h : ∀ x s, body x s = body' x s) (s : σ) :
    forEach xs body s = forEach xs body' s := by
  rw [show body = body' from funext fun x => funext (h x)]

theorem forEachCtl_ext {α σ ρ ε : Type} (xs : List α) (f g : α → σ → Except ε (LoopStep ρ σ)) (s : σ)
    (h : ∀ x s, f x s = g x s) : forEachCtl xs f s = forEachCtl xs g s := by
  have : f = g := by funext x s; exact h x s
  rw [this]

theorem forEach_pure {α σ ε : Type} (step : α → σ → σ) (body : α → σ → Except ε σ) (xs : List α)
    (hb : ∀ x ∈ xs, ∀ s, body x s = .ok (step x s)) (s : σ) :
    forEach xs body s = .ok (xs.foldl (fun s x => step x s) s) := by
  induction xs generalizing s with
  | nil => rfl
  | cons x xs ih =>
    simp only [forEach, hb x List.mem_cons_self, List.foldl_cons]
    exact ih (fun y hy => hb y (List.mem_cons_of_mem _ hy)) _

theorem foldl_append_flatMap {α β : Type} (f : α → List β) (xs : List α) (out : List β) :
    xs.foldl (fun out x => out ++ f x) out = out ++ xs.flatMap f := by
  induction xs generalizing out with
  | nil => simp
  | cons x xs ih => rw [List.foldl_cons, ih, List.flatMap_cons, List.append_assoc]

theorem forEach_emit {α β ε : Type} (f : α → List β) (body : α → List β → Except ε (List β)) (xs : List α)
    (hb : ∀ x ∈ xs, ∀ out, body x out = .ok (out ++ f x)) (out : List β) :
    forEach xs body out = .ok (out ++ xs.flatMap f) := by
  rw [forEach_pure (fun x out => out ++ f x) body xs hb, foldl_append_flatMap]

theorem forEach_filterMap {α β ε : Type} (f : α → Option β) (body : α → List β → Except ε (List β))
    (hb : ∀ x out, body x out = .ok (out ++ (f x).toList)) (xs : List α) (out : List β) :
    forEach xs body out = .ok (out ++ xs.filterMap f) := by
  rw [forEach_emit (fun x => (f x).toList) body xs (fun x _ => hb x)]
  congr 2
  induction xs with
  | nil => rfl
  | cons x xs ih => cases h : f x <;> simp [List.flatMap_cons, h, ih]

/-- `forEach_pure` for a body that is `.ok` of something as it stands: no side goal, so it can sit in a `simp only` set and fires once
    `ite_ok` has brought the body into that form -/
theorem forEach_ok {α σ ε : Type} (step : α → σ → σ) (xs : List α) (s : σ) :
    forEach xs (fun x s => (Except.ok (step x s) : Except ε σ)) s = .ok (xs.foldl (fun s x => step x s) s) :=
  forEach_pure step _ xs (fun _ _ _ => rfl) s

/-- A loop that cannot fail, against a model loop `g` that threads a state of its own: a relation between the two states is kept
    (a dictionary the two sides keep differently, a variable the model does not have). -/
theorem forEach_rel {α σ τ ε : Type} {R : τ → σ → Prop} {step : τ → α → τ} {g : List α → τ → τ} {body : α → σ → Except ε σ}
    (hnil : ∀ t, g [] t = t) (hcons : ∀ x xs t, g (x :: xs) t = g xs (step t x)) :
    ∀ (xs : List α) (t : τ) (s : σ), (∀ x ∈ xs, ∀ t s, R t s → ∃ s', body x s = .ok s' ∧ R (step t x) s') → R t s →
      ∃ s', forEach xs body s = .ok s' ∧ R (g xs t) s'
  | [], t, s, _, h => ⟨s, rfl, by rw [hnil]; exact h⟩
  | x :: xs, t, s, hb, h => by
    obtain ⟨s1, e1, h1⟩ := hb x List.mem_cons_self t s h
    obtain ⟨s2, e2, h2⟩ := forEach_rel hnil hcons xs _ s1 (fun y hy => hb y (List.mem_cons_of_mem _ hy)) h1
    exact ⟨s2, by rw [forEach, e1]; exact e2, by rw [hcons]; exact h2⟩

/-! ### list and dictionary primitives -/

theorem mapM_ok_of_mem {α β ε : Type} (f : α → Except ε β) (g : α → β) (xs : List α) (h : ∀ x ∈ xs, f x = .ok (g x)) :
    PyKit.mapM f xs = .ok (xs.map g) := by
  induction xs with
  | nil => rfl
  | cons x xs ih =>
    simp [PyKit.mapM, h x List.mem_cons_self, ih fun y hy => h y (List.mem_cons_of_mem _ hy)]

theorem mapM_ok {α β ε : Type} (f : α → Except ε β) (g : α → β) (h : ∀ x, f x = .ok (g x)) (xs : List α) :
    PyKit.mapM f xs = .ok (xs.map g) :=
  mapM_ok_of_mem f g xs fun x _ => h x

theorem dictGet_eq_lookup {κ ν : Type} [DecidableEq κ] [BEq κ] [LawfulBEq κ] (d : List (κ × ν)) (k : κ) :
    dictGet d k = match d.lookup k with | some v => .ok v | none => .error .KeyError := by
  induction d with
  | nil => rfl
  | cons p d ih =>
    obtain ⟨k', v⟩ := p
    rw [dictGet, Kit.lookup_cons_ite, ih]
    by_cases h : k' = k
    · simp [h]
    · simp [h, Ne.symm h]

theorem listGetInt_neg_one {α : Type} (xs : List α) :
    listGetInt xs (-1 : Int) = match xs.getLast? with | some x => .ok x | none => .error .IndexError := by
  cases xs with
  | nil => simp [listGetInt]
  | cons a as =>
    have h1 : ¬ ((-1 : Int) ≥ 0) := by omega
    have h2 : (-1 : Int) + ((a :: as).length : Int) ≥ 0 := by simp only [List.length_cons]; omega
    have h3 : ((-1 : Int) + ((a :: as).length : Int)).toNat = as.length := by simp only [List.length_cons]; omega
    simp only [listGetInt, if_neg h1, if_pos h2, h3, listGet]
    rw [List.getLast?_eq_getElem?]
    simp

theorem rangeInt_cons (a b : Int) (h : a < b) : rangeInt a b = a :: rangeInt (a + 1) b := by
  simp only [rangeInt]
  have h1 : (b - a).toNat = (b - (a + 1)).toNat + 1 := by omega
  rw [h1, List.range_succ_eq_map]
  simp only [List.map_cons, List.map_map, List.cons.injEq]
  refine ⟨by simp, ?_⟩
  apply List.map_congr_left
  intro k _
  simp only [Function.comp]
  omega

theorem rangeInt_succ (a b : Nat) (h : a < b) : rangeInt ↑a ↑b = (a : Int) :: rangeInt ↑(a + 1) ↑b :=
  rangeInt_cons a b (by omega)

theorem rangeInt_nat (a b : Nat) : rangeInt a b = (List.range (b - a)).map (fun k => ((k + a : Nat) : Int)) := by
  unfold rangeInt
  have : ((b : Int) - (a : Int)).toNat = b - a := by omega
  rw [this]
  apply List.map_congr_left
  intro k _
  omega

theorem forEachRet_range {α σ ρ : Type} (xs : List α) (body : Int → σ → Except Py.Exc (ρ ⊕ σ))
    (bodyL : α → σ → Except Py.Exc (ρ ⊕ σ))
    (h : ∀ (k : Nat) (hk : k < xs.length) (s : σ), body ↑k s = bodyL xs[k] s) :
    ∀ (m a : Nat), a + m = xs.length → ∀ s, forEachRet (rangeInt ↑a ↑xs.length) body s = forEachRet (xs.drop a) bodyL s := by
  intro m
  induction m with
  | zero =>
    intro a ha s
    have : a = xs.length := by omega
    subst this
    simp [rangeInt, forEachRet]
  | succ m ih =>
    intro a ha s
    have hlt : a < xs.length := by omega
    rw [rangeInt_succ a xs.length hlt, List.drop_eq_getElem_cons hlt]
    simp only [forEachRet, h a hlt]
    cases bodyL xs[a] s with
    | error e => rfl
    | ok r =>
      cases r with
      | inl r => rfl
      | inr s' => exact ih (a + 1) (by omega) s'

/-! ### `try` statements and loops with `break`: what the combinator is on a body that returned and on one that raised -/

theorem tryExcept_ok {ε α : Type} (v : α) (caught : ε → Bool) (handler : Except ε α) :
    tryExcept (.ok v) caught handler = .ok v := rfl

theorem tryExcept_error {ε α : Type} (e : ε) (caught : ε → Bool) (handler : Except ε α) :
    tryExcept (.error e) caught handler = if caught e then handler else .error e := rfl

theorem tryElse_ok {ε α β : Type} (v : α) (handlers : List ((ε → Bool) × Except ε β)) (rest : α → Except ε β) :
    tryElse (.ok v) handlers rest = rest v := rfl

theorem tryElse_error_nil {ε α β : Type} (e : ε) (rest : α → Except ε β) : tryElse (.error e) [] rest = .error e := rfl

theorem tryElse_error_cons {ε α β : Type} (e : ε) (caught : ε → Bool) (handler : Except ε β) (handlers : List ((ε → Bool) × Except ε β))
    (rest : α → Except ε β) :
    tryElse (.error e) ((caught, handler) :: handlers) rest = if caught e then handler else tryElse (.error e) handlers rest := by
  simp only [tryElse, List.find?_cons]
  cases caught e <;> rfl

theorem forEachBrk_nil {α σ ε : Type} (body : α → σ → Except ε (Step σ)) (s : σ) : forEachBrk [] body s = .ok s := rfl

theorem forEachBrk_cons {α σ ε : Type} (x : α) (xs : List α) (body : α → σ → Except ε (Step σ)) (s : σ) :
    forEachBrk (x :: xs) body s =
      match body x s with
      | .error e => .error e
      | .ok (.brk s') => .ok s'
      | .ok (.next s') => forEachBrk xs body s' := rfl

/-! ### conditionals: a statement under `if` that appends to the output, as the output followed by a conditional piece -/

theorem ite_ok {ε α : Type} (c : Prop) [Decidable c] (a b : α) :
    (if c then (Except.ok a : Except ε α) else Except.ok b) = Except.ok (if c then a else b) := by
  split <;> rfl

theorem ite_fst {α β : Type} (c : Prop) [Decidable c] (a b : α × β) : (if c then a else b).fst = if c then a.fst else b.fst := by
  split <;> rfl
theorem ite_snd {α β : Type} (c : Prop) [Decidable c] (a b : α × β) : (if c then a else b).snd = if c then a.snd else b.snd := by
  split <;> rfl

theorem ite_append_tail {α : Type} (c : Prop) [Decidable c] (a t : List α) : (if c then a ++ t else a) = a ++ (if c then t else []) := by
  split <;> simp

theorem ite_tail_append {α : Type} (c : Prop) [Decidable c] (a t : List α) : (if c then a else a ++ t) = a ++ (if c then [] else t) := by
  split <;> simp

theorem append_ite {α : Type} (c : Prop) [Decidable c] (o a b : List α) : (if c then o ++ a else o ++ b) = o ++ if c then a else b := by
  split <;> rfl

theorem ite_bnot {α : Type} (b : Bool) (a c : α) : (if (!b) = true then a else c) = if b = true then c else a := by
  cases b <;> rfl

end I18n.PyKit
