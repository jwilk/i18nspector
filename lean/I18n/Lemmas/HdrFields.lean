import I18n.Lemmas.HdrMeta
/-
C15 lemmas: per field, membership in the tags emitted by the imperative model ↔ the rule of `Spec.HeaderRules`
(MIME-Version, Content-Transfer-Encoding, Project-Id-Version).
The model writes a diagnostic as `tag n [sx v, arrow, lit "…"]` or `t0 n`, the rules as `⟨n, [.str v, .str "=>".toList, …]⟩`;
`tag`, `sx`, `lit`, `arrow`, `t0` are spellings of the constructors, so the two are the same term up to unfolding: hence the
`exact Iff.rfl` that closes these proofs (here and in `HdrLines`, `HdrAddr`, `HdrMime`, `HdrEntry`) after the `simp only`.
-/
namespace I18n.Hdr
open I18n.Spec.HeaderRules I18n.Date I18n.Generated

/-- `if len(vs) > 1: tag(d) elif len(vs) == 0: tag(no)` -/
theorem mem_countTags (n : Nat) (d no t : TagCall) :
    t ∈ (if n > 1 then [d] else if n = 0 then [no] else []) ↔ (n = 0 ∧ t = no) ∨ (1 < n ∧ t = d) := by
  by_cases h1 : n > 1 <;> by_cases h0 : n = 0 <;> simp [h1, h0]

theorem mem_fixedTags (vs : List Str) (g : Str) (d no : TagCall) (f : Str → TagCall) (t : TagCall) :
    t ∈ (if vs.length > 1 then [d] else []) ++ ((dedup vs).filter (· ≠ g)).map f ++ (if (dedup vs).length = 0 then [no] else []) ↔
      (vs.length = 0 ∧ t = no) ∨ (1 < vs.length ∧ t = d) ∨ ∃ v ∈ vs, v ≠ g ∧ t = f v := by
  simp only [List.mem_append, List.mem_map, List.mem_filter, mem_dedup, dedup_length_zero, decide_eq_true_eq,
    List.mem_ite_nil_right, List.mem_singleton, and_assoc, or_assoc, eq_comm (b := t)]
  -- the model reports the absent field last, the rule names it first
  exact or_rotate.symm

theorem mem_mimeVersionTags (ls : List Line) (t : TagCall) :
    t ∈ mimeVersionTags (buildMeta ls []) ↔ FixedRule (fieldLines ls) "MIME-Version" "1.0" "mime-version" t := by
  unfold mimeVersionTags FixedRule cnt
  rw [meta_getS]
  simp only [String.reduceAppend]
  exact mem_fixedTags _ _ _ _ _ t

theorem mem_cteTags (ls : List Line) (t : TagCall) :
    t ∈ cteTags (buildMeta ls []) ↔
      FixedRule (fieldLines ls) "Content-Transfer-Encoding" "8bit" "content-transfer-encoding" t := by
  unfold cteTags FixedRule cnt
  rw [meta_getS]
  simp only [String.reduceAppend]
  exact mem_fixedTags _ _ _ _ _ t

theorem projectBoilerplate_iff (v : Str) :
    (HeaderFields.projectBoilerplate.map String.toList).contains v = true ↔
      (v = "PACKAGE VERSION".toList ∨ v = "PROJECT VERSION".toList) := by
  simp [HeaderFields.projectBoilerplate]

theorem hasNameChar_iff (db : UDB) (v : Str) : hasNameChar db v = true ↔ HasLetter db v := by
  simp [hasNameChar, HasLetter, List.any_eq_true, and_assoc]

theorem anyDigit_iff (v : Str) : v.any isAsciiDigit = true ↔ HasAsciiDigit v := by
  simp [HasAsciiDigit, isAsciiDigit, List.any_eq_true]

theorem mem_projectOne (db : UDB) (v : Str) (t : TagCall) :
    t ∈ projectOne db v ↔
      ((v = "PACKAGE VERSION".toList ∨ v = "PROJECT VERSION".toList) ∧ t = ⟨"boilerplate-in-project-id-version", [.str v]⟩)
      ∨ (¬ (v = "PACKAGE VERSION".toList ∨ v = "PROJECT VERSION".toList) ∧
          ((¬ HasLetter db v ∧ t = ⟨"no-package-name-in-project-id-version", [.str v]⟩)
           ∨ (¬ HasAsciiDigit v ∧ t = ⟨"no-version-in-project-id-version", [.str v]⟩))) := by
  unfold projectOne
  by_cases hb : (HeaderFields.projectBoilerplate.map String.toList).contains v = true
  · have hb' := (projectBoilerplate_iff v).1 hb
    simp only [hb, if_true, List.mem_singleton, hb', true_and, not_true_eq_false, false_and, or_false]
    exact Iff.rfl
  · have hb' := mt (projectBoilerplate_iff v).2 hb
    simp only [hb, if_false, Bool.false_eq_true, List.mem_append, List.mem_ite_nil_right, List.mem_singleton, Bool.not_eq_true', ← Bool.not_eq_true,
      hasNameChar_iff, anyDigit_iff, hb', false_and, not_false_eq_true, true_and, false_or]
    exact Iff.rfl

theorem mem_projectIdTags (x : Ext) (ls : List Line) (t : TagCall) :
    t ∈ projectIdTags x.db (buildMeta ls []) ↔ ProjectRule x (fieldLines ls) t := by
  unfold projectIdTags ProjectRule cnt
  rw [meta_getS]
  simp only [List.mem_append, List.mem_flatMap, mem_dedup, mem_projectOne, mem_countTags, or_assoc]
  exact Iff.rfl

end I18n.Hdr
