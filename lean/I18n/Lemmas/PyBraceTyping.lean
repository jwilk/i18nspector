import I18n.Lemmas.PyBraceSpec
import I18n.Spec.PyBraceArgs
/-
python-brace: the type set the tool computes for a format specification is sound for CPython's `__format__` of `str`, `int`,
`float` — except for the two combinations `Spec.quirk` (comma with b/c/o/x/X; sign or `#` with `c`).
-/
namespace I18n.PyBrace
open I18n.BraceChars I18n.Spec.StrFormat

theorem ok_of_ite {ε α : Type} {c : Prop} [Decidable c] {e : ε} {x y : α} (h : (if c then Except.error e else .ok x) = .ok y) :
    y = x := by
  split at h
  · cases h
  · cases h
    rfl

theorem pyInt_val {cfg : Cfg} {ds : List Char} {n : Nat} (h : pyInt cfg ds = .ok n) : n = digitsVal ds :=
  ok_of_ite h

theorem checkWidth_bound {cfg : Cfg} {f : Spec} (h : checkWidth cfg f = .ok ()) : ∀ w, f.width = some w → digitsVal w ≤ cfg.ssizeMax := by
  revert h
  fun_cases checkWidth cfg f with
  | case1 hw =>
    intro _ w hw'
    rw [hw] at hw'
    cases hw'
  | case2 | case3 => rintro ⟨⟩
  | case4 _ hw _ hn hle =>
    intro _ w hw'
    cases hw.symm.trans hw'
    cases pyInt_val hn
    exact Nat.le_of_not_gt hle

theorem narrow_eq (c : Bool) (tp : TySet) : (if c then tp.inter .numeric else tp) = ⟨tp.str && !c, tp.int, tp.float⟩ := by
  cases c
  · simp
  · simp [TySet.inter, TySet.numeric]

theorem tpFlags_facts {f : Spec} {tp0 tp1 : TySet} (h : tpFlags f tp0 = .ok tp1) :
    tp1 = ⟨tp0.str && !(f.alt || f.sign.isSome || f.comma), tp0.int, tp0.float⟩ :=
  (ok_of_ite h).trans (narrow_eq _ _)

theorem tpAlign_facts {f : Spec} {tp1 tp2 : TySet} (h : tpAlign f tp1 = .ok tp2) :
    tp2 = ⟨tp1.str && !((if f.align.isNone && f.zero then some '=' else f.align) == some '='), tp1.int, tp1.float⟩ :=
  (ok_of_ite h).trans (narrow_eq _ _)

theorem tpPrec_facts {cfg : Cfg} {f : Spec} {tp2 tp : TySet} (h : tpPrec cfg f tp2 = .ok tp) :
    tp = ⟨tp2.str, tp2.int && f.precision.isNone, tp2.float⟩ ∧ ∀ p, f.precision = some p → digitsVal p ≤ cfg.ssizeMax := by
  revert h
  fun_cases tpPrec cfg f tp2 with
  | case1 hp =>
    rintro ⟨⟩
    simp [hp]
  | case2 | case3 | case4 => rintro ⟨⟩
  | case5 _ hp tp3 _ _ hn hle =>
    intro h
    rw [← Except.ok.inj h]
    refine ⟨by simp [tp3, hp, TySet.inter], fun q hq => ?_⟩
    cases hp.symm.trans hq
    cases pyInt_val hn
    exact Nat.le_of_not_gt hle

-- the tests of `tpType` stay as they are written (`"bcdoxX".toList.contains t` unevaluated); `memC_int`, `memC_float`,
-- `commaTypes_*` below compare those two strings with CPython's lists
theorem tpType_facts {f : Spec} {tp0 : TySet} (h : tpType f = .ok tp0) :
    (f.type = none ∧ tp0 = TySet.all) ∨ (f.type = some 's' ∧ tp0 = ⟨true, false, false⟩) ∨
    (∃ t, f.type = some t ∧ "bcdoxX".toList.contains t = true ∧ tp0 = ⟨false, true, false⟩) ∨
    (∃ t, f.type = some t ∧ "eEfFgG%".toList.contains t = true ∧ tp0 = ⟨false, false, true⟩) ∨
    (f.type = some 'n' ∧ f.comma = false ∧ tp0 = ⟨false, true, true⟩) := by
  revert h
  fun_cases tpType f with
  | case1 ht =>
    rintro ⟨⟩
    exact .inl ⟨ht, rfl⟩
  | case2 t ht h1 =>
    rintro ⟨⟩
    cases beq_iff_eq.mp h1
    exact .inr (.inl ⟨ht, rfl⟩)
  | case3 t ht _ h2 =>
    rintro ⟨⟩
    exact .inr (.inr (.inl ⟨t, ht, h2, rfl⟩))
  | case4 t ht _ _ h3 =>
    rintro ⟨⟩
    exact .inr (.inr (.inr (.inl ⟨t, ht, h3, rfl⟩)))
  | case5 | case7 => rintro ⟨⟩
  | case6 t ht _ _ _ h4 hc =>
    rintro ⟨⟩
    cases beq_iff_eq.mp h4
    exact .inr (.inr (.inr (.inr ⟨ht, Bool.eq_false_iff.mpr hc, rfl⟩)))

theorem specCheck_ok {cfg : Cfg} {f : Spec} {tp : TySet} (h : specCheck cfg f = .ok tp) :
    ∃ tp0, tpType f = .ok tp0 ∧
      tp = ⟨tp0.str && !(f.alt || f.sign.isSome || f.comma) && !((if f.align.isNone && f.zero then some '=' else f.align) == some '='),
            tp0.int && f.precision.isNone, tp0.float⟩ ∧
      (∀ w, f.width = some w → digitsVal w ≤ cfg.ssizeMax) ∧ ∀ p, f.precision = some p → digitsVal p ≤ cfg.ssizeMax := by
  revert h
  fun_cases specCheck cfg f with
  | case1 | case2 | case3 | case4 => rintro ⟨⟩
  | case5 tp0 h0 _ h1 _ h2 h3 =>
    intro h
    obtain ⟨rfl, hp⟩ := tpPrec_facts h
    cases tpAlign_facts h2
    cases tpFlags_facts h1
    exact ⟨tp0, h0, rfl, checkWidth_bound h3, hp⟩

theorem digitsVal_zero_cons (w : List Char) : digitsVal ('0' :: w) = digitsVal w := by
  have : digitVal '0' = 0 := by decide
  simp [digitsVal, this]

theorem wdigits_val (f : Spec) : digitsVal (wdigits f) = digitsVal (f.width.getD []) := by
  simp only [wdigits]
  split
  · exact digitsVal_zero_cons _
  · simp

theorem parseSyntax_of_check {cfg : Cfg} (hcfg : cfg.ssizeMax ≤ PY_SSIZE_T_MAX) {sp : List Char} {f : Spec} {tp : TySet}
    (hsp : '}' ∉ sp) (hscan : scanSpec sp = some f) (hchk : specCheck cfg f = .ok tp) (da : Char) :
    parseSyntax da sp = .ok (rawOf da f) := by
  obtain ⟨tp0, h0, _, hw, hp⟩ := specCheck_ok hchk
  refine parseSyntax_of_scan da hsp hscan (tpType_known h0) ?_ fun p hp' => Nat.le_trans (hp p hp') hcfg
  rw [wdigits_val]
  cases hw' : f.width with
  | none => exact Nat.zero_le _
  | some w => exact Nat.le_trans (hw w hw') hcfg

/-- the presentation types CPython lets a thousands comma go with -/
def commaTypes : List Char := ['d', 'e', 'f', 'g', 'E', 'G', '%', 'F', '\x00']

theorem finishSpec_inv {dt : Char} {r : RawSpec} {s : ISpec} (h : finishSpec dt r = .ok s) :
    s = ⟨r.fill, r.align, r.alternate, r.noNeg0, r.sign, r.width, r.thousands, r.precision, r.type.getD dt⟩ :=
  ok_of_ite h

theorem finishSpec_ok {dt : Char} {r : RawSpec} (h : r.thousands = .none ∨ commaTypes.contains (r.type.getD dt) = true) :
    finishSpec dt r =
      .ok ⟨r.fill, r.align, r.alternate, r.noNeg0, r.sign, r.width, r.thousands, r.precision, r.type.getD dt⟩ := by
  unfold finishSpec
  rcases h with h | h
  · simp only [h]
    rfl
  · simp only [commaTypes, List.contains_cons, List.contains_nil, Bool.or_false, Bool.beq_eq_decide_eq] at h
    simp only [Bool.or_assoc, h]
    cases r.thousands <;> rfl

theorem formatString_ok {s : ISpec} (h1 : s.sign = none) (h2 : s.noNeg0 = false) (h3 : s.alternate = false) (h4 : s.align ≠ '=') :
    formatString s = .ok () := by
  simp [formatString, h1, h2, h3, h4]

theorem formatLong_ok {n : Int} {s : ISpec} (hp : s.precision = none) (hz : s.noNeg0 = false)
    (hc : s.type = 'c' → s.sign = none ∧ s.alternate = false ∧ 0 ≤ n ∧ n ≤ 0x10ffff) : formatLong n s = .ok () := by
  unfold formatLong
  by_cases ht : s.type = 'c'
  · obtain ⟨h1, h2, h3, h4⟩ := hc ht
    have : ¬ (n < 0 ∨ n > 0x10ffff) := by omega
    simp [hp, hz, ht, h1, h2, this]
  · simp [hp, hz, ht]

theorem formatFloat_ok {s : ISpec} (h : ∀ p, s.precision = some p → p ≤ INT_MAX) : formatFloat s = .ok () := by
  unfold formatFloat
  split
  · rename_i p hp
    simp [Nat.not_lt.mpr (h p hp)]
  · rfl

theorem contains_of_all {l₁ l₂ : List Char} (h : l₁.all l₂.contains = true) {t : Char} (ht : l₁.contains t = true) :
    l₂.contains t = true :=
  List.all_eq_true.mp h t (List.contains_iff_mem.mp ht)

theorem memC_int {t : Char} (h : "bcdoxX".toList.contains t = true) : memC t "bcdoxXn" = true :=
  contains_of_all (by rw [String.toList_ofList, String.toList_ofList]; decide +kernel) h

theorem memC_float {t : Char} (h : "eEfFgG%".toList.contains t = true) : memC t "eEfFgGn%" = true :=
  contains_of_all (by rw [String.toList_ofList, String.toList_ofList]; decide +kernel) h

theorem commaTypes_float {t : Char} (h : "eEfFgG%".toList.contains t = true) : commaTypes.contains t = true :=
  contains_of_all (by rw [String.toList_ofList]; decide +kernel) h

theorem commaTypes_int : ∀ t ∈ "bcdoxX".toList, t ∉ ['b', 'c', 'o', 'x', 'X'] → commaTypes.contains t = true := by
  decide +kernel

/-- soundness of the typing rules: a value of one of the types the tool computed for a specification is formatted by
    CPython, the two combinations of `Spec.quirk` apart; an `int` under `c` has to be a code point (`hchr`).
    `hcfg`: the widths and precisions the tool lets through are ≤ `SSIZE_MAX`.  That they are ≤ `PY_SSIZE_T_MAX` keeps CPython's
    `accumulate` from overflowing (`parseSyntax_of_check`); ≤ `INT_MAX = 2^31-1` is what
    `format_float_internal` asks of a precision (the `float` branch, `formatFloat_ok`).  The live value is `INT_MAX`
    (`Props.C13.constants_pin`). -/
theorem formatValue_sound {cfg : Cfg} (hcfg : cfg.ssizeMax ≤ 2 ^ 31 - 1) {sp : List Char} {f : Spec} {tp : TySet}
    (hsp : '}' ∉ sp) (hscan : scanSpec sp = some f) (hchk : specCheck cfg f = .ok tp) (hq : f.quirk = false)
    (v : Val) (hv : hasType tp v = true)
    (hchr : ∀ n, v = .int n → f.type = some 'c' → 0 ≤ n ∧ n ≤ 0x10ffff) : formatValue v sp = .ok () := by
  have hsyn := parseSyntax_of_check (Nat.le_trans hcfg (by decide)) hsp hscan hchk
  obtain ⟨tp0, h0, rfl, -, hpb⟩ := specCheck_ok hchk
  unfold formatValue
  by_cases hne : sp.isEmpty = true
  · exact if_pos hne
  · rw [if_neg hne]
    cases v with
    | str =>
      -- `str` is among the types: the type character allows it, and neither a flag nor the alignment `=` has removed it
      obtain ⟨h0s, halt, hsign, hcomma, halign⟩ : tp0.str = true ∧ f.alt = false ∧ f.sign = none ∧ f.comma = false ∧
          ((if f.align.isNone && f.zero then some '=' else f.align) == some '=') = false := by
        simpa [hasType, and_assoc] using hv
      have ht : f.type.getD 's' = 's' := by
        rcases tpType_facts h0 with ⟨ht, _⟩ | ⟨ht, _⟩ | ⟨_, _, _, rfl⟩ | ⟨_, _, _, rfl⟩ | ⟨_, _, rfl⟩
        · rw [ht]
          rfl
        · rw [ht]
          rfl
        · cases h0s
        · cases h0s
        · cases h0s
      have hal : (rawOf '<' f).align ≠ '=' := by
        cases ha : f.align with
        | none => simp [rawOf, ha]
        | some a => simpa [rawOf, ha] using halign
      simp only [parseSpec, hsyn, finishSpec_ok (.inl (rawOf_thousands_none hcomma))]
      exact (if_pos ht).trans (formatString_ok hsign rfl halt hal)
    | int n =>
      obtain ⟨h0i, hprec⟩ : tp0.int = true ∧ f.precision = none := by simpa [hasType] using hv
      simp only [Spec.quirk, Bool.or_eq_false_iff] at hq
      have hty : memC (f.type.getD 'd') "bcdoxXn" = true ∧ (f.comma = false ∨ commaTypes.contains (f.type.getD 'd') = true) := by
        rcases tpType_facts h0 with ⟨ht, _⟩ | ⟨_, rfl⟩ | ⟨t, ht, hts, _⟩ | ⟨_, _, _, rfl⟩ | ⟨ht, hcomma, _⟩
        · rw [ht]
          exact ⟨memC_int (by decide +kernel), .inr (by decide)⟩
        · cases h0i
        · rw [ht]
          refine ⟨memC_int hts, ?_⟩
          cases hc : f.comma with
          | false => exact .inl rfl
          | true =>
            rw [hc, ht] at hq
            exact .inr (commaTypes_int t (List.contains_iff_mem.mp hts) (by simpa [and_assoc] using hq.1))
        · cases h0i
        · rw [ht]
          exact ⟨by decide +kernel, .inl hcomma⟩
      simp only [parseSpec, hsyn, finishSpec_ok (hty.2.imp_left rawOf_thousands_none)]
      refine (if_pos hty.1).trans (formatLong_ok (congrArg (Option.map digitsVal) hprec) rfl fun hc => ?_)
      have hc' : f.type = some 'c' := by
        rcases Option.getD_eq_iff.mp (show f.type.getD 'd' = 'c' from hc) with h | ⟨_, h⟩
        · exact h
        · exact absurd h (by decide)
      simp only [hc', beq_self_eq_true, Bool.true_and, Bool.or_eq_false_iff, Option.isSome_eq_false_iff,
        Option.isNone_iff_eq_none] at hq
      exact ⟨hq.2.2, hq.2.1, hchr n rfl hc'⟩
    | float =>
      simp only [hasType] at hv
      have hty : (f.type.getD '\x00' = '\x00' ∨ memC (f.type.getD '\x00') "eEfFgGn%" = true) ∧
          (f.comma = false ∨ commaTypes.contains (f.type.getD '\x00') = true) := by
        rcases tpType_facts h0 with ⟨ht, _⟩ | ⟨_, rfl⟩ | ⟨_, _, _, rfl⟩ | ⟨t, ht, hts, _⟩ | ⟨ht, hcomma, _⟩
        · rw [ht]
          exact ⟨.inl rfl, .inr (by decide)⟩
        · cases hv
        · cases hv
        · rw [ht]
          exact ⟨.inr (memC_float hts), .inr (commaTypes_float hts)⟩
        · rw [ht]
          exact ⟨.inr (by decide +kernel), .inl hcomma⟩
      simp only [parseSpec, hsyn, finishSpec_ok (hty.2.imp_left rawOf_thousands_none)]
      refine (if_pos hty.1).trans (formatFloat_ok fun p hp => ?_)
      obtain ⟨ds, hds, rfl⟩ := Option.map_eq_some_iff.mp (show f.precision.map digitsVal = some p from hp)
      have := hpb ds hds
      simp only [INT_MAX]
      omega

end I18n.PyBrace
