import I18n.Lemmas.HdrAll
import I18n.Lemmas.HdrParse
import I18n.Lemmas.CharsetTables
import I18n.Lemmas.HdrClean
import I18n.Lemmas.HdrNames
import I18n.Lemmas.HdrScan
import I18n.Lemmas.HdrOnce
/-
# C15 — header diagnostics match the documented conditions

`Hdr.checkAll` is the statement-by-statement model of the header stages of `Checker.check` (`check_comments`, `check_headers`,
`check_mime`, `check_dates`, `check_project`, `check_translator`); `Spec.HeaderRules.Reported` is the rule set of DESIGN.md
Appendix A, one clause per tag.  Everything here holds for every file: any entries, any header text (any lines, any
multiplicity and order of fields), any initial comments, the three kinds, and every result of the library calls.
-/
namespace I18n.Props.C15
open I18n.Hdr I18n.Spec.HeaderRules

/-- whenever the header stages return, the set of diagnostics (tag and extras) they emit is exactly the
    set the rule set prescribes -/
theorem header_tags_eq (x : Ext) (cs : CharsetCheck) (now : Int) (f : File) (ts : List TagCall)
    (h : checkAll x cs now f = some ts) (t : TagCall) : t ∈ ts ↔ Reported x cs now f t :=
  mem_checkAll h t

/-- with the library results at hand and a total charset fragment, no Python exception escapes the header
    stages: the closed error set is empty (`get_character_name` is total on what `find_unusual_characters` reports —
    `unusual_names_total`; an unparsable URL counts as "no scheme" — fix 2f85d76; `check_dates` — C18 `NoCrash`) -/
theorem hdr_nocrash (x : Ext) (cs : CharsetCheck) (hcs : ∀ n, ∃ r, cs n = .ok r) (now : Int) (f : File) :
    checkAll x cs now f ≠ none :=
  Option.isSome_iff_ne_none.1 (checkAll_isSome x cs hcs now f)

/-- unconditional form — with a total charset fragment the stages return, and what they emit is the rule set -/
theorem header_tags_total (x : Ext) (cs : CharsetCheck) (hcs : ∀ n, ∃ r, cs n = .ok r) (now : Int) (f : File) :
    ∃ ts, checkAll x cs now f = some ts ∧ ∀ t, t ∈ ts ↔ Reported x cs now f t := by
  obtain ⟨ts, h⟩ := Option.isSome_iff_exists.1 (checkAll_isSome x cs hcs now f)
  exact ⟨ts, h, header_tags_eq x cs now f ts h⟩

/-- the same with C20's charset fragment plugged in: total whenever the codecs behave (`Charset.Tables.checkCharset_total_shipped`, C20's `check_total`) -/
theorem hdr_nocrash_charset (x : Ext) (env : Charset.Env) (characters : Option (Option (List (List Nat))))
    (htbl : env.tbl = Generated.Charset.portableEncodings) (hc2e : env.c2e = Generated.Charset.pycodecToEncoding)
    (henc : ∀ enc chars, characters = some (some chars) → Charset.EncodeOk (env.encode enc) chars)
    (now : Int) (f : File) :
    checkAll x (fun n => Charset.checkCharset env n f.kind.isTemplate characters) now f ≠ none :=
  hdr_nocrash x _ (fun n => Charset.Tables.checkCharset_total_shipped env n f.kind.isTemplate characters htbl hc2e henc) now f

/-- a Report-Msgid-Bugs-To value without an address whose URL cannot be parsed is reported, not crashed on -/
theorem unparsable_url_reported (x : Ext) (v : Str) (h1 : ¬ HasAt (x.parseaddr v)) (h2 : x.urlScheme v = none) :
    reportOne x v = [⟨"invalid-report-msgid-bugs-to", [.str v]⟩] := by
  have : hasAt (x.parseaddr v) = false := Bool.eq_false_iff.2 fun h => h1 ((hasAt_iff _).1 h)
  rw [reportOne_eq, this, h2]; rfl

/-! ## the field grammar (`gettext.parse_header`) -/

/-- the lines are the `\n`-separated pieces of the text, a final `\n` terminating the last -/
theorem parse_header_lines (s : Str) :
    parseHeader s = (headerLines s).map parseLine ∧ LinesOf s (headerLines s) := ⟨rfl, headerLines_spec s⟩

/-- a line becomes the field `k: v` iff `k` is a non-empty run of printable ASCII other than
    `:`, followed by `:`, and `v` is the rest stripped of blanks and tabs -/
theorem parse_header_field (l k v : Str) : parseLine l = .field k v ↔ FieldLine l k v := parseLine_field_iff l k v

/-- every other line is kept unchanged as a stray line -/
theorem parse_header_stray (l s : Str) : parseLine l = .stray s ↔ (s = l ∧ ¬ ∃ k v, FieldLine l k v) := parseLine_stray_iff l s

/-- the dictionary `check_headers` builds answers `metadata[k]` with the values of the field lines named `k`, in order -/
theorem metadata_lookup (ls : List Line) (k : String) : (buildMeta ls []).getS k = vals (fieldLines ls) k := meta_getS ls k

/-! ## leaf scanners against their regular expressions' languages -/

/-- the scanner for `domains._is_special` (alternatives regenerated from the source) accepts a
    lower-cased domain iff it is a documented special-use name or ends in `.`+name after at least one more character -/
theorem special_domain_iff (d : Str) : Domains.isSpecialLowered d = true ↔ SpecialDomain d := Domains.isSpecialLowered_iff d

theorem domains_pin : Generated.HeaderFields.specialDomains = specialDomains := Domains.domains_pin

/-- `email.rsplit('@', 1)[1]`: what follows the last `@` -/
theorem email_domain (addr : Str) (h : '@' ∈ addr) (dom : Str) : DomainOf addr dom ↔ dom = Domains.domainOf addr :=
  Domains.DomainOf_iff addr dom h

theorem special_email_iff (x : Ext) (addr : Str) (h : '@' ∈ addr) :
    Domains.isEmailInSpecialDomain x.db.lower addr = true ↔ SpecialEmail x addr := Domains.isEmailInSpecialDomain_iff x addr h

theorem dotless_email_iff (addr : Str) (h : '@' ∈ addr) :
    Domains.isEmailInDotlessDomain addr = true ↔ DotlessEmail addr := Domains.isEmailInDotlessDomain_iff addr h

/-- the order of precedence of the address verdicts is the documented one; `addrVerdict` is the reading of the source's `if/elif` chain
    over an address that `reportOne_eq`, `translatorOne_eq` and `teamOne_eq` establish for the three fields -/
theorem address_verdict (x : Ext) (boiler : List String) (addr : Str) (h : HasAt addr) (v : AddrVerdict) :
    addrVerdict x boiler addr = v ↔ AddrIs x boiler addr v := addrVerdict_iff x boiler addr h v

/-- the scanner for `(\Atext/plain; )?\bcharset=([^\s;]+)\Z` under `re.search` -/
theorem content_type_form (db : UDB) (ct : Str) :
    (∀ full enc, matchContentType db ct = some (full, enc) ↔ CharsetOf db ct full enc) ∧
    (matchContentType db ct = none ↔ ¬ ∃ full enc, CharsetParam db ct full enc) :=
  ⟨matchContentType_some_iff db ct, matchContentType_none_iff db ct⟩

/-- the scanner for `^#-#-#-#-#  .+  #-#-#-#-#$` (`search_for_conflict_marker`) accepts exactly the lines `#-#-#-#-#  <non-empty>  #-#-#-#-#` -/
theorem conflict_marker_spec (l : Str) : isConflictMarker l = true ↔ ConflictMarker l := isConflictMarker_iff l

/-- the characters reported by `unusual-character-in-header-entry` are exactly the unusual ones of
    the text (`Unusual`: a code point of the regenerated ranges `unusualAlways` — by `source_pins` C0 except TAB/LF/ESC, DEL, C1,
    U+FEFF, U+FFFD–U+FFFF —, ESC not followed by `[`, `¿` directly after a word character), each once, in code-point order -/
theorem unusual_characters_spec (db : UDB) (text : Str) :
    (∀ c, c ∈ sortedChars (unusualChars db text) ↔ Unusual db text c) ∧
    (sortedChars (unusualChars db text)).Pairwise (fun a b => a.toNat < b.toNat) :=
  ⟨fun c => by rw [mem_sortedChars, mem_unusualChars], sortedChars_sorted _⟩

/-- a comment line is boilerplate iff at some position (with the character before it) one of the
    patterns matches; of the four shapes of pattern, two are spelled out: `\b<literal>\b` (`comment_word_pattern`) and
    `\bCopyright \S+ YEAR\b` (`comment_copyright_pattern`) -/
theorem comment_search_spec (db : UDB) (tmpl : Bool) (line : Str) :
    commentLineHit db tmpl line = true ↔ ∃ pre rest, line = pre ++ rest ∧ commentHit db tmpl pre.getLast? rest = true := by
  unfold commentLineHit
  simp only [anyPos_iff, lastOr_none]

theorem comment_word_pattern (db : UDB) (l : Str) (prev : Option Char) (rest : Str) :
    wordLit db l prev rest = true ↔
      ∃ after, rest = l ++ after ∧ boundary db prev l.head? = true ∧ boundary db l.getLast? after.head? = true :=
  wordLit_iff db l prev rest

theorem comment_copyright_pattern (db : UDB) (prev : Option Char) (rest : Str) :
    copyrightYear db prev rest = true ↔
      ∃ run after, rest = "Copyright ".toList ++ run ++ " YEAR".toList ++ after ∧ run ≠ [] ∧ (∀ c ∈ run, db.isSpace c = false) ∧
        boundary db prev (some 'C') = true ∧ boundary db (some 'R') after.head? = true :=
  copyrightYear_iff db prev rest

/-! ## pins: what the hand-written scanners and the rule set assume of the source, regenerated on every run -/

theorem source_pins :
    Generated.HeaderFields.dedicated = ownRules ∧
    Generated.HeaderFields.mimeVersionGood = "1.0" ∧ Generated.HeaderFields.cteGood = "8bit" ∧
    Generated.HeaderFields.charsetBoilerplate = "CHARSET" ∧
    Generated.HeaderFields.projectBoilerplate = ["PACKAGE VERSION", "PROJECT VERSION"] ∧
    Generated.HeaderFields.emptyScheme = "" ∧
    Generated.HeaderFields.reportBoilerplate = ["EMAIL@ADDRESS"] ∧
    Generated.HeaderFields.translatorBoilerplate = ["EMAIL@ADDRESS"] ∧
    Generated.HeaderFields.teamBoilerplate = ["EMAIL@ADDRESS", "LL@li.org"] ∧
    Generated.HeaderFields.headerFlag = "fuzzy" ∧
    Generated.HeaderFields.commentPatterns = ["\\bCopyright \\S+ YEAR\\b", "\\bPACKAGE package\\b", "\\bTHE PACKAGE'S COPYRIGHT HOLDER\\b"] ∧
    Generated.HeaderFields.commentPatternsTranslated = ["(?<=>), YEAR\\b", "<EMAIL@ADDRESS>", "\\bFIRST AUTHOR\\b"] ∧
    Generated.HeaderFields.contentTypeRegex = "(\\Atext/plain; )?\\bcharset=([^\\s;]+)\\Z" ∧
    Generated.HeaderFields.projectNameRegex = "[^_\\d\\W]" ∧ Generated.HeaderFields.projectVersionRegex = "[0-9]" ∧
    Generated.HeaderFields.fieldNameRegex = "^[\\x21-\\x39\\x3B-\\x7E]+$" ∧ Generated.HeaderFields.fieldNameRegexMethod = "match" ∧
    Generated.HeaderFields.conflictRegex = "^#-#-#-#-#  .+  #-#-#-#-#$" ∧ Generated.HeaderFields.conflictRegexMethod = "search" ∧
    Generated.HeaderFields.parseHeaderConsts = ["\n", "", ":", " \t"] ∧
    Generated.HeaderFields.lineBreaks = [0xA, 0xB, 0xC, 0xD, 0x1C, 0x1D, 0x1E, 0x85, 0x2028, 0x2029] ∧
    Generated.HeaderFields.unusualUnlessBracket = 0x1B ∧ Generated.HeaderFields.unusualAfterWord = 0xBF ∧
    Generated.HeaderFields.unusualAlways = [(0x0, 0x8), (0xB, 0x1A), (0x1C, 0x1F), (0x7F, 0x9F), (0xFEFF, 0xFEFF), (0xFFFD, 0xFFFF)] := by
  decide +kernel

/-- the registered names differ pairwise even up to case, so "the registered name equal up to case" is well defined -/
theorem registry_case_distinct :
    ((Generated.HeaderFields.headerFields.map fun s => asciiLower s.toList).Nodup) := by
  unfold Generated.HeaderFields.headerFields
  simp only [List.map]
  repeat rw [String.toList_ofList]
  decide +kernel

/-- `get_character_name` has a name for every character `find_unusual_characters` can report -/
theorem unusual_names_total : candidates.all (fun n => (nameOfNat n).isSome) = true := Hdr.unusual_names_total

/-- the same file as another kind -/
def asKind (f : File) (tmpl bin : Bool) : File := ⟨⟨tmpl, bin⟩, f.comments, f.entries⟩

/-- in a template the header entry may be fuzzy and the translator / team placeholders are expected —
    `fuzzy-header-entry`, `boilerplate-in-last-translator`, `boilerplate-in-language-team` are never due there, and that is
    the only way the entry, translator and team rules depend on the file being a template; the stray-line, field-name,
    MIME, Content-Type (given the charset verdict), project and bug-address rules do not take the file kind at all. -/
theorem pot_exemptions (x : Ext) (f : File) (fs : List (Str × Str)) (b : Bool) (t : TagCall) :
    (EntryRule x (asKind f true b) t ↔ (EntryRule x (asKind f false b) t ∧ t ≠ t0 "fuzzy-header-entry")) ∧
    (TranslatorRule x (asKind f true b) fs t ↔
      (TranslatorRule x (asKind f false b) fs t ∧ t.name ≠ "boilerplate-in-last-translator")) ∧
    (TeamRule x (asKind f true b) fs t ↔
      (TeamRule x (asKind f false b) fs t ∧ t.name ≠ "boilerplate-in-language-team")) := by
  refine ⟨?_, ?_, ?_⟩
  · by_cases ht : t = t0 "fuzzy-header-entry"
    · subst ht
      refine iff_of_false (fun h => ?_) (fun h => h.2 rfl)
      obtain ⟨_, _, _, _, hk⟩ := (fuzzy_header_iff x _).1 h
      exact Bool.noConfusion hk
    · -- for any other tag that disjunct is false in both kinds
      unfold EntryRule asKind
      simp only [ht, ne_eq, and_false, false_or, not_false_eq_true, and_true]
  · unfold TranslatorRule asKind
    by_cases hn : t.name = "boilerplate-in-last-translator"
    · refine iff_of_false ?_ (fun h => h.2 hn)
      simp only [Bool.true_eq_false, false_and, and_false, false_or]
      rintro (⟨_, rfl⟩ | ⟨_, rfl⟩ | ⟨v, _, ⟨_, rfl⟩ | ⟨_, ⟨_, rfl⟩ | ⟨_, rfl⟩⟩⟩)
      all_goals simp [t0] at hn
    · have ht : ∀ v, t ≠ ⟨"boilerplate-in-last-translator", [.str v]⟩ := fun v e => hn (by rw [e])
      simp only [ht, hn, ne_eq, and_false, false_or, not_false_eq_true, and_true]
  · unfold TeamRule asKind
    by_cases hn : t.name = "boilerplate-in-language-team"
    · refine iff_of_false ?_ (fun h => h.2 hn)
      simp only [Bool.true_eq_false, false_and, and_false, false_or]
      rintro (⟨_, rfl⟩ | ⟨_, rfl⟩ | ⟨v, _, _, ⟨_, rfl⟩ | ⟨_, rfl⟩ | ⟨_, tr, _, rfl⟩⟩)
      all_goals simp [t0] at hn
    · have ht : ∀ v, t ≠ ⟨"boilerplate-in-language-team", [.str v]⟩ := fun v e => hn (by rw [e])
      simp only [ht, hn, ne_eq, and_false, false_or, not_false_eq_true, and_true]

/-- in a translated file the translator and team placeholders ARE due (the exemption is exactly the template flag); for
    `fuzzy-header-entry` the same is `Hdr.fuzzy_header_iff` -/
theorem po_boilerplate_due (x : Ext) (f : File) (fs : List (Str × Str)) (hk : f.kind.isTemplate = false) (v : Str) :
    (v ∈ vals fs "Last-Translator" → HasAt (x.parseaddr v) → AddrIs x ["EMAIL@ADDRESS"] (x.parseaddr v) .boilerplate →
      TranslatorRule x f fs ⟨"boilerplate-in-last-translator", [.str v]⟩) ∧
    (v ∈ vals fs "Language-Team" → HasAt (x.parseaddr v) → AddrIs x ["EMAIL@ADDRESS", "LL@li.org"] (x.parseaddr v) .boilerplate →
      TeamRule x f fs ⟨"boilerplate-in-language-team", [.str v]⟩) :=
  ⟨fun hv ha hb => (translator_boilerplate_iff x f fs v).2 ⟨hv, ha, hb, hk⟩,
   fun hv ha hb => (team_boilerplate_iff x f fs v).2 ⟨hv, ha, hb, hk⟩⟩

/-- the comment patterns looked for in a template are among those looked for in a translated file (the difference, the three
    msginit patterns, is `Hdr.commentRule_kinds`) -/
theorem pot_comments_subset (x : Ext) (f : File) (b : Bool) (t : TagCall) :
    CommentRule x (asKind f true b) t → CommentRule x (asKind f false b) t :=
  fun h => (commentRule_kinds x b f.comments f.entries t).2 (.inl h)

/-- in the date rule the binary flag excuses exactly the absence of POT-Creation-Date: a missing PO-Revision-Date is still
    reported in an MO file, a missing POT-Creation-Date is reported in PO and POT files -/
theorem mo_exemptions (now : Int) (f : File) (fs : List (Str × Str)) :
    (DateRule now f fs ⟨"no-date-header-field", [.str "POT-Creation-Date".toList]⟩ ↔
      (vals fs "POT-Creation-Date" = [] ∧ f.kind.isBinary = false)) ∧
    (DateRule now f fs ⟨"no-date-header-field", [.str "PO-Revision-Date".toList]⟩ ↔ vals fs "PO-Revision-Date" = []) := by
  have key : ∀ g : Date.Field, DateRule now f fs (ofDateTag (noDate g)) ↔
      ((match g with | .pot => vals fs "POT-Creation-Date" | .po => vals fs "PO-Revision-Date") = [] ∧ ¬ (g = .pot ∧ f.kind.isBinary = true)) := by
    intro g
    rw [dateRule_iff now f fs _ _ rfl]
    refine Iff.trans ?_ (noDate_mem_checkDates ⟨(vals fs "Content-Type").head?, f.kind.isBinary, f.kind.isTemplate,
      vals fs "POT-Creation-Date", vals fs "PO-Revision-Date", now⟩ g _ (Date.checkDates_eq _))
    constructor
    · rintro ⟨d, hm, e⟩
      rw [ofDateTag_inj e]
      exact hm
    · intro hm
      exact ⟨_, hm, rfl⟩
  constructor
  · have e : ofDateTag (noDate .pot) = ⟨"no-date-header-field", [.str "POT-Creation-Date".toList]⟩ := by
      rw [String.toList_ofList]; rfl
    rw [← e, key .pot]
    cases f.kind.isBinary <;> simp
  · have e : ofDateTag (noDate .po) = ⟨"no-date-header-field", [.str "PO-Revision-Date".toList]⟩ := by
      rw [String.toList_ofList]; rfl
    rw [← e, key .po]
    simp

/-- thanks to `sorted(set(values))` and the sorted distinct field names, none of the MIME-Version, Content-Transfer-Encoding,
    `check_project` and `check_translator` stages and of the field-name loop emits a diagnostic twice, whatever the multiplicity of
    the fields and values in the header (nor do two of them emit the same one: `Hdr.valueStages_once`) -/
theorem value_reports_once (x : Ext) (tmpl : Bool) (m : Meta) :
    (mimeVersionTags m).Nodup ∧ (cteTags m).Nodup ∧ (checkProject x m).Nodup ∧ (checkTranslator x tmpl m).Nodup ∧
    ((sortedSet (m.map (·.1))).flatMap (fieldNameTags x m)).Nodup := by
  -- the five lists are the parts of one list without repetition
  have h := (valueStages_once x tmpl m).nodup
  simp only [List.nodup_append] at h
  obtain ⟨⟨⟨⟨hmime, hcte, -⟩, hproject, -⟩, htranslator, -⟩, hnames, -⟩ := h
  exact ⟨hmime, hcte, hproject, htranslator, hnames⟩

/-- on a file that follows every convention (`Conventional`) the rule set prescribes nothing, and the
    header stages emit nothing (`hcs` is not used: the two halves are `Hdr.conventional_silent` and
    `Hdr.conventional_checkAll`, without it) -/
theorem clean_header_silent (x : Ext) (cs : CharsetCheck) (hcs : ∀ n, ∃ r, cs n = .ok r) (now : Int) (f : File)
    (c : Conventional x cs now f) : (∀ t, ¬ Reported x cs now f t) ∧ checkAll x cs now f = some [] :=
  ⟨conventional_silent x cs now f c, conventional_checkAll x cs now f c⟩

/-- the `self.tag(…)` calls in the six methods (ast walk of this run) name exactly the tags of the model -/
theorem tag_sites_pin :
    sourceTagNames = modelTagNames ∧
    ((Generated.HeaderFields.tagsOf.filter fun e => stageMethods.contains e.1).all fun e => !e.2.2) = true ∧
    (stageMethods.all fun m => Generated.HeaderFields.tagsOf.any fun e => e.1 == m) = true := Hdr.tag_sites_pin

/-- every diagnostic of the header stages carries one of those names -/
theorem emitted_names_registered (x : Ext) (cs : CharsetCheck) (now : Int) (f : File) (ts : List TagCall)
    (h : checkAll x cs now f = some ts) : ∀ t ∈ ts, t.name ∈ modelTagNames :=
  fun t ht => reported_name x cs now f t ((header_tags_eq x cs now f ts h t).1 ht)

/-! ## non-vacuity: the model run by the kernel on concrete files -/

section Examples

private def pa (v : Str) : Str :=
  if v = "Jakub Wilk <jwilk@jwilk.net>".toList then "jwilk@jwilk.net".toList
  else if v = "Polish <pl@lists.jwilk.net>".toList then "pl@lists.jwilk.net".toList
  else if v = "FULL NAME <EMAIL@ADDRESS>".toList then "EMAIL@ADDRESS".toList
  else if v = "LANGUAGE <LL@li.org>".toList then "LL@li.org".toList
  else v

private def exExt : Ext := {
  db := { isWord := fun c => c.isAlphanum || c = '_', isSpace := fun c => c = ' ' || c = '\t' || c = '\n',
          isDigit := fun c => c.isDigit, lower := asciiLower }
  parseaddr := pa
  urlScheme := fun v => if v = "http://[foo".toList then none else some []
  closeFuzzy := fun _ => false
  closeField := fun _ => none }

private def header (report translator team mime : String) : Str :=
  "Project-Id-Version: Gizmo Enhancer 1.0\nReport-Msgid-Bugs-To: ".toList ++ report.toList
  ++ "\nPOT-Creation-Date: 2012-11-01 14:42+0100\nPO-Revision-Date: 2012-11-01 14:42+0100\nLast-Translator: ".toList
  ++ translator.toList ++ "\nLanguage-Team: ".toList ++ team.toList ++ "\nLanguage: pl\nMIME-Version: ".toList ++ mime.toList
  ++ "\nContent-Type: text/plain; charset=UTF-8\nContent-Transfer-Encoding: 8bit\n".toList

private def fileOf (k : Kind) (text : Str) (flags : List Str) : File :=
  ⟨k, "Polish translation of gizmo\nCopyright (C) 2012 Jakub Wilk".toList, [⟨[], none, false, [], none, text, none, flags⟩]⟩

private def cleanHeader : Str := header "gizmoenhancer@jwilk.net" "Jakub Wilk <jwilk@jwilk.net>" "Polish <pl@lists.jwilk.net>" "1.0"
private def potHeader : Str := header "gizmoenhancer@jwilk.net" "FULL NAME <EMAIL@ADDRESS>" "LANGUAGE <LL@li.org>" "1.0"

private def csOk : CharsetCheck := fun n => .ok ([], some n)
private def now2026 : Int := 1767225600000000

set_option maxRecDepth 100000 in
/-- a clean header is silent, in every kind of file -/
example : checkAll exExt csOk now2026 (fileOf .po cleanHeader []) = some []
    ∧ checkAll exExt csOk now2026 (fileOf .pot cleanHeader []) = some []
    ∧ checkAll exExt csOk now2026 (fileOf .mo cleanHeader []) = some [] := by
  unfold fileOf cleanHeader header exExt pa
  repeat rw [String.toList_ofList]
  decide +kernel

set_option maxRecDepth 100000 in
/-- the template placeholders and a fuzzy header entry: three tags in a PO file, none in a POT file -/
example : checkAll exExt csOk now2026 (fileOf .po potHeader ["fuzzy".toList]) = some [
      ⟨"fuzzy-header-entry", []⟩,
      ⟨"boilerplate-in-last-translator", [.str "FULL NAME <EMAIL@ADDRESS>".toList]⟩,
      ⟨"boilerplate-in-language-team", [.str "LANGUAGE <LL@li.org>".toList]⟩]
    ∧ checkAll exExt csOk now2026 (fileOf .pot potHeader ["fuzzy".toList]) = some [] := by
  unfold fileOf potHeader header exExt pa
  repeat rw [String.toList_ofList]
  decide +kernel

set_option maxRecDepth 100000 in
/-- the witness of fix 2f85d76 (unparsable URL), a dot-less domain, a reserved domain, a bad MIME version -/
example : checkAll exExt csOk now2026
      (fileOf .po (header "http://[foo" "root@localhost" "team@example.org" "1.1") []) = some [
      ⟨"invalid-mime-version", [.str "1.1".toList, .str "=>".toList, .str "1.0".toList]⟩,
      ⟨"invalid-report-msgid-bugs-to", [.str "http://[foo".toList]⟩,
      ⟨"invalid-last-translator", [.str "root@localhost".toList]⟩,
      ⟨"invalid-language-team", [.str "team@example.org".toList]⟩] := by
  unfold fileOf header exExt pa
  repeat rw [String.toList_ofList]
  decide +kernel

example : Domains.isSpecialLowered "example.com".toList = true ∧ Domains.isSpecialLowered "notexample.com".toList = false
    ∧ Domains.isSpecialLowered "foo.test".toList = true ∧ Domains.isSpecialLowered "local".toList = false
    ∧ Domains.isSpecialLowered "a.local".toList = true := by
  repeat rw [String.toList_ofList]
  decide +kernel

example : parseHeader "A: b \nstray\nX-y:\tz\n".toList =
    [.field "A".toList "b".toList, .stray "stray".toList, .field "X-y".toList "z".toList] := by
  repeat rw [String.toList_ofList]
  decide +kernel

example : matchContentType exExt.db "text/plain; charset=UTF-8".toList = some (true, "UTF-8".toList)
    ∧ matchContentType exExt.db "text/plain;charset=UTF-8".toList = some (false, "UTF-8".toList)
    ∧ matchContentType exExt.db "text/plain; xcharset=UTF-8".toList = none
    ∧ matchContentType exExt.db "text/plain; charset=utf-8;".toList = none := by
  repeat rw [String.toList_ofList]
  decide +kernel

end Examples

end I18n.Props.C15
