import I18n.Lemmas.CharsetCodecRev
import I18n.Lemmas.CharsetTables
import I18n.Lemmas.CharsetRegistry
import I18n.Lemmas.CharsetCharmaps
import I18n.Lemmas.CharsetIconv
import I18n.Lemmas.CharsetIconvCodecs
import I18n.Lemmas.CharsetEncodeOk
import I18n.Lemmas.CharsetCheckTags
import I18n.Lemmas.CharsetEucTw
import I18n.Lemmas.CharsetEucTwReal
/-!
# C20 — charset names are classified consistently and the extra codecs are lossless

`I18n.Charset` models `lib/encodings.py` (classification, codec search, charmap codecs), the retry loop of
`lib/iconv.py` over an abstract iconv, `Language.get_unrepresentable_characters` and the charset fragment of
`check_headers`.  `Generated.Charset` is dumped on every run from the tool as loaded, from `data/encodings` (read
independently), `data/charmaps/*`, the running interpreter's codec registry (`CodecFacts`) and the system iconv.

The classification clauses quantify over a finite set (every codec name known to Python, gettext or the tool):
they are theorems about the dumped table, checked by the kernel.  The codec, loop and tag clauses are theorems for
all byte strings / texts / iconv behaviours.

One clause is false of the code: KOI8-T is listed by gettext and shipped by Python (`koi8_t`), but `data/encodings` marks
it `not-python`, so the tool calls it non-portable — `portable_law_refuted` / `portable_law_partial`.
-/
namespace I18n.Props.C20
open I18n.Charset I18n.Charset.Tables I18n.Generated.Charset
open I18n.Charset.Cns (ignored_pin plane1_forms_agree dup_fact)
open I18n.Generated.CharsetCns (plane1 plane1two ignoredRanges planesAccepted)
open I18n.Spec.Charset (gettextCharsets asciiRepertoire gettextLists InjectiveOnDefined ValidSpan canonical)

/-- core has no `DecidableEq (Except ε α)`; the kernel's passes below that compare codec results need one (`decide` in
    `charmap_encode_decode_needs_trie`, `==` in `agreesWithIconv_real` and the examples) -/
private instance exceptDecEq {ε α : Type} [DecidableEq ε] [DecidableEq α] : DecidableEq (Except ε α)
  | .ok a, .ok b => if h : a = b then isTrue (by rw [h]) else isFalse (by intro h'; cases h'; exact h rfl)
  | .error a, .error b => if h : a = b then isTrue (by rw [h]) else isFalse (by intro h'; cases h'; exact h rfl)
  | .ok _, .error _ => isFalse (by intro h; cases h)
  | .error _, .ok _ => isFalse (by intro h; cases h)


/-! ## Pins: the tables the tool loaded are what the data files and the specification say -/

/-- the tool's ASCII repertoire is the documented one (NUL EOT BEL BS HT LF VT FF CR ESC + printable) -/
theorem repertoire_pin : interestingBytes = asciiRepertoire ∧ interestingStr = asciiRepertoire := Tables.repertoire_pin

/-- `data/encodings` lists exactly the charsets of the gettext manual, in its order -/
theorem gettext_list_pin : dataPortable.map (·.1) = gettextCharsets := Tables.gettext_list_pin

/-- the model of `_read_encodings`, run on the data file as read by the translator and on the interpreter's own look-ups,
    yields the very tables the tool holds in memory; likewise the extra encodings and the un-mangling table -/
theorem tables_pin :
    readPortable vanillaLookup dataPortable ([], []) = some (portableEncodings, pycodecToEncoding) ∧
    extraEncodings = dataExtra.map lower ∧
    (unmangle.all fun kv => mangle kv.2 == kv.1 && ((portableEncodings.map (·.1)).contains kv.2 || extraEncodings.contains kv.2)) = true ∧
    (((portableEncodings.map (·.1)) ++ extraEncodings).all fun k => assoc? (mangle k) unmangle == some k) = true :=
  ⟨Tables.portable_read, by decide +kernel, by decide +kernel, by decide +kernel⟩

/-- the codec search function serves exactly the five extra codecs: three from charmap files, two through iconv, and leaves
    names Python knows alone -/
theorem codec_search_extra :
    let search := fun (s : String) => codecSearch unmangle portableEncodings extraEncodings (charmaps.map (·.1)) (s.toList.map Char.toNat)
    let n := fun (s : String) => s.toList.map Char.toNat
    search "koi8_ru" = .charmap (n "KOI8-RU") ∧ search "viscii" = .charmap (n "VISCII") ∧
    search "georgian_ps" = .charmap (n "GEORGIAN-PS") ∧ search "koi8_t" = .iconv (n "koi8-t") ∧
    search "euc_tw" = .iconv (n "euc-tw") ∧ search "utf_8" = .notOurs ∧ search "iso8859_2" = .notOurs ∧ search "eggs" = .notOurs := by
  decide +kernel

/-! ## Classification laws, for every codec name known to Python, gettext or the tool (`CodecFacts`) -/

/-- the model's classification functions reproduce every answer the tool gave while the table was dumped -/
theorem model_matches_tool : ∀ r ∈ codecFacts, rowModelOk r = true := all_rows model_rows

/-- **ASCII-compatible iff decoding the ASCII repertoire yields the same characters** -/
theorem ascii_compatible_law : ∀ r ∈ codecFacts, (r.tAscii = true ↔ r.decI = .text asciiRepertoire) := by
  intro r hr
  obtain ⟨_, _, _, hverdict, _⟩ := (rowModelOk_iff r).1 (model_matches_tool r hr)
  rw [← repertoire_pin.2, ← isAsciiCompatible_true_iff interestingStr r.decI true, hverdict, Except.ok.injEq]

/-! ### which bytes the test looks at — the structural reason behind the law, and who can tell a different choice -/

/-- the 23 ASCII bytes the tool does NOT test: every C0 control but NUL EOT BEL BS HT LF VT FF CR ESC, and DEL -/
theorem ascii_untested_bytes :
    ((List.range 128).filter fun b => !interestingBytes.contains b) =
      [1, 2, 3, 5, 6, 14, 15, 16, 17, 18, 19, 20, 21, 22, 23, 24, 25, 26, 28, 29, 30, 31, 127] := untested_pin

/-- **the verdict looks at the tested bytes only**: for a codec that decodes byte by byte (`f`), `is_ascii_compatible_encoding` is
    true iff `f` is the identity on `_interesting_ascii_bytes`; two such codecs that agree there get the same verdict, whatever
    they do to the 23 other bytes (VISCII: six of them are letters) -/
theorem ascii_verdict_bytewise (f g : Nat → Nat) (mo : Bool) :
    isAsciiCompatible interestingStr (.text (interestingBytes.map f)) mo = .ok (decide (∀ b ∈ interestingBytes, f b = b)) ∧
    ((∀ b ∈ interestingBytes, f b = g b) →
      isAsciiCompatible interestingStr (.text (interestingBytes.map f)) mo = isAsciiCompatible interestingStr (.text (interestingBytes.map g)) mo) := by
  refine ⟨isAsciiCompatible_bytewise f mo, fun h => ?_⟩
  have : interestingBytes.map f = interestingBytes.map g := List.map_congr_left h
  rw [this]

/-- **who can tell a different test set** (every row of CodecFacts, verdicts recomputed by the translator over the changed
    set): decoding all 128 bytes to themselves implies the tool's "yes"; the two readings differ exactly on the rows that one
    added byte flips — VISCII (02 05 06 14 19 1E) and ISO-2022-KR (SO, SI), nothing else; removing ONE tested byte changes
    a verdict only for `%` (cp864), `+` (UTF-7), `~` (HZ) and only from "no" to "yes" — any other single-byte narrowing of
    `_interesting_ascii_bytes` is invisible on every codec this interpreter and the tool know (only `repertoire_pin` sees it) -/
theorem ascii_test_set_sensitivity : ∀ r ∈ codecFacts,
    (r.fullAsciiId = true → r.tAscii = true) ∧
    ((r.tAscii = true ∧ r.fullAsciiId = false) ↔ r.addSens ≠ []) ∧
    (r.dropSens ≠ [] → r.tAscii = false) ∧
    r.addSens = expectedAdd r.codec ∧ r.dropSens = expectedDrop r.codec ∧
    (∀ b ∈ r.dropSens, b ∈ interestingBytes) ∧ (∀ b ∈ r.addSens, b ∉ interestingBytes ∧ b < 128) := by
  intro r hr
  obtain ⟨hfull, hdiffer, hdrop, hdropMem, haddMem⟩ := readingsLaw_spec (all_rows readings_rows r hr)
  obtain ⟨hd, ha⟩ := sensLaw_iff.1 (all_rows sens_rows r hr)
  exact ⟨hfull, hdiffer, hdrop, ha, hd, hdropMem, haddMem⟩

/-- **unknown iff no usable text codec exists** (the registry has none, or it is not a text encoding, or it cannot be
    used: decoding the repertoire raises something other than UnicodeDecodeError) -/
theorem unknown_law : ∀ r ∈ codecFacts, (r.tUnknown = true ↔ usable r = false) := by
  intro r hr
  rw [unknownLaw_iff.1 (all_rows unknown_rows r hr), Bool.not_eq_true']

/-- gettext's list alone decides `is_portable_encoding(…, python=False)` -/
theorem portable_any_law : ∀ r ∈ codecFacts, (r.tPortAny = true ↔ gettextLists r.name = true) := by
  intro r hr
  obtain ⟨_, hany, _⟩ := (rowModelOk_iff r).1 (model_matches_tool r hr)
  rw [← hany, isPortable_any]

/-- **portable iff gettext lists it and Python ships a codec for it** — for every name except the spellings of KOI8-T -/
theorem portable_law_partial : ∀ r ∈ codecFacts, canonical r.name ≠ koi8t →
    (r.tPortPy = true ↔ (gettextLists r.name = true ∧ r.pyShips = true)) := by
  intro r hr hk
  have := all_rows portable_rows_partial r hr
  simp only [Bool.or_eq_true, beq_iff_eq, portableLaw] at this
  rcases this with h | h
  · exact (hk h).elim
  · rw [h]; simp

/-- … and for KOI8-T the clause is false: gettext lists it, Python ships `koi8_t`, the tool says non-portable -/
theorem portable_law_refuted :
    ¬ ∀ r ∈ codecFacts, (r.tPortPy = true ↔ (gettextLists r.name = true ∧ r.pyShips = true)) := by
  intro h
  have hex := portable_rows_refuted
  rw [List.any_eq_true] at hex
  obtain ⟨r, hr, hbad⟩ := hex
  simp only [portableLaw, Bool.not_eq_true', beq_eq_false_iff_ne, ne_eq] at hbad
  apply hbad
  rw [Bool.eq_iff_iff, Bool.and_eq_true]
  exact h r hr

/-- **a proposed replacement is portable and names the same codec**: the proposal is itself a row, classified portable, with
    the same `codecs.lookup(…).name` -/
theorem proposal_law : ∀ r ∈ codecFacts, ∀ p, r.tProposal = some p →
    ∃ r' ∈ codecFacts, r'.name = p ∧ r'.tPortPy = true ∧ r'.isText = true ∧ r.codec.isSome = true ∧ r'.codec = r.codec := by
  intro r hr p hp
  obtain ⟨r', hrow, hport, hsome, hcodec, htext⟩ := proposalLaw_some (all_rows proposal_rows r hr) hp
  obtain ⟨hmem, hname⟩ := rowOf_some hrow
  exact ⟨r', hmem, hname, hport, htext, hsome, hcodec⟩

/-- for EVERY name and every registry: whatever `propose_portable_encoding` returns is portable -/
theorem proposal_portable (tbl : List (Name × Bool)) (c2e : List (Name × Name)) (lookup : Name → Option Name)
    (name p : Name) (h : propose tbl c2e lookup name = .ok (some p)) : isPortable tbl true p = true :=
  propose_portable tbl c2e lookup name p h

/-- for EVERY name: with the loaded tables the `assert` never fires, and under any registry that resolves the upper-cased
    values of `_pycodec_to_encoding` to their keys (as the running one does: `Tables.c2e_rows_closed`) the proposal names the same codec -/
theorem proposal_sound (lookup : Name → Option Name) (name : Name) :
    propose portableEncodings pycodecToEncoding lookup name ≠ .error () ∧
    ((∀ kv ∈ pycodecToEncoding, lookup (upper kv.2) = some kv.1) →
      ∀ p, propose portableEncodings pycodecToEncoding lookup name = .ok (some p) → lookup p = lookup name) := by
  exact ⟨propose_no_assert _ _ _ (List.all_eq_true.1 c2e_portable) name, fun hcl p hp => propose_same_codec _ _ _ hcl name p hp⟩

/-! ### the registry itself: `codecs.lookup(name).name` as a model (C normalisation, alias table, `encodings.<module>`, the tool's
search function), the structural reason behind "names the same codec" -/

/-- **the model of `codecs.lookup` gives the registry's answer** for every codec name known to Python, gettext or the tool -/
theorem registry_model_matches : ∀ r ∈ codecFacts, registry r.name = r.codec := by
  intro r hr
  have := all_rows registry_rows r hr
  simpa using this

/-- the model of `propose_portable_encoding` run on the MODEL of the registry gives every proposal the tool made -/
theorem proposal_via_registry : ∀ r ∈ codecFacts,
    proposeEq (propose portableEncodings pycodecToEncoding registry r.name) r.tProposal = true := by
  intro r hr
  obtain ⟨_, _, hprop, _⟩ := (rowModelOk_iff r).1 (model_matches_tool r hr)
  -- `propose` asks the registry for `r.name` only, and there the model answers `r.codec`
  have : propose portableEncodings pycodecToEncoding registry r.name =
      propose portableEncodings pycodecToEncoding (fun _ => r.codec) r.name := by
    simp only [propose, registry_model_matches r hr]
  rw [proposeEq_iff, this, hprop]

/-- **for EVERY name (any string without NUL), under the registry model: a proposal is portable and the registry resolves it to
    the same codec as the original name** — the alias relation behind every proposal; the registry does not look at ASCII case
    (`registry (upper n) = registry n`), which is why the upper-cased proposal is the same codec -/
theorem proposal_same_codec_every_name (name p : Name)
    (h : propose portableEncodings pycodecToEncoding registry name = .ok (some p)) :
    registry p = registry name ∧ isPortable portableEncodings true p = true ∧ (∀ n, registry (upper n) = registry n) := by
  refine ⟨?_, proposal_portable _ _ _ name p h, fun n => registryLookup_upper _ _ _ _ _ n⟩
  have hcl : ∀ kv ∈ pycodecToEncoding, registry (upper kv.2) = some kv.1 := by
    have := registry_c2e_closed
    rw [List.all_eq_true] at this
    intro kv hkv
    simpa using this kv hkv
  exact (proposal_sound registry name).2 hcl p h

/-! ## The charmap codecs (KOI8-RU, VISCII, GEORGIAN-PS) — for every table, every byte string, every text -/

/-- decoding is total: a text of the same length, or UnicodeDecodeError whose span is one byte inside the input -/
theorem charmap_decode_total (table : List Nat) (bs : List UInt8) :
    (∃ cs, charmapDecode table bs = .ok cs ∧ cs.length = bs.length) ∨
    (∃ s, charmapDecode table bs = .error (s, s + 1) ∧ ValidSpan bs.length (s, s + 1)) := by
  unfold charmapDecode
  cases h : charmapDecodeFrom table 0 bs with
  | ok cs => exact .inl ⟨cs, rfl, charmapDecodeFrom_ok_length table bs 0 cs h⟩
  | error e =>
    obtain ⟨s, e⟩ := e
    obtain ⟨rfl, hs, _⟩ := charmapDecode_error_exact table bs s e h
    exact .inr ⟨s, rfl, Nat.lt_succ_self s, hs⟩

/-- encoding is total: bytes of the same length, or UnicodeEncodeError with `start < end ≤ len` -/
theorem charmap_encode_total (table : List Nat) (cs : List Nat) :
    (∃ bs, charmapEncode table cs = .ok bs ∧ bs.length = cs.length) ∨
    (∃ span, charmapEncode table cs = .error span ∧ ValidSpan cs.length span) := by
  unfold charmapEncode
  cases h : charmapEncodeFrom (encLookup table) 0 cs with
  | ok bs => exact .inl ⟨bs, rfl, charmapEncodeFrom_ok_length _ cs 0 bs h⟩
  | error e =>
    obtain ⟨s, e⟩ := e
    obtain ⟨h1, h2, _⟩ := charmapEncode_error_exact table cs s e h
    exact .inr ⟨(s, e), rfl, h1, h2⟩

/-- **encode(decode(b)) = b** for every table injective on its defined entries -/
theorem charmap_roundtrip (table : List Nat) (hinj : InjectiveOnDefined table) (bs : List UInt8) (cs : List Nat)
    (h : charmapDecode table bs = .ok cs) : charmapEncode table cs = .ok bs := Charset.charmap_roundtrip table hinj bs cs h

/-- the three shipped tables: every byte string decodes, and encodes back to itself -/
theorem extra_charmaps_lossless : ∀ kv ∈ charmaps, ∀ bs : List UInt8,
    ∃ cs, charmapDecode kv.2 bs = .ok cs ∧ cs.length = bs.length ∧ charmapEncode kv.2 cs = .ok bs := by
  intro kv hkv bs
  obtain ⟨hlen, hdef⟩ := complete_of_mem kv hkv
  obtain ⟨cs, hcs⟩ := charmapDecodeFrom_complete kv.2 hlen hdef bs 0
  exact ⟨cs, hcs, charmapDecodeFrom_ok_length _ _ _ _ hcs, Charset.charmap_roundtrip kv.2 (injective_of_mem kv hkv) bs cs hcs⟩

/-- the shipped tables are, byte for byte, the system iconv's; they map the ASCII repertoire to itself; `charmap_build`
    takes its trie form for them -/
theorem extra_charmaps_agree_iconv :
    (charmaps.all fun kv => (iconvTables.find? (·.1 == kv.1)).map (·.2) == some (kv.2.map some)) = true ∧
    (charmaps.all fun kv => asciiRepertoire.all fun b => kv.2[b]? == some b) = true ∧
    (charmaps.all fun kv => !needDict kv.2) = true :=
  ⟨by decide +kernel, by decide +kernel, charmaps_trie⟩

/-- glibc's KOI8-T table is injective on the bytes it accepts, hence lossless as a charmap -/
theorem koi8t_table_roundtrip (bs : List UInt8) (cs : List Nat) (h : charmapDecode koi8tTable bs = .ok cs) :
    charmapEncode koi8tTable cs = .ok bs :=
  Charset.charmap_roundtrip koi8tTable koi8t_injective bs cs h

/-! ### the reverse direction, the bijection, exact error positions -/

/-- **decode(encode(s)) = s** for every table — whenever `charmap_build` took its trie form (which never maps U+FFFE), or the
    text does not contain U+FFFE … -/
theorem charmap_encode_decode (table : List Nat) (cs : List Nat) (bs : List UInt8)
    (hu : needDict table = false ∨ undefinedCp ∉ cs)
    (h : charmapEncode table cs = .ok bs) : charmapDecode table bs = .ok cs := Charset.charmap_encode_decode table cs bs hu h

/-- … and that side condition is needed: in the dict form of `charmap_build` U+FFFE is an ordinary key, while the decoder
    reads U+FFFE as "undefined" (`'\ufffe'.encode` succeeds, decoding the result raises) -/
theorem charmap_encode_decode_needs_trie :
    needDict [1, 0xFFFE] = true ∧ charmapEncode [1, 0xFFFE] [0xFFFE] = .ok [1] ∧ charmapDecode [1, 0xFFFE] [1] = .error (0, 1) := by
  decide +kernel

/-- **the bijection on the defined repertoire** (every table injective on its defined entries, trie form): byte `b` decodes
    to the defined character `c` iff `c` encodes to `b` -/
theorem charmap_bijection (table : List Nat) (hinj : InjectiveOnDefined table) (htrie : needDict table = false)
    (b : UInt8) (c : Nat) : (table[b.toNat]? = some c ∧ c ≠ undefinedCp) ↔ encLookup table c = some b :=
  encLookup_iff table hinj htrie b c

/-- encoding succeeds iff every character has a byte; decoding succeeds iff every byte has a defined entry -/
theorem charmap_ok_iff (table : List Nat) (cs : List Nat) (bs : List UInt8) :
    ((∃ out, charmapEncode table cs = .ok out) ↔ ∀ c ∈ cs, (encLookup table c).isSome = true) ∧
    ((∃ out, charmapDecode table bs = .ok out) ↔ ∀ b ∈ bs, definedAt table b = true) :=
  ⟨charmapEncodeFrom_exists_ok_iff _ cs 0, charmapDecodeFrom_exists_ok_iff table bs 0⟩

/-- **UnicodeEncodeError positions**: `start .. end` is exactly the first run of unencodable characters — everything before
    `start` encodes, nothing in `start .. end` does, the character at `end` (if there is one) does -/
theorem charmap_encode_error_position (table : List Nat) (cs : List Nat) (s e : Nat)
    (h : charmapEncode table cs = .error (s, e)) :
    s < e ∧ e ≤ cs.length ∧
    (∀ k, k < s → ∃ c, cs[k]? = some c ∧ (encLookup table c).isSome = true) ∧
    (∀ k, s ≤ k → k < e → ∃ c, cs[k]? = some c ∧ encLookup table c = none) ∧
    (∀ c, cs[e]? = some c → (encLookup table c).isSome = true) := charmapEncode_error_exact table cs s e h

/-- **UnicodeDecodeError positions**: `start` is the first byte without a defined entry, `end = start + 1` -/
theorem charmap_decode_error_position (table : List Nat) (bs : List UInt8) (s e : Nat)
    (h : charmapDecode table bs = .error (s, e)) :
    e = s + 1 ∧ s < bs.length ∧
    (∀ k, k < s → ∃ b, bs[k]? = some b ∧ definedAt table b = true) ∧
    (∃ b, bs[s]? = some b ∧ definedAt table b = false) := charmapDecode_error_exact table bs s e h

/-- the three shipped tables, both directions: what encodes decodes back to the same text, a character encodes iff it is one
    of the 256 entries (to the byte at which it stands), and an encode error names the first run of characters outside the table -/
theorem extra_charmaps_bijective : ∀ kv ∈ charmaps,
    (∀ cs bs, charmapEncode kv.2 cs = .ok bs → charmapDecode kv.2 bs = .ok cs) ∧
    (∀ (b : UInt8) c, kv.2[b.toNat]? = some c ↔ encLookup kv.2 c = some b) ∧
    (∀ cs s e, charmapEncode kv.2 cs = .error (s, e) → s < e ∧ e ≤ cs.length ∧
      (∀ k, s ≤ k → k < e → ∃ c, cs[k]? = some c ∧ c ∉ kv.2) ∧ (∀ k, k < s → ∃ c, cs[k]? = some c ∧ c ∈ kv.2)) := by
  intro kv hkv
  have htrie := trie_of_mem kv hkv
  have hinj := injective_of_mem kv hkv
  have hcomp := complete_of_mem kv hkv
  have hmem := mem_iff_encodes kv.2 hinj hcomp.1 hcomp.2
  refine ⟨fun cs bs h => Charset.charmap_encode_decode kv.2 cs bs (.inl htrie) h, ?_, ?_⟩
  · intro b c
    rw [← encLookup_iff kv.2 hinj htrie b c]
    exact ⟨fun h => ⟨h, hcomp.2 c (List.mem_of_getElem? h)⟩, fun h => h.1⟩
  · intro cs s e h
    obtain ⟨h1, h2, h3, h4, _⟩ := charmapEncode_error_exact kv.2 cs s e h
    refine ⟨h1, h2, ?_, ?_⟩
    · intro k hk1 hk2
      obtain ⟨c, hc1, hc2⟩ := h4 k hk1 hk2
      exact ⟨c, hc1, fun hm => by have := (hmem c).1 hm; simp [hc2] at this⟩
    · intro k hk
      obtain ⟨c, hc1, hc2⟩ := h3 k hk
      exact ⟨c, hc1, (hmem c).2 hc2⟩

/-- glibc's KOI8-T table, both directions: lossless from text to bytes as well, a bijection between the bytes it accepts and
    the characters it encodes, and exact error positions (an undefined byte / the first run of unencodable characters) -/
theorem koi8t_table_bijective :
    (∀ cs bs, charmapEncode koi8tTable cs = .ok bs → charmapDecode koi8tTable bs = .ok cs) ∧
    (∀ (b : UInt8) c, (koi8tTable[b.toNat]? = some c ∧ c ≠ undefinedCp) ↔ encLookup koi8tTable c = some b) ∧
    (∀ bs s e, charmapDecode koi8tTable bs = .error (s, e) → e = s + 1 ∧ s < bs.length ∧
      (∃ b, bs[s]? = some b ∧ definedAt koi8tTable b = false) ∧ (∀ k, k < s → ∃ b, bs[k]? = some b ∧ definedAt koi8tTable b = true)) ∧
    (∀ cs s e, charmapEncode koi8tTable cs = .error (s, e) → s < e ∧ e ≤ cs.length ∧
      (∀ k, s ≤ k → k < e → ∃ c, cs[k]? = some c ∧ encLookup koi8tTable c = none) ∧
      (∀ k, k < s → ∃ c, cs[k]? = some c ∧ (encLookup koi8tTable c).isSome = true)) := by
  refine ⟨fun cs bs h => Charset.charmap_encode_decode _ cs bs (.inl koi8t_trie) h,
    fun b c => encLookup_iff _ koi8t_injective koi8t_trie b c, ?_, ?_⟩
  · intro bs s e h
    obtain ⟨h1, h2, h3, h4⟩ := charmapDecode_error_exact _ bs s e h
    exact ⟨h1, h2, h4, h3⟩
  · intro cs s e h
    obtain ⟨h1, h2, h3, h4, _⟩ := charmapEncode_error_exact _ cs s e h
    exact ⟨h1, h2, h4, h3⟩

/-! ## Loading a file with a codec that passed the ASCII-compatibility test -/

/-- `encodings.decode` (used for PO text, PO escapes and MO strings) yields text or a UnicodeDecodeError with a valid span —
    also for codecs that report malformed input with a bare UnicodeError (idna: `.xn--a`), which it turns into a
    UnicodeDecodeError over the whole input -/
theorem loader_decode_total (len : Nat) (raw : RawDecode) (hraw : raw ≠ .other) :
    (∃ cs, loaderDecode len raw = .text cs) ∨
    (∃ s e, loaderDecode len raw = .ude s e ∧ (raw = .unicodeError → s = 0 ∧ e = len)) := by
  cases raw with
  | text cs => exact .inl ⟨cs, rfl⟩
  | ude s e => exact .inr ⟨s, e, rfl, fun h => by cases h⟩
  | unicodeError => exact .inr ⟨0, len, rfl, fun _ => ⟨rfl, rfl⟩⟩
  | other => exact (hraw rfl).elim

/-! ## EUC-TW: the structure of the encoding (glibc's euc-tw.c) over abstract CNS 11643 tables -/

/-- a decode error of the EUC-TW structure points at a byte inside the input (the binding turns that offset into the
    start of a non-empty span: `iconv_loop_error_span`) -/
theorem euctw_decode_error_position (cns : CnsTable) (bs : List UInt8) (s : Nat) (k : Bool)
    (h : eucTwDecode cns bs = .error (s, k)) : s < bs.length := by
  have := eucTwDecodeLoop_error_pos cns bs.length 0 bs s k h
  omega

/-- **encode(decode(b)) = b for EUC-TW, on canonical input**: whenever every unit of `b` is the form the encoder itself
    writes for its character (two bytes for plane 1, `8E A0+p` for planes ≥ 2, never a second code point of a character) -/
theorem euctw_roundtrip_partial (cns : CnsTable) (inv : CnsInverse) (bs : List UInt8) (cs : List Nat)
    (h : eucTwDecode cns bs = .ok cs) (hcan : eucTwCanonical cns inv bs.length bs = true) :
    eucTwEncode inv cs = .ok bs := eucTwEncode_of_decode_canonical cns inv bs cs h hcan

/-- … and **false without that restriction**, for any tables that agree with the system iconv on the dumped facts -/
theorem euctw_roundtrip_refuted (cns : CnsTable) (inv : CnsInverse) (h : AgreesWithIconv cns inv) :
    (eucTwDecode cns [0x8E, 0xA1, 0xA4, 0xA1] = .ok [0xFF10] ∧ eucTwEncode inv [0xFF10] = .ok [0xA4, 0xA1]) ∧
    (eucTwDecode cns [0x8E, 0xA3, 0xA1, 0xB8] = .ok [0x5344] ∧ eucTwEncode inv [0x5344] = .ok [0xA4, 0xBF]) ∧
    ¬ (∀ bs cs, eucTwDecode cns bs = .ok cs → eucTwEncode inv cs = .ok bs) := by
  have d1 := h.dec ([142, 161, 164, 161], 65296) (by decide)
  have e1 := h.enc (65296, [164, 161]) (by decide)
  have d2 := h.dec ([142, 163, 161, 184], 21316) (by decide)
  have e2 := h.enc (21316, [164, 191]) (by decide)
  refine ⟨⟨d1, e1⟩, ⟨d2, e2⟩, ?_⟩
  intro hall
  have := hall _ _ d1
  rw [e1] at this
  simp [toBytes] at this

/-! ## EUC-TW over the CNS 11643 tables of the system iconv

`Generated.CharsetCns*` holds every answer of glibc's iconv: the 17 × 8836 units `r c` / `8E A0+p r c` (p = 1..16) and every
character U+0080..U+10FFFF.  `cnsReal` / `invReal` read them; the kernel passes over all of it in `Lemmas/CharsetCnsPlanes`
and `Lemmas/CharsetCnsPages` (`planes_all`, `pages_all`), `Lemmas/CharsetCns` turns the pass into statements about the two functions. -/

/-- the real tables give, on every dumped unit and character, the answer the system iconv gave -/
theorem agreesWithIconv_real : AgreesWithIconv cnsReal invReal where
  dec := by
    have : (eucTwDecodeFacts.all fun f => eucTwDecode cnsReal (toBytes f.1) == .ok [f.2]) = true := by decide +kernel
    intro f hf
    simpa using List.all_eq_true.1 this f hf
  enc := by
    have : (eucTwEncodeFacts.all fun f => eucTwEncode invReal [f.1] == .ok (toBytes f.2)) = true := by decide +kernel
    intro f hf
    simpa using List.all_eq_true.1 this f hf

/-- pins: the two-byte and the four-byte form of plane 1 share one table; iconv accepts units in planes 1–7 and 15 only; it drops
    exactly the TAG characters; U+5344 stands twice; and the real tables agree with the witnesses `euctw_roundtrip_refuted` uses -/
theorem euctw_tables_pin :
    plane1two = plane1 ∧ planesAccepted = [1, 2, 3, 4, 5, 6, 7, 15] ∧ ignoredRanges = [(0xE0000, 0xE007F)] ∧
    (cnsReal 3 0xA1 0xB8 = some 0x5344 ∧ cnsReal 1 0xA4 0xBF = some 0x5344 ∧ invReal 0x5344 = some (1, 0xA4, 0xBF)) ∧
    AgreesWithIconv cnsReal invReal := by
  exact ⟨plane1_forms_agree, by decide, ignored_pin.1, dup_fact, agreesWithIconv_real⟩

/-- **decoding is total**: every byte string yields a text of Unicode scalar values (so `outbuf[:n]` cannot raise: none is a
    surrogate or above U+10FFFF), at most one character per byte — or an error whose offset lies inside the input -/
theorem euctw_decode_total (bs : List UInt8) :
    (∃ cs, eucTwDecodeReal bs = .ok cs ∧ cs.length ≤ bs.length ∧ ∀ c ∈ cs, isScalar c = true ∧ isTag c = false) ∨
    (∃ s k, eucTwDecodeReal bs = .error (s, k) ∧ s < bs.length) := by
  cases h : eucTwDecodeReal bs with
  | ok cs =>
    obtain ⟨h1, h2, _⟩ := eucTwDecodeLoop_real_facts bs.length 0 0 bs cs h
    exact .inl ⟨cs, rfl, h1, h2⟩
  | error e =>
    obtain ⟨s, k⟩ := e
    exact .inr ⟨s, k, rfl, euctw_decode_error_position cnsReal bs s k h⟩

/-- **encode(decode(b)) = b exactly when `b` has no redundant unit** — full strength over the real tables: the four-byte
    form of plane 1 (`8E A1 r c`) and the one unit `8E A3 A1 B8` are the only obstacles -/
theorem euctw_roundtrip (bs : List UInt8) (cs : List Nat) (h : eucTwDecodeReal bs = .ok cs) :
    eucTwEncodeReal cs = .ok bs ↔ eucTwNoRedundant cnsReal bs.length bs = true := by
  constructor
  · intro henc
    exact eucTwNoRedundant_of_roundtrip bs.length 0 0 bs cs h henc
  · intro hn
    rw [← eucTwCanonical_eq_noRedundant] at hn
    exact eucTwEncode_of_decode_canonical cnsReal invReal bs cs h hn

/-- **decode(encode(s)) = s — except that glibc drops TAG characters**: whatever the encoder accepts decodes to the text
    without its TAG characters U+E0000..U+E007F (so to the text itself when it has none) -/
theorem euctw_encode_decode (cs : List Nat) (bs : List UInt8) (h : eucTwEncodeReal cs = .ok bs) :
    eucTwDecodeReal bs = .ok (cs.filter fun c => !isTag c) ∧
    ((∀ c ∈ cs, isTag c = false) → eucTwDecodeReal bs = .ok cs) := by
  have hdec : eucTwDecodeReal bs = .ok (cs.filter fun c => !isTag c) := eucTwDecode_of_encode invReal_cell cs bs h
  refine ⟨hdec, fun hn => ?_⟩
  rw [hdec]
  congr 1
  rw [List.filter_eq_self]
  intro c hc
  simp [hn c hc]

/-- … and the exception is real: `'a\U000E0041b'.encode('EUC-TW') == b'ab'` -/
theorem euctw_encode_drops_tags :
    eucTwEncodeReal [0x61, 0xE0041, 0x62] = .ok [0x61, 0x62] ∧ eucTwDecodeReal [0x61, 0x62] = .ok [0x61, 0x62] := by decide +kernel

/-- **the encoder writes the short form**: whatever decodes is encodable, to no more bytes than were read, and the bytes
    written decode to the same text (two bytes for plane 1, `A4 BF` for U+5344) -/
theorem euctw_encode_short_form (bs : List UInt8) (cs : List Nat) (h : eucTwDecodeReal bs = .ok cs) :
    ∃ bs', eucTwEncodeReal cs = .ok bs' ∧ bs'.length ≤ bs.length ∧ eucTwDecodeReal bs' = .ok cs ∧
      eucTwNoRedundant cnsReal bs'.length bs' = true := by
  obtain ⟨_, h2, bs', h3, h4, _⟩ := eucTwDecodeLoop_real_facts bs.length 0 0 bs cs h
  have hd := (euctw_encode_decode cs bs' h3).2 (fun c hc => (h2 c hc).2)
  exact ⟨bs', h3, h4, hd, (euctw_roundtrip bs' cs hd).1 h3⟩

/-- **the non-injective units, exactly**: a unit is canonical (the form the encoder writes for its character) iff it is not
    redundant; and a decodable byte string shares its text with a *different* byte string free of redundant units iff it
    contains a redundant unit itself.  Restricted to byte strings without redundant units the decoder is injective. -/
theorem euctw_noninjective_exactly :
    (∀ bs, (eucTwUnit cnsReal bs).canonical invReal = !(eucTwUnit cnsReal bs).redundant) ∧
    (∀ bs cs, eucTwDecodeReal bs = .ok cs →
      ((∃ bs', bs' ≠ bs ∧ eucTwDecodeReal bs' = .ok cs ∧ eucTwNoRedundant cnsReal bs'.length bs' = true) ↔
        eucTwNoRedundant cnsReal bs.length bs = false)) ∧
    (∀ bs bs' cs, eucTwDecodeReal bs = .ok cs → eucTwDecodeReal bs' = .ok cs →
      eucTwNoRedundant cnsReal bs.length bs = true → eucTwNoRedundant cnsReal bs'.length bs' = true → bs = bs') := by
  have hinj : ∀ bs bs' cs, eucTwDecodeReal bs = .ok cs → eucTwDecodeReal bs' = .ok cs →
      eucTwNoRedundant cnsReal bs.length bs = true → eucTwNoRedundant cnsReal bs'.length bs' = true → bs = bs' := by
    intro bs bs' cs h h' hn hn'
    have e1 := (euctw_roundtrip bs cs h).2 hn
    have e2 := (euctw_roundtrip bs' cs h').2 hn'
    rw [e1] at e2
    cases e2; rfl
  refine ⟨eucTwUnit_canonical_iff, ?_, hinj⟩
  intro bs cs h
  constructor
  · rintro ⟨bs', hne, h', hn'⟩
    cases hn : eucTwNoRedundant cnsReal bs.length bs
    · rfl
    · exact (hne (hinj bs' bs cs h' h hn' hn)).elim
  · intro hn
    obtain ⟨bs', h3, _, hd, hn'⟩ := euctw_encode_short_form bs cs h
    refine ⟨bs', ?_, hd, hn'⟩
    intro he
    subst he
    rw [hn] at hn'
    cases hn'

/-! ## The iconv binding: `_decode_dl` / `_encode_dl` over an abstract iconv -/

/-- **(a) told ≤ allocated** — for every iconv behaviour, input and number of rounds: the byte count passed in
    `outbytesleft` is the size just allocated (`_encode_dl`) or a quarter of it (`_decode_dl`), and never shrinks -/
theorem iconv_told_le_allocated (step : Step) (input : List UInt8) (n fuel : Nat) :
    (∀ a ∈ (decodeDl step input fuel).2, a.told ≤ a.allocated ∧ a.allocated = 4 * a.told ∧ input.length ≤ a.told) ∧
    (∀ a ∈ (encodeDl step n fuel).2, a.told ≤ a.allocated ∧ a.allocated = a.told ∧ n ≤ a.told) := by
  constructor
  · intro a ha
    obtain ⟨i, rfl, _⟩ := (decodeDl_trace step input fuel).mem ha
    exact ⟨Nat.le_mul_of_pos_left _ (by decide), rfl, Nat.le_mul_of_pos_right _ (Nat.two_pow_pos i)⟩
  · intro a ha
    obtain ⟨i, rfl, _⟩ := (encodeDl_trace step n fuel).mem ha
    exact ⟨Nat.le_refl _, rfl, Nat.le_mul_of_pos_right _ (Nat.two_pow_pos i)⟩

/-- **(b) termination**: if iconv stops answering E2BIG once it is told `need` bytes (bounded expansion), fuel for `need + 1`
    rounds is enough for the loop to end.  `hne` is not used: on empty input the loop makes no round at all. -/
theorem iconv_loop_terminates (step : Step) (input : List UInt8) (need fuel : Nat) (hne : input ≠ [])
    (hb : ∀ told, need ≤ told → (step told).reset = none → (callBoth input.length told (step told)).rc ≠ .e2big)
    (hfuel : need < fuel) : (decodeDl step input fuel).1.finished = true :=
  decodeDl_finishes step input need fuel hb hfuel

theorem iconv_encode_loop_terminates (step : Step) (n need fuel : Nat)
    (hb : ∀ told, need ≤ told → (step told).reset = none → (callBoth (4 * n) told (step told)).rc ≠ .e2big)
    (hfuel : need < fuel) : (encodeDl step n fuel).1.finished = true :=
  encodeDl_finishes step n need fuel hb hfuel

/-- **the exact schedule** — for every iconv: round `i` of `_decode_dl` is told `len(input) · 2^i` bytes of the `4 ·` that
    allocated, round `i` of `_encode_dl` is told all of the `len(input) · 2^i` bytes allocated -/
theorem iconv_loop_schedule (step : Step) (input : List UInt8) (n fuel i : Nat) (a : Alloc) :
    ((decodeDl step input fuel).2[i]? = some a → a.told = input.length * 2 ^ i ∧ a.allocated = 4 * (input.length * 2 ^ i)) ∧
    ((encodeDl step n fuel).2[i]? = some a → a.told = n * 2 ^ i ∧ a.allocated = n * 2 ^ i) := by
  constructor
  · intro h
    obtain rfl := (decodeDl_trace step input fuel).getElem? h
    exact ⟨rfl, rfl⟩
  · intro h
    obtain rfl := (encodeDl_trace step n fuel).getElem? h
    exact ⟨rfl, rfl⟩

/-- **(b′) a logarithmic number of rounds**: if iconv stops answering E2BIG once told `need` bytes, and `len · 2^k ≥ need`, the
    loop makes at most `k + 1` rounds (so `⌈log2 (need / len)⌉ + 1`) and needs no more fuel than that -/
theorem iconv_loop_rounds_log (step : Step) (input : List UInt8) (n need fuel k : Nat) :
    ((∀ told, need ≤ told → (step told).reset = none → (callBoth input.length told (step told)).rc ≠ .e2big) →
      need ≤ input.length * 2 ^ k →
      (decodeDl step input fuel).2.length ≤ k + 1 ∧ (k < fuel → (decodeDl step input fuel).1.finished = true)) ∧
    ((∀ told, need ≤ told → (step told).reset = none → (callBoth (4 * n) told (step told)).rc ≠ .e2big) →
      need ≤ n * 2 ^ k →
      (encodeDl step n fuel).2.length ≤ k + 1 ∧ (k < fuel → (encodeDl step n fuel).1.finished = true)) := by
  constructor
  · intro hb hk
    exact ⟨(decodeDl_trace step input fuel).length_le (not_more_of_bound hb) hk, fun hf =>
      decodeDl_outcome step input fuel (·.finished = true) (fun _ => rfl) fun _ =>
        (decodeLoop_retry step input).finishes need (not_more_of_bound hb) hk hf⟩
  · intro hb hk
    exact ⟨(encodeDl_trace step n fuel).length_le (not_more_of_bound hb) hk, fun hf =>
      encodeDl_outcome step n fuel (·.finished = true) (fun _ => rfl) fun _ =>
        (encodeLoop_retry step n).finishes need (not_more_of_bound hb) hk hf⟩

/-- **the buffer stays below twice what is needed**: against an iconv that answers E2BIG only when told fewer than `need`
    bytes, every round after the first is told fewer than `2 · need` bytes (and allocates that, resp. four times that) -/
theorem iconv_loop_buffer_bound (step : Step) (input : List UInt8) (n need fuel : Nat) :
    ((∀ told, (step told).reset = none → (callBoth input.length told (step told)).rc = .e2big → told < need) →
      ∀ a ∈ (decodeDl step input fuel).2, a.told = input.length ∨ a.told < 2 * need) ∧
    ((∀ told, (step told).reset = none → (callBoth (4 * n) told (step told)).rc = .e2big → told < need) →
      ∀ a ∈ (encodeDl step n fuel).2, (a.told = n ∨ a.told < 2 * need) ∧ a.allocated = a.told) := by
  constructor
  · intro he a ha
    obtain ⟨i, rfl, hi⟩ := (decodeDl_trace step input fuel).mem_lt (lt_of_more he) ha
    rcases hi with rfl | hi
    · exact .inl (by simp)
    · exact .inr hi
  · intro he a ha
    obtain ⟨i, rfl, hi⟩ := (encodeDl_trace step n fuel).mem_lt (lt_of_more he) ha
    rcases hi with rfl | hi
    · exact ⟨.inl (by simp), rfl⟩
    · exact ⟨.inr hi, rfl⟩

/-- **what termination rests on**: a loop that stops doubling (`output_len = 2 * len(input)` in place of `output_len *= 2`) never
    ends against a contract-abiding iconv — one character that needs three bytes (`€` to UTF-8): told 1, 2, 2, 2, … bytes it
    answers E2BIG for ever — while the loop as written is told 1, 2, 4 and returns the three bytes; `encodeLoopG` with
    `· * 2` is the model of the code -/
theorem non_doubling_loop_diverges :
    ConvertsTo euroStep (4 * 1) [0xE2, 0x82, 0xAC] 3 ∧
    (∀ fuel, (encodeLoopG (fun _ => 2 * 1) euroStep 1 fuel 1).1 = .outOfFuel) ∧
    (encodeDl euroStep 1 3).1 = .ok [0xE2, 0x82, 0xAC] ∧ (encodeDl euroStep 1 3).2 = [⟨1, 1⟩, ⟨2, 2⟩, ⟨4, 4⟩] ∧
    (∀ step n fuel L, encodeLoopG (· * 2) step n fuel L = encodeLoop step n fuel L) :=
  ⟨euroStep_contract, fun fuel => stuck_loop_never_ends fuel 1 (by omega),
    encodeLoop_returns euroStep 1 _ 3 euroStep_contract (L := 1) (j := 2) (by decide) (by decide),
    by decide +kernel, encodeLoopG_double⟩

/-- **(c) the result is exactly what iconv produced**: against an iconv that answers E2BIG below `need` bytes and otherwise
    converts the whole input into `produced` (wide characters within U+0000..U+10FFFF — glibc's UTF-8 → WCHAR_T does not
    promise that, and then `outbuf[:n]` raises ValueError: `iconv_wchar_out_of_range`), decoding returns the wide characters of
    `produced`, encoding returns `produced` -/
theorem iconv_loop_returns_produced (step : Step) (input : List UInt8) (produced : List UInt8) (need k fuel : Nat)
    (hne : input ≠ []) (h : ConvertsTo step input.length produced need) (h4 : produced.length = 4 * k)
    (hvalid : (wchars produced).any (· > 0x10FFFF) = false) (hfuel : need < fuel) :
    (decodeDl step input fuel).1 = .ok (wchars produced) :=
  decodeDl_outcome step input fuel (fun o => o = .ok (wchars produced)) (fun h0 => (hne h0).elim) fun hL =>
    decodeLoop_returns step input produced need k h h4 hvalid (need_le_mul_two_pow_of_lt_fuel hL hfuel) (by omega)

theorem iconv_encode_loop_returns_produced (step : Step) (n : Nat) (produced : List UInt8) (need fuel : Nat)
    (hne : n ≠ 0) (h : ConvertsTo step (4 * n) produced need) (hfuel : need < fuel) :
    (encodeDl step n fuel).1 = .ok produced :=
  encodeDl_outcome step n fuel (fun o => o = .ok produced) (fun h0 => (hne h0).elim) fun hL =>
    encodeLoop_returns step n produced need h (need_le_mul_two_pow_of_lt_fuel hL hfuel) (by omega)

/-- **(d) error spans**: when iconv leaves the offending sequence unconsumed (at least one byte, resp. one UTF-32 unit), the
    UnicodeDecodeError / UnicodeEncodeError raised has `start < end ≤ len(input)` -/
theorem iconv_loop_error_span (step : Step) (input : List UInt8) (n fuel s e : Nat) :
    ((∀ told, (step told).reset = none →
        ((callBoth input.length told (step told)).rc = .eilseq ∨ (callBoth input.length told (step told)).rc = .einval) →
        1 ≤ (callBoth input.length told (step told)).inLeft) →
      (decodeDl step input fuel).1 = .unicodeError s e → s < e ∧ e ≤ input.length) ∧
    ((∀ told, (step told).reset = none →
        ((callBoth (4 * n) told (step told)).rc = .eilseq ∨ (callBoth (4 * n) told (step told)).rc = .einval) →
        4 ≤ (callBoth (4 * n) told (step told)).inLeft) →
      (encodeDl step n fuel).1 = .unicodeError s e → s < e ∧ e ≤ n) := by
  constructor
  · intro hc
    exact decodeDl_outcome step input fuel (fun o => o = .unicodeError s e → s < e ∧ e ≤ input.length) (fun _ h => nomatch h)
      fun _ => decodeLoop_error_span step input hc fuel _ s e
  · intro hc h
    have := encodeDl_outcome step n fuel (fun o => o = .unicodeError s e → e = s + 1 ∧ e ≤ n) (fun _ h => nomatch h)
      (fun _ => encodeLoop_error_span step n hc fuel _ s e) h
    omega

/-! ### the iconv-backed codecs end to end: the loop of `lib/iconv.py` ∘ a reference iconv for the charset

`refDecStep` / `refEncStep` (`Spec/CharsetIconv`, lemmas in `Lemmas/CharsetIconvRef`): an iconv that converts unit by unit, checks the room first as glibc's
skeleton does, leaves the offending unit unconsumed.  Its description of EUC-TW is `eucTwUnit` / `eucTwEncodeChar` over the
tables of the system iconv; of KOI8-T, glibc's single-byte table. -/

/-- **`bytes.decode('EUC-TW')` as the tool implements it** (loop ∘ reference iconv over the real tables), for every byte string
    and any fuel ≥ 3 rounds: the text `eucTwDecodeReal` yields, or `UnicodeDecodeError` with `start` = the offset of the
    offending unit and `start < end ≤ len(input)`; never ValueError / AssertionError / OSError -/
theorem euctw_codec_decode (bs : List UInt8) (fuel : Nat) (hfuel : 3 ≤ fuel) :
    (∀ cs, eucTwDecodeReal bs = .ok cs → (decodeDl (refDecStep (eucUnitFn cnsReal) bs) bs fuel).1 = .ok cs) ∧
    (∀ s k, eucTwDecodeReal bs = .error (s, k) →
      (decodeDl (refDecStep (eucUnitFn cnsReal) bs) bs fuel).1 = .unicodeError s (syncEnd bs s) ∧ s < syncEnd bs s ∧ syncEnd bs s ≤ bs.length) := by
  rw [eucDl_decode cnsReal (fun _ _ _ _ => cnsReal_le_max) bs fuel hfuel, eucTwDecodeReal]
  refine ⟨fun cs h => ?_, fun s k h => ⟨?_, syncEnd_span bs s (euctw_decode_error_position cnsReal bs s k h)⟩⟩
  · rw [h]
  · rw [h]

/-- **`str.encode('EUC-TW')` as the tool implements it**: the bytes `eucTwEncodeReal` yields, or `UnicodeEncodeError(i, i + 1)` at
    the first character without a code, `i < len(input)` -/
theorem euctw_codec_encode (cs : List Nat) (fuel : Nat) (hfuel : 3 ≤ fuel) :
    (∀ bs, eucTwEncodeReal cs = .ok bs → (encodeDl (refEncStep (eucTwEncodeChar invReal) cs) cs.length fuel).1 = .ok bs) ∧
    (∀ i, eucTwEncodeReal cs = .error i →
      (encodeDl (refEncStep (eucTwEncodeChar invReal) cs) cs.length fuel).1 = .unicodeError i (i + 1) ∧ i < cs.length) := by
  rw [eucDl_encode invReal cs fuel hfuel, eucTwEncodeReal]
  refine ⟨fun bs h => ?_, fun i h => ⟨?_, eucTwEncode_error_lt invReal cs i h⟩⟩
  · rw [h]
  · rw [h]

/-- **the clause itself, end to end, for EUC-TW**: whenever the tool's decode of `b` succeeds with text `t`, the tool's encode
    of `t` returns `b` iff `b` contains no redundant unit (four-byte plane 1, `8E A3 A1 B8`); it never fails on such `t` -/
theorem euctw_codec_roundtrip (bs : List UInt8) (cs : List Nat) (fuel : Nat) (hfuel : 3 ≤ fuel)
    (h : (decodeDl (refDecStep (eucUnitFn cnsReal) bs) bs fuel).1 = .ok cs) :
    eucTwDecodeReal bs = .ok cs ∧
    ((encodeDl (refEncStep (eucTwEncodeChar invReal) cs) cs.length fuel).1 = .ok bs ↔ eucTwNoRedundant cnsReal bs.length bs = true) ∧
    ∃ bs', (encodeDl (refEncStep (eucTwEncodeChar invReal) cs) cs.length fuel).1 = .ok bs' := by
  have hd : eucTwDecodeReal bs = .ok cs := by
    cases hdec : eucTwDecodeReal bs with
    | ok cs' =>
      have := (euctw_codec_decode bs fuel hfuel).1 cs' hdec
      rw [this] at h
      cases h; rfl
    | error e =>
      obtain ⟨s, k⟩ := e
      have := ((euctw_codec_decode bs fuel hfuel).2 s k hdec).1
      rw [this] at h
      cases h
  obtain ⟨bs', he, _, _, _⟩ := euctw_encode_short_form bs cs hd
  have hl := (euctw_codec_encode cs fuel hfuel).1 bs' he
  refine ⟨hd, ?_, bs', hl⟩
  rw [← euctw_roundtrip bs cs hd, hl, he, Outcome.ok.injEq, Except.ok.injEq]

/-- **KOI8-T as the tool's own iconv-backed codec sees it** (loop ∘ reference iconv over glibc's table): decoding yields what the
    table yields, an undefined byte at `s` gives `UnicodeDecodeError(s, next ASCII byte or end)`; encoding a text without TAG
    characters yields what the table yields, the first unencodable character at `s` gives `UnicodeEncodeError(s, s + 1)`; and
    the two round-trip in both directions -/
theorem koi8t_codec (bs : List UInt8) (cs : List Nat) (fuel : Nat) (hfuel : 3 ≤ fuel) :
    (∀ t, charmapDecode koi8tTable bs = .ok t → (decodeDl (refDecStep (tableUnitFn koi8tTable) bs) bs fuel).1 = .ok t ∧
      (encodeDl (refEncStep (sbEncodeChar koi8tTable) t) t.length fuel).1 = .ok bs) ∧
    (∀ s e, charmapDecode koi8tTable bs = .error (s, e) →
      (decodeDl (refDecStep (tableUnitFn koi8tTable) bs) bs fuel).1 = .unicodeError s (syncEnd bs s) ∧ s < syncEnd bs s ∧ syncEnd bs s ≤ bs.length) ∧
    ((∀ c ∈ cs, isTag c = false) →
      (∀ b, charmapEncode koi8tTable cs = .ok b → (encodeDl (refEncStep (sbEncodeChar koi8tTable) cs) cs.length fuel).1 = .ok b ∧
        (decodeDl (refDecStep (tableUnitFn koi8tTable) b) b fuel).1 = .ok cs) ∧
      (∀ s e, charmapEncode koi8tTable cs = .error (s, e) →
        (encodeDl (refEncStep (sbEncodeChar koi8tTable) cs) cs.length fuel).1 = .unicodeError s (s + 1) ∧ s < cs.length)) := by
  -- decoding yields entries of the table only, so no TAG character
  have hnt : ∀ b t, charmapDecode koi8tTable b = .ok t → ∀ c ∈ t, isTag c = false :=
    fun b t h c hc => (koi8t_scalar_noTag c (charmapDecodeFrom_mem koi8tTable 0 b t h c hc)).2
  have hdec := fun b => tableDl_decode koi8tTable (fun c hc => (koi8t_scalar_noTag c hc).1) b fuel hfuel
  have henc := fun t ht => tableDl_encode koi8tTable t ht fuel hfuel
  refine ⟨fun t h => ⟨?_, ?_⟩, fun s e h => ⟨?_, ?_⟩, fun ht => ⟨fun b h => ⟨?_, ?_⟩, fun s e h => ⟨?_, ?_⟩⟩⟩
  · rw [hdec, h]
  · rw [henc t (hnt bs t h), koi8t_table_roundtrip bs t h]
  · rw [hdec, h]
  · obtain ⟨_, hs, _⟩ := charmapDecode_error_exact _ bs s e h
    exact syncEnd_span bs s hs
  · rw [henc cs ht, h]
  · rw [hdec, koi8t_table_bijective.1 cs b h]
  · rw [henc cs ht, h]
  · obtain ⟨hse, hle, _⟩ := charmapEncode_error_exact _ cs s e h
    omega

/-- the binding is NOT total as a general API: an iconv that hands back a wide character above U+10FFFF (glibc does for the
    UTF-8 bytes F5 8F 9E 8D, target WCHAR_T) makes `outbuf[:n]` raise ValueError instead of a Unicode error.  None of the five
    extra codecs can produce such a value (their tables are Unicode). -/
theorem iconv_wchar_out_of_range :
    (decodeDl (fun _ => ⟨none, ⟨.ok, 4, [0x8D, 0xF7, 0x14, 0x00]⟩, ⟨.ok, 0, []⟩⟩) [0xF5, 0x8F, 0x9E, 0x8D] 5).1.finished = true ∧
    (match (decodeDl (fun _ => ⟨none, ⟨.ok, 4, [0x8D, 0xF7, 0x14, 0x00]⟩, ⟨.ok, 0, []⟩⟩) [0xF5, 0x8F, 0x9E, 0x8D] 5).1 with
      | .valueError => true | _ => false) = true := by decide +kernel

/-! ## unrepresentable-characters -/

/-- **`get_unrepresentable_characters` = the listed characters that cannot be encoded**; in particular it is non-empty iff
    one exists — for every codec that raises only Unicode errors on these texts and encodes a concatenation only if it
    encodes every piece -/
theorem unrepresentable_iff (encode : List Nat → Enc) (chars : List (List Nat))
    (hno : ∀ c ∈ chars, encode c = .ok ∨ encode c = .encodeError false)
    (hj : encode chars.flatten ≠ .crash)
    (hpieces : encode chars.flatten = .ok → ∀ c ∈ chars, encode c = .ok) :
    getUnrepresentable encode chars = .ok (chars.filter fun c => encode c != .ok) ∧
    ((chars.filter fun c => encode c != .ok) ≠ [] ↔ ∃ c ∈ chars, encode c ≠ .ok) :=
  ⟨getUnrepresentable_spec encode chars ⟨hno, hj, hpieces⟩, filter_unencodable_ne_nil_iff encode chars⟩

/-- **the tag**: `check_headers` reports `unrepresentable-characters` iff some listed non-optional character cannot be
    encoded in the charset it keeps (the declared one, or the portable replacement), and lists exactly those -/
theorem check_unrepresentable_iff (env : Env) (encoding : Name) (isTemplate : Bool) (chars : List (List Nat))
    (tags : List Tag) (kept : Name)
    (h : checkCharset env encoding isTemplate (some (some chars)) = .ok (tags, some kept))
    (hk : EncodeOk (env.encode kept) chars) :
    (tags.any Tag.isUnrep = true ↔ ∃ c ∈ chars, env.encode kept c ≠ .ok) ∧
    (∀ e cs, Tag.unrepresentable e cs ∈ tags →
      e = kept ∧ cs = truncateChars (chars.filter fun c => env.encode kept c != .ok)) := by
  obtain ⟨u, hg, h0, h1, h2⟩ := checkCharset_unrep_shape env encoding isTemplate chars tags kept h
  obtain ⟨hspec, hiff⟩ := unrepresentable_iff (env.encode kept) chars hk.pieces hk.joined hk.prefixClosed
  rw [hspec] at hg
  cases hg
  refine ⟨?_, fun e cs hm => ⟨(h2 e cs hm).1, (h2 e cs hm).2.1⟩⟩
  rw [← hiff]
  constructor
  · intro ht hnil
    rw [h0 hnil] at ht
    cases ht
  · intro hnn
    exact List.any_eq_true.2 ⟨_, h1 hnn, rfl⟩

/-- **the hypothesis `EncodeOk` is a theorem for the extra codecs as modelled** (every charmap table, EUC-TW over any CNS tables): only
    Unicode errors, and a concatenation encodes only if every piece does — so for them `unrepresentable_iff` and
    `check_unrepresentable_iff` hold without side condition: the characters reported are exactly the listed ones that do not
    encode -/
theorem extra_codecs_encode_ok (chars : List (List Nat)) :
    (∀ table, EncodeOk (encOfExcept (charmapEncode table)) chars) ∧
    (∀ inv, EncodeOk (encOfExcept (eucTwEncode inv)) chars) ∧
    (∀ table, getUnrepresentable (encOfExcept (charmapEncode table)) chars =
      .ok (chars.filter fun c => encOfExcept (charmapEncode table) c != .ok)) ∧
    getUnrepresentable (encOfExcept eucTwEncodeReal) chars = .ok (chars.filter fun c => encOfExcept eucTwEncodeReal c != .ok) := by
  refine ⟨fun t => encodeOk_charmap t chars, fun inv => encodeOk_eucTw inv chars, fun t => ?_, ?_⟩
  · exact getUnrepresentable_spec _ chars (encodeOk_charmap t chars)
  · exact getUnrepresentable_spec _ chars (encodeOk_eucTw invReal chars)

/-- **the other tags**, for every name and environment: `unknown-encoding` iff no usable codec (and the name is not the
    template's CHARSET), `non-ascii-compatible-encoding` iff the repertoire does not decode to itself,
    `non-portable-encoding` iff ASCII-compatible and not portable, a proposal is portable and is the charset kept -/
theorem check_classification (env : Env) (encoding : Name) (isTemplate : Bool)
    (characters : Option (Option (List (List Nat)))) (tags : List Tag) (kept : Option Name)
    (h : checkCharset env encoding isTemplate characters = .ok (tags, kept)) :
    (tags.any Tag.isUnknown = true ↔
      (isAsciiCompatible env.interestingStr (env.dec encoding) false = .error () ∧ encoding ≠ charsetLiteral)) ∧
    (tags.any Tag.isBoilerplate = true ↔
      (isAsciiCompatible env.interestingStr (env.dec encoding) false = .error () ∧ encoding = charsetLiteral ∧ isTemplate = false)) ∧
    (tags.any Tag.isNonAscii = true ↔ isAsciiCompatible env.interestingStr (env.dec encoding) false = .ok false) ∧
    (tags.any Tag.isNonPortable = true ↔
      (isAsciiCompatible env.interestingStr (env.dec encoding) false = .ok true ∧ isPortable env.tbl true encoding = false)) ∧
    (kept = none ↔ isAsciiCompatible env.interestingStr (env.dec encoding) false = .error ()) ∧
    (∀ e p, Tag.nonPortable e (some p) ∈ tags → e = encoding ∧ isPortable env.tbl true p = true ∧ kept = some p) := by
  cases hac : isAsciiCompatible env.interestingStr (env.dec encoding) false with
  | error u =>
    cases u
    rw [checkCharset_unknown env encoding isTemplate characters hac] at h
    cases h
    by_cases hcl : encoding = charsetLiteral
    · cases isTemplate
      · simp [Tag.isUnknown, Tag.isBoilerplate, Tag.isNonAscii, Tag.isNonPortable, hcl]
      · simp [hcl]
    · simp [Tag.isUnknown, Tag.isBoilerplate, Tag.isNonAscii, Tag.isNonPortable, hcl]
  | ok compatible =>
    obtain ⟨tags1, enc, hc, hu⟩ := checkCharset_known_shape env encoding isTemplate characters compatible tags kept hac h
    obtain ⟨rfl, extra, rfl, hex⟩ := unrepStep_appends env tags1 enc characters tags kept hu
    obtain ⟨hunk, hboil, hna, hnp, _, hprop⟩ := classifyStep_flags env encoding compatible tags1 enc hc
    -- the tags `unrepStep` appended are of its own kind, so each clause is the clause about the tags of `classifyStep`
    have hany := fun (p : Tag → Bool) hp => any_append_unrep (p := p) (tags1 := tags1) hp hex
    rw [hany _ fun _ _ => rfl, hany _ fun _ _ => rfl, hany _ fun _ _ => rfl, hany _ fun _ _ => rfl, hunk, hboil, hna, hnp]
    refine ⟨by simp, by simp, by simp, by simp, by simp, fun e p hm => ?_⟩
    rcases List.mem_append.1 hm with hm | hm
    · obtain ⟨he, hp, hk⟩ := hprop e p hm
      exact ⟨he, hp, congrArg some hk⟩
    · obtain ⟨_, hcs⟩ := hex _ hm
      cases hcs

/-- the fragment never crashes when the codec behaves (with the loaded tables the `assert` cannot fire) -/
theorem check_total (env : Env) (encoding : Name) (isTemplate : Bool) (characters : Option (Option (List (List Nat))))
    (htbl : env.tbl = portableEncodings) (hc2e : env.c2e = pycodecToEncoding)
    (henc : ∀ enc chars, characters = some (some chars) → EncodeOk (env.encode enc) chars) :
    ∃ r, checkCharset env encoding isTemplate characters = .ok r := by
  exact Tables.checkCharset_total_shipped env encoding isTemplate characters htbl hc2e henc

/-! ## Non-vacuity -/

private def str (s : String) : List Nat := s.toList.map Char.toNat

/-- `propose_portable_encoding('windows-1250')` = `'CP1250'` (the registry calls both `cp1250`) -/
example : propose portableEncodings pycodecToEncoding (fun _ => some (str "cp1250")) (str "windows-1250") = .ok (some (str "CP1250")) := by
  decide +kernel
example : isPortable portableEncodings true (str "ISO_8859-2") = true ∧ isPortable portableEncodings true (str "KOI8-T") = false ∧
    isPortable portableEncodings false (str "KOI8-T") = true ∧ isPortable portableEncodings false (str "ISO-8859-16") = false := by
  decide +kernel
/-- VISCII reuses six control positions (here 0x02 ↦ U+1EB2), which is why the repertoire is not all of ASCII -/
example : charmapDecode charmap_VISCII [0x02, 0x41, 0xFF] = .ok [0x1EB2, 0x41, 0x1EEE] ∧
    charmapEncode charmap_VISCII [0x1EB2, 0x41, 0x1EEE] = .ok [0x02, 0x41, 0xFF] := by decide +kernel
/-- an encode error covers the whole run of unencodable characters: `'a€€b€'.encode('VISCII')` fails at 1..3 -/
example : charmapEncode charmap_VISCII [0x61, 0x20AC, 0x20AC, 0x62, 0x20AC] = .error (1, 3) := by decide +kernel
/-- glibc's KOI8-T rejects byte 0x88: a decode error with a valid span does occur -/
example : charmapDecode koi8tTable [0x41, 0x88] = .error (1, 2) := by decide +kernel

/-- tables holding just the dumped facts agree with the system iconv (so `euctw_roundtrip_refuted` is not vacuous), and the
    canonical unit `8E A2 A4 A1` round-trips under them -/
private def demoCns : CnsTable := fun p r c =>
  (eucTwDecodeFacts.find? fun f => f.1 == (if p = 1 then [r, c] else [0x8E, 0xA0 + p, r, c]) || (p = 1 && f.1 == [0x8E, 0xA1, r, c])).map (·.2)
private def demoInv : CnsInverse := fun ch =>
  match (eucTwEncodeFacts.find? (·.1 == ch)).map (·.2) with
  | some [r, c] => some (1, r, c)
  | some [_, p, r, c] => some (p - 0xA0, r, c)
  | _ => none
example : (eucTwDecodeFacts.all fun f => eucTwDecode demoCns (toBytes f.1) == .ok [f.2]) = true ∧
    (eucTwEncodeFacts.all fun f => eucTwEncode demoInv [f.1] == .ok (toBytes f.2)) = true := by decide +kernel
example : eucTwCanonical demoCns demoInv 4 [0x8E, 0xA2, 0xA4, 0xA1] = true ∧ eucTwCanonical demoCns demoInv 4 [0x8E, 0xA1, 0xA4, 0xA1] = false ∧
    eucTwDecode demoCns [0x41, 0xA4] = .error (1, true) ∧ eucTwDecode demoCns [0x41, 0xFF, 0x42] = .error (1, false) := by decide +kernel

/-- the real tables: `A4 A1` is U+FF10; the four-byte form of plane 1 and `8E A3 A1 B8` are the redundant units; errors carry the
    offset and whether the unit is merely incomplete; plane bytes above `B0` and planes iconv has no table for are illegal -/
example : eucTwDecodeReal [0xA4, 0xA1, 0x41] = .ok [0xFF10, 0x41] ∧ eucTwDecodeReal [0x41, 0xA4] = .error (1, true) ∧
    eucTwDecodeReal [0x8E, 0xA8, 0xA1, 0xA1] = .error (0, false) ∧ eucTwDecodeReal [0x41, 0x8E, 0xB1, 0xA1, 0xA1] = .error (1, false) := by
  decide +kernel
example : eucTwNoRedundant cnsReal 4 [0x8E, 0xA2, 0xA4, 0xA1] = true ∧ eucTwNoRedundant cnsReal 4 [0x8E, 0xA1, 0xA4, 0xA1] = false ∧
    eucTwNoRedundant cnsReal 4 [0x8E, 0xA3, 0xA1, 0xB8] = false ∧ eucTwNoRedundant cnsReal 4 [0x8E, 0xA3, 0xA1, 0xB9] = true := by decide +kernel
example : eucTwEncodeReal [0x5344, 0x20AC] = .error 1 ∧ eucTwEncodeReal [0x5344, 0x5FE3] = .ok [0xA4, 0xBF, 0x8E, 0xA2, 0xA4, 0xA1] := by
  decide +kernel
/-- the tool's EUC-TW decode of `A4 A1 41` against the reference iconv: told 3, 6, 12 bytes (12, 24, 48 allocated) — E2BIG, E2BIG
    after one character, then both: three rounds are needed and suffice -/
example : (decodeDl (refDecStep (eucUnitFn cnsReal) [0xA4, 0xA1, 0x41]) [0xA4, 0xA1, 0x41] 3).2 = [⟨12, 3⟩, ⟨24, 6⟩, ⟨48, 12⟩] ∧
    (decodeDl (refDecStep (eucUnitFn cnsReal) [0xA4, 0xA1, 0x41]) [0xA4, 0xA1, 0x41] 2).1.finished = false := by decide +kernel
/-- the registry model: punctuation and case do not matter, a dot does; EUC-TW comes from the tool's search function -/
example : registry (nm "ISO_8859-1:1987") = some (nm "iso8859-1") ∧ registry (nm " Latin 1 ") = some (nm "iso8859-1") ∧
    registry (nm "euc tw") = some (nm "euc-tw") ∧ registry (nm "utf.8") = none ∧ registry (nm "aliases") = none := by decide +kernel
example : expectedDrop (some (nm "hz")) = [0x7E] ∧ expectedAdd (some (nm "viscii")) = [0x02, 0x05, 0x06, 0x14, 0x19, 0x1E] := by decide +kernel

/-- an iconv that needs 8 bytes of room for the two characters of `ab` -/
private def demoStep : Step := fun told =>
  if told < 8 then ⟨none, ⟨.e2big, 0, []⟩, ⟨.ok, 0, []⟩⟩
  else ⟨none, ⟨.ok, 2, [97, 0, 0, 0, 98, 0, 0, 0]⟩, ⟨.ok, 0, []⟩⟩

example : ConvertsTo demoStep 2 [97, 0, 0, 0, 98, 0, 0, 0] 8 where
  fits := by decide
  small := by intro told h; simp [demoStep, h, callBoth]
  big := by
    intro told h
    have : ¬ told < 8 := by omega
    simp [demoStep, this, callBoth]

/-- three rounds (told 2, 4, 8 of 8, 16, 32 allocated), then the text -/
example : (decodeDl demoStep [97, 98] 10).2 = [⟨8, 2⟩, ⟨16, 4⟩, ⟨32, 8⟩] := by decide +kernel
example : (decodeDl demoStep [97, 98] 10).1.finished = true := by decide +kernel

/-- an iconv that stops at the second byte of `a\xff\xfeb`, once told 8 bytes: two rounds are logged -/
private def badStep : Step := fun told =>
  if told < 8 then ⟨none, ⟨.e2big, 0, []⟩, ⟨.ok, 0, []⟩⟩ else ⟨none, ⟨.eilseq, 1, [97, 0, 0, 0]⟩, ⟨.ok, 0, []⟩⟩
example : ((decodeDl badStep [97, 0xFF, 0xFE, 98] 10).2).length = 2 := by decide +kernel

/-- a codec that cannot encode `€`: exactly that character is reported -/
private def demoEnc : List Nat → Enc := fun t => if t.contains 0x20AC then .encodeError false else .ok
example : getUnrepresentable demoEnc [[0x61], [0x20AC], [0x62]] = .ok [[0x20AC]] := by decide +kernel
example : getCharacters false (str "a (b) c") = [[0x61], [0x63]] ∧ getCharacters true (str "a (b) c") = [[0x61], [0x62], [0x63]] := by
  decide +kernel
/-- more than five unrepresentable characters are cut to four and an ellipsis -/
example : truncateChars [[1], [2], [3], [4], [5], [6]] = [[1], [2], [3], [4], ellipsis] := by decide +kernel

end I18n.Props.C20
