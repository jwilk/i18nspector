import I18n.Lemmas.CFmtParse
import I18n.Model.CFmtRe
import I18n.Generated.CFmtRe
import I18n.Lemmas.ExceptDec
/-!
# C11 — the C format-string parser implements printf(3)

`CFmt.parse` is the model of `lib.strformat.c.FormatString` (scanner for `_directive_re`, `Conversion.__init__`,
`add_argument`, the gap and type checks); `Spec.Printf` is the reference: items, `render`, `Valid`, `signature`.
The tables the model reads are regenerated from the live module on every run (`Generated.CFormatTables`).

Before `fix:` 871d4d7 in /repo (lib/__init__.py lifts the limit) one clause was false of the code — `int()` refused
numerals of more than 4300 digits with `ValueError`, which is not one of the parser's own errors and also made it
reject valid strings (`%.000…0d`).  The model keeps `int()`'s limit as
the generated constant `intMaxStrDigits` (0 = no limit, CPython's convention); `int_unlimited` pins it to 0 as dumped
from the running tool, and with it the `_partial` theorems (stated for any limit) give the unrestricted clauses
`parse_complete`, `parse_iff_valid`, `parse_error_own`.  If the limit ever comes back the pin stops compiling and the
check replays the old witness on the real code.
-/
namespace I18n.Props.C11
open I18n I18n.CFmt I18n.Spec.Printf
open I18n.Generated

/-! ## Pins: what was probed from the live module is what `Spec.Printf` says -/

/-- what the parse tree of `_directive_re` cannot carry (the tree itself is tied in the kernel: `Props.C11Tie.directive_regex`
    proves the scanner equal to the first match of the live tree, so what is pinned here is only what a tree does not show —
    the flags, the group names and the group count, not the text of the pattern): no flag that
    changes how a tree matches (IGNORECASE, LOCALE, MULTILINE, DOTALL) is set on `_directive_re` or on the pattern of
    `_printable_prefix` — VERBOSE only changes parsing, ASCII/UNICODE only the categories, which the translator expands —, and
    the group names `FormatString`/`Conversion` use are the group numbers the theorems speak about -/
theorem regex_pin :
    CFmtRe.semanticFlags = 0 ∧ CFmtRe.printablePrefixSemanticFlags = 0 ∧ CFmtRe.groups = CFmt.expectedGroups ∧ CFmtRe.ngroups = 14 := by
  decide +kernel

/-- **The probed tables are printf's.**  For every (length, conversion) the type / `LengthError`, integer-ness and
    portability warning; every inttypes macro; every (flag, conversion), (width kind, conversion),
    (precision kind, conversion), (argument number, conversion) outcome; which conversions consume an argument;
    the limits; the type of `*` arguments; the `_info` strings; the set of own error classes. -/
theorem ctables_pin :
    CFormatTables.typeTable = CFmt.expectedTypeTable ∧
    CFormatTables.priTable = CFmt.expectedPriTable ∧
    CFormatTables.flagTable = CFmt.expectedFlagTable ∧
    CFormatTables.widthTable = CFmt.expectedWidthTable ∧
    CFormatTables.precTable = CFmt.expectedPrecTable ∧
    CFormatTables.indexTable = CFmt.expectedIndexTable ∧
    CFormatTables.consumes = CFmt.expectedConsumes ∧
    CFormatTables.NL_ARGMAX = Spec.Printf.NL_ARGMAX ∧
    CFormatTables.INT_MAX = Spec.Printf.INT_MAX ∧
    CFormatTables.variableWidthType = "int" ∧ CFormatTables.variablePrecisionType = "int" ∧
    CFormatTables.octCvt = ['o'] ∧ CFormatTables.hexCvt = ['x', 'X', 'a', 'A'] ∧
    CFormatTables.decCvt = ['d', 'i', 'u', 'f', 'F', 'g', 'G'] ∧ CFormatTables.floatCvt = floatConvs ∧
    CFormatTables.uintCvt = unsignedConvs ∧ CFormatTables.intCvt = signedConvs ++ unsignedConvs ∧
    CFormatTables.strCvt = ['s', 'S'] ∧
    CFormatTables.errorClasses = ["ArgumentNumberingMixture", "ArgumentRangeError", "ArgumentTypeMismatch", "Error",
      "FlagError", "ForbiddenArgumentIndex", "LengthError", "MissingArgument", "NonPortableConversion",
      "PrecisionError", "PrecisionRangeError", "RedundantFlag", "WidthError", "WidthRangeError"] :=
  ⟨typeTable_pin, priTable_pin, by decide +kernel, by decide +kernel, by decide +kernel, by decide +kernel, by decide +kernel,
    nl_argmax_pin, int_max_pin, star_type_pin.1, star_type_pin.2, by decide +kernel, by decide +kernel, by decide +kernel,
    by decide +kernel, by decide +kernel, by decide +kernel, by decide +kernel, by decide +kernel⟩

/-- the hand-modelled checks of `Conversion.__init__` (written from the `_info` strings) decide exactly the
    spec's applicability tables, and never hit the `assert`s -/
theorem model_checks_pin :
    (∀ f ∈ flagChars, ∀ c ∈ convChars,
      (flagErr f c = none ↔ c ∈ flagConvs f) ∧ (flagErr f c = none ∨ flagErr f c = some .FlagError)) ∧
    (∀ c ∈ convChars, ((c == '%' || c == 'n') = false ↔ c ∈ widthConvs)) ∧
    (∀ c ∈ convChars, ((CFormatTables.intCvt ++ CFormatTables.floatCvt ++ CFormatTables.strCvt).contains c = true ↔ c ∈ precConvs)) ∧
    (∀ b : Body, b.Wf → CFmt.typeInfo b = match b.typeInfo with
      | some ti => .ok (ti.type, ti.integer, ti.nonportable)
      | none => .error .LengthError) :=
  ⟨flagErr_spec, width_conv_spec, prec_conv_spec, fun _ hb => typeInfo_spec hb⟩

/-- **Soundness (all strings).**  Whatever is accepted is a rendering of valid printf items, and the reported
    argument list is their signature: for each argument 1..k, in order, its uses with their C types. -/
theorem parse_sound {s : List Char} {r : Result} (h : parse s = .ok r) :
    ∃ items, render items = s ∧ Valid items ∧ r.arguments = signature items := by
  obtain ⟨items, hrender, hwf, hall, hglobal, hargs, _⟩ := parse_ok h
  exact ⟨items, hrender, ⟨hwf, fun d hd => (hall d hd).2, hglobal⟩, hargs⟩

/-- **Unique readability.**  A string is the rendering of at most one well-formed item list — so "its directives"
    is well defined, and the `items` of `parse_sound` / `parse_iff_valid_partial` are unique. -/
theorem items_unique {items items' : List Item} (h : ItemsWf items) (h' : ItemsWf items')
    (he : render items = render items') : items = items' := render_injective h h' he

/-- **Completeness**, for strings without over-long numerals: every valid printf string is accepted, with its
    signature. -/
theorem parse_complete_partial {items : List Item} (hv : Valid items) (hs : ShortNumerals (render items)) :
    ∃ r, parse (render items) = .ok r ∧ r.arguments = signature items := by
  have hshort := dirShort_of_render hv.wf hs
  obtain ⟨r', h', he⟩ := parseFalse_complete hv.wf (fun d hd => ⟨hshort d hd, hv.directives d hd⟩) hv.global
  obtain ⟨r, h, he'⟩ := parse_args_iff_parseFalse.2 ⟨r', h', rfl⟩
  exact ⟨r, h, he'.trans he⟩

/-- **Acceptance and signature, as one equivalence** (the property's first two clauses), for strings without
    over-long numerals. -/
theorem parse_iff_valid_partial {s : List Char} (hs : ShortNumerals s) (sig : List (List Entry)) :
    (∃ r, parse s = .ok r ∧ r.arguments = sig) ↔
      ∃ items, render items = s ∧ Valid items ∧ sig = signature items := by
  constructor
  · rintro ⟨r, h, rfl⟩
    exact parse_sound h
  · rintro ⟨items, rfl, hv, rfl⟩
    exact parse_complete_partial hv hs

/-- **The tool runs without an `int()` digit limit**: `sys.get_int_max_str_digits()`, dumped by the translator after
    importing `lib`, is 0. -/
theorem int_unlimited : CFormatTables.intMaxStrDigits = 0 := by decide

theorem shortNumerals_all (s : List Char) : ShortNumerals s := Or.inl int_unlimited

/-- **Completeness**: every valid printf string is accepted, with its signature. -/
theorem parse_complete {items : List Item} (hv : Valid items) :
    ∃ r, parse (render items) = .ok r ∧ r.arguments = signature items :=
  parse_complete_partial hv (shortNumerals_all _)

/-- **C11, first two clauses, for every string**: a string is accepted with argument list `sig` iff it is the
    rendering of valid printf items whose signature is `sig`. -/
theorem parse_iff_valid (s : List Char) (sig : List (List Entry)) :
    (∃ r, parse s = .ok r ∧ r.arguments = sig) ↔
      ∃ items, render items = s ∧ Valid items ∧ sig = signature items :=
  parse_iff_valid_partial (shortNumerals_all s) sig

/-- `%.` + 4301 zeros + `d` is valid printf (precision 0) and is accepted, with the signature of its one directive.  Before
    `fix:` 871d4d7 the code rejected this string with `int()`'s `ValueError`, against `parse_iff_valid`; the check still replays
    it on the real code. -/
theorem witness_outcome :
    witness = '%' :: '.' :: (List.replicate 4301 '0' ++ ['d']) ∧
    ∃ r, parse witness = .ok r ∧ r.arguments = signature [.dir (zeroPrec (List.replicate 4301 '0'))] :=
  ⟨render_zeroPrec _, parse_complete witness_valid⟩

/-- **Own errors only — or `ValueError` from `int()`**, for every string. -/
theorem parse_error_kinds {s : List Char} {e : CErr} (h : parse s = .error e) :
    e.own = true ∨ e = .crash .ValueError :=
  (parse_error_blame h).imp id And.left

/-- **Rejection raises only the parser's own `Error` classes**, for strings without over-long numerals. -/
theorem parse_error_own_partial {s : List Char} (hs : ShortNumerals s) {e : CErr} (h : parse s = .error e) :
    e.own = true :=
  (parse_error_blame h).elim id fun hv => absurd (dirShort_of_scan hs) hv.2

/-- **C11, last clause, for every string**: rejection raises only the parser's own `Error` classes. -/
theorem parse_error_own {s : List Char} {e : CErr} (h : parse s = .error e) : e.own = true :=
  parse_error_own_partial (shortNumerals_all s) h

/-- **Warnings are inert**: recording them or not changes neither acceptance, nor the error, nor the argument list;
    and with recording off nothing is recorded. -/
theorem warnings_inert (s : List Char) :
    (parse s).map (·.arguments) = (parseW false s).map (·.arguments) ∧
    (∀ r, parseW false s = .ok r → r.warnings = []) := by
  refine ⟨parseW_arguments true s, fun r h => ?_⟩
  have he := parseW_erase false s
  rw [h] at he
  exact (congrArg Result.warnings (Except.ok.inj he)).symm

/-- **`*` widths and precisions are `int` arguments at the position printf fetches them**: in an accepted string
    every reference `(j, e)` — `j` the explicit `m$` or the running count — sits in slot `j` of the reported
    argument list, that slot's type is `e`'s type, and for a `*` width or precision this is `int`. -/
theorem star_args {s : List Char} {r : Result} (h : parse s = .ok r) :
    ∃ items, render items = s ∧ Valid items ∧
      ∀ j e, (j, e) ∈ positions (refs items) →
        1 ≤ j ∧ r.arguments[j - 1]? = some (usesOf (positions (refs items)) j) ∧ e ∈ usesOf (positions (refs items)) j ∧
        (typesOf r.arguments)[j - 1]? = some e.type ∧ (e.kind ≠ .conv → e.type = "int") := by
  obtain ⟨items, h1, hv, h3⟩ := parse_sound h
  refine ⟨items, h1, hv, fun j e hje => ?_⟩
  obtain ⟨a, b, c, d⟩ := signature_slot hv.global.gapFree hv.global.oneType hje
  rw [h3]
  refine ⟨a, b, c, d, fun hk => ?_⟩
  obtain ⟨rf, hrf, he⟩ := positionsFrom_entry _ _ _ hje
  simp only at he
  subst he
  exact refsFrom_star_int items 0 rf hrf hk

/-! ## Non-vacuity -/

section
open scoped I18n.ExceptDec

/-- numbered arguments, shared argument, `*m$` width: `%2$*1$d %1$d` has two `int` arguments -/
example : (parse "%2$*1$d %1$d".toList).map (fun r => typesOf r.arguments) = .ok ["int", "int"] := by decide +kernel
example : (parse "%2$*1$d %1$d".toList).map (·.arguments) =
    .ok [[⟨.width, "int", 0⟩, ⟨.conv, "int", 2⟩], [⟨.conv, "int", 0⟩]] := by decide +kernel
/-- unnumbered `*.*`: width, precision, value in that order -/
example : (parse "%*.*Lf%%%m%s".toList).map (fun r => typesOf r.arguments) = .ok ["int", "int", "long double", "const char *"] := by decide +kernel
example : (parse "%<PRIxLEAST32>%zu".toList).map (fun r => typesOf r.arguments) = .ok ["uint_least32_t", "size_t"] := by decide +kernel
example : (parse "%1$s %3$s".toList).map (·.arguments) = .error .MissingArgument := by decide +kernel
example : (parse "%1$d %1$s".toList).map (·.arguments) = .error .ArgumentTypeMismatch := by decide +kernel
example : (parse "%1$d %s".toList).map (·.arguments) = .error .ArgumentNumberingMixture := by decide +kernel
example : (parse "%#d".toList).map (·.arguments) = .error .FlagError := by decide +kernel
example : (parse "%lls %!".toList).map (·.arguments) = .error .LengthError := by decide +kernel
example : (parse "100%".toList).map (·.arguments) = .error .Error := by decide +kernel
example : (parse "%-05d".toList).map (·.warnings) = .ok [.RedundantFlag] := by decide +kernel
example : (parseW false "%-05d".toList).map (·.warnings) = .ok [] := by decide +kernel
example : ShortNumerals "%5.3d".toList := shortNumerals_all _

end

end I18n.Props.C11
