import I18n.Lemmas.PyFmtReasons
import I18n.Lemmas.PyFmtTables
import I18n.Lemmas.PyFmtWarn
import I18n.Lemmas.ExceptDec
/-!
# C12 — the Python %-format parser is consistent with CPython's `%` operator

`PyFmt.parse` is the model of `lib.strformat.python.FormatString` (hand-written scanner, `Conversion.__init__`,
`add_argument`, the one-type-per-key check); `Spec.CPyPercent.format` is the reference model of CPython's `str % args`
(success or the exception), validated against the running interpreter by the check on every run.
`PlainPercent s` is the domain of the property: every conversion specification with conversion character `%` is
exactly `%%`.  `Matches r a`: the arguments `a` have the shape and types the parser reports in `r`.
-/
namespace I18n.Props.C12
open I18n I18n.PyFmt I18n.Spec.CPyPercent I18n.Spec.PyFmtArgs
open I18n.Generated

/-- what the model and the reference were written against: the `_info` character sets (dumped sorted: only membership is
    ever used), the limit `SSIZE_MAX` and that it is CPython's `INT_MAX`, the type of a `*` argument, and that the ten
    classes the model raises or records are among the dumped names of the module's `Error` subclasses -/
theorem info_pin :
    PyFormatTables.flagChars = [' ', '#', '+', '-', '0'] ∧ PyFormatTables.lengthChars = ['L', 'h', 'l'] ∧
    PyFormatTables.octCvt = ['o'] ∧ PyFormatTables.hexCvt = ['X', 'x'] ∧
    PyFormatTables.intCvt = ['X', 'd', 'i', 'o', 'u', 'x'] ∧ PyFormatTables.floatCvt = ['E', 'F', 'G', 'e', 'f', 'g'] ∧
    PyFormatTables.otherCvt = ['a', 'c', 'r', 's'] ∧
    PyFormatTables.allCvt = ['%', 'E', 'F', 'G', 'X', 'a', 'c', 'd', 'e', 'f', 'g', 'i', 'o', 'r', 's', 'u', 'x'] ∧
    PyFormatTables.SSIZE_MAX = 2 ^ 31 - 1 ∧ PyFormatTables.SSIZE_MAX = Spec.CPyPercent.INT_MAX ∧
    PyFormatTables.variableWidthType = "int" ∧ PyFormatTables.variablePrecisionType = "int" ∧
    (∀ n ∈ ["Error", "ForbiddenArgumentKey", "ArgumentIndexingMixture", "ArgumentTypeMismatch", "WidthRangeError",
      "PrecisionRangeError", "RedundantFlag", "RedundantPrecision", "RedundantLength", "ObsoleteConversion"],
      n ∈ PyFormatTables.errorClasses) := by
  refine ⟨rfl, rfl, rfl, rfl, rfl, rfl, rfl, rfl, rfl, rfl, rfl, rfl, by decide +kernel⟩

/-- the probed type of every conversion character (sorted by character): CPython's requirement on the argument
    (`d i u o x X` an integer, `e E f F g G` a real number, `c` a character or code point, `s r a` anything, `%` nothing) -/
theorem types_pin :
    PyFormatTables.typeTable = [('%', "None"), ('E', "float"), ('F', "float"), ('G', "float"), ('X', "int"), ('a', "object"),
      ('c', "chr"), ('d', "int"), ('e', "float"), ('f', "float"), ('g', "float"), ('i', "int"), ('o', "int"), ('r', "object"),
      ('s', "str"), ('u', "int"), ('x', "int")] := rfl

/-- the model of `Conversion.__init__` evaluated by the kernel on every probed directive (conversion x flag sets x
    precision kinds x length; widths and precisions around `SSIZE_MAX`) gives the outcome and the warnings that the
    live module gave -/
theorem probes_pin :
    PyFormatTables.warnTable.all (fun row => probe row.1 == row.2) = true ∧
    PyFormatTables.rangeTable.all (fun row => probe row.1 == row.2) = true := ⟨warnTable_pin, rangeTable_pin⟩

/-- **If the parser accepts a string, CPython formats it** when given arguments of the shape and types the parser
    reports: a tuple with a value of the reported type per entry of `seq_arguments` (an `int` for every `*`), or a mapping
    with a value of the reported type under every key of `map_arguments`; or the bare value when exactly one unnamed
    argument is reported. -/
theorem accept_formats {s : List Char} {r : Result} {a : Args} (hp : PlainPercent s) (h : parse s = .ok r)
    (hm : Matches r a) : format s a = .ok () := by
  obtain ⟨S, M, t, _, rfl, hmap, _⟩ := parse_adds h
  rw [format_eq_formatDs_of_parse h]
  exact t.accept ((plainPercent_iff _ _).1 hp) (matches_fits hm hmap)

/-- **Rejection raises only the parser's own error type** (every string, no hypothesis): the error is none of the model's
    `crash` classes (the assertions of `Conversion.__init__`, the termination device). -/
theorem error_own {s : List Char} {e : PErr} (h : parse s = .error e) : e.own = true := parse_error_own h

/-- **A string CPython can format is rejected only for a documented reason**: mixing named and unnamed specifications,
    one key used with two different types, a width or precision out of range.  The domain hypothesis is not needed
    (`PyFmt.parse_reject_reasons` is this statement without it): a string that CPython formats is in the domain. -/
theorem reject_reasons {s : List Char} {e : PErr} (hp : PlainPercent s) (h : parse s = .error e)
    (hf : ∃ a, format s a = .ok ()) :
    e = .ArgumentIndexingMixture ∨ e = .ArgumentTypeMismatch ∨ e = .WidthRangeError ∨ e = .PrecisionRangeError := by
  obtain ⟨a, ha⟩ := hf
  exact parse_reject_reasons h ha

/-- **What the parser rejects as malformed (`Error`), CPython rejects whatever the arguments.**  The domain hypothesis is
    not needed: this is the first case of `PyFmt.parse_error_classes`, which has none. -/
theorem error_means_malformed {s : List Char} (hp : PlainPercent s) (h : parse s = .error .Error) (a : Args) :
    format s a ≠ .ok () := by
  rcases parse_error_classes h with ⟨_, hrej⟩ | ⟨he, _⟩ | he | he | he | he
  · exact hrej a
  all_goals cases he

/-- **The arguments the statement speaks about exist**: the canonical arguments of an accepted string (a tuple with
    one value per reported entry, or a mapping with one value per reported key — possible because the parser insists on
    one type per key and never reports both kinds) have the reported shape and types. -/
theorem argsOf_matches {s : List Char} {r : Result} (h : parse s = .ok r) : Matches r (argsOf r) := by
  obtain ⟨S, M, t, excl, rfl, hmap, hall⟩ := parse_adds h
  unfold argsOf
  by_cases hme : r.map.isEmpty = true
  · -- no named argument: the tuple of canonical values
    simp only [hme, if_true, Matches]
    exact ⟨by simpa using hme, okAll_default _ t.good.1⟩
  · -- named arguments, hence no unnamed one: the mapping that has, under each key, the canonical value of the first
    -- entry recorded with it, which fits the others because they have its type
    simp only [hme, Bool.false_eq_true, if_false, Matches]
    have hne : M ≠ [] := by
      intro h0; apply hme; rw [hmap, h0]; rfl
    refine ⟨excl.resolve_right hne, fun k es hk => ?_⟩
    rw [hmap] at hk ⊢
    exact ⟨headVal es, lookup_groups headVal hk,
      okFor_headVal (List.all_eq_true.1 hall (k, es) hk) (t.groups_good hk)⟩

/-- the same with the canonical arguments: an accepted string is formatted by CPython with them -/
theorem accept_formats_canonical {s : List Char} {r : Result} (hp : PlainPercent s) (h : parse s = .ok r) :
    format s (argsOf r) = .ok () := accept_formats hp h (argsOf_matches h)

/-- **If CPython rejects the string whatever the arguments, the parser rejects it.** -/
theorem malformed_rejected {s : List Char} (hp : PlainPercent s) (h : ∀ a, format s a ≠ .ok ()) :
    ∃ e, parse s = .error e := by
  cases hr : parse s with
  | error e => exact ⟨e, rfl⟩
  | ok r => exact absurd (accept_formats_canonical hp hr) (h _)

/-- **The reported shape is the only one**: if CPython formats an accepted string with a tuple, then the parser reported no
    named argument and exactly as many unnamed arguments (conversions and `*`s) as the tuple has items.  The domain
    hypothesis is not needed (`PyFmt.parse_positional_exact`, which also covers a bare value, has none). -/
theorem tuple_exact {s : List Char} {r : Result} {vs : List Val} (hp : PlainPercent s) (h : parse s = .ok r)
    (hf : format s (.tuple vs) = .ok ()) : r.map = [] ∧ r.seq.length = vs.length :=
  -- `hp` is not used: outside the domain CPython formats nothing (`outside_domain_cpython_rejects`)
  parse_positional_exact h rfl hf

/-- … and if CPython formats an accepted string with a mapping, every key the parser reports is in the mapping
    (every string, the domain is not needed). -/
theorem mapping_keys_needed {s : List Char} {r : Result} {m : List (List Char × Val)} (h : parse s = .ok r)
    (hf : format s (.dict m) = .ok ()) : ∀ k es, (k, es) ∈ r.map → (Spec.CPyPercent.lookup m k).isSome = true := by
  obtain ⟨S, M, t, _, _, hmap, _⟩ := parse_adds h
  intro k es hk
  obtain ⟨_, e, he⟩ := groups_spec (hmap ▸ hk)
  obtain ⟨_, c', hs, _⟩ := run_ok hf
  obtain ⟨_, hm, r⟩ := (t.steps_inv hs).2.1 k e he
  cases hm
  exact r

/-- **Why the statement has a domain**: outside it, the model of CPython 3.12 formats nothing — a `%` conversion with a key,
    flag, width, precision or length attached is an error whatever the arguments … -/
theorem outside_domain_cpython_rejects {s : List Char} (hp : ¬ PlainPercent s) (a : Args) : format s a ≠ .ok () :=
  fun hf => hp (plainPercent_of_format_ok hf)

/-- … while the parser accepts such strings and types the conversion as consuming nothing (`%5%`): without the
    hypothesis `PlainPercent`, `accept_formats` is false. -/
theorem accept_formats_needs_domain :
    ∃ s r, parse s = .ok r ∧ r.seq = [] ∧ r.map = [] ∧ ∀ a, format s a ≠ .ok () :=
  ⟨"%5%".toList, _, rfl, rfl, rfl, fun a => outside_domain_cpython_rejects (by decide) a⟩

/-- **The domain, spelled out**: `PlainPercent s` says that every conversion specification the scanner reads in `s` whose
    conversion character is `%` has no key, no flag, no width, no precision and no length modifier. -/
theorem plainPercent_spec (s : List Char) :
    PlainPercent s ↔ ∀ d ∈ directives s, d.conv = '%' →
      d.key = none ∧ d.flags = [] ∧ d.width = .num 0 ∧ d.prec = none ∧ d.length = none := by
  unfold PlainPercent directives
  rw [plainPercent_iff]
  exact forall_congr' fun d => imp_congr_right fun _ => Directive.plain_iff d

/-- **The documented reason the parser gives is true of the string** (every string): among the conversion specifications
    the scanner reads (`directives s`) there is, for `WidthRangeError`, a literal width above `SSIZE_MAX` = 2^31-1; for
    `PrecisionRangeError`, a literal precision above 2^31-1, or above 2^31-4 on an integer conversion (CPython's own limit);
    for `ArgumentIndexingMixture`, one that takes its value from the mapping and one that fetches a positional argument
    (a `*` or a value without key); for `ArgumentTypeMismatch`, two with the same key whose conversions have different types. -/
theorem reason_true {s : List Char} {e : PErr} (h : parse s = .error e) :
    (e = .WidthRangeError → ∃ d ∈ directives s, ∃ n, d.width = .num n ∧ n > PyFormatTables.SSIZE_MAX) ∧
    (e = .PrecisionRangeError → ∃ d ∈ directives s, ∃ n, d.prec = some (.num n) ∧
      (n > PyFormatTables.SSIZE_MAX ∨ (PyFormatTables.intCvt.contains d.conv = true ∧ n > PyFormatTables.SSIZE_MAX - 3))) ∧
    (e = .ArgumentIndexingMixture → (∃ d ∈ directives s, d.named) ∧ (∃ d ∈ directives s, d.unnamed)) ∧
    (e = .ArgumentTypeMismatch → ∃ d1 ∈ directives s, ∃ d2 ∈ directives s, ∃ k, d1.key = some k ∧ d2.key = some k ∧
      PyFormatTables.typeTable.lookup d1.conv ≠ PyFormatTables.typeTable.lookup d2.conv) :=
  ⟨fun he => width_reason (he ▸ h), fun he => precision_reason (he ▸ h), fun he => mixture_reason (he ▸ h),
    fun he => mismatch_reason (he ▸ h)⟩

/-- **Warnings are inert**: recording them (the real code) or not changes neither acceptance, nor the error class, nor the
    argument lists, nor the items; and with recording off nothing is recorded. -/
theorem warnings_inert (s : List Char) :
    (parse s).map Result.strip = parseW false s ∧ ∀ r, parseW false s = .ok r → r.warnings = [] := by
  refine ⟨parseW_strip true s, fun r hr => ?_⟩
  have h := parseW_strip false s
  rw [hr] at h
  simp only [Except.map, Except.ok.injEq] at h
  have := congrArg Result.warnings h
  exact this.symm

/-! Test vectors.  A string literal is first turned into its character list (`String.toList_ofList`): the kernel decodes a
literal slowly, and again at every use. -/
section
open scoped I18n.ExceptDec

/-- named specifications with a nested-parenthesis key, and `%%` -/
example : (parse "%(a(b))s x %(n)d%%".toList).map (fun r => (r.seq, r.map.map (fun g => (String.ofList g.1, g.2.map (·.type))))) =
    .ok ([], [("a(b)", ["str"]), ("n", ["int"])]) := by
  rw [String.toList_ofList]
  decide +kernel
/-- unnamed `*.*`: width, precision, value in that order -/
example : (parse "ab%*.*lu%-05d".toList).map (fun r => (r.seq.map (fun e => (e.kind, e.type, e.parent)), r.warnings)) =
    .ok ([(.width, "int", 1), (.prec, "int", 1), (.conv, "int", 1), (.conv, "int", 2)],
      [.RedundantLength, .ObsoleteConversion, .RedundantFlag]) := by
  rw [String.toList_ofList]
  decide +kernel
example : PlainPercent "100%% of %(n)d".toList := by
  rw [String.toList_ofList]
  decide +kernel
example : ¬ PlainPercent "%5%".toList := by
  rw [String.toList_ofList]
  decide +kernel
/-- `accept_formats` applies: the canonical arguments of `%(a)s %(n)5.2f` are a mapping, and CPython's model formats them -/
example : (parse "%(a)s %(n)5.2f".toList).map argsOf =
    .ok (.dict [("a".toList, .str 3), ("n".toList, .float)]) := by
  rw [String.toList_ofList, String.toList_ofList, String.toList_ofList]
  rfl
example : format "%(a)s %(n)5.2f".toList (.dict [("a".toList, .str 3), ("n".toList, .float)]) = .ok () := by
  rw [String.toList_ofList, String.toList_ofList, String.toList_ofList]
  decide +kernel
example : format "%*.*lu%%".toList (.tuple [.int 7, .int (-2), .int 5]) = .ok () := by
  rw [String.toList_ofList]
  decide +kernel
/-- the documented rejections are rejections of strings CPython can format (`reject_reasons` is not vacuous) -/
example : (parse "%s %(a)s".toList).map (·.seq) = .error .ArgumentIndexingMixture := by
  rw [String.toList_ofList]
  decide +kernel
example : format "%s %(a)s".toList (.dict [("a".toList, .int 1)]) = .ok () := by
  rw [String.toList_ofList, String.toList_ofList]
  decide +kernel
example : (parse "%(a)d %(a)s".toList).map (·.seq) = .error .ArgumentTypeMismatch := by
  rw [String.toList_ofList]
  decide +kernel
example : format "%(a)d %(a)s".toList (.dict [("a".toList, .int 1)]) = .ok () := by
  rw [String.toList_ofList, String.toList_ofList]
  decide +kernel
example : (parse "%2147483648d".toList).map (·.seq) = .error .WidthRangeError := by
  rw [String.toList_ofList]
  decide +kernel
example : format "%2147483648d".toList (.tuple [.int 1]) = .ok () := by
  rw [String.toList_ofList]
  decide +kernel
/-- the precision limit of the integer conversions (`SSIZE_MAX - 3`): CPython raises OverflowError whatever the argument -/
example : (parse "%.2147483645d".toList).map (·.seq) = .error .PrecisionRangeError := by
  rw [String.toList_ofList]
  decide +kernel
example : format "%.2147483645d".toList (.tuple [.int 1]) = .error .overflow := by
  rw [String.toList_ofList]
  decide +kernel
example : (parse "%.2147483644d %.2147483647s".toList).map (·.seq.map (·.type)) = .ok ["int", "str"] := by
  rw [String.toList_ofList]
  decide +kernel
/-- malformed strings: rejected by both (`error_means_malformed`, `malformed_rejected`) -/
example : (parse "%(a".toList).map (·.seq) = .error .Error := by
  rw [String.toList_ofList]
  decide +kernel
example : format "%(a".toList (.dict []) = .error .incompleteKey := by
  rw [String.toList_ofList]
  decide +kernel
example : (parse "100%".toList).map (·.seq) = .error .Error := by
  rw [String.toList_ofList]
  decide +kernel
example : format "%!".toList (.tuple [.int 1]) = .error .unsupportedChar := by
  rw [String.toList_ofList]
  decide +kernel
/-- outside the domain: the parser types `%5%` as consuming nothing, CPython 3.12 rejects it -/
example : (parse "%5%".toList).map (·.seq) = .ok [] := by
  rw [String.toList_ofList]
  decide +kernel
example : format "%5%".toList (.tuple []) = .error .notEnoughArgs := by
  rw [String.toList_ofList]
  decide +kernel
example : format "%*.*lu%%".toList (.tuple [.int 7, .int 5]) = .error .notEnoughArgs := by
  rw [String.toList_ofList]
  decide +kernel
example : format "%d".toList (.tuple [.int 7, .int 5]) = .error .notAllConverted := by
  rw [String.toList_ofList]
  decide +kernel
example : format "%5.2f%%".toList (.single .float) = .ok () := by
  rw [String.toList_ofList]
  decide +kernel
example : (parse "%-05.3d".toList).map (·.warnings) = .ok [.RedundantFlag, .RedundantFlag] := by
  rw [String.toList_ofList]
  decide +kernel
example : (parseW false "%-05.3d".toList).map (·.warnings) = .ok [] := by
  rw [String.toList_ofList]
  decide +kernel
example : (directives "a%(k)-5d%%%*s".toList).map (fun d => (d.key.map String.ofList, d.flags, d.width, d.conv)) =
    [(some "k", ['-'], .num 5, 'd'), (none, [], .num 0, '%'), (none, [], .star, 's')] := by
  rw [String.toList_ofList]
  decide +kernel

end

end I18n.Props.C12
