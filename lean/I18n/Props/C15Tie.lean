import I18n.Lemmas.DomainsGenerated
import I18n.Lemmas.GettextHdrGenerated
import I18n.Lemmas.HdrChkGenerated
import I18n.Lemmas.HdrMimeGenerated
import I18n.Lemmas.HdrHeadersGenerated
import I18n.Props.C15
import I18n.Lemmas.ExceptDec
/-!
# C15 — the tie by translation: the header checks REGENERATED from the source are the model

`I18n.Generated.Domains` (`lib/domains.py`, by `tools/translate/domains2lean.py`), `I18n.Generated.GettextHdr` (`lib/gettext.py`
`parse_header`, by `gettexthdr2lean.py`) and `I18n.Generated.HdrChk` (the header checks of `Checker` in `lib/check/__init__.py`, by
`hdrchk2lean.py`) are rewritten from the repository's current source on every run.  The theorems below prove each regenerated function equal, for ALL inputs (and every `str.lower`), to the hand-written
definition the theorems of `Props/C15.lean` are about, and restate the headline theorems of C15 about the regenerated definitions.
A changed source line changes the generated definition and breaks the equality proof — no test input involved.
-/
namespace I18n.Props.C15Tie
open I18n I18n.Hdr I18n.Spec.HeaderRules I18n.Generated

/-! ## `lib/domains.py` -/

/-- `is_special_domain(domain)` as regenerated: lower-cases, then the scanner (truth value of the match object) -/
theorem generated_is_special_domain_eq_model (lower : Str → Str) (d : Str) :
    Generated.Domains.is_special_domain lower d = .ok (I18n.Domains.isSpecialDomain lower d) := by
  unfold_generated_domains
  rfl

/-- `is_email_in_special_domain(email)` as regenerated: `ValueError` without `@` (the unpacking), else the model's verdict -/
theorem generated_is_email_in_special_domain_eq_model (lower : Str → Str) (email : Str) :
    Generated.Domains.is_email_in_special_domain lower email =
      if '@' ∈ email then .ok (I18n.Domains.isEmailInSpecialDomain lower email) else .error .ValueError :=
  I18n.Domains.Gen.is_email_in_special_domain_eq lower email

theorem generated_is_dotless_domain_eq_model (d : Str) :
    Generated.Domains.is_dotless_domain d = .ok (I18n.Domains.isDotlessDomain d) := by
  unfold_generated_domains
  rfl

theorem generated_is_email_in_dotless_domain_eq_model (email : Str) :
    Generated.Domains.is_email_in_dotless_domain email =
      if '@' ∈ email then .ok (I18n.Domains.isEmailInDotlessDomain email) else .error .ValueError :=
  I18n.Domains.Gen.is_email_in_dotless_domain_eq email

/-- **special_email_iff**, of the regenerated function: for an address with `@`, `is_email_in_special_domain` returns a truthy
    value iff the part after the last `@`, lower-cased, is a documented special-use domain -/
theorem special_email_iff_generated (x : Ext) (addr : Str) (h : '@' ∈ addr) :
    Generated.Domains.is_email_in_special_domain x.db.lower addr = .ok true ↔ SpecialEmail x addr := by
  rw [generated_is_email_in_special_domain_eq_model, if_pos h, ← C15.special_email_iff x addr h, Except.ok.injEq]

/-- **dotless_email_iff**, of the regenerated function -/
theorem dotless_email_iff_generated (addr : Str) (h : '@' ∈ addr) :
    Generated.Domains.is_email_in_dotless_domain addr = .ok true ↔ DotlessEmail addr := by
  rw [generated_is_email_in_dotless_domain_eq_model, if_pos h, ← C15.dotless_email_iff addr h, Except.ok.injEq]

/-- **special_domain_iff**, of the regenerated function (for a domain `str.lower` leaves alone) -/
theorem special_domain_iff_generated (lower : Str → Str) (d : Str) (hl : lower d = d) :
    Generated.Domains.is_special_domain lower d = .ok true ↔ SpecialDomain d := by
  rw [generated_is_special_domain_eq_model, ← C15.special_domain_iff d]
  unfold I18n.Domains.isSpecialDomain
  rw [hl, Except.ok.injEq]

/-- on an address with an `@` neither regenerated function raises (the callers test `'@' in …` first; what they do without one is in
    `generated_is_email_in_special_domain_eq_model`, `generated_is_email_in_dotless_domain_eq_model`) -/
theorem generated_email_functions_total (lower : Str → Str) (addr : Str) (h : '@' ∈ addr) :
    (∃ b, Generated.Domains.is_email_in_special_domain lower addr = .ok b) ∧
    (∃ b, Generated.Domains.is_email_in_dotless_domain addr = .ok b) := by
  rw [generated_is_email_in_special_domain_eq_model, generated_is_email_in_dotless_domain_eq_model, if_pos h, if_pos h]
  exact ⟨⟨_, rfl⟩, ⟨_, rfl⟩⟩

/-! ## `lib.gettext.parse_header` -/

/-- `parse_header(s)` as regenerated (the list of what the generator yields) = `Hdr.parseHeader s`; it raises nothing
    (`lines[-1]`, the unpacking and the `assert` cannot fail) -/
theorem generated_parse_header_eq_model (s : Str) : Generated.GettextHdr.parse_header s = .ok (parseHeader s) :=
  I18n.Hdr.Gen.parse_header_eq s

/-- **parse_header_lines**, of the regenerated function: one yielded value per `\n`-separated piece of the text (a final `\n`
    terminating the last), each classified by the field grammar -/
theorem parse_header_lines_generated (s : Str) :
    ∃ ls, LinesOf s ls ∧ Generated.GettextHdr.parse_header s = .ok (ls.map parseLine) :=
  ⟨headerLines s, (C15.parse_header_lines s).2, by rw [generated_parse_header_eq_model, (C15.parse_header_lines s).1]⟩

/-- **parse_header_field / parse_header_stray**, of the regenerated function: a yielded `{k: v}` is a line of the field grammar
    `k: v`, a yielded str is a line outside the grammar, unchanged -/
theorem parse_header_items_generated (s : Str) (ys : List Line) (h : Generated.GettextHdr.parse_header s = .ok ys) :
    ∃ ls, LinesOf s ls ∧ ys.length = ls.length ∧
      ∀ i (hi : i < ls.length) (hy : i < ys.length),
        (∀ k v, ys[i] = .field k v ↔ FieldLine ls[i] k v) ∧
        (∀ t, ys[i] = .stray t ↔ (t = ls[i] ∧ ¬ ∃ k v, FieldLine ls[i] k v)) := by
  rw [generated_parse_header_eq_model] at h
  injection h with h
  subst h
  refine ⟨headerLines s, (C15.parse_header_lines s).2, by simp [parseHeader], ?_⟩
  intro i hi hy
  have e : (parseHeader s)[i] = parseLine (headerLines s)[i] := by simp [parseHeader]
  rw [e]
  exact ⟨fun k v => C15.parse_header_field _ k v, fun t => C15.parse_header_stray _ t⟩

/-! ## `Checker.check_project`, `Checker.check_translator` (`lib/check/__init__.py`) -/

/-- `check_project(ctx)` as regenerated appends exactly the model's tag calls, in order, and raises nothing -/
theorem generated_check_project_eq_model (x : Ext) (m : Meta) (out : List TagCall) :
    Generated.HdrChk.check_project x m out = .ok (out ++ checkProject x m) :=
  I18n.Hdr.Gen.check_project_eq x m out

/-- `check_translator(ctx)` as regenerated appends exactly the model's tag calls, in order, and raises nothing -/
theorem generated_check_translator_eq_model (x : Ext) (m : Meta) (tmpl : Bool) (out : List TagCall) :
    Generated.HdrChk.check_translator x m tmpl out = .ok (out ++ checkTranslator x tmpl m) :=
  I18n.Hdr.Gen.check_translator_eq x m tmpl out

/-- **the Project-Id-Version / Report-Msgid-Bugs-To rules**, of the regenerated method: on the metadata of any header lines it
    emits `t` iff the documented rule for one of the two fields prescribes `t` -/
theorem check_project_rules_generated (x : Ext) (ls : List Line) (t : TagCall) :
    (∃ ts, Generated.HdrChk.check_project x (buildMeta ls []) [] = .ok ts ∧ t ∈ ts) ↔
      (ProjectRule x (fieldLines ls) t ∨ ReportRule x (fieldLines ls) t) := by
  rw [PyKit.ok_and_iff (generated_check_project_eq_model x _ []) (t ∈ ·), List.nil_append, checkProject, List.mem_append,
    mem_projectIdTags, mem_reportTags]

/-- **the Last-Translator / Language-Team rules**, of the regenerated method -/
theorem check_translator_rules_generated (x : Ext) (f : File) (ls : List Line) (t : TagCall) :
    (∃ ts, Generated.HdrChk.check_translator x (buildMeta ls []) f.kind.isTemplate [] = .ok ts ∧ t ∈ ts) ↔
      (TranslatorRule x f (fieldLines ls) t ∨ TeamRule x f (fieldLines ls) t) := by
  rw [PyKit.ok_and_iff (generated_check_translator_eq_model x _ _ []) (t ∈ ·), List.nil_append]
  exact mem_checkTranslator_rule x f ls t

/-- **value_reports_once**, of the regenerated methods: no diagnostic twice, whatever the multiplicity of fields and values -/
theorem value_reports_once_generated (x : Ext) (tmpl : Bool) (m : Meta) :
    (∃ ts, Generated.HdrChk.check_project x m [] = .ok ts ∧ ts.Nodup) ∧
    (∃ ts, Generated.HdrChk.check_translator x m tmpl [] = .ok ts ∧ ts.Nodup) := by
  rw [PyKit.ok_and_iff (generated_check_project_eq_model x m []) List.Nodup,
    PyKit.ok_and_iff (generated_check_translator_eq_model x m tmpl []) List.Nodup, List.nil_append, List.nil_append]
  exact ⟨(C15.value_reports_once x tmpl m).2.2.1, (C15.value_reports_once x tmpl m).2.2.2.1⟩

/-! ## `Checker.check_comments` -/

/-- `check_comments(ctx)` as regenerated: one `boilerplate-in-initial-comments` per line of `ctx.file.header.splitlines()` on which
    the alternation of the pattern literals (three always, three more outside templates) has a match — the model's tags, in order -/
theorem generated_check_comments_eq_model (x : Ext) (tmpl : Bool) (header : Str) (out : List TagCall) :
    Generated.HdrChk.check_comments x tmpl header out = .ok (out ++ checkComments x.db tmpl header) :=
  I18n.Hdr.Gen.check_comments_eq x tmpl header out

/-- **comment_search_spec**, of the regenerated method: a line is reported iff it is a line of the comments and at some position
    one of the patterns matches -/
theorem comment_search_spec_generated (x : Ext) (tmpl : Bool) (header : Str) (t : TagCall) :
    (∃ ts, Generated.HdrChk.check_comments x tmpl header [] = .ok ts ∧ t ∈ ts) ↔
      ∃ line ∈ splitlines header, (∃ pre rest, line = pre ++ rest ∧ commentHit x.db tmpl pre.getLast? rest = true) ∧
        t = ⟨"boilerplate-in-initial-comments", [.str line]⟩ := by
  rw [PyKit.ok_and_iff (generated_check_comments_eq_model x tmpl header []) (t ∈ ·), List.nil_append, checkComments]
  simp only [List.mem_filterMap, Option.ite_none_right_eq_some, Option.some.injEq, eq_comm (b := t), C15.comment_search_spec]
  rfl

/-! ## `Checker.check_mime` (with the charset fragment: `lib.encodings`, `lib.ling` calls = C20's model functions) -/

/-- `check_mime(ctx)` as regenerated — MIME-Version, Content-Transfer-Encoding, the Content-Type loop with its early `return`, the
    `try / except EncodingLookupError / else` of the charset fragment, `encodings` and `ctx.encoding` — returns exactly the model's tag
    calls (in order) and `ctx.encoding`, with the model's `CharsetCheck` parameter being C20's `Charset.checkCharset env · is_template
    language`; it raises iff the model crashes (which exception is forgotten: `erase`).  `hrt`: the names `propose_portable_encoding`
    can return survive the passage `str` ↔ code points (true of the live table: `generated_check_mime_eq_model_live`). -/
theorem generated_check_mime_eq_model (x : Ext) (env : Charset.Env) (m : Meta) (tmpl : Bool)
    (lang : Option (Option (List (List Nat)))) (out : List TagCall)
    (hrt : ∀ e n, Charset.propose env.tbl env.c2e env.lookup e = .ok (some n) → toName (ofName n) = n) :
    I18n.Hdr.Gen.erase (Generated.HdrChk.check_mime x env m tmpl lang out) =
      match checkMime x.db (fun n => Charset.checkCharset env n tmpl lang) m with
      | .ok o => .ok (out ++ o.tags, o.encoding)
      | .error () => .error () :=
  I18n.Hdr.Gen.check_mime_eq x env m tmpl lang out hrt

theorem generated_check_mime_eq_model_live (x : Ext) (env : Charset.Env) (hc2e : env.c2e = Generated.Charset.pycodecToEncoding)
    (m : Meta) (tmpl : Bool) (lang : Option (Option (List (List Nat)))) (out : List TagCall) :
    I18n.Hdr.Gen.erase (Generated.HdrChk.check_mime x env m tmpl lang out) =
      match checkMime x.db (fun n => Charset.checkCharset env n tmpl lang) m with
      | .ok o => .ok (out ++ o.tags, o.encoding)
      | .error () => .error () :=
  I18n.Hdr.Gen.check_mime_eq x env m tmpl lang out (I18n.Hdr.Gen.hrt_live env hc2e)

/-- **hdr_nocrash** for the MIME stage, of the regenerated method: with the live tables and codecs that behave (C20's `EncodeOk`),
    the regenerated `check_mime` returns -/
theorem check_mime_nocrash_generated (x : Ext) (env : Charset.Env) (characters : Option (Option (List (List Nat))))
    (htbl : env.tbl = Generated.Charset.portableEncodings) (hc2e : env.c2e = Generated.Charset.pycodecToEncoding)
    (henc : ∀ enc chars, characters = some (some chars) → Charset.EncodeOk (env.encode enc) chars)
    (m : Meta) (tmpl : Bool) (out : List TagCall) :
    ∃ r, Generated.HdrChk.check_mime x env m tmpl characters out = .ok r := by
  obtain ⟨o, ho⟩ := checkMime_ok x.db _ (fun n => Charset.Tables.checkCharset_total_shipped env n tmpl characters htbl hc2e henc) m
  exact ⟨_, I18n.Hdr.Gen.check_mime_of_checkMime_ok x env m tmpl characters out (I18n.Hdr.Gen.hrt_live env hc2e) o ho⟩

/-! ## `Checker.check_headers` -/

/-- `check_headers(ctx)` as regenerated — the header-entry discovery loop with its `continue` and `break`, the per-entry part
    (`parse_header` into the `defaultdict(list)` and the stray lines, the `Counter` of the flags, the position test `entry is not
    ctx.file[0]`, the unusual characters with `get_character_name` as the one crash site), the stray-line loop with its
    `seen_conflict_marker` state, and the loop over `sorted(metadata.items())` with the two hint sources — returns exactly the model's tag
    calls (in order) and `ctx.metadata`, and raises iff the model crashes.  `hl`: `str.lower` on ASCII strings is the ASCII lower-casing
    (field names are ASCII: `is_valid_field_name`; the registry is: `decide +kernel`). -/
theorem generated_check_headers_eq_model (x : Ext) (entries : List Entry) (tmpl : Bool) (out : List TagCall)
    (hl : ∀ s : Str, (∀ c ∈ s, c.toNat < 128) → x.db.lower s = asciiLower s) :
    I18n.Hdr.Gen.erase (Generated.HdrChk.check_headers x entries tmpl out) =
      match checkHeaders x tmpl entries with
      | none => .error ()
      | some h => .ok (out ++ h.tags, (), h.metadata) :=
  I18n.Hdr.Gen.check_headers_eq x entries tmpl out hl

/-- **metadata_lookup**, of the regenerated method: what it returns is the model's tag calls and the model's `metadata`, the dictionary of
    which `C15.metadata_lookup` says that `metadata[k]` is the values of the field lines named `k` of the header entry's text, in order -/
theorem check_headers_metadata_generated (x : Ext) (entries : List Entry) (tmpl : Bool)
    (hl : ∀ s : Str, (∀ c ∈ s, c.toNat < 128) → x.db.lower s = asciiLower s)
    (ts : List TagCall) (m : Meta) (h : Generated.HdrChk.check_headers x entries tmpl [] = .ok (ts, (), m)) :
    ∃ ho, checkHeaders x tmpl entries = some ho ∧ ts = ho.tags ∧ m = ho.metadata := by
  have e := generated_check_headers_eq_model x entries tmpl [] hl
  rw [h] at e
  cases hc : checkHeaders x tmpl entries with
  | none => rw [hc] at e; cases e
  | some ho =>
    rw [hc] at e
    simp only [I18n.Hdr.Gen.erase_ok, List.nil_append, Except.ok.injEq, Prod.mk.injEq] at e
    exact ⟨ho, rfl, e.1, e.2.2⟩

/-! Non-vacuity: the regenerated definitions are executable -/
open scoped I18n.ExceptDec

example : Generated.GettextHdr.parse_header "A: b \nstray\nX-y:\tz\n".toList =
    .ok [.field "A".toList "b".toList, .stray "stray".toList, .field "X-y".toList "z".toList] := by
  rw [generated_parse_header_eq_model]; decide +kernel


example : Generated.Domains.is_email_in_special_domain id "a@x.example.com".toList = .ok true := by
  rw [generated_is_email_in_special_domain_eq_model]; decide +kernel
example : Generated.Domains.is_email_in_special_domain id "a@notexample.com".toList = .ok false := by
  rw [generated_is_email_in_special_domain_eq_model]; decide +kernel
example : Generated.Domains.is_email_in_dotless_domain "a@b@localhost".toList = .ok true := by
  rw [generated_is_email_in_dotless_domain_eq_model]; decide +kernel
example : Generated.Domains.is_email_in_dotless_domain "nobody".toList = .error .ValueError := by
  rw [generated_is_email_in_dotless_domain_eq_model]; decide +kernel

end I18n.Props.C15Tie
