import I18n.Lemmas.GettextPfGenerated
import I18n.Props.C07
/-!
# C07 — the tie (first part): `parse_plural_forms` REGENERATED from `lib/gettext.py` is the model's reader

`I18n.Generated.GettextPf` is rewritten from the repository's current `lib/gettext.py` (`parse_plural_forms`, once per value of its
`strict` flag) by `tools/translate/gettextpf2lean.py` on every run.  The theorems below prove both regenerated definitions equal,
for ALL strings, to `CheckPlurals.parsePluralForms` / `parsePluralFormsStrict` — the first step of `check_plurals` and the reading of
every registry string — and restate `reader_is_reference` about the regenerated reader.  The match object of the pinned header
regex is the model's hand-written scanner `CheckPlurals.search` on both sides (tied to the live pattern's `re._parser` tree by
`header_regex_pin` and the `header-search` stream); the expression parser is C04's.  What `check_plurals` (lib/check/__init__.py) does
after this parse is the second part, `Props/C07ChkTie.lean`; what it does before is hand-modelled and tied by the `check-plurals` stream.
-/
namespace I18n.Props.C07Tie
open I18n I18n.Py I18n.Plural I18n.CheckPlurals I18n.Spec.PluralForms I18n.Generated

/-- `parse_plural_forms(s, strict=False)` as regenerated = `parsePluralForms` (results and exceptions) -/
theorem generated_parse_plural_forms_lax_eq_model (s : List Char) :
    GettextPf.parse_plural_forms_lax s = CheckPlurals.Py.ofResult (parsePluralForms s) :=
  Gen.lax_eq s

/-- `parse_plural_forms(s)` (strict) as regenerated = `parsePluralFormsStrict` -/
theorem generated_parse_plural_forms_strict_eq_model (s : List Char) :
    GettextPf.parse_plural_forms_strict s =
      (match CheckPlurals.Py.ofResult (parsePluralFormsStrict s) with
       | .ok (n, e, _, _) => .ok (n, e)
       | .error x => .error x) :=
  Gen.strict_eq s

/-- **reader_is_reference**, of the regenerated reader: `parse_plural_forms(v, strict=False)` succeeds exactly when `v` contains a
    declaration and returns it (nplurals, expression, text before, text after); otherwise `PluralFormsSyntaxError`; `ValueError` is
    unreachable -/
theorem reader_is_reference_generated (v : List Char) :
    GettextPf.parse_plural_forms_lax v = match declOf v with
      | some d => .ok (d.n, d.e, d.ljunk, d.rjunk)
      | none => .error .syntax := by
  rw [generated_parse_plural_forms_lax_eq_model, C07.reader_is_reference]
  cases declOf v <;> rfl

/-- the strict reader accepts exactly the values that are a declaration and nothing else -/
theorem strict_reader_generated (v : List Char) (n : Nat) (e : Expr) :
    GettextPf.parse_plural_forms_strict v = .ok (n, e) ↔ parsePluralFormsStrict v = .ok n e [] [] := by
  rw [generated_parse_plural_forms_strict_eq_model]
  simp only [parsePluralFormsStrict]
  cases parsePluralForms v with
  | ok n' e' lj rj =>
    cases lj <;> cases rj <;> simp [CheckPlurals.Py.ofResult]
  | syntaxError => simp [CheckPlurals.Py.ofResult]
  | valueError => simp [CheckPlurals.Py.ofResult]


example : GettextPf.parse_plural_forms_lax "x".toList = .error .syntax := by
  rw [generated_parse_plural_forms_lax_eq_model]; rfl

end I18n.Props.C07Tie
