import I18n.Lemmas.MoParse
import I18n.Lemmas.MoDefects
import I18n.Lemmas.ExceptDec
/-!
# C09 — malformed MO files are rejected cleanly and never mis-read

Same model as C08 (`Mo.parse`, the line-by-line model of `lib/moparser.py`, with every Python partial operation
of the source as an explicit `Err.crash` outcome) plus `Mo.checkerLoad`, the model of the loading part of
`Checker.check`.  All theorems are for every byte string and every codec database.
-/
namespace I18n.Props.C09
open I18n.Mo I18n.Mo.Spec

/-- **Closed error set.**  Whatever the bytes, the loader returns, raises `moparser.SyntaxError`, or raises
    `UnicodeDecodeError` — `struct.unpack` on a short slice, a failing tuple unpacking, `bytes < None` and the
    `assert`s of the source cannot happen. -/
theorem parse_total_closed (db : CodecDB) (given : Option Bytes) (b : Bytes) (c : Crash) :
    parse db given b ≠ .error (.crash c) := by
  rcases parse_cases db given b with ⟨x, hx⟩ | ⟨hx, _⟩ | ⟨f, _, hf, _⟩ <;> simp [*]

/-- **Acceptance ⇒ well-formedness, and nothing is mis-read.**  If the loader returns a file then the bytes are a
    legal MO file of some well-formed catalog `cat` (every descriptor and string inside the file, NUL after each
    string, NUL structure consistent, keys in order) and the returned entries are exactly the decoding of that
    catalog's keys and values (`expected`: field by field, in file order). -/
theorem parse_sound (db : CodecDB) (given : Option Bytes) (b : Bytes) (f : MoFile) (h : parse db given b = .ok f) :
    ∃ cat, Encodes b cat f.possibleHiddenStrings ∧ (∀ e ∈ cat, e.WF) ∧
      expected db given cat f.possibleHiddenStrings = .ok f := by
  obtain ⟨cat, henc, hwf⟩ := parse_ok h
  exact ⟨cat, henc, hwf, by rw [← parse_complete db given henc hwf]; exact h⟩

/-- with C08's completeness: the loader accepts exactly the legal files whose text is decodable -/
theorem parse_ok_iff (db : CodecDB) (given : Option Bytes) (b : Bytes) (f : MoFile) :
    parse db given b = .ok f ↔
      ∃ cat, Encodes b cat f.possibleHiddenStrings ∧ (∀ e ∈ cat, e.WF) ∧
        expected db given cat f.possibleHiddenStrings = .ok f := by
  constructor
  · exact parse_sound db given b f
  · rintro ⟨cat, henc, hwf, hexp⟩
    rw [parse_complete db given henc hwf]; exact hexp

/-- a file that is not a legal MO file of any well-formed catalog is never loaded -/
theorem reject_not_encodes (db : CodecDB) (given : Option Bytes) (b : Bytes)
    (h : ¬ WellFormedFile b) :
    (∃ x, parse db given b = .error (.syntax x)) ∨ parse db given b = .error .decode := by
  rcases parse_cases db given b with hx | ⟨hx, _⟩ | ⟨f, cat, _, henc, hwf⟩
  · exact Or.inl hx
  · exact Or.inr hx
  · exact absurd ⟨cat, _, henc, hwf⟩ h

/-- **No string is mis-read.**  For a loaded file there are the two table offsets of the header and, for every
    returned entry `i`, raw key and value bytes such that: the descriptors at `O + 8i` / `T + 8i` hold their
    (length, offset), the bytes are present in the file at exactly that offset and length, inside the file, and
    followed by NUL (`StringAt`), and the entry is the decoding (`buildEntry`: NUL split, EOT split, codec) of exactly
    those bytes. -/
theorem returned_bytes_present (db : CodecDB) (given : Option Bytes) (b : Bytes) (f : MoFile) (h : parse db given b = .ok f) :
    ∃ (be : Bool) (ko to : Nat) (cs : Bytes) (raw : List (Bytes × Bytes)),
      WordAt be b 12 ko ∧ WordAt be b 16 to ∧ raw.length = f.entries.length ∧
      ∀ i (h1 : i < raw.length) (h2 : i < f.entries.length),
        StringAt be b (ko + 8 * i) raw[i].1 ∧ StringAt be b (to + 8 * i) raw[i].2 ∧
        buildEntry db cs (split 0 2 raw[i].1) raw[i].2 (splitAll 0 raw[i].2) = .ok f.entries[i] := by
  obtain ⟨cat, henc, hwf, hexp⟩ := parse_sound db given b f h
  obtain ⟨be, ko, to, hw, hent⟩ := henc.tables
  unfold expected at hexp
  cases hd : decodeEntries db (charsetOf db given cat) cat with
  | error x => rw [hd] at hexp; cases hexp
  | ok ds =>
    rw [hd] at hexp
    simp at hexp
    obtain ⟨hl, hi⟩ := decodeEntries_get db _ _ ds hd
    have hfe : f.entries = ds := by rw [← hexp]
    refine ⟨be, ko, to, charsetOf db given cat, cat.map (fun e => (e.key, e.value)), hw.keys, hw.values, by simp [hfe, hl], ?_⟩
    intro i h1 h2
    have hic : i < cat.length := by simpa using h1
    simp only [List.getElem_map]
    refine ⟨(hent i hic).1, (hent i hic).2, ?_⟩
    rw [buildEntry_spec db _ (hwf _ (List.getElem_mem hic))]
    have := hi i (by simpa using hic) (by rw [← hfe]; exact h2)
    rw [this]
    simp [hfe]

/-! ### one rejection theorem per clause of the statement

Each defect, stated on the bytes alone, excludes `WellFormedFile`: that, `¬ WellFormedFile b`, is all the eight
statements say, and `parse` does not occur in them.  By `reject_not_encodes` the loader then raises (the MO syntax error
— or the decode error of an *earlier* entry; `defect_rejected` puts the two steps together), and by
`checker_rejects_malformed` below the checker reports `invalid-mo-file` and derives nothing else from the file. -/

theorem reject_magic_clause (b : Bytes) (h : BadMagic b) : ¬ WellFormedFile b := not_wf_of_BadMagic h
theorem reject_major_clause (b : Bytes) (h : BadMajor b) : ¬ WellFormedFile b := not_wf_of_BadMajor h
theorem reject_header_beyond_end (b : Bytes) (h : HeaderBeyondEnd b) : ¬ WellFormedFile b := not_wf_of_HeaderBeyondEnd h
theorem reject_table_beyond_end (b : Bytes) (h : TableBeyondEnd b) : ¬ WellFormedFile b := not_wf_of_TableBeyondEnd h
theorem reject_string_beyond_end (b : Bytes) (h : StringBeyondEnd b) : ¬ WellFormedFile b := not_wf_of_StringBeyondEnd h
theorem reject_missing_terminator (b : Bytes) (h : MissingTerminator b) : ¬ WellFormedFile b := not_wf_of_MissingTerminator h
theorem reject_nul_structure (b : Bytes) (h : BadNulStructure b) : ¬ WellFormedFile b := not_wf_of_BadNulStructure h
theorem reject_keys_out_of_order (b : Bytes) (h : KeysOutOfOrder b) : ¬ WellFormedFile b := not_wf_of_KeysOutOfOrder h

/-- the clauses together, at the loader: any of the defects ⇒ the loader raises its syntax error or a decode error -/
theorem defect_rejected (db : CodecDB) (given : Option Bytes) (b : Bytes)
    (h : BadMagic b ∨ BadMajor b ∨ HeaderBeyondEnd b ∨ TableBeyondEnd b ∨ StringBeyondEnd b ∨ MissingTerminator b ∨
      BadNulStructure b ∨ KeysOutOfOrder b) :
    (∃ x, parse db given b = .error (.syntax x)) ∨ parse db given b = .error .decode :=
  reject_not_encodes db given b (defect_not_wf h)

/-! ### the first clauses, with the exact error -/

theorem reject_bad_magic (db : CodecDB) (given : Option Bytes) (b : Bytes)
    (h1 : ¬ Slice b 0 leMagic) (h2 : ¬ Slice b 0 beMagic) :
    parse db given b = .error (.syntax .magic) := by
  rcases parse_magic_cases db given b with ⟨_ | _, hm, _⟩ | h
  · exact absurd hm h1
  · exact absurd hm h2
  · exact h

theorem reject_major (db : CodecDB) (given : Option Bytes) (b : Bytes) (be : Bool) (rev : Nat)
    (hm : Slice b 0 (magicOf be)) (hrev : WordAt be b 4 rev) (h : rev / 65536 > 1) :
    parse db given b = .error (.syntax (.major (rev / 65536))) := by
  rw [parse_of_magic db given hm, parseBody_eq]
  simp only [read1_of_WordAt hrev, h, if_true]

/-- a file cut inside the 20 header bytes the loader needs is a syntax error ('truncated file', or the magic /
    major-revision error if those bytes are already wrong) -/
theorem reject_short_header (db : CodecDB) (given : Option Bytes) (b : Bytes) (h : b.length < 20) :
    ∃ x, parse db given b = .error (.syntax x) := by
  rcases parse_magic_cases db given b with ⟨be, _, hp⟩ | hp
  · rw [hp]
    -- the header reads cannot all succeed: the word at 16 would lie inside the file
    refine (parseBody_reads db given b be).resolve_right ?_
    rintro ⟨rev, n, hid, ko, to, hrev, hmaj, hn, hflag, hko, hto, hb⟩
    have := hto.length_le
    omega
  · exact ⟨.magic, hp⟩

/-! ### `Checker.check`: which tags, and nothing after `invalid-mo-file` -/

/-- what the checker relies on: ISO-8859-1 is ASCII-compatible and decodes every byte string -/
structure Latin1OK (db : CodecDB) : Prop where
  compat : db.asciiCompatible latin1Name = true
  total : ∀ bs, (db.decode latin1Name bs).isSome

/-- every outcome of the loading phase of `Checker.check` -/
theorem checker_cases (db : CodecDB) (hl : Latin1OK db) (b : Bytes) :
    (∃ f, parse db none b = .ok f ∧ checkerLoad db b = ⟨[], some f, false, none⟩) ∨
    (∃ x, parse db none b = .error (.syntax x) ∧ checkerLoad db b = ⟨[.invalidMoFile x], none, false, none⟩) ∨
    (parse db none b = .error .decode ∧
      ((∃ f, parse db (some latin1Name) b = .ok f ∧ checkerLoad db b = ⟨[.brokenEncoding], some f, true, none⟩) ∨
       (∃ x, parse db (some latin1Name) b = .error (.syntax x) ∧
          checkerLoad db b = ⟨[.invalidMoFile x, .brokenEncoding], none, true, none⟩))) := by
  rcases parse_cases db none b with ⟨x, hx⟩ | ⟨hx, _⟩ | ⟨f, _, hf, _⟩
  · right; left; exact ⟨x, hx, by simp only [checkerLoad, hx]⟩
  · right; right
    refine ⟨hx, ?_⟩
    rcases parse_cases db (some latin1Name) b with ⟨x, hy⟩ | ⟨hy, _⟩ | ⟨f, _, hf, _⟩
    · right; exact ⟨x, hy, by simp only [checkerLoad, hx, hy]⟩
    · exact absurd hy (parse_no_decode db hl.compat hl.total b)
    · left; exact ⟨f, hf, by simp only [checkerLoad, hx, hf]⟩
  · left; exact ⟨f, hf, by simp only [checkerLoad, hf]⟩

/-- no exception leaves the loading phase -/
theorem checker_closed (db : CodecDB) (hl : Latin1OK db) (b : Bytes) : (checkerLoad db b).uncaught = none := by
  rcases checker_cases db hl b with ⟨f, _, h⟩ | ⟨x, _, h⟩ | ⟨_, ⟨f, _, h⟩ | ⟨x, _, h⟩⟩ <;> rw [h]

/-- **`invalid-mo-file` then return**: once the tag is emitted the method does not go on to any `check_*`
    (the only other tag possible is the pending `broken-encoding` of the `finally` clause). -/
theorem no_further_tags (db : CodecDB) (b : Bytes) (x : SynErr) (h : Tag.invalidMoFile x ∈ (checkerLoad db b).tags) :
    (checkerLoad db b).file = none ∧
    ((checkerLoad db b).tags = [.invalidMoFile x] ∨ (checkerLoad db b).tags = [.invalidMoFile x, .brokenEncoding]) := by
  revert h
  -- the six results of `checkerLoad`, in the order of its definition; only the second and the fifth hold the tag
  fun_cases checkerLoad db b
  case case1 => exact nofun
  case case2 e _ =>
    intro h
    cases List.mem_singleton.1 h
    exact ⟨rfl, .inl rfl⟩
  case case3 => exact nofun
  case case4 =>
    intro h
    cases List.mem_singleton.1 h
  case case5 e _ _ =>
    intro h
    rcases List.mem_cons.1 h with h | h
    · cases h
      exact ⟨rfl, .inr rfl⟩
    · cases List.mem_singleton.1 h
  case case6 =>
    intro h
    cases List.mem_singleton.1 h

/-- **Malformed ⇒ `invalid-mo-file`.**  A file that is not a legal MO file of any well-formed catalog gets the tag
    (first), and nothing is loaded. -/
theorem checker_rejects_malformed (db : CodecDB) (hl : Latin1OK db) (b : Bytes) (h : ¬ WellFormedFile b) :
    ∃ x, (checkerLoad db b).tags.head? = some (.invalidMoFile x) ∧ (checkerLoad db b).file = none := by
  have hno : ∀ given f, parse db given b ≠ .ok f := by
    intro given f hf
    obtain ⟨cat, henc, hwf⟩ := parse_ok hf
    exact h ⟨cat, _, henc, hwf⟩
  rcases checker_cases db hl b with ⟨f, hf, _⟩ | ⟨x, _, hc⟩ | ⟨_, ⟨f, hf, _⟩ | ⟨x, _, hc⟩⟩
  · exact absurd hf (hno _ _)
  · exact ⟨x, by rw [hc]; simp⟩
  · exact absurd hf (hno _ _)
  · exact ⟨x, by rw [hc]; simp⟩

/-- the clauses together, at the checker: any of the defects ⇒ `invalid-mo-file`, and the method returns -/
theorem defect_reported (db : CodecDB) (hl : Latin1OK db) (b : Bytes)
    (h : BadMagic b ∨ BadMajor b ∨ HeaderBeyondEnd b ∨ TableBeyondEnd b ∨ StringBeyondEnd b ∨ MissingTerminator b ∨
      BadNulStructure b ∨ KeysOutOfOrder b) :
    ∃ x, (checkerLoad db b).tags.head? = some (.invalidMoFile x) ∧ (checkerLoad db b).file = none :=
  checker_rejects_malformed db hl b (defect_not_wf h)

/-- **Well-formed ⇒ loaded**, with `broken-encoding` exactly when the text does not decode in the declared charset. -/
theorem checker_accepts_wellformed (db : CodecDB) (hl : Latin1OK db) (b : Bytes) (cat : List CatEntry) (hidden : Bool)
    (h : Encodes b cat hidden) (hwf : ∀ e ∈ cat, e.WF) :
    (checkerLoad db b).file.isSome ∧ (∀ x, Tag.invalidMoFile x ∉ (checkerLoad db b).tags) ∧
    (Tag.brokenEncoding ∈ (checkerLoad db b).tags ↔ expected db none cat hidden = .error .decode) := by
  have hc := parse_complete db none h hwf
  have hc' := parse_complete db (some latin1Name) h hwf
  rcases checker_cases db hl b with ⟨f, hf, hl'⟩ | ⟨x, hx, _⟩ | ⟨hd, ⟨f, hf, hl'⟩ | ⟨x, hx, _⟩⟩
  · rw [hl']; refine ⟨rfl, by simp, ?_⟩
    rw [← hc, hf]; simp
  · rw [hc] at hx; exact absurd hx (expected_not_syntax db none cat hidden x)
  · rw [hl']; refine ⟨rfl, by simp, ?_⟩
    rw [← hc, hd]; simp
  · rw [hc'] at hx; exact absurd hx (expected_not_syntax db _ cat hidden x)

/-- **Undecodable text ⇒ `broken-encoding`** (and only then) -/
theorem broken_encoding_iff (db : CodecDB) (hl : Latin1OK db) (b : Bytes) :
    Tag.brokenEncoding ∈ (checkerLoad db b).tags ↔ parse db none b = .error .decode := by
  rcases checker_cases db hl b with ⟨f, hf, h⟩ | ⟨x, hx, h⟩ | ⟨hd, ⟨f, _, h⟩ | ⟨x, _, h⟩⟩ <;> rw [h] <;> simp [*]

/-! Non-vacuity -/

section
open scoped I18n.ExceptDec

example : parse asciiDB none [0xDE, 0x12, 0x04, 0x95] = .error (.syntax .truncated) := by decide +kernel
example : parse asciiDB none [0xDE, 0x12, 0x04] = .error (.syntax .magic) := by decide +kernel
set_option maxRecDepth 8192 in
example : parse asciiDB none [0x95, 0x04, 0x12, 0xDE, 0, 2, 0, 0] = .error (.syntax (.major 2)) := by decide +kernel
/-- N = 1, tables at 20 and 28, key descriptor (length 1, offset 36) but the file ends at 37: the terminator probe fails -/
example : parse asciiDB none
    [0xDE, 0x12, 0x04, 0x95, 0,0,0,0, 1,0,0,0, 20,0,0,0, 28,0,0,0, 1,0,0,0, 36,0,0,0, 0,0,0,0, 36,0,0,0, 65]
    = .error (.syntax .truncated) := by decide +kernel
/-- … and with one more non-NUL byte: not terminated -/
example : parse asciiDB none
    [0xDE, 0x12, 0x04, 0x95, 0,0,0,0, 1,0,0,0, 20,0,0,0, 28,0,0,0, 1,0,0,0, 36,0,0,0, 0,0,0,0, 36,0,0,0, 65, 66]
    = .error (.syntax .msgidNotTerminated) := by decide +kernel
set_option maxRecDepth 8192 in
/-- undecodable text -/
example : parse asciiDB none
    [0xDE, 0x12, 0x04, 0x95, 0,0,0,0, 1,0,0,0, 20,0,0,0, 28,0,0,0, 1,0,0,0, 36,0,0,0, 0,0,0,0, 37,0,0,0, 0xE9, 0]
    = .error .decode := by decide +kernel

end

end I18n.Props.C09
