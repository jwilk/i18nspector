import I18n.Lemmas.FmtArgsGenerated
import I18n.Props.C14
/-!
# C14 — the tie: the `check_args` REGENERATED from the source are the comparators the theorems are about

`I18n.Generated.FmtArgs` is rewritten from the repository's current `lib/check/msgformat/{c,python,pybrace,perlbrace}.py`
(`Checker.check_args`) and `lib/strformat/c.py` (`FormatString.get_last_integer_conversion`) by `tools/translate/fmtargs2lean.py`
on every run.  The theorems below prove, for ALL inputs, that each regenerated definition computes the hand-written model function
of `Model/FmtCheck.lean`; consequently every theorem of `Props/C14.lean` holds of the regenerated text, and `check_message` /
`_check_message_formats` over the regenerated comparators (`FmtCheck.Gen`) is the model's.  The headline theorems are restated
about the regenerated definitions.  A change of the source changes the generated definitions and these proofs stop compiling
(or the translator reports the construct as outside its subset) — no test input is involved.
-/
namespace I18n.Props.C14Tie
open I18n I18n.FmtCheck I18n.FmtSig I18n.Spec.FmtCompare I18n.Spec.Printf I18n.Generated

/-- `FormatString.get_last_integer_conversion(n=n)` as regenerated (`lib/strformat/c.py`) = `getLastIntConv` -/
theorem generated_get_last_integer_conversion_eq_model (f : CFmtX) (n : Nat) :
    FmtArgs.get_last_integer_conversion f ↑n = getLastIntConv f n :=
  Gen.glic_eq f n

/-- … and for a negative `n` (outside the model's `Nat`) it raises `IndexError`, as `if n <= 0: raise IndexError` says -/
theorem generated_get_last_integer_conversion_neg (f : CFmtX) (n : Int) (h : n < 0) :
    FmtArgs.get_last_integer_conversion f n = .error .IndexError := by
  have h1 : ¬ (n > (f.arguments.length : Int)) := by omega
  have h2 : n ≤ 0 := by omega
  simp [FmtArgs.get_last_integer_conversion, h1, h2]

/-- C `check_args` as regenerated = `checkArgsC` (the tag calls it appends to an empty output) -/
theorem generated_c_check_args_eq_model (pfx : Extra) (srcLoc : List Char) (src : CFmtX) (dstLoc : List Char) (dst : CFmtX) (ok : Bool) :
    FmtArgs.C.check_args [] pfx () srcLoc src dstLoc dst ok = checkArgsC pfx srcLoc src dstLoc dst ok := by
  rw [Gen.c_check_args_eq, Gen.appendTags_nil]

/-- Python-% `check_args` as regenerated = `checkArgsPython` -/
theorem generated_python_check_args_eq_model (pfx : Extra) (srcLoc : List Char) (src : PyFmt.Result) (dstLoc : List Char)
    (dst : PyFmt.Result) (ok : Bool) :
    FmtArgs.Python.check_args [] pfx () srcLoc src dstLoc dst ok = checkArgsPython pfx srcLoc src dstLoc dst ok := by
  rw [Gen.python_check_args_eq, Gen.appendTags_nil]

/-- python-brace `check_args` as regenerated = `checkArgsPyBrace` -/
theorem generated_pybrace_check_args_eq_model (pfx : Extra) (srcLoc : List Char) (src : PyBraceSig) (dstLoc : List Char)
    (dst : PyBraceSig) (ok : Bool) :
    FmtArgs.PyBrace.check_args [] pfx () srcLoc src dstLoc dst ok = checkArgsPyBrace pfx srcLoc src dstLoc dst ok := by
  rw [Gen.pybrace_check_args_eq, Gen.appendTags_nil]

/-- perl-brace `check_args` as regenerated = `checkArgsPerlBrace` -/
theorem generated_perlbrace_check_args_eq_model (pfx : Extra) (srcLoc : List Char) (src : PerlBraceSig) (dstLoc : List Char)
    (dst : PerlBraceSig) (ok : Bool) :
    FmtArgs.PerlBrace.check_args [] pfx () srcLoc src dstLoc dst ok = checkArgsPerlBrace pfx srcLoc src dstLoc dst ok := by
  rw [Gen.perl_check_args_eq, Gen.appendTags_nil]

/-- with output already emitted: the regenerated functions append exactly the model's tag calls -/
theorem generated_check_args_append (out : List TagCall) (pfx : Extra) (srcLoc dstLoc : List Char) (ok : Bool) :
    (∀ s d, FmtArgs.C.check_args out pfx () srcLoc s dstLoc d ok = Gen.appendTags out (checkArgsC pfx srcLoc s dstLoc d ok)) ∧
    (∀ s d, FmtArgs.Python.check_args out pfx () srcLoc s dstLoc d ok = Gen.appendTags out (checkArgsPython pfx srcLoc s dstLoc d ok)) ∧
    (∀ s d, FmtArgs.PyBrace.check_args out pfx () srcLoc s dstLoc d ok = Gen.appendTags out (checkArgsPyBrace pfx srcLoc s dstLoc d ok)) ∧
    (∀ s d, FmtArgs.PerlBrace.check_args out pfx () srcLoc s dstLoc d ok = Gen.appendTags out (checkArgsPerlBrace pfx srcLoc s dstLoc d ok)) :=
  ⟨fun s d => Gen.c_check_args_eq out pfx srcLoc s dstLoc d ok, fun s d => Gen.python_check_args_eq out pfx srcLoc s dstLoc d ok,
   fun s d => Gen.pybrace_check_args_eq out pfx srcLoc s dstLoc d ok, fun s d => Gen.perl_check_args_eq out pfx srcLoc s dstLoc d ok⟩

/-- the six back ends over the regenerated comparators are the model's back ends -/
theorem generated_backends_eq_model :
    Gen.cBackend = FmtCheck.cBackend ∧ Gen.pyBackend = FmtCheck.pyBackend ∧ Gen.pyBraceBackend = FmtCheck.pyBraceBackend ∧
    Gen.perlBraceBackend = FmtCheck.perlBraceBackend ∧ Gen.pyBraceStrBackend = FmtCheck.pyBraceStrBackend ∧
    Gen.perlBraceStrBackend = FmtCheck.perlBraceStrBackend := by
  refine ⟨?_, ?_, ?_, ?_, ?_, ?_⟩
  · simp only [Gen.cBackend, Gen.withArgs, generated_c_check_args_eq_model]; rfl
  · simp only [Gen.pyBackend, Gen.withArgs, generated_python_check_args_eq_model]; rfl
  · simp only [Gen.pyBraceBackend, Gen.withArgs, generated_pybrace_check_args_eq_model]; rfl
  · simp only [Gen.perlBraceBackend, Gen.withArgs, generated_perlbrace_check_args_eq_model]; rfl
  · simp only [Gen.pyBraceStrBackend, Gen.withArgs, generated_pybrace_check_args_eq_model]; rfl
  · simp only [Gen.perlBraceStrBackend, Gen.withArgs, generated_perlbrace_check_args_eq_model]; rfl

/-- **The tie at the level of the property**: `Checker._check_message_formats` (sorted format flags → `check_message` of each
    checker) over the REGENERATED comparators is the model `checkFormats` all message-level theorems of C14 are about. -/
theorem generated_check_formats_eq_model (ctx : Ctx) (fl : Flags) (formats : List (List Char × KMsg)) :
    Gen.checkFormats ctx fl formats = FmtCheck.checkFormats ctx fl formats := by
  obtain ⟨h1, h2, h3, h4, h5, h6⟩ := generated_backends_eq_model
  have hc : ∀ m, Gen.check ctx fl m = KMsg.check ctx fl m := by
    intro m; cases m <;> simp only [Gen.check, KMsg.check, h1, h2, h3, h4, h5, h6]
  have hr : ∀ l, Gen.runAll ctx fl l = FmtCheck.runAll ctx fl l := by
    intro l
    induction l with
    | nil => rfl
    | cons p l ih =>
      obtain ⟨name, m⟩ := p
      simp only [Gen.runAll, FmtCheck.runAll, hc, ih]
      split
      · cases KMsg.check ctx fl m with
        | error e => rfl
        | ok t => cases FmtCheck.runAll ctx fl l <;> rfl
      · rfl
  simp only [Gen.checkFormats, FmtCheck.checkFormats, hr]

/-- C, `args_tags_iff`, of the regenerated `check_args` -/
theorem c_args_tags_iff_generated (pfx : Extra) (srcLoc dstLoc : List Char) (omittedOk : Bool) {src dst : List Item}
    (hs : Valid src) (hd : Valid dst) :
    ∃ fs fd tags, cParse (render src) = .ok fs ∧ cParse (render dst) = .ok fd ∧
      FmtArgs.C.check_args [] pfx () srcLoc fs dstLoc fd omittedOk = .ok tags ∧
      (cExcessTag pfx srcLoc fs dstLoc fd ∈ tags ↔ Excess (typesOf (signature src)) (typesOf (signature dst))) ∧
      (cMissingTag pfx srcLoc fs dstLoc fd ∈ tags ↔ Fewer (typesOf (signature src)) (typesOf (signature dst)) ∧
        cTolerated fs ((signature src).length - (signature dst).length) omittedOk = false) ∧
      (∀ a b, cTypeTag pfx srcLoc dstLoc (a, b) ∈ tags ↔ ∃ i, TypeDiffAt (typesOf (signature src)) (typesOf (signature dst)) i a b) ∧
      (∀ t ∈ tags, t = cExcessTag pfx srcLoc fs dstLoc fd ∨ t = cMissingTag pfx srcLoc fs dstLoc fd ∨
        ∃ a b, t = cTypeTag pfx srcLoc dstLoc (a, b)) ∧
      (tags.filter (fun t => t.name == "c-format-string-argument-type-mismatch")).length =
        (typeDiffs (typesOf (signature src)) (typesOf (signature dst))).length := by
  simp only [generated_c_check_args_eq_model]
  exact C14.c_args_tags_iff pfx srcLoc dstLoc omittedOk hs hd

/-- C: the same arguments at the same types are never flagged, of the regenerated `check_args` -/
theorem c_same_signature_silent_generated (pfx : Extra) (srcLoc dstLoc : List Char) (omittedOk : Bool) {src dst : List Item}
    (hs : Valid src) (hd : Valid dst) (h : typesOf (signature src) = typesOf (signature dst)) :
    ∃ fs fd, cParse (render src) = .ok fs ∧ cParse (render dst) = .ok fd ∧
      FmtArgs.C.check_args [] pfx () srcLoc fs dstLoc fd omittedOk = .ok [] := by
  simp only [generated_c_check_args_eq_model]
  exact C14.c_same_signature_silent pfx srcLoc dstLoc omittedOk hs hd h

/-- Python-%, `args_tags_iff`, of the regenerated `check_args` -/
theorem python_args_tags_iff_generated (pfx : Extra) (srcLoc dstLoc : List Char) (omittedOk : Bool) {s s' : List Char}
    {src dst : PyFmt.Result} (h : pyParse s = .ok src) (h' : pyParse s' = .ok dst) :
    ∃ tags, FmtArgs.Python.check_args [] pfx () srcLoc src dstLoc dst omittedOk = .ok tags ∧
      ∀ t, t ∈ tags ↔
        (NumberDiffers (pySeq src) (pySeq dst) ∧ t = pyNumberTag pfx srcLoc src dstLoc dst) ∨
        (∃ i a b, TypeDiffAt (pySeq src) (pySeq dst) i a b ∧ t = pyTypeTag pfx srcLoc dstLoc (a, b)) ∨
        (∃ k a b, TypeDiffKey (· = ·) (pyNamed src) (pyNamed dst) k a b ∧ t = pyTypeTag pfx srcLoc dstLoc (a, b)) ∨
        (∃ k, Unknown (pyNamed src) (pyNamed dst) k ∧ t = pyUnknownTag pfx srcLoc dstLoc k) ∨
        (∃ k, Missing (pyNamed src) (pyNamed dst) k ∧ pyTolerated src dst omittedOk = false ∧
          t = pyMissingTag pfx srcLoc dstLoc k) := by
  simp only [generated_python_check_args_eq_model]
  exact C14.python_args_tags_iff pfx srcLoc dstLoc omittedOk h h'

/-- python-brace, `args_tags_iff`, of the regenerated `check_args` -/
theorem pybrace_args_tags_iff_generated (pfx : Extra) (srcLoc dstLoc : List Char) (omittedOk : Bool) (src dst : PyBraceSig)
    (hs : BraceWf src) (hd : BraceWf dst) :
    ∃ tags, FmtArgs.PyBrace.check_args [] pfx () srcLoc src dstLoc dst omittedOk = .ok tags ∧
      ∀ t, t ∈ tags ↔
        (∃ k a b, TypeDiffKey Compatible (braceNamed src) (braceNamed dst) k a b ∧ t = braceTypeTag pfx srcLoc dstLoc a b) ∨
        (∃ k, Unknown (braceNamed src) (braceNamed dst) k ∧ t = braceUnknownTag pfx srcLoc dstLoc k) ∨
        (∃ k, Missing (braceNamed src) (braceNamed dst) k ∧ braceTolerated src dst omittedOk = false ∧
          t = braceMissingTag pfx srcLoc dstLoc k) := by
  simp only [generated_pybrace_check_args_eq_model]
  exact C14.pybrace_args_tags_iff pfx srcLoc dstLoc omittedOk src dst hs hd

/-- perl-brace, `args_tags_iff`, of the regenerated `check_args` -/
theorem perlbrace_args_tags_iff_generated (pfx : Extra) (srcLoc dstLoc : List Char) (omittedOk : Bool) (src dst : PerlBraceSig) :
    ∃ tags, FmtArgs.PerlBrace.check_args [] pfx () srcLoc src dstLoc dst omittedOk = .ok tags ∧
      ∀ t, t ∈ tags ↔
        (∃ k, Unknown (perlNamed src) (perlNamed dst) k ∧ t = perlUnknownTag pfx srcLoc dstLoc k) ∨
        (∃ k, Missing (perlNamed src) (perlNamed dst) k ∧ perlTolerated src dst omittedOk = false ∧
          t = perlMissingTag pfx srcLoc dstLoc k) := by
  simp only [generated_perlbrace_check_args_eq_model]
  exact C14.perlbrace_args_tags_iff pfx srcLoc dstLoc omittedOk src dst

/-- `check_message` of the C and Python-% checkers over the regenerated comparators never raises -/
theorem check_message_nocrash_generated (ctx : Ctx) (msg : Msg (List Char)) (fl : Flags) :
    (∃ t, checkMessage Gen.cBackend ctx msg fl = .ok t) ∧ (∃ t, checkMessage Gen.pyBackend ctx msg fl = .ok t) := by
  obtain ⟨h1, h2, _⟩ := generated_backends_eq_model
  rw [h1, h2]
  exact ⟨C14.c_check_message_nocrash ctx msg fl, C14.python_check_message_nocrash ctx msg fl⟩

/-! Non-vacuity: the regenerated definitions are executable -/

example : FmtArgs.PerlBrace.check_args [] (.safe []) () "msgid".toList ⟨["a".toList], 1⟩ "msgstr".toList ⟨["b".toList], 1⟩ false =
    .ok [⟨"perl-brace-format-string-unknown-argument", [.safe [], .str "b".toList, .safe "in".toList, .safe "msgstr".toList,
            .safe "but not in".toList, .safe "msgid".toList]⟩,
         ⟨"perl-brace-format-string-missing-argument", [.safe [], .str "a".toList, .safe "not in".toList, .safe "msgstr".toList,
            .safe "while in".toList, .safe "msgid".toList]⟩] := by
  rfl

example : FmtArgs.get_last_integer_conversion ⟨[], [], 0, []⟩ 1 = .error .IndexError := by rfl

end I18n.Props.C14Tie
