import I18n.Lemmas.PyKitLemmas
import I18n.Lemmas.Polib4usGenerated
import I18n.Props.C10
import I18n.Lemmas.ExceptDec
/-!
# C10 — the tie by translation: `lib/polib4us.py` REGENERATED from the source is the model's loader front end

`I18n.Generated.Polib4us` is rewritten from the repository's current `lib/polib4us.py` by `tools/translate/polib4us2lean.py` on every
run: `_wrap_octal_escape`, `polib_unescape` with its inner `unescape(match)`, the `POEntry.flags` setter, the patched
`POEntry.translated`, `Codecs._is_ignored_comment` and the generator `Codecs.open` (as the list of lines it yields).  The theorems
below prove them equal — for ALL strings, files, charsets and environments — to `unescape`, `setFlags`, `translated`,
`isIgnoredComment` and `decodeFile` + `preprocess` of `Model/Po.lean`, and restate theorems of `Props/C10.lean` about the regenerated
definitions.  The regexes are the model's scanners on both sides, selected by the pinned pattern texts; the kit
`Model/PoPy.lean` states what each Python operation is taken to be (the trusted base of this tie).  polib's own parser
(`_POFileParser`, third-party) and `detect_encoding` stay hand-modelled (`parseLines`, `detectEncoding`; tied by the `po-load-*` and
`po-detect` streams).
-/
namespace I18n.Props.C10Tie
open I18n I18n.Po I18n.Po.PGen I18n.Spec.PoSpelling I18n.Generated

/-- the octal fix-up (`_big_octal_escape_re.sub(_wrap_octal_escape, ·)` with the regenerated `_wrap_octal_escape`) followed by
    `literal_eval`, on every three-digit octal escape: the value modulo 256 -/
theorem generated_wrap_octal_escape_eq_model : ∀ c ∈ ['0', '1', '2', '3', '4', '5', '6', '7'], ∀ d ∈ ['0', '1', '2', '3', '4', '5', '6', '7'],
    ∀ e ∈ ['0', '1', '2', '3', '4', '5', '6', '7'],
    Py.bodyByte (Py.bigOctal1 Polib4us._wrap_octal_escape [c, d, e]) = some (escapeByte [c, d, e]) :=
  three_octal_table

/-- the inner `unescape(match)` as regenerated, on whatever `_escapes_re` matches (`escapeRun`): the two fix-ups and `literal_eval`
    give the model's bytes; ASCII first, else the charset of the file -/
theorem generated_unescape_inner_eq_model (env : Env) (enc : Bytes) (n : Nat) (s : Text) :
    Polib4us.polib_unescape_unescape env enc (escapeRun n s).1 =
      (match decodeAscii ((escapeRun n s).1.map fun b => escapeByte (fixShortX b)) with
       | some t => .ok t
       | none => Py.encodingsDecode env ((escapeRun n s).1.map fun b => escapeByte (fixShortX b)) enc) :=
  unescape_inner_eq env enc _ (escapeRun_valid n s)

/-- **`polib_unescape(s)` as regenerated = `unescape`** (`none` of the model: an exception, which polib turns into a syntax error) -/
theorem generated_polib_unescape_eq_model (env : Env) (enc : Bytes) (s : Text) :
    (Polib4us.polib_unescape env enc s).toOption = unescape env enc s := by
  simp only [Polib4us.polib_unescape, unescape]
  exact escapesSub_eq env enc (s.length + 1) s

/-- **the `POEntry.flags` setter as regenerated = `setFlags`**; the strip set read from the source text is the one the table
    translator probed from the live setter -/
theorem generated_set_flags_eq_model (flags : List Text) : Polib4us.set_flags flags = .ok (setFlags flags) := by
  -- the literal of the regenerated text (the characters of `strip(' \t\r\f\v')`) stays a metavariable `codes`; only its membership is
  -- compared with that of `flagStripSet`, so the order of the characters in the source does not matter
  have hp : ∀ codes : List Nat, (∀ n, codes.contains n = Generated.PolibFsm.flagStripSet.contains n) →
      (fun c : Char => codes.contains c.toNat) = isFlagSpace := by
    intro codes h; funext c; rw [isFlagSpace, h]
  have hstrip : ∀ n, Generated.PolibFsm.flagStripSet.contains n = true ↔ n = 9 ∨ n = 11 ∨ n = 12 ∨ n = 13 ∨ n = 32 := by
    intro n
    rw [show Generated.PolibFsm.flagStripSet = [9, 11, 12, 13, 32] from rfl]
    simp only [List.contains_cons, List.contains_nil, Bool.or_false, Bool.or_eq_true, beq_iff_eq]
  simp only [Polib4us.set_flags, setFlags, Py.stripCodes]
  rw [hp _ (by
    intro n
    apply Bool.eq_iff_iff.mpr
    rw [hstrip]
    simp only [List.contains_cons, List.contains_nil, Bool.or_false, Bool.or_eq_true, beq_iff_eq]
    omega)]

/-- **`POEntry.translated()` as regenerated = `translated`** -/
theorem generated_translated_eq_model (e : Entry) : Polib4us.translated e = .ok (Po.translated e) := by
  simp only [Polib4us.translated, Po.translated]
  cases e.obsolete
  · simp only [Bool.false_eq_true, if_false]
    cases e.flags.contains ['f', 'u', 'z', 'z', 'y']
    · simp only [Bool.false_eq_true, if_false]
      have h2 : (e.msgstrPlural.any fun kv => Py.truthy kv.2) = e.msgstrPlural.any fun kv => !kv.2.isEmpty := rfl
      rw [h2]
      cases e.msgstr with
      | none => rfl
      | some t => cases t <;> rfl
    · simp
  · simp

/-- `Codecs._is_ignored_comment(line)` as regenerated = `isIgnoredComment` on every line that has a token (IndexError otherwise: the
    caller never asks, `generated_codecs_open_eq_model`) -/
theorem generated_is_ignored_comment_eq_model (env : Env) (line : Text) :
    Polib4us.Codecs__is_ignored_comment env line =
      (match splitWs env.isSpace 1 line with
       | [] => .error .index
       | _ :: _ => .ok (isIgnoredComment env line)) :=
  is_ignored_eq env line

-- of `hb`, `hb'` in the proof the one for the other order of the set literal `{'rU', 'rt'}` is an unused simp argument on any given source
set_option linter.unusedSimpArgs false in
/-- **`Codecs.open(path, mode, encoding)` as regenerated**: a mode other than `'rU'` / `'rt'` is refused (NotImplementedError) before the
    file is read; otherwise it yields exactly `preprocess` of the decoded file, where the decode is `decodeFile` (ASCII for charsets that
    are not ASCII-compatible); UnicodeDecodeError / anything else otherwise.  `AsciiIsAscii`: the environment's `'ASCII'` codec is ASCII. -/
theorem generated_codecs_open_eq (env : Env) (hascii : AsciiIsAscii env) (file : Bytes) (mode : Text) (enc : Bytes) :
    Polib4us.Codecs_open env file mode enc =
      if mode = ['r', 'U'] ∨ mode = ['r', 't'] then
        (match decodeFile env enc file with
         | .ok t => .ok (preprocess env t)
         | .error .decode => .error .unicodeDecode
         | .error _ => .error .other)
      else .error .notImplemented := by
  unfold Polib4us.Codecs_open
  have hb : (mode == ['r', 'U'] || mode == ['r', 't']) = decide (mode = ['r', 'U'] ∨ mode = ['r', 't']) := by
    rw [Bool.decide_or, Bool.beq_eq_decide_eq, Bool.beq_eq_decide_eq]
  have hb' : (mode == ['r', 't'] || mode == ['r', 'U']) = decide (mode = ['r', 'U'] ∨ mode = ['r', 't']) := by
    rw [Bool.or_comm, hb]
  by_cases hmode : mode = ['r', 'U'] ∨ mode = ['r', 't']
  case neg => simp only [hb, hb', hmode, decide_false, Bool.not_false, ↓reduceIte]
  simp only [hb, hb', hmode, decide_true, Bool.not_true, Bool.false_eq_true, if_false, if_true, decodeFile]
  -- the body of the loop over the lines, found by its type: one iteration is `stepModel`, so the loop is a fold
  generalize hbody : (fun (line : Text) (s : LoopState) => (_ : Except Py.Exn LoopState)) = body
  have hloop (ls : List Text) (s : LoopState) : Py.forEach ls body s = .ok (ls.foldl (fun s l => stepModel env l s) s) := by
    subst hbody
    rw [forEach_eq, PyKit.forEach_pure (stepModel env) _ _ fun line _ s => ?_]
    obtain ⟨e, o, p⟩ := s
    exact body_step env line e o p
  cases hc : env.asciiCompatible enc with
  | true =>
    simp only [Bool.not_true, Bool.false_eq_true, if_false, if_true, Py.encodingsDecode]
    cases env.decode enc file with
    | ude => rfl
    | other => rfl
    | text t =>
      simp only []
      rw [hloop]
      exact after_loop env t
  | false =>
    simp only [Bool.not_false, if_true, Bool.false_eq_true, if_false, Py.encodingsDecode, hascii file]
    cases decodeAscii file with
    | none => rfl
    | some t =>
      simp only []
      rw [hloop]
      exact after_loop env t

/-- `generated_codecs_open_eq` at the two modes `Codecs.open` accepts -/
theorem generated_codecs_open_eq_model (env : Env) (hascii : AsciiIsAscii env) (file : Bytes) (mode : Text) (enc : Bytes)
    (hmode : mode = ['r', 'U'] ∨ mode = ['r', 't']) :
    Polib4us.Codecs_open env file mode enc =
      (match decodeFile env enc file with
       | .ok t => .ok (preprocess env t)
       | .error .decode => .error .unicodeDecode
       | .error _ => .error .other) :=
  (generated_codecs_open_eq env hascii file mode enc).trans (if_pos hmode)

/-- **unescape_spelling**, of the regenerated `polib_unescape`: every string × every per-character spelling unescapes to the string -/
theorem unescape_spelling_generated (env : Env) (enc : Bytes) (E : Codec) (hE : CodecOk env enc E) (p : List Choice)
    (hv : ∀ x ∈ p, x.Valid E) (hs : okSeq p = true) :
    Polib4us.polib_unescape env enc (render p) = .ok (text p) :=
  PyKit.eq_ok_of_toOption ((generated_polib_unescape_eq_model env enc _).trans (C10.unescape_spelling env enc E hE p hv hs))

/-- fix 9de4551 and the excluded spellings, of the regenerated function: `\8` is not an escape, `\401` is `\001`, `\x4` + `1` reads
    as `\x41` -/
theorem unescape_witnesses_generated (env : Env) (enc : Bytes) :
    Polib4us.polib_unescape env enc ['a', '\\', '8'] = .ok ['a', '\\', '8'] ∧
    Polib4us.polib_unescape env enc ['\\', '4', '0', '1'] = .ok ['\x01'] ∧
    Polib4us.polib_unescape env enc ['\\', 'x', '4', '1'] = .ok ['A'] := by
  have ok := fun s t (h : unescape env enc s = some t) =>
    PyKit.eq_ok_of_toOption ((generated_polib_unescape_eq_model env enc s).trans h)
  exact ⟨ok _ _ (C10.unescape_octal_fix env enc).1, ok _ _ (C10.unescape_octal_fix env enc).2, ok _ _ (C10.unescape_swallow_witness env enc).1⟩

/-- **translated_iff**, of the regenerated `translated()` -/
theorem translated_iff_generated (e : Entry) :
    Polib4us.translated e = .ok true ↔
      e.obsolete = false ∧ ['f', 'u', 'z', 'z', 'y'] ∉ e.flags ∧
        ((∃ c t, e.msgstr = some (c :: t)) ∨ ∃ kv ∈ e.msgstrPlural, kv.2 ≠ []) := by
  rw [generated_translated_eq_model, ← C10.translated_iff]
  simp

/-- **codecs_open_keeps_body**, of the regenerated `Codecs.open`: every physical line up to the last one that is not held back, with
    atypical comments normalised, in order; held-back lines after it are dropped -/
theorem codecs_open_keeps_body_generated (env : Env) (hascii : AsciiIsAscii env) (file : Bytes) (enc : Bytes) (contents : Text)
    (hdec : decodeFile env enc file = .ok contents) (b : List Text) (l : Text) (hl : ¬ Lemmas.PoPre.Held env l)
    (tail : List Text) (ht : ∀ x ∈ tail, Lemmas.PoPre.Held env x) (hlines : physLines contents = b ++ l :: tail) :
    Polib4us.Codecs_open env file ['r', 't'] enc = .ok ((b ++ [l]).map normalise) := by
  rw [generated_codecs_open_eq_model env hascii file _ enc (.inr rfl), hdec]
  simp only []
  rw [C10.codecs_open_keeps_body env contents b l hl tail ht hlines]

/-- a file that does not decode: UnicodeDecodeError out of `Codecs.open` (what `Checker.check` catches to retry with ISO-8859-1) -/
theorem codecs_open_decode_error_generated (env : Env) (hascii : AsciiIsAscii env) (file : Bytes) (enc : Bytes)
    (hdec : decodeFile env enc file = .error .decode) :
    Polib4us.Codecs_open env file ['r', 't'] enc = .error .unicodeDecode := by
  rw [generated_codecs_open_eq_model env hascii file _ enc (.inr rfl), hdec]

/-! Non-vacuity -/

section
open scoped I18n.ExceptDec

example : AsciiIsAscii C10.asciiEnv := fun _ => rfl

/-- fix ed9c45c through the regenerated generator: the message line survives the trailing `#.` -/
example : Polib4us.Codecs_open C10.asciiEnv ("msgid \"a\"\n#.\n".toList.map fun c => UInt8.ofNat c.toNat) ['r', 't'] asciiName =
    .ok ["msgid \"a\"\n".toList] := by
  rw [generated_codecs_open_eq_model C10.asciiEnv (fun _ => rfl) _ _ _ (.inr rfl)]
  decide +kernel

example : Polib4us.set_flags [" fuzzy,c-format".toList] = .ok ["fuzzy".toList, "c-format".toList] := by
  rw [generated_set_flags_eq_model]
  decide +kernel

end

end I18n.Props.C10Tie
