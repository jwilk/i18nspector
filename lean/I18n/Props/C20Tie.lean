import I18n.Lemmas.IconvDlGenerated
import I18n.Lemmas.EncodingsFnGenerated
import I18n.Lemmas.LingFnGenerated
import I18n.Props.C20
/-!
# C20 — the ties by translation.  First part: `lib/iconv.py` REGENERATED from the source is the model's loop

Second part (below, with its own introduction): `lib/encodings.py`; third part: `Language.get_unrepresentable_characters` of `lib/ling.py`.

`I18n.Generated.IconvDl` is rewritten from the repository's current `lib/iconv.py` (`_decode_dl`, `_encode_dl`, `decode`, `encode`) by
`tools/translate/iconv2lean.py` on every run.  The theorems below prove the regenerated definitions equal — for ALL inputs, ALL
behaviours of iconv(3) (`Py.Iconv`: any outcome of `iconv_open`, any `Charset.Step`, any outcome of `iconv_close`), all amounts of
fuel and every state of the process at the call (`Py.World`) — to the hand-written loop model `decodeLoop` / `encodeLoop` /
`decodeDl` / `encodeDl` of `Model/Charset.lean`, and restate the iconv theorems of `Props/C20.lean` about the regenerated
definitions.  What is observed of a run (`Py.observe`): the value returned or the exception raised, and the log of (bytes
allocated behind the output pointer, count told in `outbytesleft`) of every conversion call.  The kit the generated code targets,
`Model/CharsetPy.lean`, states what each ctypes operation is taken to be (the trusted base of this tie).
-/
namespace I18n.Props.C20Tie
open I18n I18n.Charset I18n.Charset.Gen I18n.Generated

/-- the fixed names in the calls of `iconv_open`: `b'WCHAR_T'` in `_decode_dl`, `'UTF-32LE'` in `_encode_dl`; `'strict'` is the only error
    handler `decode` / `encode` accept -/
abbrev wcharT : List Nat := Py.lit "WCHAR_T"
abbrev utf32le : List Nat := Py.lit "UTF-32LE"
abbrev strict : List Nat := Py.lit "strict"

/-! ## equality with the model -/

/-- the `while True:` loop of `_decode_dl` as regenerated = `decodeLoop`, started from any `output_len`, in any world -/
theorem generated_decode_loop_eq_model (cd : Py.Cd) (enc : List Nat) (input : List UInt8) (fuel L : Nat) (w : Py.World) :
    Py.observe (IconvDl._decode_dl_loop input cd enc input fuel (L : Int) w) =
      (Py.ofOutcome (decodeLoop cd.step input fuel L).1, w.trace ++ (decodeLoop cd.step input fuel L).2) :=
  decode_loop_eq cd enc input fuel L w

/-- the `while True:` loop of `_encode_dl` as regenerated = `encodeLoop` (on the UTF-32LE bytes of the input: `4 · len`) -/
theorem generated_encode_loop_eq_model (cd : Py.Cd) (enc : List Nat) (input : List Nat) (fuel L : Nat) (w : Py.World) :
    Py.observe (IconvDl._encode_dl_loop (Py.utf32le input) (Py.utf32le input) cd enc input fuel (L : Int) w) =
      (Py.ofOutcome (encodeLoop cd.step input.length fuel L).1, w.trace ++ (encodeLoop cd.step input.length fuel L).2) :=
  encode_loop_eq cd enc input _ _ (utf32le_length input) fuel L w

/-- `_decode_dl(input, encoding=enc)` as regenerated: `iconv_open(b'WCHAR_T', enc)` (failure: OSError, nothing allocated), the model's
    loop started at `output_len = len(input)`, `iconv_close` in `finally` (failure: OSError replaces the outcome) -/
theorem generated_decode_dl_eq_model (ic : Py.Iconv) (input : List UInt8) (enc : List Nat) (fuel : Nat) (w : Py.World) :
    Py.observe (IconvDl._decode_dl ic input enc fuel w) =
      (Py.ofOutcome (openClose (ic.openErrno wcharT enc) ic.closeErrno (decodeLoop (ic.step wcharT enc) input fuel input.length)).1,
       w.trace ++ (openClose (ic.openErrno wcharT enc) ic.closeErrno (decodeLoop (ic.step wcharT enc) input fuel input.length)).2) := by
  cases ho : ic.openErrno (Py.lit "WCHAR_T") enc with
  | some e =>
    simp [IconvDl._decode_dl, Py.iconvOpen, ho, Py.Cd.isMinus1, Py.getErrno, Py.errnoNat, Py.observe, Py.ofOutcome, openClose]
  | none =>
    simp only [IconvDl._decode_dl, Py.iconvOpen, ho, Py.Cd.isMinus1, if_true, Bool.not_true, Bool.false_eq_true, if_false]
    refine observe_finally_close _ _ ic.closeErrno w.trace _ (fun w => ?_)
      (decode_loop_eq ⟨true, ic.step (Py.lit "WCHAR_T") enc, ic.closeErrno⟩ enc input fuel input.length w)
    cases ic.closeErrno <;> simp [Py.iconvClose, Py.getErrno, Py.errnoNat]

/-- `_encode_dl(input, encoding=enc)` as regenerated: `iconv_open(enc, b'UTF-32LE')`, the model's loop, `iconv_close` -/
theorem generated_encode_dl_eq_model (ic : Py.Iconv) (input : List Nat) (enc : List Nat) (fuel : Nat) (w : Py.World) :
    Py.observe (IconvDl._encode_dl ic input enc fuel w) =
      (Py.ofOutcome (openClose (ic.openErrno enc utf32le) ic.closeErrno (encodeLoop (ic.step enc utf32le) input.length fuel input.length)).1,
       w.trace ++ (openClose (ic.openErrno enc utf32le) ic.closeErrno (encodeLoop (ic.step enc utf32le) input.length fuel input.length)).2) := by
  have hlen : (Py.len (Py.utf32le input) == Py.len input * 4) = true := by
    simp only [Py.len, utf32le_length, beq_iff_eq]; omega
  cases ho : ic.openErrno enc (Py.lit "UTF-32LE") with
  | some e =>
    simp [IconvDl._encode_dl, hlen, Py.iconvOpen, ho, Py.Cd.isMinus1, Py.getErrno, Py.errnoNat, Py.observe, Py.ofOutcome, openClose]
  | none =>
    simp only [IconvDl._encode_dl, hlen, Py.iconvOpen, ho, Py.Cd.isMinus1, if_true, Bool.not_true, Bool.false_eq_true, if_false]
    refine observe_finally_close _ _ ic.closeErrno w.trace _ (fun w => ?_)
      (encode_loop_eq ⟨true, ic.step enc (Py.lit "UTF-32LE"), ic.closeErrno⟩ enc input _ _ (utf32le_length input) fuel input.length w)
    cases ic.closeErrno <;> simp [Py.iconvClose, Py.getErrno, Py.errnoNat]

/-- `lib.iconv.decode(input, enc, errors)` as regenerated, whatever `iconv_open` and `iconv_close` answer: empty input returns `''` and
    another error handler than `'strict'` is refused, both before anything is opened; otherwise the outcome and log of `_decode_dl` -/
theorem generated_decode_eq_openClose (ic : Py.Iconv) (input : List UInt8) (enc errors : List Nat) (fuel : Nat) (w : Py.World) :
    Py.observe (IconvDl.decode ic input enc errors fuel w) =
      if input.isEmpty then (.ok [], w.trace)
      else if errors ≠ strict then (.error .notImplemented, w.trace)
      else
        (Py.ofOutcome (openClose (ic.openErrno wcharT enc) ic.closeErrno (decodeLoop (ic.step wcharT enc) input fuel input.length)).1,
         w.trace ++ (openClose (ic.openErrno wcharT enc) ic.closeErrno (decodeLoop (ic.step wcharT enc) input fuel input.length)).2) := by
  rw [decode_eq, generated_decode_dl_eq_model]

/-- `lib.iconv.encode(input, enc, errors)` as regenerated, whatever `iconv_open` and `iconv_close` answer -/
theorem generated_encode_eq_openClose (ic : Py.Iconv) (input : List Nat) (enc errors : List Nat) (fuel : Nat) (w : Py.World) :
    Py.observe (IconvDl.encode ic input enc errors fuel w) =
      if input.isEmpty then (.ok [], w.trace)
      else if errors ≠ strict then (.error .notImplemented, w.trace)
      else
        (Py.ofOutcome (openClose (ic.openErrno enc utf32le) ic.closeErrno (encodeLoop (ic.step enc utf32le) input.length fuel input.length)).1,
         w.trace ++ (openClose (ic.openErrno enc utf32le) ic.closeErrno (encodeLoop (ic.step enc utf32le) input.length fuel input.length)).2) := by
  rw [encode_eq, generated_encode_dl_eq_model]

/-- `iconv_open` and `iconv_close` succeed (what `decodeDl` / `encodeDl` of the model assume) -/
def OpensAndCloses (ic : Py.Iconv) (tocode fromcode : List Nat) : Prop :=
  ic.openErrno tocode fromcode = none ∧ ic.closeErrno = none

/-- **`lib.iconv.decode(input, enc)` as regenerated = `decodeDl`** (outcome and log), whenever open and close succeed -/
theorem generated_decode_eq_model (ic : Py.Iconv) (input : List UInt8) (enc : List Nat) (fuel : Nat) (w : Py.World)
    (h : OpensAndCloses ic wcharT enc) :
    Py.observe (IconvDl.decode ic input enc strict fuel w) =
      (Py.ofOutcome (decodeDl (ic.step wcharT enc) input fuel).1, w.trace ++ (decodeDl (ic.step wcharT enc) input fuel).2) := by
  rw [generated_decode_eq_openClose, h.1, h.2]
  unfold decodeDl
  cases input <;> simp [openClose, Py.ofOutcome]

/-- **`lib.iconv.encode(input, enc)` as regenerated = `encodeDl`** on `len(input)` -/
theorem generated_encode_eq_model (ic : Py.Iconv) (input : List Nat) (enc : List Nat) (fuel : Nat) (w : Py.World)
    (h : OpensAndCloses ic enc utf32le) :
    Py.observe (IconvDl.encode ic input enc strict fuel w) =
      (Py.ofOutcome (encodeDl (ic.step enc utf32le) input.length fuel).1, w.trace ++ (encodeDl (ic.step enc utf32le) input.length fuel).2) := by
  rw [generated_encode_eq_openClose, h.1, h.2]
  unfold encodeDl
  cases input <;> simp [openClose, Py.ofOutcome]

/-- an error handler other than `'strict'` is refused (non-empty input), before anything is opened -/
theorem generated_errors_not_strict (ic : Py.Iconv) (input : List UInt8) (enc errors : List Nat) (fuel : Nat) (w : Py.World)
    (hne : input ≠ []) (he : errors ≠ strict) :
    Py.observe (IconvDl.decode ic input enc errors fuel w) = (.error .notImplemented, w.trace) := by
  rw [decode_eq]
  cases input <;> simp_all

/-! ## the iconv theorems of `Props/C20.lean`, about the regenerated functions

`run.1` is the outcome, `run.2` the log of a call in a fresh world. -/

/-- a call of the regenerated `decode` / `encode` in a world with an empty log -/
abbrev decodeRun (ic : Py.Iconv) (input : List UInt8) (enc : List Nat) (fuel : Nat) :=
  Py.observe (IconvDl.decode ic input enc strict fuel Py.World.init)
abbrev encodeRun (ic : Py.Iconv) (input : List Nat) (enc : List Nat) (fuel : Nat) :=
  Py.observe (IconvDl.encode ic input enc strict fuel Py.World.init)

theorem decodeRun_eq (ic : Py.Iconv) (input : List UInt8) (enc : List Nat) (fuel : Nat) (h : OpensAndCloses ic wcharT enc) :
    decodeRun ic input enc fuel = (Py.ofOutcome (decodeDl (ic.step wcharT enc) input fuel).1, (decodeDl (ic.step wcharT enc) input fuel).2) := by
  simp [decodeRun, generated_decode_eq_model ic input enc fuel _ h, Py.World.init]

theorem encodeRun_eq (ic : Py.Iconv) (input : List Nat) (enc : List Nat) (fuel : Nat) (h : OpensAndCloses ic enc utf32le) :
    encodeRun ic input enc fuel = (Py.ofOutcome (encodeDl (ic.step enc utf32le) input.length fuel).1, (encodeDl (ic.step enc utf32le) input.length fuel).2) := by
  simp [encodeRun, generated_encode_eq_model ic input enc fuel _ h, Py.World.init]

theorem ofOutcome_finished {α : Type} (o : Outcome α) (h : o.finished = true) : Py.ofOutcome o ≠ .error .outOfFuel := by
  cases o <;> simp_all [Outcome.finished, Py.ofOutcome]

theorem ofOutcome_unicode {α : Type} (o : Outcome α) (s e : Int) (h : Py.ofOutcome o = .error (.unicode s e)) :
    ∃ a b : Nat, o = .unicodeError a b ∧ s = a ∧ e = b := by
  cases o with
  | unicodeError a b =>
    cases h
    exact ⟨a, b, rfl, rfl, rfl⟩
  | _ => cases h

/-- **(a) told ≤ allocated**, of the regenerated binding — no hypothesis on what iconv does in a round -/
theorem iconv_told_le_allocated_generated (ic : Py.Iconv) (input : List UInt8) (text : List Nat) (enc : List Nat) (fuel : Nat)
    (hd : OpensAndCloses ic wcharT enc) (he : OpensAndCloses ic enc utf32le) :
    (∀ a ∈ (decodeRun ic input enc fuel).2, a.told ≤ a.allocated ∧ a.allocated = 4 * a.told ∧ input.length ≤ a.told) ∧
    (∀ a ∈ (encodeRun ic text enc fuel).2, a.told ≤ a.allocated ∧ a.allocated = a.told ∧ text.length ≤ a.told) := by
  rw [decodeRun_eq ic input enc fuel hd, encodeRun_eq ic text enc fuel he]
  exact ⟨(C20.iconv_told_le_allocated _ input 0 fuel).1, (C20.iconv_told_le_allocated _ [] text.length fuel).2⟩

/-- (a) also holds when `iconv_open` / `iconv_close` fail, and in a process that has called iconv before: `_decode_dl` only appends to
    the log, and every entry it appends is the loop's -/
theorem iconv_told_le_allocated_decode_dl (ic : Py.Iconv) (input : List UInt8) (enc : List Nat) (fuel : Nat) (w : Py.World) :
    ∃ t, (Py.observe (IconvDl._decode_dl ic input enc fuel w)).2 = w.trace ++ t ∧
      ∀ a ∈ t, a.told ≤ a.allocated ∧ a.allocated = 4 * a.told ∧ input.length ≤ a.told := by
  rw [generated_decode_dl_eq_model]
  refine ⟨_, rfl, fun a ha => ?_⟩
  obtain ⟨hquarter, hlen⟩ :=
    decodeLoop_alloc (ic.step wcharT enc) input fuel input.length a (openClose_log_subset _ _ _ a ha)
  exact ⟨by omega, hquarter, hlen⟩

/-- `iconv_told_le_allocated_decode_dl` read in a process whose log is empty (and without the bound `len(input) ≤ told`) -/
theorem iconv_told_le_allocated_generated_any (ic : Py.Iconv) (input : List UInt8) (enc : List Nat) (fuel : Nat) (w : Py.World)
    (hw : w.trace = []) :
    ∀ a ∈ (Py.observe (IconvDl._decode_dl ic input enc fuel w)).2, a.told ≤ a.allocated ∧ a.allocated = 4 * a.told := by
  obtain ⟨t, ht, h⟩ := iconv_told_le_allocated_decode_dl ic input enc fuel w
  rw [ht, hw, List.nil_append]
  exact fun a ha => ⟨(h a ha).1, (h a ha).2.1⟩

/-- **the exact schedule**, of the regenerated binding: round `i` is told `len(input) · 2^i` -/
theorem iconv_loop_schedule_generated (ic : Py.Iconv) (input : List UInt8) (text : List Nat) (enc : List Nat) (fuel i : Nat) (a : Alloc)
    (hd : OpensAndCloses ic wcharT enc) (he : OpensAndCloses ic enc utf32le) :
    ((decodeRun ic input enc fuel).2[i]? = some a → a.told = input.length * 2 ^ i ∧ a.allocated = 4 * (input.length * 2 ^ i)) ∧
    ((encodeRun ic text enc fuel).2[i]? = some a → a.told = text.length * 2 ^ i ∧ a.allocated = text.length * 2 ^ i) := by
  rw [decodeRun_eq ic input enc fuel hd, encodeRun_eq ic text enc fuel he]
  exact ⟨(C20.iconv_loop_schedule _ input 0 fuel i a).1, (C20.iconv_loop_schedule _ [] text.length fuel i a).2⟩

/-- **(b) termination**, of the regenerated binding: against an iconv that stops answering E2BIG once told `need` bytes, the
    loop ends (the fuel is not what stops it) -/
theorem iconv_loop_terminates_generated (ic : Py.Iconv) (input : List UInt8) (enc : List Nat) (need fuel : Nat)
    (hd : OpensAndCloses ic wcharT enc) (hne : input ≠ [])
    (hb : ∀ told, need ≤ told → ((ic.step wcharT enc) told).reset = none →
      (callBoth input.length told ((ic.step wcharT enc) told)).rc ≠ .e2big)
    (hfuel : need < fuel) : (decodeRun ic input enc fuel).1 ≠ .error .outOfFuel := by
  rw [decodeRun_eq ic input enc fuel hd]
  exact ofOutcome_finished _ (C20.iconv_loop_terminates _ input need fuel hne hb hfuel)

theorem iconv_encode_loop_terminates_generated (ic : Py.Iconv) (text : List Nat) (enc : List Nat) (need fuel : Nat)
    (he : OpensAndCloses ic enc utf32le) (hne : text ≠ [])
    (hb : ∀ told, need ≤ told → ((ic.step enc utf32le) told).reset = none →
      (callBoth (4 * text.length) told ((ic.step enc utf32le) told)).rc ≠ .e2big)
    (hfuel : need < fuel) : (encodeRun ic text enc fuel).1 ≠ .error .outOfFuel := by
  rw [encodeRun_eq ic text enc fuel he]
  exact ofOutcome_finished _
    (C20.iconv_encode_loop_terminates _ text.length need fuel hb hfuel)

/-- **(c) the result is what iconv produced**, of the regenerated binding -/
theorem iconv_loop_returns_produced_generated (ic : Py.Iconv) (input : List UInt8) (enc : List Nat) (produced : List UInt8) (need k fuel : Nat)
    (hd : OpensAndCloses ic wcharT enc) (hne : input ≠ []) (h : ConvertsTo (ic.step wcharT enc) input.length produced need)
    (h4 : produced.length = 4 * k) (hvalid : (wchars produced).any (· > 0x10FFFF) = false) (hfuel : need < fuel) :
    (decodeRun ic input enc fuel).1 = .ok (wchars produced) := by
  rw [decodeRun_eq ic input enc fuel hd, C20.iconv_loop_returns_produced _ input produced need k fuel hne h h4 hvalid hfuel]
  rfl

theorem iconv_encode_loop_returns_produced_generated (ic : Py.Iconv) (text : List Nat) (enc : List Nat) (produced : List UInt8) (need fuel : Nat)
    (he : OpensAndCloses ic enc utf32le) (hne : text ≠ []) (h : ConvertsTo (ic.step enc utf32le) (4 * text.length) produced need)
    (hfuel : need < fuel) : (encodeRun ic text enc fuel).1 = .ok produced := by
  rw [encodeRun_eq ic text enc fuel he,
    C20.iconv_encode_loop_returns_produced _ text.length produced need fuel (mt List.eq_nil_of_length_eq_zero hne) h hfuel]
  rfl

/-- **(d) error spans**, of the regenerated binding: the UnicodeDecodeError / UnicodeEncodeError raised has `0 ≤ start < end ≤ len(input)` -/
theorem iconv_loop_error_span_generated (ic : Py.Iconv) (input : List UInt8) (text : List Nat) (enc : List Nat) (fuel : Nat) (s e : Int)
    (hd : OpensAndCloses ic wcharT enc) (he : OpensAndCloses ic enc utf32le) :
    ((∀ told, ((ic.step wcharT enc) told).reset = none →
        ((callBoth input.length told ((ic.step wcharT enc) told)).rc = .eilseq ∨ (callBoth input.length told ((ic.step wcharT enc) told)).rc = .einval) →
        1 ≤ (callBoth input.length told ((ic.step wcharT enc) told)).inLeft) →
      (decodeRun ic input enc fuel).1 = .error (.unicode s e) → 0 ≤ s ∧ s < e ∧ e ≤ input.length) ∧
    ((∀ told, ((ic.step enc utf32le) told).reset = none →
        ((callBoth (4 * text.length) told ((ic.step enc utf32le) told)).rc = .eilseq ∨ (callBoth (4 * text.length) told ((ic.step enc utf32le) told)).rc = .einval) →
        4 ≤ (callBoth (4 * text.length) told ((ic.step enc utf32le) told)).inLeft) →
      (encodeRun ic text enc fuel).1 = .error (.unicode s e) → 0 ≤ s ∧ s < e ∧ e ≤ text.length) := by
  rw [decodeRun_eq ic input enc fuel hd, encodeRun_eq ic text enc fuel he]
  constructor
  · intro hc h
    obtain ⟨a, b, ho, rfl, rfl⟩ := ofOutcome_unicode _ s e h
    have := (C20.iconv_loop_error_span (ic.step wcharT enc) input 0 fuel a b).1 hc ho
    omega
  · intro hc h
    obtain ⟨a, b, ho, rfl, rfl⟩ := ofOutcome_unicode _ s e h
    have := (C20.iconv_loop_error_span (ic.step enc utf32le) [] text.length fuel a b).2 hc ho
    omega

/-! ## Non-vacuity: the tie at two runs (each statement is rewritten with the tie, then the model is evaluated) -/

/-- a descriptor for one character that needs three bytes (U+20AC to UTF-8): `Charset.euroStep` of `Lemmas/CharsetIconv.lean` -/
def euroIconv : Py.Iconv := ⟨fun _ _ => none, fun _ _ => euroStep, none⟩

/-- the regenerated `encode` is told 1, 2, 4 bytes and returns the three bytes -/
example : encodeRun euroIconv [0x20AC] (Py.lit "UTF-8") 3 = (.ok [0xE2, 0x82, 0xAC], [⟨1, 1⟩, ⟨2, 2⟩, ⟨4, 4⟩]) := by
  rw [encodeRun_eq _ _ _ _ ⟨rfl, rfl⟩]
  have := C20.non_doubling_loop_diverges.2.2
  exact Prod.ext (by rw [show ([0x20AC] : List Nat).length = 1 from rfl, show (euroIconv.step (Py.lit "UTF-8") utf32le) = euroStep from rfl, this.1]; rfl)
    (by rw [show ([0x20AC] : List Nat).length = 1 from rfl, show (euroIconv.step (Py.lit "UTF-8") utf32le) = euroStep from rfl, this.2.1])

/-- a failing `iconv_open` is an OSError with its errno -/
example (input : List UInt8) (enc : List Nat) (fuel : Nat) :
    Py.observe (IconvDl._decode_dl ⟨fun _ _ => some 22, fun _ _ => euroStep, none⟩ input enc fuel Py.World.init) = (.error (.os 22), []) := by
  rw [generated_decode_dl_eq_model]; rfl

/-! # Second part: `lib/encodings.py` REGENERATED from the source is the model's classification, loader decode and codec search

`I18n.Generated.EncodingsFn` is rewritten from the repository's current `lib/encodings.py` by `tools/translate/encodings2lean.py` on every
run: the constants `_interesting_ascii_bytes` / `_interesting_ascii_str` evaluated from their defining expressions, and
`is_portable_encoding`, `propose_portable_encoding`, `is_ascii_compatible_encoding`, `decode`, `charmap_encoding`, `iconv_encoding`,
`_codec_search_function` statement by statement.  The module's tables, the codec registry, `bytes.decode` and the charmap files are
parameters on both sides (`Model/EncodingsPy.lean`). -/

open I18n.Charset.EGen I18n.Generated.Charset

/-- **the repertoire, from the source text**: the defining expression of `_interesting_ascii_bytes` evaluates to the documented set
    (NUL EOT BEL BS HT LF VT FF CR ESC + printable ASCII) — the same list the table translator dumped from the loaded module -/
theorem generated_interesting_ascii_eq_model :
    EncodingsFn.interesting_ascii_bytes = interestingBytes ∧ EncodingsFn.interesting_ascii_str = interestingStr ∧
    EncodingsFn.interesting_ascii_bytes = [0, 4, 7, 8, 9, 10, 11, 12, 13, 27] ++ List.range' 32 95 := by
  decide

/-- `is_portable_encoding(encoding, python=…)` as regenerated = `isPortable`, for all tables -/
theorem generated_is_portable_encoding_eq_model (tbl : List (Name × Bool)) (encoding : Name) (python : Bool) :
    EncodingsFn.is_portable_encoding tbl encoding python = .ok (isPortable tbl python encoding) := by
  simp only [EncodingsFn.is_portable_encoding, isPortable, normalise, lit_iso_underscore, lit_iso_hyphen, PyKit.ite_ok]
  generalize (if isoUnderscore.isPrefixOf (lower encoding) = true then _ else _ : Name) = name
  cases python
  · simp [EPy.tableHas]
  · simp only [if_true, EPy.tableGet]
    cases assoc? name tbl with
    | none => simp
    | some v => cases v <;> simp [EPy.PVal.ofBool]

/-- `propose_portable_encoding(encoding)` as regenerated = `propose`, for all tables and registries (`.error ()` of the model is the
    AssertionError) -/
theorem generated_propose_portable_encoding_eq_model (tbl : List (Name × Bool)) (c2e : List (Name × Name)) (registry : Name → Option Name)
    (encoding : Name) (python : Bool) :
    EncodingsFn.propose_portable_encoding tbl c2e registry encoding python =
      (match propose tbl c2e registry encoding with
       | .ok r => .ok r
       | .error () => .error .assertion) := by
  simp only [EncodingsFn.propose_portable_encoding, propose, EPy.codecsLookup, EPy.dictIndex, generated_is_portable_encoding_eq_model]
  cases registry encoding with
  | none => simp [EPy.Exn.isLookupError]
  | some codec =>
    simp only []
    cases assoc? codec c2e with
    | none => simp [EPy.Exn.isLookupError]
    | some ne =>
      simp only []
      cases isPortable tbl true ne <;> simp

/-- `is_ascii_compatible_encoding(encoding, missing_ok=…)` as regenerated = `isAsciiCompatible` on the outcome of decoding the
    repertoire (`.error ()` of the model is EncodingLookupError) -/
theorem generated_is_ascii_compatible_encoding_eq_model (dec : List Nat → Name → Dec) (encoding : Name) (missingOk : Bool) :
    EncodingsFn.is_ascii_compatible_encoding dec encoding missingOk =
      (match isAsciiCompatible interestingStr (dec interestingBytes encoding) missingOk with
       | .ok b => .ok b
       | .error () => .error .encodingLookup) := by
  rw [is_ascii_eq, generated_interesting_ascii_eq_model.1, generated_interesting_ascii_eq_model.2.1]
  rfl

/-- `lib.encodings.decode(data, encoding)` as regenerated = `loaderDecode` -/
theorem generated_encodings_decode_eq_model (rawdec : List UInt8 → Name → RawDecode) (data : List UInt8) (encoding : Name) :
    EncodingsFn.decode rawdec data encoding = ofLoaded (loaderDecode data.length (rawdec data encoding)) := by
  simp only [EncodingsFn.decode, loaderDecode, EPy.decodeRaw]
  cases rawdec data encoding <;> simp [ofLoaded, EPy.Exn.isUnicodeDecodeError, EPy.Exn.isUnicodeError]

/-- `charmap_encoding(encoding)` as regenerated: `data/charmaps/<ENCODING>` missing is EncodingLookupError; otherwise the codec decodes
    with the file's table AS IT IS (nothing prepended, nothing dropped) and encodes with `charmap_build` of that table -/
theorem generated_charmap_encoding_eq_model (files : Name → Option (List Nat)) (encoding : Name) :
    EncodingsFn.charmap_encoding files encoding =
      (match files (upper encoding) with
       | some table => .ok (.charmap encoding table (encLookup table))
       | none => .error .encodingLookup) :=
  charmap_encoding_eq files encoding

/-- `_codec_search_function(encoding)` as regenerated = `codecSearch`, for all tables and any set of charmap files -/
theorem generated_codec_search_function_eq_model (tbl : List (Name × Bool)) (extra : List Name) (unm : List (Name × Name))
    (files : Name → Option (List Nat)) (fileNames : List Name) (hfiles : ∀ n, (files n).isSome = fileNames.contains n) (encoding : Name) :
    (EncodingsFn._codec_search_function tbl extra unm files encoding).map EPy.searchOf = .ok (codecSearch unm tbl extra fileNames encoding) := by
  rw [codec_search_eq]
  simp only [Except.map, codecSearch]
  have hf := hfiles (upper ((assoc? encoding unm).getD encoding))
  split
  · cases hfl : files (upper ((assoc? encoding unm).getD encoding)) with
    | none =>
      rw [hfl] at hf
      have hm : ¬ upper ((assoc? encoding unm).getD encoding) ∈ fileNames := by simpa using hf.symm
      simp [EPy.searchOf, hm]
    | some t =>
      rw [hfl] at hf
      have hm : upper ((assoc? encoding unm).getD encoding) ∈ fileNames := by simpa using hf.symm
      simp [EPy.searchOf, hm]
  · simp [EPy.searchOf]

/-! ## theorems of `Props/C20.lean`, about the regenerated functions -/

/-- **the verdict looks at the tested bytes only**, of the regenerated function: for a codec that decodes byte by byte (`f`) the answer
    is "`f` is the identity on the repertoire" -/
theorem ascii_verdict_bytewise_generated (dec : List Nat → Name → Dec) (encoding : Name) (f : Nat → Nat) (mo : Bool)
    (hdec : dec interestingBytes encoding = .text (interestingBytes.map f)) :
    EncodingsFn.is_ascii_compatible_encoding dec encoding mo = .ok (decide (∀ b ∈ interestingBytes, f b = b)) := by
  rw [generated_is_ascii_compatible_encoding_eq_model, hdec, (C20.ascii_verdict_bytewise f f mo).1]

/-- unknown to Python (LookupError, or any non-Unicode exception): `False` with `missing_ok`, EncodingLookupError without -/
theorem ascii_unknown_generated (dec : List Nat → Name → Dec) (encoding : Name) (h : dec interestingBytes encoding = .lookup) :
    EncodingsFn.is_ascii_compatible_encoding dec encoding true = .ok false ∧
    EncodingsFn.is_ascii_compatible_encoding dec encoding false = .error .encodingLookup := by
  simp [generated_is_ascii_compatible_encoding_eq_model, h, isAsciiCompatible]

/-- **whatever the regenerated `propose_portable_encoding` returns is portable** by the regenerated `is_portable_encoding` -/
theorem proposal_portable_generated (tbl : List (Name × Bool)) (c2e : List (Name × Name)) (registry : Name → Option Name) (name p : Name)
    (h : EncodingsFn.propose_portable_encoding tbl c2e registry name true = .ok (some p)) :
    EncodingsFn.is_portable_encoding tbl p true = .ok true := by
  rw [generated_propose_portable_encoding_eq_model] at h
  rw [generated_is_portable_encoding_eq_model]
  cases hp : propose tbl c2e registry name with
  | error u => rw [hp] at h; cases h
  | ok r =>
    rw [hp] at h
    simp only [Except.ok.injEq] at h
    subst h
    rw [C20.proposal_portable tbl c2e registry name p hp]

/-- **with the loaded tables the `assert` of the regenerated function never fires**, whatever the registry -/
theorem proposal_sound_generated (registry : Name → Option Name) (name : Name) :
    EncodingsFn.propose_portable_encoding portableEncodings pycodecToEncoding registry name true ≠ .error .assertion := by
  rw [generated_propose_portable_encoding_eq_model]
  have := (C20.proposal_sound registry name).1
  cases hp : propose portableEncodings pycodecToEncoding registry name with
  | error u => exact (this hp).elim
  | ok r => simp

/-- **`encodings.decode` as regenerated yields text or a UnicodeDecodeError** (a bare UnicodeError becomes one spanning the data) -/
theorem loader_decode_total_generated (rawdec : List UInt8 → Name → RawDecode) (data : List UInt8) (encoding : Name)
    (hraw : rawdec data encoding ≠ .other) :
    (∃ cs, EncodingsFn.decode rawdec data encoding = .ok cs) ∨
    (∃ s e, EncodingsFn.decode rawdec data encoding = .error (.unicodeDecode s e) ∧
      (rawdec data encoding = .unicodeError → s = 0 ∧ e = data.length)) := by
  rw [generated_encodings_decode_eq_model]
  rcases C20.loader_decode_total data.length _ hraw with ⟨cs, h⟩ | ⟨s, e, h, h2⟩
  · exact .inl ⟨cs, by rw [h]; rfl⟩
  · refine .inr ⟨s, e, by rw [h]; rfl, fun hu => ?_⟩
    have := h2 hu
    omega

/-- the shipped charmap files as the loader's file system -/
def shippedFiles : Name → Option (List Nat) := fun n => assoc? n charmaps

/-- **the regenerated search function serves the five extra codecs**: three with exactly the shipped table (decode) and its
    `charmap_build` (encode), two through iconv; names Python knows are left alone -/
theorem codec_search_extra_generated :
    let search := fun (s : String) => EncodingsFn._codec_search_function portableEncodings extraEncodings unmangle shippedFiles (EPy.lit s)
    (search "koi8_ru").map EPy.searchOf = .ok (.charmap (EPy.lit "KOI8-RU")) ∧
    (search "viscii").map EPy.searchOf = .ok (.charmap (EPy.lit "VISCII")) ∧
    (search "georgian_ps").map EPy.searchOf = .ok (.charmap (EPy.lit "GEORGIAN-PS")) ∧
    (search "koi8_t").map EPy.searchOf = .ok (.iconv (EPy.lit "koi8-t")) ∧
    (search "euc_tw").map EPy.searchOf = .ok (.iconv (EPy.lit "euc-tw")) ∧
    (search "utf_8").map EPy.searchOf = .ok .notOurs ∧
    (∀ t e, search "viscii" = .ok (some (.charmap (EPy.lit "viscii") t e)) → t = charmap_VISCII ∧ e = encLookup charmap_VISCII) := by
  have hfiles : ∀ n, (shippedFiles n).isSome = (charmaps.map (·.1)).contains n := fun n => Tables.isSome_assoc? n charmaps
  have hs := fun s : String =>
    generated_codec_search_function_eq_model portableEncodings extraEncodings unmangle shippedFiles _ hfiles (EPy.lit s)
  have key := C20.codec_search_extra
  simp only at key ⊢
  obtain ⟨koi8ru, viscii, georgian, koi8t, euctw, utf8, -⟩ := key
  refine ⟨(hs "koi8_ru").trans (congrArg _ koi8ru), (hs "viscii").trans (congrArg _ viscii),
    (hs "georgian_ps").trans (congrArg _ georgian), (hs "koi8_t").trans (congrArg _ koi8t),
    (hs "euc_tw").trans (congrArg _ euctw), (hs "utf_8").trans (congrArg _ utf8), ?_⟩
  · intro t e h
    rw [codec_search_eq] at h
    have hv : (assoc? (EPy.lit "viscii") unmangle).getD (EPy.lit "viscii") = EPy.lit "viscii" := by decide +kernel
    have hc : (assoc? (EPy.lit "viscii") portableEncodings == some false || extraEncodings.contains (EPy.lit "viscii")) = true := by decide +kernel
    have hf : shippedFiles (upper (EPy.lit "viscii")) = some charmap_VISCII := by decide +kernel
    simp only [hv, hc, hf, if_true, Except.ok.injEq, Option.some.injEq, EPy.Codec.charmap.injEq, true_and] at h
    exact ⟨h.1.symm, h.2.symm⟩

/-! Non-vacuity -/

example : EncodingsFn.is_portable_encoding portableEncodings (EPy.lit "ISO_8859-2") true = .ok true := by
  rw [generated_is_portable_encoding_eq_model]; decide +kernel

example : EncodingsFn.decode (fun _ _ => .unicodeError) [1, 2, 3] (EPy.lit "idna") = .error (.unicodeDecode 0 3) := by
  rw [generated_encodings_decode_eq_model]; rfl

/-! # Third part: `lib/ling.py` `Language.get_unrepresentable_characters` REGENERATED from the source is the model's

`I18n.Generated.LingFn` is rewritten from the repository's current `lib/ling.py` (`Language._simple_format`,
`Language.get_unrepresentable_characters`) by `tools/translate/ling2lean.py` on every run.  `_get_characters` and `str.encode` are
parameters on both sides (`Model/LingPy.lean`). -/

open I18n.Charset.LGen

/-- `Language._simple_format(territory=…)` as regenerated: `ll`, or `ll_CC` when asked for and a territory is present -/
theorem generated_simple_format_eq_model (l : LPy.Language) (territory : Bool) :
    LingFn._simple_format l territory =
      .ok (match l.territory_code with
           | some t => if territory then l.language_code ++ [95] ++ t else l.language_code
           | none => l.language_code) :=
  simple_format_eq l territory

/-- **`get_unrepresentable_characters(encoding, strict=…)` as regenerated = `languageCharacters` then `getUnrepresentable`** — for every
    language object, every content of data/languages (`sect`), every encoder: `None` when neither `ll_CC` nor `ll` lists characters;
    `.error ()` of the model is an exception other than UnicodeError escaping -/
theorem generated_get_unrepresentable_characters_eq_model (sect : Name → Option Name → Option (List Nat)) (encode : List Nat → Enc)
    (l : LPy.Language) (strict : Bool) :
    LingFn.get_unrepresentable_characters (fun code m s => (sect code m).map (getCharacters s)) encode l strict =
      (match languageCharacters sect strict l.language_code l.territory_code l.modifier with
       | none => .ok none
       | some cs => (ofModel (getUnrepresentable encode cs)).map some) := by
  rw [get_unrepresentable_eq]
  simp only [languageCharacters]
  cases l.territory_code with
  | none => cases sect l.language_code l.modifier <;> rfl
  | some t =>
    simp only []
    cases sect (l.language_code ++ [95] ++ t) l.modifier with
    | some v => rfl
    | none => cases sect l.language_code l.modifier <;> rfl

/-- **unrepresentable_iff**, of the regenerated method: for a codec that raises only Unicode errors on these texts and encodes a
    concatenation only if it encodes every piece, the result is exactly the listed characters that cannot be encoded -/
theorem unrepresentable_iff_generated (sect : Name → Option Name → Option (List Nat)) (encode : List Nat → Enc)
    (l : LPy.Language) (strict : Bool) (chars : List (List Nat))
    (hchars : languageCharacters sect strict l.language_code l.territory_code l.modifier = some chars)
    (hno : ∀ c ∈ chars, encode c = .ok ∨ encode c = .encodeError false)
    (hj : encode chars.flatten ≠ .crash)
    (hpieces : encode chars.flatten = .ok → ∀ c ∈ chars, encode c = .ok) :
    LingFn.get_unrepresentable_characters (fun code m s => (sect code m).map (getCharacters s)) encode l strict =
      .ok (some (chars.filter fun c => encode c != .ok)) := by
  rw [generated_get_unrepresentable_characters_eq_model, hchars]
  simp only []
  rw [(C20.unrepresentable_iff encode chars hno hj hpieces).1]
  rfl

/-- the iconv(1) fall-back: the loop stops at the first character whose error reason starts with `iconv:` -/
example : LingFn.get_unrepresentable_characters (fun _ _ _ => some [[97], [8364], [98], [8364]])
    (fun t => if t.contains 8364 then .encodeError true else .ok) ⟨[100, 101], none, none⟩ false = .ok (some [[8364]]) := by
  rfl

end I18n.Props.C20Tie
