import I18n.Model.Cli
import I18n.Generated.StateSites
import I18n.Lemmas.CliState
import I18n.Lemmas.HashOrder
import I18n.Model.CliWitness
import I18n.Lemmas.Kit.List
/-!
# C03 — multi-file output is the concatenation of the single-file outputs

What is PROVED here, for models of `check_all`: the output is independent of the job count and of the order in which worker processes
complete — always the concatenation, in argument order, of the per-file outputs — first for a per-file FUNCTION (`Model/Cli.lean`; the
contract assumed of `concurrent.futures.Executor.map` is written into the model, `executorMap`), then with the process-global state threaded
through the files (`Model/CliState.lean`) and with sets iterated in an arbitrary order (`Model/HashOrder.lean`); that the state and
the unordered iterations of lib/ are of the kinds these two models cover is pinned on inventories regenerated from /repo.  What is NOT
provable in a model — that the real per-file output is a function of the file alone — is decided by the `determinism` correspondence:
the real CLI under several `PYTHONHASHSEED`s, rotations and prefixes of the file list, `-j 1/2/5`, compared with the single-file runs.
-/
namespace I18n.Props.C03
open I18n.Cli

/-- a result is stored under `i` because `i` completes, and whatever is stored under `i` is the result of `paths[i]` -/
theorem find_done {α β : Type} (f : α → β) (paths : List α) :
    ∀ (sched : List Nat) (i : Nat) (p : α), paths[i]? = some p → i ∈ sched →
      ((sched.filterMap (fun j => paths[j]?.map (fun q => (j, f q)))).find? (fun q => q.1 == i)).map (·.2) = some (f p) := by
  intro sched i p hp hi
  have hmem : (i, f p) ∈ sched.filterMap (fun j => paths[j]?.map (fun q => (j, f q))) :=
    List.mem_filterMap.2 ⟨i, hi, by rw [hp]; rfl⟩
  cases hf : (sched.filterMap (fun j => paths[j]?.map (fun q => (j, f q)))).find? (fun q => q.1 == i) with
  | none => exact absurd (List.find?_eq_none.1 hf _ hmem) (by simp)
  | some q =>
    obtain ⟨j, _, hj⟩ := List.mem_filterMap.1 (List.mem_of_find?_eq_some hf)
    have hq : q.1 = i := beq_iff_eq.1 (List.find?_some (p := fun q : Nat × β => q.1 == i) hf)
    cases hpj : paths[j]? with
    | none => rw [hpj] at hj; cases hj
    | some p' =>
      rw [hpj] at hj
      cases hj
      subst hq
      rw [hp] at hpj
      cases hpj
      rfl

/-- every task's result is delivered, in submission order, whatever the completion order -/
theorem executorMap_eq {α β : Type} (f : α → β) (paths : List α) (sched : List Nat)
    (hall : ∀ i, i < paths.length → i ∈ sched) :
    executorMap f paths sched = paths.map (fun p => some (f p)) := by
  apply List.ext_getElem
  · simp only [executorMap, List.length_map, List.length_range]
  · intro i _ h2
    simp only [executorMap, List.getElem_map, List.getElem_range]
    have hi : i < paths.length := by simpa only [List.length_map] using h2
    exact find_done f paths sched i _ (List.getElem?_eq_getElem hi) (hall i hi)

/-- `check_all` prints the concatenation, in argument order, of the per-file outputs; the completion order has to cover
    the tasks only where `check_all` uses the pool (more than one path and `jobs > 1`). -/
theorem checkAll_eq {α : Type} (checkFile : α → List String) (paths : List α) (jobs : Nat) (sched : List Nat)
    (hall : ¬ (paths.length ≤ 1 ∨ jobs ≤ 1) → ∀ i, i < paths.length → i ∈ sched) :
    checkAll checkFile paths jobs sched = (paths.map checkFile).flatten := by
  unfold checkAll
  split
  · rfl
  · next hpool =>
    rw [executorMap_eq checkFile paths sched (hall hpool), List.filterMap_map]
    exact congrArg List.flatten (congrFun List.filterMap_eq_map paths)

/-- **Job count and completion schedule are irrelevant**: for every `jobs ≥ 0` and every completion order in which
    each task completes, `check_all` prints exactly the concatenation, in argument order, of the per-file outputs. -/
theorem jobs_schedule_irrelevant {α : Type} (checkFile : α → List String) (paths : List α) (jobs : Nat) (sched : List Nat)
    (hall : ∀ i, i < paths.length → i ∈ sched) :
    checkAll checkFile paths jobs sched = (paths.map checkFile).flatten :=
  checkAll_eq checkFile paths jobs sched fun _ => hall

/-- the multi-file output is the concatenation of the single-file invocations (`jobs = 1`, one path each) -/
theorem concat_of_single_runs {α : Type} (checkFile : α → List String) (paths : List α) (jobs : Nat) (sched : List Nat)
    (hall : ∀ i, i < paths.length → i ∈ sched) :
    checkAll checkFile paths jobs sched = (paths.map (fun p => checkAll checkFile [p] 1 [0])).flatten := by
  rw [jobs_schedule_irrelevant checkFile paths jobs sched hall]
  congr 1
  apply List.map_congr_left
  intro p _
  simp [checkAll, checkAllSeq]

/-! Non-vacuity: three files, five workers, completion order 2,0,1 -/
example : checkAll (fun (s : String) => [s ++ "!"]) ["a", "b", "c"] 5 [2, 0, 1] = ["a!", "b!", "c!"] := by decide +kernel

/-! ## Pins on the inventories regenerated from /repo (tools/translate/state2lean.py)

Each pin is decided by evaluation over the generated lists; it talks about KINDS only.  A new `lru_cache` on a function that
inspects the stack, a module-level set that a check mutates, `', '.join(frozenset)`, a Checker created outside the per-file
path … regenerate a site of a non-benign kind and the pin stops compiling (`chk.broken` -> falsifier on the real CLI). -/
section Pins
open I18n.Spec I18n.Generated.StateSites

/-- every piece of process-global state is of a benign kind (justified kind by kind in `Spec/StateKinds.lean`) -/
theorem global_state_sites_benign : ∀ s ∈ stateSites, s.kind.benign = true := by decide +kernel

/-- no expression whose order is the hash order of a set reaches an order-sensitive consumer -/
theorem unordered_iteration_sites_sorted : ∀ s ∈ iterSites, s.verdict.benign = true := by decide +kernel

/-- the data obligation of the `lookupOnly` verdict: dicts built by iterating a set have pairwise distinct keys
    (so the last-writer-wins rule of dict construction never applies and the build order is invisible) -/
theorem lookup_tables_have_distinct_keys : ∀ t ∈ lookupKeys, t.2.1 = true ∧ t.2.2.Nodup := by decide +kernel

/-- whatever a function of the per-file path mutates is an object created for that call -/
theorem per_file_mutations_hit_per_call_objects : ∀ s ∈ mutSites, s.root.perCall = true := by decide +kernel

/-- Checker instances, the ctx namespace and every loop accumulator (`found_unusual_characters`, `msgid_counter`, …) are
    created inside the per-call path -/
theorem accumulators_per_call : ∀ s ∈ creationSites, s.perCall = true := by decide +kernel

/-- reads of randomness / clock / stack / environment / directory order are of the classified kinds -/
theorem nondeterminism_sources_benign : ∀ s ∈ nondetSites, s.kind.benign = true := by decide +kernel

/-- `options.jobs` is read by the driver (`check_all`) and on the start-up path (`main`) only — never by a check: this is
    why the job count is a separate argument of `CliState.checkAll` and the per-file program cannot depend on it -/
theorem jobs_option_read_by_driver_only : ∀ r ∈ sharedReads, r.1 = "jobs" → r.2.2 ≠ "perFile" := by decide +kernel

/-! Non-vacuity of the pins: the inventories are populated, and contain the sites the property's anchors name
(by role / kind, not by identifier) -/
example : (sharedReads.filter (fun r => r.1 == "jobs")).length ≥ 1 ∧ (sharedReads.filter (fun r => r.2.2 == "perFile")).length ≥ 3 := by
  decide +kernel
example : stateSites.length ≥ 100 ∧ iterSites.length ≥ 60 ∧ mutSites.length ≥ 100 := by decide +kernel
example : (stateSites.filter (fun s => s.kind == .pureCache)).length ≥ 1
    ∧ (stateSites.filter (fun s => s.kind == .patchAtStartup)).length ≥ 10
    ∧ (stateSites.filter (fun s => s.kind == .onceInstaller)).length ≥ 1
    ∧ (stateSites.filter (fun s => s.kind == .importRegistry)).length ≥ 1
    ∧ (stateSites.filter (fun s => s.kind == .scopedRedirect)).length ≥ 1 := by decide +kernel
example : (iterSites.filter (fun s => s.verdict == .sorted)).length ≥ 20
    ∧ (iterSites.filter (fun s => s.verdict == .lookupOnly)).length = lookupKeys.length := by decide +kernel
example : (creationSites.filter (fun s => s.role == "checker-instance")).length ≥ 1
    ∧ (creationSites.filter (fun s => s.role == "ctx-namespace")).length ≥ 1
    ∧ (creationSites.filter (fun s => s.role == "loop-accumulator")).length ≥ 10 := by decide +kernel
/-- the predicates do reject: the kinds the seeded changes produce are not benign -/
example : StateKind.impureCache.benign = false ∧ StateKind.perFileMutated.benign = false ∧ OrderVerdict.unsorted.benign = false
    ∧ MutRoot.sharedParam.perCall = false ∧ MutRoot.classState.perCall = false ∧ NondetKind.other.benign = false := by decide +kernel
end Pins

/-! ## The per-file path with explicit global state (`Model/CliState.lean`)

`G` = (patched flag, cache table): the components of the state inventory that are written after import (its other two fields, the
stdout redirect and the terminal state, are the subject of section Colour).  A per-file
program can observe `G` only by calling a memoised function.  Hypothesis `KeyDetermines proj f` is the meaning of kind
`pureCache`: the cache key determines the value.  `Inv t g` (patched ∧ every cached value is the function's value ∧ terminal state `t`) holds in
the state `main` creates and is preserved by every file, in the parent and in every pool worker. -/
section State
open I18n.CliState
variable {K K' V O F : Type} [DecidableEq K']
variable {proj : K → K'} {f : K → V} (unpackDeb : O → Bool)
variable (checkRegular : O → F → Prog K V) (checkDeb : O → F → Option (Prog K V))
variable (colourOf : Bool → Bool → Bool) (render : Bool → String → String)

/-- **No history**: in every reachable global state, after ANY list of files checked earlier in the same process (any
    prefix, any permutation, any repetition — `hist` is arbitrary), the lines printed for `file` are those of the
    file checked alone in a fresh process: `out o file` mentions neither `g` nor `hist`. -/
theorem no_history (hkey : KeyDetermines proj f) (hcol : IgnoresRedirect colourOf) (o : O) (g : G K' V) (hg : Inv proj f t g) (hist : List F) (file : F) :
    (step proj f unpackDeb checkRegular checkDeb colourOf render o (seqRun proj f unpackDeb checkRegular checkDeb colourOf render o g hist).1 file).2
      = .ok (out f unpackDeb checkRegular checkDeb colourOf render t o file) :=
  (step_inv unpackDeb checkRegular checkDeb colourOf render hkey hcol o _ file
    (seqRun_inv unpackDeb checkRegular checkDeb colourOf render hkey hcol o hist g hg).2).1

/-- the blocks printed by the sequential loop are, one by one, the single-run outputs -/
theorem seq_blocks_are_single_runs (hkey : KeyDetermines proj f) (hcol : IgnoresRedirect colourOf) (o : O) :
    ∀ (files : List F) (g : G K' V), Inv proj f t g →
      seqBlocks proj f unpackDeb checkRegular checkDeb colourOf render o g files
        = files.map (fun p => .ok (out f unpackDeb checkRegular checkDeb colourOf render t o p)) := by
  intro files
  induction files with
  | nil => intro g _; rfl
  | cons file rest ih =>
    intro g hg
    have hs := step_inv unpackDeb checkRegular checkDeb colourOf render hkey hcol o g file hg
    simp only [seqBlocks, List.map_cons, hs.1, ih _ hs.2]

/-- permuting the argument list permutes the blocks and changes none of them -/
theorem no_history_perm (hkey : KeyDetermines proj f) (hcol : IgnoresRedirect colourOf) (o : O) (g : G K' V) (hg : Inv proj f t g) (l1 l2 : List F)
    (h : l1.Perm l2) :
    (seqBlocks proj f unpackDeb checkRegular checkDeb colourOf render o g l1).Perm
      (seqBlocks proj f unpackDeb checkRegular checkDeb colourOf render o g l2) := by
  rw [seq_blocks_are_single_runs unpackDeb checkRegular checkDeb colourOf render hkey hcol o l1 g hg,
      seq_blocks_are_single_runs unpackDeb checkRegular checkDeb colourOf render hkey hcol o l2 g hg]
  exact h.map _

/-- where the pool is used, it delivers under the invariant what the stateless `executorMap` delivers for the pure per-file
    function `out`, whichever worker runs which task -/
theorem checkAll_pool_eq {t : Bool} (hkey : KeyDetermines proj f) (hcol : IgnoresRedirect colourOf) (o : O) (j : Nat) (g : G K' V)
    (hg : Inv proj f t g) (paths : List F) (sched : List (Nat × Nat)) (hpool : ¬ (paths.length ≤ 1 ∨ j ≤ 1)) :
    (CliState.checkAll proj f unpackDeb checkRegular checkDeb colourOf render o j g paths sched).2
      = collect (executorMap (fun p => Except.ok (out f unpackDeb checkRegular checkDeb colourOf render t o p)) paths (sched.map (·.1))) := by
  unfold CliState.checkAll
  rw [if_neg hpool]
  simp only [parExec_eq unpackDeb checkRegular checkDeb colourOf render hkey hcol o paths sched _ fun _ => hg]
  rfl

/-- In every reachable global state `check_all` prints the concatenation, in argument order, of the single-file outputs,
    whichever worker runs which task; the execution order has to cover the tasks only where the pool is used. -/
theorem checkAll_concat (hkey : KeyDetermines proj f) (hcol : IgnoresRedirect colourOf) (o : O) (j : Nat) (g : G K' V) (hg : Inv proj f t g)
    (paths : List F) (sched : List (Nat × Nat))
    (hall : ¬ (paths.length ≤ 1 ∨ j ≤ 1) → ∀ i, i < paths.length → i ∈ sched.map (·.1)) :
    (CliState.checkAll proj f unpackDeb checkRegular checkDeb colourOf render o j g paths sched).2
      = .ok ((paths.map (out f unpackDeb checkRegular checkDeb colourOf render t o)).flatten) := by
  by_cases hpool : paths.length ≤ 1 ∨ j ≤ 1
  · unfold CliState.checkAll
    rw [if_pos hpool]
    exact (seqRun_inv unpackDeb checkRegular checkDeb colourOf render hkey hcol o paths g hg).1
  · rw [checkAll_pool_eq unpackDeb checkRegular checkDeb colourOf render hkey hcol o j g hg paths sched hpool,
      executorMap_eq _ paths _ (hall hpool), ← collect_all_ok, List.map_map]
    rfl

/-- **Multi-file output = concatenation of the single-file outputs**, at full strength: for every reachable global state,
    every job count `j`, every assignment of tasks to pool workers and every execution order `sched` in which each task is
    run (workers keep their own state between the tasks they get). -/
theorem multi_file_concat (hkey : KeyDetermines proj f) (hcol : IgnoresRedirect colourOf) (o : O) (j : Nat) (g : G K' V) (hg : Inv proj f t g)
    (paths : List F) (sched : List (Nat × Nat)) (hall : ∀ i, i < paths.length → i ∈ sched.map (·.1)) :
    (CliState.checkAll proj f unpackDeb checkRegular checkDeb colourOf render o j g paths sched).2
      = .ok ((paths.map (out f unpackDeb checkRegular checkDeb colourOf render t o)).flatten) :=
  checkAll_concat unpackDeb checkRegular checkDeb colourOf render hkey hcol o j g hg paths sched fun _ => hall

/-- a single-file invocation (`-j 1`, nothing scheduled) prints `out o file` -/
theorem single_file_run (hkey : KeyDetermines proj f) (hcol : IgnoresRedirect colourOf) (o : O) (g : G K' V) (hg : Inv proj f t g) (file : F) :
    (CliState.checkAll proj f unpackDeb checkRegular checkDeb colourOf render o 1 g [file] []).2
      = .ok (out f unpackDeb checkRegular checkDeb colourOf render t o file) := by
  simpa only [List.map_cons, List.map_nil, List.flatten_cons, List.flatten_nil, List.append_nil] using
    checkAll_concat unpackDeb checkRegular checkDeb colourOf render hkey hcol o 1 g hg [file] [] fun hpool =>
      absurd (Or.inr (Nat.le_refl 1)) hpool

/-- the state `main` hands to `check_all`, starting from a freshly imported interpreter on a stdout of kind `tty`, satisfies
    the invariant (with terminal state `tty`) -/
theorem fresh_patched_inv (tty : Bool) :
    ∀ g1, patchEnvironment (initializeTerminal tty (fresh : G K' V)) = .ok g1 → Inv proj f tty g1 := by
  intro g1 h
  simp only [patchEnvironment, initializeTerminal, fresh] at h
  cases h
  exact ⟨rfl, consistent_nil proj f, rfl⟩

/-- **`main` end to end**: from a fresh process whose stdout is of kind `tty` (a colour terminal or not), for every file list,
    job count and schedule, `main` raises neither `EnvironmentAlreadyPatched` nor `EnvironmentNotPatched`, exits with status 0
    and prints the concatenation, in argument order, of what `main` prints for each file alone with `-j 1` ON THE SAME KIND OF
    STDOUT. -/
theorem main_concat_of_single_runs (hkey : KeyDetermines proj f) (hcol : IgnoresRedirect colourOf) (o : O) (j : Nat) (tty : Bool)
    (files : List F) (sched : List (Nat × Nat)) (hall : ∀ i, i < files.length → i ∈ sched.map (·.1)) :
    CliState.main proj f unpackDeb checkRegular checkDeb colourOf render o j tty fresh files sched
      = (.ok ((files.map (out f unpackDeb checkRegular checkDeb colourOf render tty o)).flatten), 0)
    ∧ ∀ file, CliState.main proj f unpackDeb checkRegular checkDeb colourOf render o 1 tty fresh [file] []
      = (.ok (out f unpackDeb checkRegular checkDeb colourOf render tty o file), 0) := by
  have hinv : Inv proj f tty ({ patched := true, cache := [], terminal := tty } : G K' V) := ⟨rfl, consistent_nil proj f, rfl⟩
  have hp : patchEnvironment (initializeTerminal tty (fresh : G K' V)) = .ok { patched := true, cache := [], terminal := tty } := rfl
  constructor
  · simp only [CliState.main, hp]
    rw [multi_file_concat unpackDeb checkRegular checkDeb colourOf render hkey hcol o j _ hinv files sched hall]
  · intro file
    simp only [CliState.main, hp]
    rw [single_file_run unpackDeb checkRegular checkDeb colourOf render hkey hcol o _ hinv file]

omit [DecidableEq K'] in
/-- the once-flag does its job: a second `patch_environment` in the same process is refused, and a Checker created
    before the first one is refused (the two exceptions of lib/check/__init__.py) -/
theorem patch_environment_once (g : G K' V) (hg : g.patched = true) :
    patchEnvironment g = .error .environmentAlreadyPatched := by
  simp [patchEnvironment, hg]

theorem unpatched_checker_refused (o : O) (g : G K' V) (hg : g.patched = false) (file : F) :
    step proj f unpackDeb checkRegular checkDeb colourOf render o g file = (g, .error .environmentNotPatched) := by
  simp [step, hg]

/-- `check_file_s` leaves `sys.stdout` as it found it, whatever `check_file` did (kind scopedRedirect), and captures exactly
    what `check_file` would have printed -/
theorem check_file_s_is_check_file_captured (hkey : KeyDetermines proj f) (hcol : IgnoresRedirect colourOf) (o : O) (g : G K' V) (hg : Inv proj f t g) (file : F) :
    (checkFileS proj f unpackDeb checkRegular checkDeb colourOf render o g file).1.captured = g.captured
    ∧ (checkFileS proj f unpackDeb checkRegular checkDeb colourOf render o g file).2
        = (step proj f unpackDeb checkRegular checkDeb colourOf render o g file).2 := by
  refine ⟨checkFileS_restores_stdout unpackDeb checkRegular checkDeb colourOf render o g file, ?_⟩
  rw [(checkFileS_inv unpackDeb checkRegular checkDeb colourOf render hkey hcol o g file hg).1,
      (step_inv unpackDeb checkRegular checkDeb colourOf render hkey hcol o g file hg).1]

end State

/-! ### The kind of stdout as a dimension of "for every -j" (seeded change X1-b)

`Checker.tag` formats with `color=True`: whether escape sequences come out is decided by the terminal state of the PROCESS,
set once by `initialize_terminal` from the real stdout and inherited by forked workers (`colourOfCode`).  X1-b asks
`sys.stdout.isatty()` inside `tag()` instead: in a pool worker `sys.stdout` is the StringIO of `check_file_s`. -/
section Colour
open I18n.CliState I18n.CliWitness
variable {K K' V O F : Type} [DecidableEq K']
variable {proj : K → K'} {f : K → V} (unpackDeb : O → Bool)
variable (checkRegular : O → F → Prog K V) (checkDeb : O → F → Option (Prog K V)) (render : Bool → String → String)

theorem code_ignores_redirect : IgnoresRedirect colourOfCode := fun _ _ => rfl

/-- **Colouring is the same function of (terminal, options) whether or not the file is checked in a worker**: for every kind of
    stdout `t`, every reachable state, every job count and schedule, `check_all` prints what the sequential run prints — the
    lines of each file rendered with the colour decision of the process (`-j N` = `-j 1`), and `check_file_s` in a worker
    captures exactly the bytes `check_file` prints in the parent. -/
theorem colour_independent_of_jobs (hkey : KeyDetermines proj f) (o : O) (t : Bool) (g : G K' V) (hg : Inv proj f t g)
    (paths : List F) (j : Nat) (sched : List (Nat × Nat)) (hall : ∀ i, i < paths.length → i ∈ sched.map (·.1)) :
    (CliState.checkAll proj f unpackDeb checkRegular checkDeb colourOfCode render o j g paths sched).2
      = (CliState.checkAll proj f unpackDeb checkRegular checkDeb colourOfCode render o 1 g paths []).2
    ∧ (CliState.checkAll proj f unpackDeb checkRegular checkDeb colourOfCode render o j g paths sched).2
      = .ok ((paths.map (fun p => ((checkFileProg unpackDeb checkRegular checkDeb o p).pure f).map (render t))).flatten)
    ∧ ∀ file, (checkFileS proj f unpackDeb checkRegular checkDeb colourOfCode render o g file).2
        = (step proj f unpackDeb checkRegular checkDeb colourOfCode render o g file).2 := by
  have h1 := multi_file_concat unpackDeb checkRegular checkDeb colourOfCode render hkey code_ignores_redirect o j g hg paths sched hall
  -- with `-j 1` the pool is not used, so the empty schedule will do
  have h2 := checkAll_concat unpackDeb checkRegular checkDeb colourOfCode render hkey code_ignores_redirect o 1 g hg paths []
    fun hpool => absurd (Or.inr (Nat.le_refl 1)) hpool
  refine ⟨h1.trans h2.symm, h1, fun file => ?_⟩
  exact (check_file_s_is_check_file_captured unpackDeb checkRegular checkDeb colourOfCode render hkey code_ignores_redirect o g hg file).2

/-- the probe of X1-b looks at the redirect … -/
theorem probe_does_not_ignore_redirect : ¬ IgnoresRedirect colourOfProbe := by
  intro h
  have := h true true
  simp [colourOfProbe] at this

/-- … and **the output depends on the job count**: on a colour terminal, two files, `-j 2` prints plain lines while `-j 1` and
    the single-file runs print coloured ones; on a pipe (`terminal = false`) all agree — which is why no run on a pipe can see
    it.  With the code's decision (`colourOfCode`) the same runs agree on the terminal too. -/
theorem probe_of_swapped_stdout_depends_on_jobs :
    let run := fun (colourOf : Bool → Bool → Bool) (tty : Bool) (j : Nat) (files : List String) (sched : List (Nat × Nat)) =>
      lines (CliState.main (K' := String) id (fun (k : String) => k) (fun _ => false) tagCheck (fun _ _ => none) colourOf renderEsc () j tty fresh files sched).1
    run colourOfProbe true 1 ["a.po", "b.po"] [] = ["\x1b[33ma.po: tag\x1b[0m", "\x1b[33mb.po: tag\x1b[0m"]
    ∧ run colourOfProbe true 2 ["a.po", "b.po"] [(1, 1), (0, 0)] = ["a.po: tag", "b.po: tag"]
    ∧ run colourOfProbe true 2 ["a.po", "b.po"] [(1, 1), (0, 0)] ≠ run colourOfProbe true 1 ["a.po"] [] ++ run colourOfProbe true 1 ["b.po"] []
    ∧ run colourOfProbe false 2 ["a.po", "b.po"] [(1, 1), (0, 0)] = run colourOfProbe false 1 ["a.po", "b.po"] []
    ∧ run colourOfCode true 2 ["a.po", "b.po"] [(1, 1), (0, 0)] = run colourOfCode true 1 ["a.po", "b.po"] [] := by
  decide +kernel
end Colour

/-! ### What the `pureCache` pin excludes: a cache keyed on less than its inputs (seeded change C03-a)

`polib_unescape` memoised on the escaped text alone, while its value also depends on the charset of the file being parsed.
Two files with the same escaped text and different charsets: the second file is printed with the first file's decoding. -/
section Stale
open I18n.CliState I18n.CliWitness

/-- the lossy key does not determine the value … -/
theorem stale_key_does_not_determine : ¬ KeyDetermines staleProj staleF := by
  intro h
  have := h ("x", "a") ("x", "b") rfl
  simp [staleF] at this

/-- … and history becomes visible: after `latin1.po`, `latin9.po` is printed with the Latin-1 decoding, which is not what
    `latin9.po` prints alone; with the full key (`proj = id`) the same run is history-free. -/
theorem stale_cache_breaks_no_history :
    let g0 : G String String := { patched := true, cache := [] }
    let run := fun (hist : List String) =>
      lines (step staleProj staleF (fun _ => false) staleCheck (fun _ _ => none) colourOfCode (fun _ l => l) ()
              (seqRun staleProj staleF (fun _ => false) staleCheck (fun _ _ => none) colourOfCode (fun _ l => l) () g0 hist).1 "ISO-8859-15").2
    run [] = ["ISO-8859-15:\\xa4"] ∧ run ["ISO-8859-1"] = ["ISO-8859-1:\\xa4"] ∧ run ["ISO-8859-1"] ≠ run [] := by
  decide +kernel

example :
    let g0 : G (String × String) String := { patched := true, cache := [] }
    let run := fun (hist : List String) =>
      lines (step id staleF (fun _ => false) staleCheck (fun _ _ => none) colourOfCode (fun _ l => l) ()
              (seqRun id staleF (fun _ => false) staleCheck (fun _ _ => none) colourOfCode (fun _ l => l) () g0 hist).1 "ISO-8859-15").2
    run ["ISO-8859-1"] = run [] := by
  decide +kernel

/-- non-vacuity of `multi_file_concat`: three files, two workers, worker 0 gets tasks 2 then 0, worker 1 gets task 1;
    the cache is shared by the tasks of a worker -/
example :
    lines (CliState.checkAll id staleF (fun _ => false) staleCheck (fun _ _ => none) colourOfCode (fun _ l => l) () 2
            ({ patched := true, cache := [] } : G (String × String) String)
            ["ISO-8859-1", "ISO-8859-15", "ISO-8859-1"] [(2, 0), (1, 1), (0, 0)]).2
      = ["ISO-8859-1:\\xa4", "ISO-8859-15:\\xa4", "ISO-8859-1:\\xa4"] := by
  decide +kernel
end Stale

/-! ### What `per_file_mutations_hit_per_call_objects` excludes: a per-file function writing into the shared options
(seeded change C03-d; the defect repaired by 6966f22)

In the model the options `o` are an immutable parameter of every `step` — justified by the pin: no mutation of the per-file
path reaches an object created in `main`.  If `check_deb` adds `unknown-file-type` to the `ignore_tags` set that all files
share, the options become one more component of the threaded state, and a later file loses a line. -/
section SharedOptions
open I18n.CliWitness

theorem shared_options_mutation_breaks_concat :
    runWith stepShared [] [("gizmo.deb", true), ("readme.txt", false)]
      ≠ runWith stepShared [] [("gizmo.deb", true)] ++ runWith stepShared [] [("readme.txt", false)]
    ∧ runWith stepCopy [] [("gizmo.deb", true), ("readme.txt", false)]
      = runWith stepCopy [] [("gizmo.deb", true)] ++ runWith stepCopy [] [("readme.txt", false)] := by
  decide +kernel
end SharedOptions

/-! ### What `accumulators_per_call` excludes: accumulators that survive the call (a module-level `found_unusual_characters`,
a class-level list on `Checker`, one Checker reused for all files) -/
section SharedAccumulators
open I18n.CliWitness

/-- two files with the same message (msgid `bell`, a BEL in the translation): with per-call accumulators each file gets its
    `unusual-character-in-translation`; with accumulators that survive the call the second file loses it and gains a
    `duplicate-message-definition` it does not deserve -/
theorem shared_accumulator_breaks_no_history :
    let file : List (String × List Nat) := [("bell", [7])]
    (checkMessagesPerCall file ++ checkMessagesPerCall file
      = ["unusual-character-in-translation bell", "unusual-character-in-translation bell"])
    ∧ runSharedAccumulators ([], []) [file, file]
      = ["unusual-character-in-translation bell", "duplicate-message-definition bell"]
    ∧ runSharedAccumulators ([], []) [file, file] ≠ checkMessagesPerCall file ++ checkMessagesPerCall file := by
  decide +kernel

/-- within ONE file the accumulators do their job (non-vacuity of the witness model) -/
example : checkMessagesPerCall [("bell", [7]), ("bell", [7, 8]), ("x", [8])]
    = ["unusual-character-in-translation bell", "duplicate-message-definition bell", "unusual-character-in-translation bell"] := by
  decide +kernel
end SharedAccumulators

/-! ## Hash-seed independence inside the model (`Model/HashOrder.lean`)

A set is iterated in an ARBITRARY order `ord` (any rearrangement of its elements).  Each theorem below is the shape of the
sites of one verdict of `Generated/StateSites.iterSites` and says: the result is the same for every `ord` — by
`SetOrder.indep₂`, because what the site computes from the iteration is the same on every rearrangement of the set. -/
section HashSeed
open I18n.HashOrder
variable {α β : Type}

/-- **`sorted` kills the iteration order**: for a transitive, total comparison that is antisymmetric on the elements
    (they are pairwise distinct members of a set, compared by a linear order), sorting any rearrangement gives the same
    list. -/
theorem sorted_kills_order (ord : SetOrder α) (le : α → α → Bool)
    (trans : ∀ a b c, le a b → le b c → le a c) (total : ∀ a b, le a b || le b a) (s : List α)
    (antisymm : ∀ a b, a ∈ s → b ∈ s → le a b → le b a → a = b) :
    pySorted le (ord.order s) = pySorted le s :=
  ord.indep s (pySorted le) (pySorted_perm_eq le trans total s antisymm)

/-- `', '.join(sorted(types))` (msgformat/pybrace.py after ef37847; c.py; python.py): the same text under every hash seed -/
theorem sorted_join_seed_independent (ord1 ord2 : SetOrder String) (le : String → String → Bool)
    (trans : ∀ a b c, le a b → le b c → le a c) (total : ∀ a b, le a b || le b a) (sep : String) (s : List String)
    (antisymm : ∀ a b, a ∈ s → b ∈ s → le a b → le b a → a = b) :
    sortedJoin ord1 le sep s = sortedJoin ord2 le sep s :=
  SetOrder.indep₂ ord1 ord2 s (fun l => sep.intercalate (pySorted le l)) fun l hl =>
    congrArg sep.intercalate (pySorted_perm_eq le trans total s antisymm l hl)

/-- `for x in sorted(s): …tag(…)…` (`_check_message_formats`, the `sorted(set(x))` idiom of check/__init__.py): the same
    lines in the same order under every hash seed -/
theorem sorted_for_seed_independent (ord1 ord2 : SetOrder α) (le : α → α → Bool)
    (trans : ∀ a b c, le a b → le b c → le a c) (total : ∀ a b, le a b || le b a) (emit : α → List String) (s : List α)
    (antisymm : ∀ a b, a ∈ s → b ∈ s → le a b → le b a → a = b) :
    sortedFor ord1 le emit s = sortedFor ord2 le emit s :=
  SetOrder.indep₂ ord1 ord2 s (fun l => (pySorted le l).flatMap emit) fun l hl =>
    congrArg (·.flatMap emit) (pySorted_perm_eq le trans total s antisymm l hl)

/-- `sorted(s, key=sort_key)` with a key that is injective on the elements (the classifier demands that the key contains the
    element itself): order-free.  With a key that ties, the stable sort leaks the hash order — `tie_in_key_leaks_order`. -/
theorem sorted_by_injective_key_seed_independent (ord1 ord2 : SetOrder α) (key : α → β) (leKey : β → β → Bool)
    (trans : ∀ a b c, leKey a b → leKey b c → leKey a c) (total : ∀ a b, leKey a b || leKey b a)
    (antisymmKey : ∀ a b, leKey a b → leKey b a → a = b) (s : List α)
    (inj : ∀ a b, a ∈ s → b ∈ s → key a = key b → a = b) :
    sortedByKey ord1 key leKey s = sortedByKey ord2 key leKey s :=
  SetOrder.indep₂ ord1 ord2 s (pySorted fun a b => leKey (key a) (key b)) <|
    pySorted_perm_eq _ (fun a b c => trans (key a) (key b) (key c)) (fun a b => total (key a) (key b)) s
      fun a b ha hb hab hba => inj a b ha hb (antisymmKey _ _ hab hba)

/-- what the pins exclude (1): `', '.join(frozenset)` without `sorted` — two hash orders, two texts
    (the defect of msgformat/pybrace.py repaired by ef37847, msgid `{0:n}` / msgstr `{0:s}`) -/
theorem raw_join_depends_on_seed :
    rawJoin .asWritten ", " ["int", "str"] ≠ rawJoin .reversed ", " ["int", "str"] := by decide +kernel

/-- what the pins exclude (2): `sorted(s, key=…)` with a key that ties (here: constant) keeps the hash order -/
theorem tie_in_key_leaks_order :
    sortedByKey (.asWritten : SetOrder Nat) (fun _ => 0) (fun a b => decide (a ≤ b)) [1, 2]
      ≠ sortedByKey .reversed (fun _ => 0) (fun a b => decide (a ≤ b)) [1, 2] := by decide +kernel

/-- a regex alternation built from a set and used for match existence only (`check_comments`) -/
theorem any_match_seed_independent (ord1 ord2 : SetOrder α) (matchesAlt : α → Bool) (s : List α) :
    anyMatch ord1 matchesAlt s = anyMatch ord2 matchesAlt s :=
  SetOrder.indep₂ ord1 ord2 s (·.any matchesAlt) fun _ hl => hl.any_eq

/-- a dict built by iterating a set and used for look-ups only (`header_fields_lc`, `_unmangle_encoding`): when the keys
    are pairwise distinct (pin `lookup_tables_have_distinct_keys`) every look-up gives the same answer under every order -/
theorem dict_get_seed_independent [DecidableEq β] (ord1 ord2 : SetOrder α) (key : α → β) (s : List α) (hn : s.Nodup)
    (inj : ∀ a b, a ∈ s → b ∈ s → key a = key b → a = b) (k : β) :
    dictGet (dictOfSet ord1 key s) k = dictGet (dictOfSet ord2 key s) k := by
  refine SetOrder.indep₂ ord1 ord2 s (fun l => dictGet (l.map fun x => (key x, x)) k) fun l hl => ?_
  -- the look-up sees only the elements whose key is `k`, and there is at most one of them
  have hp : (l.filter (fun x => key x == k)).Perm (s.filter (fun x => key x == k)) := hl.filter _
  have hle : (s.filter (fun x => key x == k)).length ≤ 1 :=
    Kit.Nodup.length_le_one_of_forall_eq (hn.filter _) fun a ha b hb => by
      simp only [List.mem_filter, beq_iff_eq] at ha hb
      exact inj a b ha.1 hb.1 (ha.2.trans hb.2.symm)
  have heq : l.filter (fun x => key x == k) = s.filter (fun x => key x == k) := by
    generalize s.filter (fun x => key x == k) = B at hp hle ⊢
    match B, hle, hp with
    | [], _, hp => exact hp.eq_nil
    | [x], _, hp => exact hp.eq_singleton
  unfold dictGet
  rw [List.filter_map, List.filter_map]
  exact congrArg (fun m => (m.map fun x => (key x, x)).getLast?.map (·.2)) heq

/-- `difflib.get_close_matches(word, <set>, n=1)`: the maximum of (score, candidate) pairs under a total order is the same
    whatever the order in which the candidates are visited -/
theorem best_match_seed_independent (ord1 ord2 : SetOrder α) (better : α → α → α)
    (comm : ∀ a b, better a b = better b a) (assoc : ∀ a b c, better (better a b) c = better a (better b c)) (s : List α) :
    bestMatch ord1 better s = bestMatch ord2 better s := by
  refine SetOrder.indep₂ ord1 ord2 s
    (·.foldl (fun acc x => some (match acc with | none => x | some a => better a x)) none) fun l hl => ?_
  apply hl.foldl_eq'
  intro x _ y _ z
  cases z with
  | none => simp only [comm x y]
  | some a =>
    simp only [Option.some.injEq]
    rw [assoc, assoc, comm x y]

/-- `[x] = s` and `s.pop()` under `len(s) == 1` -/
theorem the_only_seed_independent (ord1 ord2 : SetOrder α) (s : List α) : theOnly ord1 s = theOnly ord2 s := by
  refine SetOrder.indep₂ ord1 ord2 s (fun l => match l with | [x] => some x | _ => none) fun l hl => ?_
  have hlen := hl.length_eq
  match s, hl, hlen with
  | [], hl, _ => rw [hl.eq_nil]
  | [x], hl, _ => rw [hl.eq_singleton]
  | x :: y :: t, _, hlen =>
    match l, hlen with
    | a :: b :: r, _ => rfl

/-! non-vacuity: concrete sets, two different iteration orders, the real comparison on strings -/
example : sortedJoin .asWritten (fun a b => decide (a ≤ b)) ", " ["str", "int", "float"] = "float, int, str"
    ∧ sortedJoin .reversed (fun a b => decide (a ≤ b)) ", " ["str", "int", "float"] = "float, int, str" := by decide +kernel
example : sortedFor (.reversed : SetOrder Nat) (fun a b => decide (a ≤ b)) (fun n => [toString n]) [3, 1, 2] = ["1", "2", "3"] := by
  decide +kernel
example : dictGet (dictOfSet (.reversed : SetOrder String) String.length ["a", "bb"]) 2 = some "bb" := by decide +kernel
example : bestMatch (.reversed : SetOrder Nat) max [3, 9, 4] = some 9 ∧ theOnly (.reversed : SetOrder Nat) [7] = some 7 := by decide +kernel
end HashSeed

end I18n.Props.C03
