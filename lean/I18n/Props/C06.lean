import I18n.Model.Plural
import I18n.Lemmas.Period
import I18n.Lemmas.ExceptDec
/-!
# C06 — periodicity analysis of plural expressions is sound

Stated about the definitions generated from `lib/intexpr.py` (including the `gcd` loop and the
`lcm` fold), for every expression, every width and every `n`.
-/
namespace I18n.Props.C06
open I18n I18n.Py I18n.Plural I18n.Generated.Intexpr

/-- The analysis never fails: `gcd` terminates within its declared variant, no division by zero
    happens inside `lcm`, no attribute error on `node.right.n`. -/
theorem period_nocrash (bits : Nat) (e : Expr) : ∃ r, period bits e = .ok r := by
  obtain ⟨r, hr, _⟩ := period_main (M := (2 : Int) ^ bits) e
  exact ⟨r, hr⟩

/-- **C06.**  If the analysis returns `(O, P)` for width `bits`, then `P > 0` and for every `n ≥ O`
    with `n + P < 2^bits` the expression has the same outcome at `n` and at `n + P`: the same value,
    or a failure at both. -/
theorem period_sound (bits : Nat) (e : Expr) (O P : Int) (h : period bits e = .ok (some (O, P))) :
    0 ≤ O ∧ 0 < P ∧
      ∀ n : Nat, O ≤ (n : Int) → (n : Int) + P < 2 ^ bits → outcome bits n e = outcome bits ((n : Int) + P) e := by
  have hs := outcome_periodic h
  exact ⟨hs.offset_nonneg, hs.period_pos, fun _ hn hlt => hs.step hn hlt⟩

/-- `gcd` of the source is the mathematical gcd on the non-negative ints it is applied to, and its
    loop terminates within the variant `y + 1` the translator was given. -/
theorem gcd_correct (x y : Nat) : gcd x y = .ok (Nat.gcd x y : Int) :=
  gcd_ok (Int.natCast_nonneg x) (Int.natCast_nonneg y)

section
open scoped I18n.ExceptDec

/-- `n % 10 == 1 && n % 100 != 11` has period `(0, 100)` at width 32 -/
example : period 32 (.boolop .and (.compare (.binop .name .mod (.num 10)) .eq (.num 1))
    (.compare (.binop .name .mod (.num 100)) .noteq (.num 11))) = .ok (some (0, 100)) := by decide +kernel
/-- `n != 1` is constant from 2 on -/
example : period 32 (.compare .name .noteq (.num 1)) = .ok (some (2, 1)) := by decide +kernel
example : outcome 32 5 (.compare .name .noteq (.num 1)) = some 1 := by decide +kernel

end

end I18n.Props.C06
