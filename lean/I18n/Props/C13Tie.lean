import I18n.Lemmas.PyBraceFieldGenerated
import I18n.Props.C13
/-!
# C13 — the tie by translation: `Field.__init__` and `FormatString.add_argument` REGENERATED from `lib/strformat/pybrace.py`
are the model

`I18n.Generated.PyBraceField` is rewritten from the repository's current `lib/strformat/pybrace.py` by
`tools/translate/pybracefield2lean.py` on every run.  The theorems below prove the regenerated `add_argument` equal to
`PyBrace.addArgument` and the regenerated `Field.__init__` equal to `PyBrace.fieldInit` — the new numbering state, `self.types`, or the
exception class WITH its argument — for ALL states, ALL scanned fields and all values of the two constants (`SSIZE_MAX`, the digit limit);
then the whole parser with the regenerated constructor in the modelled `finditer` loop (`G.parseWithG`) is `PyBrace.parseWith`, and the
headline theorems of C13 about the python-brace parser are restated about it.
The object under construction is stored in the map before its `types` attribute is assigned: the regenerated function takes the value
the attribute will have as a parameter, and `generated_field_init_types` proves it returns exactly that value (`PyBrace.ownTypes`).
The `finditer` loop, `_printable_prefix`, and the final intersection of the types per key stay hand-modelled (`pybrace parse` streams).
-/
namespace I18n.Props.C13Tie
open I18n I18n.PyBrace I18n.PyBrace.Py I18n.PyBrace.G I18n.Spec.StrFormat I18n.Generated

/-! ## the regenerated definitions are the model -/

/-- `parent.add_argument(name, field)` as regenerated = `PyBrace.addArgument` (`IndexError` / `OverflowError` / `ValueError` as raised) -/
theorem generated_add_argument_eq_model (cfg : Cfg) (st : State) (name : Option (List Char)) (a : Arg) :
    PyBraceField.add_argument cfg st name a = Gen.liftAddErr (addArgument cfg st name a) :=
  Gen.add_argument_eq cfg st name a

/-- `Field(parent, match)` as regenerated, for a scanned field (its `format` group starts with `:`), = `PyBrace.fieldInit`:
    `self.types`, the parent afterwards, or the exception class with its argument -/
theorem generated_field_init_eq_model (cfg : Cfg) (st : State) (f : RawField) (hfmt : ∀ fm, f.format = some fm → ∃ t, fm = ':' :: t) :
    PyBraceField.Field.__init__ cfg (ownTypes cfg f) st f = (fieldInit cfg st f).map (fun r => (r.2, r.1)) :=
  Gen.field_init_eq cfg st f hfmt

/-- the value `self.types` gets is the value that was assumed when the object was stored in the map -/
theorem generated_field_init_types (cfg : Cfg) (st st' : State) (f : RawField) (tp : TySet)
    (hfmt : ∀ fm, f.format = some fm → ∃ t, fm = ':' :: t)
    (h : PyBraceField.Field.__init__ cfg (ownTypes cfg f) st f = .ok (tp, st')) : tp = ownTypes cfg f := by
  rw [generated_field_init_eq_model cfg st f hfmt] at h
  cases hf : fieldInit cfg st f with
  | error e => rw [hf] at h; cases h
  | ok r =>
    rw [hf] at h
    obtain ⟨rfl, rfl⟩ := Prod.mk.inj (Except.ok.inj h)
    exact Gen.fieldInit_types hf

theorem loopG_eq (cfg : Cfg) : ∀ fuel cs st items, loopG cfg fuel cs st items = loop cfg fuel cs st items := by
  intro fuel
  induction fuel with
  | zero => intro cs st items; cases cs <;> rfl
  | succ n ih =>
    intro cs st items
    cases cs with
    | nil => rfl
    | cons c cs =>
      simp only [loopG, loop]
      cases hl : scanLiteral (c :: cs).length (c :: cs) with
      | mk t rest0 =>
        cases t with
        | cons t0 ts => exact ih _ _ _
        | nil =>
          simp only []
          cases hsf : scanField (c :: cs) with
          | none => rfl
          | some p =>
            obtain ⟨f, rest⟩ := p
            simp only [Gen.fieldInitG_eq cfg st f (scanned_format hsf)]
            cases fieldInit cfg st f with
            | error e => rfl
            | ok r => obtain ⟨st', tp⟩ := r; exact ih _ _ _

/-- the parser with the regenerated constructor is the model's parser, under any constants -/
theorem generated_parse_eq_model (cfg : Cfg) (s : List Char) : parseWithG cfg s = parseWith cfg s := by
  unfold parseWithG parseWith
  rw [loopG_eq]
  cases loop cfg s.length s { next := some 0, map := [] } [] with
  | error e => rfl
  | ok r => obtain ⟨st, items⟩ := r; simp only []; cases unify s st.map <;> rfl

theorem generated_parse_eq_model_live (s : List Char) : parseG s = PyBrace.parse s := generated_parse_eq_model liveCfg s

/-! ## the headline theorems of C13 (python-brace), of the parser with the regenerated constructor -/

/-- **If the python-brace parser accepts a string then Python's own str.format parser accepts it** -/
theorem brace_accept_parses_generated {s : List Char} {r : PyBrace.Result} (h : parseG s = .ok r) : parseOK s :=
  C13.brace_accept_parses (generated_parse_eq_model_live s ▸ h)

/-- **raise only their own error type** -/
theorem brace_error_own_generated {s : List Char} {e : PyBrace.PErr} (h : parseG s = .error e) : ∃ c a, e = .own c a :=
  C13.brace_error_own (generated_parse_eq_model_live s ▸ h)

/-- **A string rejected by Python's parser is rejected** -/
theorem brace_reject_generated {s : List Char} (h : ¬ parseOK s) : ∃ c a, parseG s = .error (.own c a) := by
  rw [generated_parse_eq_model_live]; exact C13.brace_reject h

/-- **flat strings format** with arguments of the reported positions, names and types (outside the two open typing gaps) -/
theorem flat_formats_partial_generated {s : List Char} {r : PyBrace.Result} {a : Args} (h : parseG s = .ok r)
    (hflat : PyBrace.Flat s) (hq : PyBrace.QuirkFree s) (hm : PyBrace.Matches r a) : format s a = .ok () :=
  C13.flat_formats_partial (generated_parse_eq_model_live s ▸ h) hflat hq hm

/-- the formatting clause is never vacuous -/
theorem matches_exists_generated {s : List Char} {r : PyBrace.Result} (h : parseG s = .ok r) : ∃ a, PyBrace.Matches r a :=
  C13.matches_exists (generated_parse_eq_model_live s ▸ h)


example : parseG "{0:>{1}.2f} {name!r}".toList = PyBrace.parse "{0:>{1}.2f} {name!r}".toList := generated_parse_eq_model_live _
example : (parseG "{:d}{!s}".toList).toOption.map (fun r => r.argMap.length) = some 2 := by
  rw [generated_parse_eq_model_live, String.toList_ofList]
  decide +kernel
example : (parseG "{}{0}".toList).toOption.isNone = true := by
  rw [generated_parse_eq_model_live, String.toList_ofList]
  decide +kernel

end I18n.Props.C13Tie
