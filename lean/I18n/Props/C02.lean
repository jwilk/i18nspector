import I18n.Lemmas.TagsLine
import I18n.Generated.SafestrSites
import I18n.Generated.TagSites
import I18n.Generated.TagState
/-!
# C02 — one well-formed line per problem; file content cannot forge or corrupt output

Model: `I18n.Tags` (lib/tags.py `_escape` / `safe_format` / `Tag.format` / `get_priority`, msgrepr.py, cli.py
`Checker.tag`, with CPython's `repr`, `str(int)` and the used subset of `str.format`).  `str.isprintable` and the
category Cf are parameters (`UnicodeDB`); every theorem that needs them assumes `Sound db`, which `unicode_sound`
discharges for the tables dumped from the running interpreter.

`safestr_sites_tool_text` is the inventory: a proof over the table of `safestr` / `safe_format` sites that the translator
extracts from /repo on every run; the statement makes no exception for any site.
-/
namespace I18n.Props.C02
open I18n I18n.Tags I18n.Spec I18n.Spec.Tags

/-- The interpreter's own tables satisfy what the theorems assume: nothing `str.isprintable` accepts is a control,
    a format character (Cf), a line/paragraph separator or a surrogate; no ASCII character is Cf.
    (711 printable ranges against 25 hostile ranges, checked in the kernel.) -/
theorem unicode_sound : Sound liveDb where
  ascii_not_format := by
    intro c h1 h2
    exact disjointRanges_sound [(32, 126)] _ (by decide +kernel) c (by simp [inRanges, h1, h2])
  printable_not_hostile := by
    intro c hc
    rw [liveHostile_eq]
    exact disjointRanges_sound _ _ (by decide +kernel) c hc

/-- Whatever reaches `_escape` without being a `safestr` — a `str`, `bytes`, an `int` — comes out
    without any newline, ESC, other C0/C1 control, DEL, format character, line/paragraph separator or surrogate. -/
theorem escape_clean {db : UnicodeDB} (h : Sound db) (x : Extra) (hx : x.escaped = true) :
    Clean db (escape db x) :=
  token_clean h (Tags.escape_token h x hx)

/-- the same class by class, the surrogates left out -/
theorem escape_clean_classes {db : UnicodeDB} (h : Sound db) (x : Extra) (hx : x.escaped = true) :
    ∀ c ∈ escape db x, c ≠ 10 ∧ c ≠ 27 ∧ c ≠ 127 ∧ 32 ≤ c ∧ ¬(128 ≤ c ∧ c ≤ 159) ∧ db.format c = false ∧
      c ≠ 0x2028 ∧ c ≠ 0x2029 :=
  fun c hc => classes_of_not_hostile (escape_clean h x hx c hc)

/-- … and for the running interpreter's tables, without hypothesis -/
theorem escape_clean_live (x : Extra) (hx : x.escaped = true) : Clean liveDb (escape liveDb x) :=
  escape_clean unicode_sound x hx

/-- The escaped form is one token: a non-empty word over `[A-Za-z0-9_.!<>=-]`, the text
    `(empty string)`, or a quoted Python literal whose body consists of harmless characters other than the quote and
    the backslash and of the escape sequences `\\ \' \" \t \n \r \xNN \uNNNN \UNNNNNNNN` — so an extra can neither
    end its own quotes nor smuggle a blank-separated second extra. -/
theorem escape_token {db : UnicodeDB} (h : Sound db) (x : Extra) (hx : x.escaped = true) :
    Token db (escape db x) :=
  Tags.escape_token h x hx

/-- ints are printed verbatim (and are safe words) -/
theorem escape_int (db : UnicodeDB) (n : Int) : escape db (.int n) = strInt n ∧ isSafe (strInt n) = true :=
  ⟨Tags.escape_int db n, strInt_safe n⟩

/-- the regex behind the hand-written `isSafe` is the one the source compiles, used through `.match`, no flags -/
theorem is_safe_pin :
    Generated.TagRegistry.isSafePattern = "\\A[A-Za-z0-9_.!<>=-]+\\Z" ∧
    Generated.TagRegistry.isSafeFlags = 0 ∧ Generated.TagRegistry.isSafeMethod = "match" := by decide +kernel

/-- Without colour the line is exactly `<letter>: <path>: <tag>[ <extra> …]`, the extras being
    the escaped forms joined by single blanks, and the letter is one of E, W, I, P. -/
theorem format_grammar (db : UnicodeDB) (t : Tag) (p : Str) (xs : List Extra) :
    format db t p xs none = lineOf t.priority.code p t.name (xs.map (escape db)) ∧
    (t.priority.toChar = 'E' ∨ t.priority.toChar = 'W' ∨ t.priority.toChar = 'I' ∨ t.priority.toChar = 'P') := by
  refine ⟨by rw [format_eq, Option.getD_none, List.nil_append, List.append_nil], ?_⟩
  cases t.priority <;> simp [Letter.toChar]

/-- With colour, the line is the plain line with `on` / `off` inserted around the tag name and
    nowhere else — for arbitrary `on`, `off`. -/
theorem colour_strip (db : UnicodeDB) (t : Tag) (p : Str) (xs : List Extra) (on off : Str) :
    ∃ pre post : Str,
      format db t p xs (some (on, off)) = pre ++ on ++ t.name ++ off ++ post ∧
      format db t p xs none = pre ++ t.name ++ post := by
  refine ⟨[t.priority.code] ++ lit ": " ++ p ++ lit ": ",
    if xs.isEmpty then [] else lit " " ++ joinStr (lit " ") (xs.map (escape db)), ?_, ?_⟩ <;>
  · simp only [format]
    split <;> simp [List.append_assoc]

/-- If the path, the tag name and the `safestr` extras are clean, the whole uncoloured line is:
    nothing file-derived can put a control, format or separator character on stdout. -/
theorem line_clean {db : UnicodeDB} (h : Sound db) (t : Tag) (p : Str) (xs : List Extra)
    (hp : Clean db p) (hn : Clean db t.name) (hsafe : ∀ s, Extra.safe s ∈ xs → Clean db s) :
    Clean db (format db t p xs none) :=
  format_forall h (fun _ => id) t p xs none hp (by simpa [Clean] using hn) hsafe

/-- A run of `Checker.tag` calls that does not hit an unknown tag writes exactly one line per call
    whose tag is not ignored — provided the path, the registry's tag names, the colour strings and the `safestr`
    extras are newline-free (file-derived extras need no hypothesis: the escaper removes their newlines). -/
theorem line_count {db : UnicodeDB} (h : Sound db) (cfg : Config) (calls : List (Str × List Extra)) (out : Str)
    (hrun : runTags db cfg calls = .ok out)
    (hpath : 10 ∉ cfg.path) (hnames : ∀ t ∈ cfg.registry, 10 ∉ t.name)
    (hcol : ∀ t, 10 ∉ (cfg.colours t).1 ∧ 10 ∉ (cfg.colours t).2)
    (hsafe : ∀ call ∈ calls, ∀ s, Extra.safe s ∈ call.2 → 10 ∉ s) :
    newlines out = (printing cfg calls).length ∧
    ∃ lines : List Str, lines.length = (printing cfg calls).length ∧ (∀ l ∈ lines, 10 ∉ l) ∧
      out = (lines.map (· ++ [10])).flatten := by
  obtain ⟨lines, hlen, hnl, rfl⟩ := runTags_lines db cfg calls out hrun (by
    intro call hcall t ht
    simp only [← List.forall_mem_ne'] at hpath hnames hcol hsafe ⊢
    refine format_forall h (fun c hc => (classes_of_not_hostile hc).1) t _ _ _ hpath ?_ (hsafe call hcall)
    simp only [Option.getD_some, List.forall_mem_append]
    exact ⟨⟨(hcol t).1, hnames t ht⟩, (hcol t).2⟩)
  exact ⟨by rw [count_lines lines hnl, hlen], lines, hlen, hnl, rfl⟩

/-- unknown tag names are refused (`DataIntegrityError`), nothing is printed for them -/
theorem unknown_tag_refused (db : UnicodeDB) (cfg : Config) (n : Str) (xs : List Extra)
    (hign : cfg.ignore.contains n = false) (hunk : ∀ t ∈ cfg.registry, t.name ≠ n) :
    checkerTag db cfg n xs = .error .dataIntegrity := by
  have : findTag cfg.registry n = none := by
    unfold findTag
    rw [List.find?_eq_none]
    intro t ht
    simpa using hunk t ht
  have hign' : n ∉ cfg.ignore := by simpa using hign
  simp [checkerTag, hign', this]

/-- a printed line always carries a registered tag and that tag's own letter -/
theorem printed_tag_registered (db : UnicodeDB) (cfg : Config) (n : Str) (xs : List Extra) (out : Str)
    (h : checkerTag db cfg n xs = .ok out) (hne : out ≠ []) :
    ∃ t ∈ cfg.registry, t.name = n ∧ out = format db t cfg.path xs (some (cfg.colours t)) ++ [10] := by
  rcases checkerTag_ok h with ⟨_, rfl⟩ | ⟨_, t, ht, rfl⟩
  · exact absurd rfl hne
  · exact ⟨t, (findTag_mem ht).1, (findTag_mem ht).2, rfl⟩

/-- The output of a run of `Checker.tag` calls is the concatenation of what each call prints
    when taken alone: `calls.map (one call) = outs.map ok` and `out = outs.flatten`.  So the line of a call is a function
    of that call's arguments (and the configuration) only — never of the calls before it.  (The model has no state to
    carry from one call to the next; the real `_escape` / `Tag.format` are tied to that by the `tags-seq` stream and by
    `escaper_stateless`.) -/
theorem format_calls_independent (db : UnicodeDB) (cfg : Config) :
    ∀ (calls : List (Str × List Extra)) (out : Str), runTags db cfg calls = .ok out →
      ∃ outs : List Str,
        calls.map (fun c => checkerTag db cfg c.1 c.2) = outs.map Except.ok ∧ out = outs.flatten :=
  fun calls out => (runTags_ok_iff db cfg calls out).mp

/-- … and conversely the per-call outputs determine the run -/
theorem format_calls_determine_run (db : UnicodeDB) (cfg : Config) (calls : List (Str × List Extra)) (outs : List Str)
    (h : calls.map (fun c => checkerTag db cfg c.1 c.2) = outs.map Except.ok) :
    runTags db cfg calls = .ok outs.flatten :=
  (runTags_ok_iff db cfg calls _).mpr ⟨outs, h, rfl⟩

/-- The same calls `rest` after two different histories `pre₁`, `pre₂` print the same text `r`:
    both outputs split as (what the history printed) ++ r, with `r` the output of `rest` run on its own. -/
theorem history_independent (db : UnicodeDB) (cfg : Config) (pre₁ pre₂ rest : List (Str × List Extra)) (o₁ o₂ : Str)
    (h₁ : runTags db cfg (pre₁ ++ rest) = .ok o₁) (h₂ : runTags db cfg (pre₂ ++ rest) = .ok o₂) :
    ∃ p₁ p₂ r : Str, runTags db cfg pre₁ = .ok p₁ ∧ runTags db cfg pre₂ = .ok p₂ ∧ runTags db cfg rest = .ok r ∧
      o₁ = p₁ ++ r ∧ o₂ = p₂ ++ r := by
  obtain ⟨p₁, r, hp₁, hr, rfl⟩ := (runTags_append_ok ..).mp h₁
  obtain ⟨p₂, r', hp₂, hr', rfl⟩ := (runTags_append_ok ..).mp h₂
  cases hr.symm.trans hr'
  exact ⟨p₁, p₂, r, hp₁, hp₂, hr, rfl, rfl⟩

/-- Inside one line, the token printed for an extra is `escape` of that extra alone,
    whatever the extras before and after it. -/
theorem extra_token_independent (db : UnicodeDB) (t : Tag) (p : Str) (pre post : List Extra) (x : Extra) :
    format db t p (pre ++ x :: post) none =
      lineOf t.priority.code p t.name (pre.map (escape db) ++ escape db x :: post.map (escape db)) := by
  rw [format_eq]; simp

def fnStateless (f : Generated.TagState.Fn) : Bool :=
  (f.kind = "function" || f.kind = "method") && f.decorators.isEmpty && f.scopeDecls.isEmpty &&
    f.mutableDefaults.isEmpty && f.writes.isEmpty && f.readsState.isEmpty

/-- (Pin over the `ast` inventory regenerated from /repo on every run).  `_escape`, `safe_format`,
    `Tag.format`, `Tag.get_priority`, `get_tag`, `message_repr` and `Checker.tag` are each bound by exactly one plain `def`
    (not wrapped or re-assigned afterwards), carry no decorator (no `lru_cache`), declare nothing `global` / `nonlocal`,
    have no non-constant default value, store into / mutate no non-local name and no parameter, and mention no
    module-level name that some function body mutates — themselves or through the callees they reach in lib/tags.py,
    msgrepr.py, cli.py.  This is the static reason why the stateless model can stand for the real functions; a memo
    table in `_escape` (seeded change C02-c) breaks it. -/
theorem escaper_stateless :
    Generated.TagState.fns.map (·.key) =
      ["lib/tags.py:_escape", "lib/tags.py:safe_format", "lib/tags.py:Tag.format", "lib/tags.py:Tag.get_priority",
       "lib/tags.py:get_tag", "lib/check/msgrepr.py:message_repr", "lib/cli.py:Checker.tag"] ∧
    ∀ f ∈ Generated.TagState.fns, fnStateless f = true := by decide +kernel

def probedLetter (s c : Nat) : Option Char :=
  (Generated.TagRegistry.priorityTable.find? fun r => r.1 = s && r.2.1 = c).map (·.2.2)

/-- The model's `priority` is what the live `Tag.get_priority` answers on all 6 × 3 pairs, and the
    enumerations are declared in the order the model assumes. -/
theorem priority_pin :
    Generated.TagRegistry.severityNames = ["pedantic", "wishlist", "minor", "normal", "important", "serious"] ∧
    Generated.TagRegistry.certaintyNames = ["wild-guess", "possible", "certain"] ∧
    Generated.TagRegistry.priorityTable.length = 18 ∧
    ∀ s : Severity, ∀ c : Certainty, probedLetter s.rank c.rank = some (priority s c).toChar := by
  refine ⟨by decide +kernel, by decide +kernel, by decide +kernel, ?_⟩
  intro s c
  cases s <;> cases c <;> decide +kernel

/-- The letter never decreases (P < I < W < E) when severity or certainty increases. -/
theorem priority_monotone (s s' : Severity) (c c' : Certainty) (hs : s.rank ≤ s'.rank) (hc : c.rank ≤ c'.rank) :
    (priority s c).rank ≤ (priority s' c').rank := by
  -- 324 cases: `decide` where the conclusion holds; where it does not, one of `hs`, `hc` is false and `simp` finds it
  cases s <;> cases s' <;> cases c <;> cases c' <;> first | decide | (simp [Severity.rank, Certainty.rank] at hs hc)

def tableMonotone (table : List (Nat × Nat × Char)) : Bool :=
  table.all fun r => table.all fun r' =>
    !(decide (r.1 ≤ r'.1) && decide (r.2.1 ≤ r'.2.1)) ||
      (match letterRank r.2.2, letterRank r'.2.2 with
       | some a, some b => decide (a ≤ b)
       | _, _ => false)

/-- … the same on the probed table itself: for any two rows, severity and certainty not smaller ⇒ letter not smaller
    (P < I < W < E), and every probed letter is one of the four -/
theorem priority_table_monotone : tableMonotone Generated.TagRegistry.priorityTable = true := by decide +kernel

def entryOk (e : Nat × List Nat × Nat × Nat × Char) : Bool :=
  match entryTag e with
  | some t =>
    t.priority.toChar = e.2.2.2.2 && nameKey t.name = e.1 && !t.name.isEmpty &&
      t.name.all (fun c => (97 ≤ c && c ≤ 122) || (48 ≤ c && c ≤ 57) || c = 45)
  | none => false

/-- Every tag of the registry (as loaded by the tool) has a valid severity and certainty, the
    letter the live object answers is the model's `priority`, and its name is a non-empty word over `[a-z0-9-]`
    (so it is clean, blank-free and newline-free). -/
theorem registry_letter : ∀ e ∈ Generated.TagRegistry.tags, entryOk e = true := by decide +kernel

def registryKeys : List Nat := Generated.TagRegistry.tags.map (·.1)

def tagSiteOk (s : String × String × String × Nat × Nat × String) : Bool :=
  (s.2.2.2.1 = 0 && registryKeys.contains s.2.2.2.2.1) || s.2.2.2.1 = 1

/-- Every `….tag(…)` call in lib/ names its tag by a string literal that is in the
    registry; the only other call is the pure forwarder `msgformat.Checker.tag`. -/
theorem tag_sites_registered : ∀ s ∈ Generated.TagSites.sites, tagSiteOk s = true := by decide +kernel

/-- `safe_format` of a clean template is clean, whatever the (non-`safestr`) arguments:
    every inserted piece went through the escaper. -/
theorem safe_format_clean {db : UnicodeDB} (h : Sound db) (template : Str) (args : List Extra)
    (kwargs : List (Str × Extra)) (out : Str) (hout : safeFormat db template args kwargs = .ok out)
    (ht : Clean db template)
    (hargs : ∀ x ∈ args, x.escaped = false → Clean db (escape db x))
    (hkw : ∀ kv ∈ kwargs, kv.2.escaped = false → Clean db (escape db kv.2)) : Clean db out :=
  -- a `safestr` passes the escaper unchanged, so for those the hypotheses speak of the argument itself
  safeFormat_forall h (fun _ => id) template args kwargs out hout ht
    (fun s hs => hargs (.safe s) hs rfl) (fun k s hks => hkw (k, .safe s) hks rfl)

/-- The message identification is clean for every msgid and msgctxt, for any clean
    `template` parameter (all callers pass the literals `'{}'`, `'({})'`, `'{}:'`, see the site inventory). -/
theorem message_repr_clean {db : UnicodeDB} (h : Sound db) (msgid : Str) (msgctxt : Option Str) (template out : Str)
    (ht : Clean db template) (hout : messageRepr db msgid msgctxt template = .ok out) : Clean db out :=
  messageRepr_forall h (fun _ => id) msgid msgctxt template out ht hout

theorem sites_checked : Generated.SafestrSites.sites.all (fun s => s.provenance.toolText) = true := by decide +kernel

/-- Every place where lib/ marks text as exempt from escaping — every
    `tags.safestr(X)`, every `safe_format` template, every other mention of those names — wraps tool-generated text
    (literal, int, tool table, regex-guarded, library message, Unicode name, format of escaped pieces); none wraps
    text of the checked file.  Proof over the table the translator extracts from /repo on every run; the
    classifier's rules are trusted (tools/translate/tagsites2lean.py). -/
theorem safestr_sites_tool_text :
    ∀ s ∈ Generated.SafestrSites.sites, s.provenance ≠ .fileDerived ∧ s.provenance ≠ .unknown := by
  intro s hs
  have h := List.all_eq_true.mp sites_checked s hs
  cases hp : s.provenance <;> simp [hp, Provenance.toolText] at h ⊢

/-! Test vectors.  Long string literals are first turned into character lists by `String.toList_ofList`: the kernel
decodes a literal slowly, and again at every use. -/

private def demoDb : UnicodeDB := liveDb
private def demoTag : Tag := ⟨lit "invalid-date", .normal, .certain⟩

-- newline, ESC[31m, C1 CSI, RLO, ZWSP, DEL all leave the escaper as ASCII escapes
example : escape liveDb (.str [97, 10, 27, 91, 51, 49, 109, 0x9B, 0x202E, 0x200B, 127]) =
    lit "'a\\n\\x1b[31m\\x9b\\u202e\\u200b\\x7f'" := by
  simp only [lit]
  rw [String.toList_ofList]
  decide +kernel
example : escape liveDb (.str (lit "it's")) = lit "\"it's\"" := by decide +kernel
example : escape liveDb (.str []) = lit "(empty string)" := by decide +kernel
example : escape liveDb (.str (lit "foo-bar_1.0")) = lit "foo-bar_1.0" := by decide +kernel
example : escape liveDb (.str (lit "a b")) = lit "'a b'" := by decide +kernel
example : escape liveDb (.bytes [0x62, 0x27, 0xFF, 0x0A]) = lit "\"b'\\xff\\n\"" := by decide +kernel
example : escape liveDb (.str [0x1F600, 0xE9]) = [39, 0x1F600, 0xE9, 39] := by decide +kernel   -- printable: kept
example : escape liveDb (.str [0xD800]) = lit "'\\ud800'" := by decide +kernel
example : escape liveDb (.int (-42)) = lit "-42" := by decide +kernel
example : format liveDb demoTag (lit "x.po") [.safe (lit "PO-Revision-Date:"), .str (lit "20 12")] none =
    lit "W: x.po: invalid-date PO-Revision-Date: '20 12'" := by
  simp only [demoTag, lit]
  repeat rw [String.toList_ofList]
  decide +kernel
example : format liveDb demoTag (lit "x.po") [] (some (lit "<", lit ">")) = lit "W: x.po: <invalid-date>" := by
  simp only [demoTag, lit]
  repeat rw [String.toList_ofList]
  decide +kernel
example : (messageRepr liveDb (lit "a b") (some (lit "c")) (lit "{}:")).toOption = some (lit "msgid 'a b' msgctxt c:") := by
  simp only [lit]
  repeat rw [String.toList_ofList]
  decide +kernel
example : (pyFormat (lit "f({}): {x}") [lit "1"] [(lit "x", lit "y")]).toOption = some (lit "f(1): y") := by decide +kernel
example : (pyFormat (lit "f({}): {x} }") [lit "1"] [(lit "x", lit "y")]).toOption = none := by decide +kernel
-- what the inventory theorem is about: a safestr extra is printed raw
example : format liveDb demoTag (lit "x.po") [.safe [27, 91, 51, 49, 109]] none =
    lit "W: x.po: invalid-date " ++ [27, 91, 51, 49, 109] := by
  simp only [demoTag, lit]
  repeat rw [String.toList_ofList]
  decide +kernel

-- history independence is not vacuous: the same characters as `safestr` (tool text) and as `str` / `bytes` (file text) are
-- different extras with different tokens …
example : escape liveDb (.safe (lit "msgid foo:")) ≠ escape liveDb (.str (lit "msgid foo:")) := by decide +kernel
example : escape liveDb (.safe (lit "msgid foo:")) = lit "msgid foo:" ∧
    escape liveDb (.str (lit "msgid foo:")) = lit "'msgid foo:'" ∧
    escape liveDb (.bytes ((lit "msgid foo:").map UInt8.ofNat)) = lit "'msgid foo:'" := by decide +kernel

private def seqCfg : Config :=
  { registry := [⟨lit "unknown-message-flag", .wishlist, .wildGuess⟩], ignore := [], path := lit "pl.po",
    colours := fun _ => ([], []) }

-- … and the run of seeded change C02-c: the tool names message `foo` (safestr), then a flag of message `bar` reads
-- `msgid foo:` — it is printed quoted although the same characters were printed raw one call earlier
example : (runTags liveDb seqCfg
    [(lit "unknown-message-flag", [.safe (lit "msgid foo:"), .str (lit "fancy-flag")]),
     (lit "unknown-message-flag", [.safe (lit "msgid bar:"), .str (lit "msgid foo:")])]).toOption =
    some (lit "I: pl.po: unknown-message-flag msgid foo: fancy-flag\nI: pl.po: unknown-message-flag msgid bar: 'msgid foo:'\n") := by
  simp only [seqCfg, lit]
  repeat rw [String.toList_ofList]
  decide +kernel

end I18n.Props.C02
