import I18n.Lemmas.PerlBraceRe
import I18n.Lemmas.PyBraceOwn
import I18n.Lemmas.PyBraceFormat
import I18n.Lemmas.PyBraceQuirk
import I18n.Lemmas.PyBraceSpecRe
import I18n.Lemmas.PyBraceFieldRe
import I18n.Lemmas.PyBraceArgsExist
import I18n.Lemmas.PyBraceTables
import I18n.Lemmas.ExceptDec
/-!
# C13 — the brace-format parsers agree with the languages they model

`PerlBrace.parse` / `PyBrace.parse` are the models of `lib.strformat.perlbrace.FormatString` / `lib.strformat.pybrace.FormatString`
(tied to the code by the `perlbrace-*` / `pybrace-*` correspondence streams and the pins below).
`Spec.PerlBraceRef` is the declarative reference for perl-brace; `Spec.StrFormat` is the reference model of CPython's
`string.Formatter().parse` (`markup`, `parseOK`) and `str.format` (`format`), validated against the running interpreter by
the check on every run.  `Flat s`: no attribute/index part in a field name and no replacement field inside a format
specification; `Matches r a`: the arguments `a` have the positions, names and types `r` reports.
-/
namespace I18n.Props.C13
open I18n I18n.BraceChars I18n.Spec.PerlBraceRef I18n.Spec.StrFormat I18n.Spec.BraceRe
open I18n.Generated

/-! ## Pins: what the translator reads from the live modules and the interpreter -/

/-- the character classes of the models are plain membership in the interpreter's `\w` / `\d` tables (the tables are sorted;
    the models look them up with early exit), and `str.isdecimal` is `\d` -/
theorem classes_pin (c : Char) :
    (isWord c = true ↔ Word c) ∧ (isDigit c = true ↔ Digit c) ∧ (isIdStart c = true ↔ (Word c ∧ ¬ Digit c)) ∧
    PyBraceTables.decimalRanges = PyBraceTables.digitRanges :=
  ⟨isWord_iff c, isDigit_iff c, isIdStart_iff c, decimal_eq_digit⟩

/-- `SSIZE_MAX` is 2^31-1 (= CPython's `INT_MAX`, below its `PY_SSIZE_T_MAX`), `import lib` lifts the interpreter's digit
    limit, the classes the model raises are the modules' own `Error` classes, a nested field has every type -/
theorem constants_pin :
    PyBraceTables.SSIZE_MAX = 2 ^ 31 - 1 ∧ PyBraceTables.SSIZE_MAX = Spec.StrFormat.INT_MAX ∧ PyBraceTables.intMaxStrDigits = 0 ∧
    (∀ n ∈ ["Error", "ConversionError", "FormatError", "FormatTypeMismatch", "ArgumentNumberingMixture", "ArgumentRangeError",
      "ArgumentTypeMismatch"], n ∈ PyBraceTables.errorClasses) ∧
    PyBraceTables.perlErrorClasses = ["Error"] ∧ PyBraceTables.nestedFieldTypes = ["float", "int", "str"] :=
  ⟨rfl, rfl, rfl, by simp [PyBraceTables.errorClasses], rfl, rfl⟩

/-- the parse trees and flags (`96 = re.VERBOSE | re.UNICODE`) of `pybrace._field_re`, `_simple_field_re`, `_format_spec_re`
    are the terms `field_regex` and `spec_regex` are proved about, and both printable-prefix patterns are `[ -~]+`
    (group tables and the flags of the printable-prefix patterns: `PyBrace.fieldRe_pin`, `formatSpecRe_pin`, `printablePrefix_pin`) -/
theorem regex_pin :
    (PyBraceTables.fieldRe = PyBrace.pinnedFieldRe ∧ PyBraceTables.fieldReFlags = 96) ∧
    (PyBraceTables.simpleFieldRe = PyBrace.pinnedSimpleFieldRe ∧ PyBraceTables.simpleFieldReFlags = 96) ∧
    (PyBraceTables.formatSpecRe = PyBrace.pinnedFormatSpecRe ∧ PyBraceTables.formatSpecReFlags = 96) ∧
    PyBraceTables.printablePrefixPattern = "[ -~]+" ∧ PyBraceTables.perlPrintablePrefixPattern = "[ -~]+" :=
  ⟨⟨PyBrace.fieldRe_pin.1, PyBrace.fieldRe_pin.2.1⟩, PyBrace.simpleFieldRe_pin, ⟨PyBrace.formatSpecRe_pin.1, PyBrace.formatSpecRe_pin.2.1⟩,
    PyBrace.printablePrefix_pin.1, PyBrace.printablePrefix_pin.2.1⟩

/-- the models evaluated by the kernel on the probes of the live modules (every type character, modifier x type,
    conversions, numerals around `SSIZE_MAX`; a few perl-brace strings) give the outcomes the live modules gave -/
theorem probes_pin :
    PyBraceTables.probeTable.all (fun p => PyBrace.probeCode (PyBrace.parse p.1) == p.2) = true ∧
    PyBraceTables.perlProbeTable.all (fun p => PyBrace.perlProbeCode (PerlBrace.parse p.1) == p.2) = true :=
  ⟨PyBrace.probeTable_pin, PyBrace.perlProbeTable_pin⟩

/-- **The perl-brace parser accepts exactly the strings in which every `{` opens a `{identifier}` placeholder**
    (identifier = `[^\W\d]\w*` for the interpreter's tables) -/
theorem perl_iff (s : List Char) : (∃ r, PerlBrace.parse s = .ok r) ↔ WellFormed s := by
  rcases PerlBrace.parse_spec s with ⟨hwf, r, hr, -⟩ | ⟨hwf, p, hp⟩
  · exact ⟨fun _ => hwf, fun _ => ⟨r, hr⟩⟩
  · refine ⟨?_, fun h => absurd h hwf⟩
    rintro ⟨r, hr⟩
    rw [hp] at hr; cases hr

/-- … **and reports exactly the set of those identifiers** (`arguments`), its items spell the input -/
theorem perl_names {s : List Char} {r : PerlBrace.Result} (h : PerlBrace.parse s = .ok r) :
    (∀ w, w ∈ r.arguments ↔ IsArgument s w) ∧ (r.items.map PerlBrace.Item.text).flatten = s := by
  rcases PerlBrace.parse_spec s with ⟨-, r', hr, hn, hi⟩ | ⟨-, p, hp⟩
  · cases hr.symm.trans h
    refine ⟨fun w => ?_, (PerlBrace.itemsText_eq r.items).symm.trans hi⟩
    rw [PerlBrace.Result.arguments, List.mem_eraseDups]
    exact hn w
  · rw [hp] at h; cases h

/-- a rejected perl-brace string raises the module's `Error` (never the `AttributeError` of `_printable_prefix`, nor anything else) -/
theorem perl_error_own {s : List Char} {e : PerlBrace.PErr} (h : PerlBrace.parse s = .error e) : ∃ p, e = .error p := by
  rcases PerlBrace.parse_spec s with ⟨-, r, hr, -⟩ | ⟨-, p, hp⟩
  · rw [hr] at h; cases h
  · rw [hp] at h; cases h
    exact ⟨p, rfl⟩

/-- the scanner of the model IS the first match of the live parse tree of `perlbrace._field_re` under the backtracking
    semantics of the regex engine (alternatives in order, greedy repeats), end position and group spans included -/
theorem perl_regex (cs : List Char) (pos : Nat) :
    matchAt liveDB PyBraceTables.perlFieldRe cs pos =
      (PerlBrace.scanItem cs).map fun (it, rest) =>
        { rest := rest, pos := pos + it.text.length, caps := PerlBrace.itemCaps pos it } :=
  PerlBrace.matchAt_perlFieldRe cs pos

/-- **If the python-brace parser accepts a string then Python's own `str.format` parser accepts it** -/
theorem brace_accept_parses {s : List Char} {r : PyBrace.Result} (h : PyBrace.parse s = .ok r) : parseOK s :=
  PyBrace.parseWith_ok_parseOK _ s r h

/-- **Both raise only their own error type**: whatever the string, `FormatString(s)` returns or raises one of the module's
    `Error` classes (the `assert`s, `int()`'s `ValueError`, `_printable_prefix`'s `AttributeError` are unreachable) -/
theorem brace_error_own {s : List Char} {e : PyBrace.PErr} (h : PyBrace.parse s = .error e) : ∃ c a, e = .own c a :=
  PyBrace.parseWith_own (cfg := PyBrace.liveCfg) (by decide) s e h

/-- **A string rejected by Python's parser is rejected** (with one of the module's own errors) -/
theorem brace_reject {s : List Char} (h : ¬ parseOK s) : ∃ c a, PyBrace.parse s = .error (.own c a) :=
  PyBrace.parseWith_reject (cfg := PyBrace.liveCfg) (by decide) h

/-- the python-brace scanner IS the first match of the live parse tree of `pybrace._field_re` under the backtracking
    semantics of the regex engine, for every string and start position: a maximal run of literal text (`[^{}]`, `{{`, `}}`;
    group `literal`), else a replacement field `{ name? conversion? format? }` with the spans of the groups `name`,
    `conversion`, `format` (`fieldCaps`), else no match.  Likewise `_simple_field_re` (a nested field) is `scanSimple`.
    A change of either pattern changes the generated term and breaks the proof in the kernel. -/
theorem field_regex (cs : List Char) (pos : Nat) :
    matchAt liveDB PyBraceTables.fieldRe cs pos =
      (match PyBrace.scanLiteral cs.length cs with
       | (t :: ts, rest) => some ⟨rest, pos + (t :: ts).length, [(1, pos, pos + (t :: ts).length)]⟩
       | ([], _) => (PyBrace.scanField cs).map (fun p => ⟨p.2, pos + p.1.text.length, PyBrace.fieldCaps pos p.1⟩)) ∧
    matchAt liveDB PyBraceTables.simpleFieldRe cs pos =
      (PyBrace.scanSimple cs).map (fun p => ⟨p.2, pos + p.1.length + 2, []⟩) :=
  ⟨PyBrace.matchAt_fieldRe cs pos, PyBrace.matchAt_simpleFieldRe cs pos⟩

/-- the first match of the live parse tree of `_format_spec_re` at the start of a specification, under the backtracking
    semantics, is `T2` (Lemmas/PyBraceSpecRe: a chain `T2 … T9` that calls the stage functions of `scanSpec` — fill/align, sign,
    `#`, `0`, width, `,`, precision, type, end — one after the other and records a span for each group taken), and
    `_format_spec_re.match(spec)` succeeds iff `scanSpec` does.  Of the `Spec` record that `scanSpec` returns only `isSome` is
    related to the match: that the spans `T2` records are its fields is not stated. -/
theorem spec_regex (cs : List Char) :
    matchAt liveDB PyBraceTables.formatSpecRe cs 0 = PyBrace.T2 ⟨cs, 0, []⟩ ∧
    (matchAt liveDB PyBraceTables.formatSpecRe cs 0).isSome = (PyBrace.scanSpec cs).isSome :=
  ⟨PyBrace.matchAt_formatSpecRe cs, PyBrace.formatSpecRe_accepts cs⟩

/-- **For strings without nested or compound fields `str.format` succeeds when given arguments with the reported
    positions, names and types** — proved for the strings none of whose fields has one of the two typing gaps
    (`,` with `b c o x X`; a sign or `#` with `c`), see `flat_formats_refuted` -/
theorem flat_formats_partial {s : List Char} {r : PyBrace.Result} {a : Args} (h : PyBrace.parse s = .ok r)
    (hflat : PyBrace.Flat s) (hq : PyBrace.QuirkFree s) (hm : PyBrace.Matches r a) : format s a = .ok () :=
  PyBrace.parseWith_flat_formats (cfg := PyBrace.liveCfg) (by decide) s r a h hflat hq hm

/-- `Matches` is never vacuous: every accepted string has arguments of the reported positions, names and types (the keys of
    `argument_map` are distinct, every key has entries, the entries of a key carry one non-empty type set) -/
theorem matches_exists {s : List Char} {r : PyBrace.Result} (h : PyBrace.parse s = .ok r) : ∃ a, PyBrace.Matches r a :=
  PyBrace.parseWith_matches_exists s r h

/-- the restriction of `flat_formats_partial` is exact: an accepted flat string one of whose fields has one of the two
    typing gaps cannot be formatted by `str.format`, whatever the arguments (so for accepted flat strings that have
    arguments of the reported shape at all, "formats with every such argument object" holds iff `QuirkFree`) -/
theorem quirk_rejected {s : List Char} {r : PyBrace.Result} (h : PyBrace.parse s = .ok r) (_hflat : PyBrace.Flat s)
    (hq : ¬ PyBrace.QuirkFree s) (a : Args) : format s a ≠ .ok () :=
  PyBrace.parseWith_quirk_rejected (cfg := PyBrace.liveCfg) (by decide) s r h hq a

/-- `{:,x}` is accepted with the single argument 0 of type `int` … -/
theorem witness_accepted :
    PyBrace.parse "{:,x}".toList = .ok { items := [.field ⟨false, true, false⟩],
                                         argMap := [(.idx 0, [{ nested := false, types := ⟨false, true, false⟩ }])] } := by
  rw [String.toList_ofList]
  rfl

/-- … it is flat … -/
theorem witness_flat : PyBrace.Flat "{:,x}".toList := by
  have : markup "{:,x}".toList = .ok [{ literal := [], field := some { name := [], spec := ",x".toList, conversion := none, needsExpanding := false } }] := by
    repeat rw [String.toList_ofList]
    rfl
  exact PyBrace.flat_of_markup this rfl

/-- … and `str.format` rejects it whatever the type of the argument ("Cannot specify ',' with 'x'.") -/
theorem witness_rejected (v : Val) : format "{:,x}".toList { pos := [v], kw := [] } = .error (.spec .thousandsWithType) := by
  rw [String.toList_ofList]
  cases v <;> rfl

/-- **The formatting clause is false as stated** on the current tree: the parser accepts `{:,x}` (likewise `{:,b}`, `{:,o}`,
    `{:,X}`, `{:,c}`, `{:+c}`, `{:#c}`) with type `int`, and `str.format` fails for an `int` (for every type, in fact) -/
theorem flat_formats_refuted :
    ¬ ∀ (s : List Char) (r : PyBrace.Result) (a : Args), PyBrace.parse s = .ok r → PyBrace.Flat s → PyBrace.Matches r a →
        format s a = .ok () := by
  intro h
  have := h _ _ { pos := [.int 65], kw := [] } witness_accepted witness_flat (by
    intro k as hk
    simp only [List.mem_singleton, Prod.mk.injEq] at hk
    obtain ⟨rfl, rfl⟩ := hk
    exact ⟨.int 65, rfl, by simp [PyBrace.hasType], by simp [PyBrace.chrOK]⟩)
  rw [witness_rejected] at this
  cases this

section
open scoped I18n.ExceptDec

example : PerlBrace.parse "Hello {name}, {n_1} files".toList =
    .ok { items := [.lit "Hello ".toList, .field "name".toList, .lit ", ".toList, .field "n_1".toList, .lit " files".toList],
          names := ["name".toList, "n_1".toList] } := by
  repeat rw [String.toList_ofList]
  decide +kernel
example : PerlBrace.parse "{1a}".toList = .error (.error "{1a}".toList) := by
  repeat rw [String.toList_ofList]
  decide +kernel
example : PerlBrace.parse "a{b".toList = .error (.error "{b".toList) := by
  repeat rw [String.toList_ofList]
  decide +kernel
example : PerlBrace.parse "}{é}}".toList = .ok { items := [.lit "}".toList, .field "é".toList, .lit "}".toList], names := ["é".toList] } := by
  repeat rw [String.toList_ofList]
  decide +kernel
example : WellFormed "x{a}{b_2}".toList := by
  rw [String.toList_ofList]
  exact (perl_iff _).1 ⟨_, rfl⟩
example : ¬ WellFormed "{{a}}".toList := fun h => by
  obtain ⟨r, hr⟩ := (perl_iff _).2 h
  have : PerlBrace.parse "{{a}}".toList = .error (.error "{{a}}".toList) := by
    rw [String.toList_ofList]
    decide +kernel
  rw [this] at hr; cases hr

example : PyBrace.parse "{0:d} of {total!r:>10}{{}}".toList =
    .ok { items := [.field ⟨false, true, false⟩, .lit " of ".toList, .field ⟨true, true, true⟩, .lit "{{}}".toList],
          argMap := [(.idx 0, [{ nested := false, types := ⟨false, true, false⟩ }]),
                     (.name "total".toList, [{ nested := false, types := ⟨true, true, true⟩ }])] } := by
  repeat rw [String.toList_ofList]
  decide +kernel
example : PyBrace.parse "{}{0}".toList = .error (.own .ArgumentNumberingMixture (.text "{0}".toList)) := by
  repeat rw [String.toList_ofList]
  decide +kernel
example : PyBrace.parse "{0:d}{0:s}".toList = .error (.own .ArgumentTypeMismatch (.text "{0:d}{0:s}".toList)) := by
  repeat rw [String.toList_ofList]
  decide +kernel
example : PyBrace.parse "{2147483648}".toList = .error (.own .ArgumentRangeError (.text "{2147483648}".toList)) := by
  repeat rw [String.toList_ofList]
  decide +kernel
example : PyBrace.parse "{:{}{}}".toList =
    .ok { items := [.field ⟨true, true, true⟩],
          argMap := [(.idx 0, [{ nested := false, types := ⟨true, true, true⟩ }]), (.idx 1, [{ nested := true, types := ⟨true, true, true⟩ }]),
                     (.idx 2, [{ nested := true, types := ⟨true, true, true⟩ }])] } := by
  repeat rw [String.toList_ofList]
  decide +kernel
example : PyBrace.parse "{:{0[}]}}".toList = .error (.own .Error (.text "{:{0[}]}}".toList)) := by
  repeat rw [String.toList_ofList]
  decide +kernel
example : PyBrace.parse "{²}".toList =
    .ok { items := [.field ⟨true, true, true⟩], argMap := [(.name "²".toList, [{ nested := false, types := ⟨true, true, true⟩ }])] } := by
  repeat rw [String.toList_ofList]
  decide +kernel
example : PyBrace.parse "{:x".toList = .error (.own .Error (.text "{:x".toList)) := by
  repeat rw [String.toList_ofList]
  decide +kernel
example : PyBrace.parse "{!x}".toList = .error (.own .ConversionError (.text "{!x}".toList)) := by
  repeat rw [String.toList_ofList]
  decide +kernel
example : PyBrace.parse "{!r:d}".toList = .error (.own .FormatTypeMismatch (.text "{!r:d}".toList)) := by
  repeat rw [String.toList_ofList]
  decide +kernel
example : parseOK "{0:d} of {total!r:>10}{{}}".toList := by
  rw [String.toList_ofList]
  exact brace_accept_parses (r := _) rfl
example : ¬ parseOK "{:{0[}]}}".toList := by
  rintro ⟨chunks, h⟩
  have : markup "{:{0[}]}}".toList = .error .singleClose := by
    rw [String.toList_ofList]
    decide +kernel
  rw [this] at h; cases h
example : format "{0:d} of {total!r:>10}{{}}".toList { pos := [.int 3], kw := [("total".toList, .float)] } = .ok () := by
  repeat rw [String.toList_ofList]
  decide +kernel
example : format "{:d}".toList { pos := [.str], kw := [] } = .error (.spec .unknownCode) := by
  repeat rw [String.toList_ofList]
  decide +kernel
example : format "{}{0}".toList { pos := [.str], kw := [] } = .error .autoToManual := by
  repeat rw [String.toList_ofList]
  decide +kernel

/-- `flat_formats_partial` is not vacuous: its hypotheses hold for a concrete accepted string and concrete arguments
    (an `int` for position 0, a `float` for the name `total`) -/
example : format "{0:d} of {total!r:>10}".toList { pos := [.int 3], kw := [("total".toList, .float)] } = .ok () := by
  have hmk : markup "{0:d} of {total!r:>10}".toList = .ok
      [{ literal := [], field := some { name := "0".toList, spec := "d".toList, conversion := none, needsExpanding := false } },
       { literal := " of ".toList, field := some { name := "total".toList, spec := ">10".toList, conversion := some 'r', needsExpanding := false } }] := by
    repeat rw [String.toList_ofList]
    decide +kernel
  have hp : PyBrace.parse "{0:d} of {total!r:>10}".toList = .ok ⟨[.field ⟨false, true, false⟩, .lit " of ".toList, .field ⟨true, true, true⟩], [(.idx 0, [⟨false, ⟨false, true, false⟩⟩]), (.name "total".toList, [⟨false, ⟨true, true, true⟩⟩])]⟩ := by
    repeat rw [String.toList_ofList]
    decide +kernel
  refine flat_formats_partial hp (PyBrace.flat_of_markup hmk rfl) (PyBrace.quirkFree_of_markup hmk ?_) ?_
  · repeat rw [String.toList_ofList]
    decide +kernel
  · intro k as hk
    simp only [List.mem_cons, Prod.mk.injEq, List.not_mem_nil, or_false] at hk
    rcases hk with ⟨rfl, rfl⟩ | ⟨rfl, rfl⟩
    · exact ⟨.int 3, rfl, by simp [PyBrace.hasType], by simp [PyBrace.chrOK]⟩
    · exact ⟨.float, rfl, by simp [PyBrace.hasType], trivial⟩

end

end I18n.Props.C13
