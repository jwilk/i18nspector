import I18n.Lemmas.CFmtFinditer
import I18n.Lemmas.CFmtGenerated
/-!
# C11 — the tie of the scanner to `_directive_re`, in the kernel

`Generated.CFmtRe.directiveRe` is the `re._parser` parse tree of the live `lib.strformat.c._directive_re`, dumped on every
run (character categories expanded under the pattern's own flags to the ranges the running interpreter gives them).
`Spec.BraceRe.bt` is the backtracking first-match semantics of the regex engine (alternatives in order, greedy repeats,
captures restored on backtracking).  The theorems below hold for every character database `db` (the tree has no category
items left) and for ALL strings.

A change of the pattern that `ReKit.norm` does not identify with the canonical tree makes `live_norm` (a kernel evaluation)
fail, whatever its effect; the check then searches the real code for a failing input.  A respelling that `norm` does
identify (order and spelling of the members of a class, `\d` under re.ASCII for `[0-9]`, `x+` for `xx*`, non-capturing
parentheses, order of alternatives with disjoint first characters) re-proves unchanged.

What is done with a match is tied by translation: `generated_conversion_eq_model` (`Conversion.__init__`) and
`generated_add_argument_eq_model` (`FormatString.add_argument`), over `Lemmas/CFmtGenerated.lean`.
-/
namespace I18n.Props.C11Tie
open I18n I18n.Spec.Printf I18n.Spec.BraceRe I18n.Generated
open I18n.CFmt hiding St

/-- **`CFmt.scan`'s step IS the first match of the live tree.**  For every string `cs` and start position `pos`:
    `_directive_re.match(s, pos)` (first successful path of the backtracking matcher on the live parse tree) fails iff the
    scanner reads no item; otherwise it ends where the scanner's item ends and its group spans are `itemCaps pos item`
    (`literal`; or the unnamed group 2 around the directive, `index`, `flags`, `width`/`varwidth`/`varwidth_index`,
    `precision`/`varprec`/`varprec_index`, `length`, `conversion`, `c99conv`, `c99len` — exactly those that take part). -/
theorem directive_regex (db : CharDB) (cs : List Char) (pos : Nat) :
    matchAt db CFmtRe.directiveRe cs pos =
      (CFmt.scanItem cs).map (fun p => (⟨p.2, pos + p.1.render.length, CFmt.itemCaps pos p.1⟩ : St)) :=
  CFmtRe.matchAt_live db cs pos

/-- `CFmt.scan` iterates that step: the item list is the chain of first matches from position 0 while they succeed, and the
    flag says whether the chain reached the end of the string -/
theorem scan_iterates (fuel : Nat) (cs : List Char) :
    CFmt.scanAll (fuel + 1) cs =
      match CFmt.scanItem cs with
      | none => ([], cs.isEmpty)
      | some (it, rest) => (it :: (CFmt.scanAll fuel rest).1, (CFmt.scanAll fuel rest).2) :=
  CFmt.scanAll_succ fuel cs

/-- the pattern cannot match the empty string (so `finditer` never takes its empty-match branch) -/
theorem match_nonempty (db : CharDB) {cs : List Char} {pos : Nat} {st : St}
    (h : matchAt db CFmtRe.directiveRe cs pos = some st) : pos < st.pos :=
  CFmtRe.match_nonempty db (CFmtRe.matchAt_live db) h

/-- **The loop of `FormatString.__init__` yields the model's segmentation.**  `finditer` is the engine's search loop over the
    live tree; `walk` is the `for match in _directive_re.finditer(s)` loop with `if match.start() != last_pos: raise Error`,
    `last_pos = match.end()`, the item rebuilt from the match's named groups as slices of `s` (`decodeMatch`:
    `match.group('literal')`, else what `Conversion.__init__` reads, `rstrip('$')` included), and the final
    `if last_pos != len(s): raise Error`.  Its item list and "no Error" flag are `CFmt.scan s`; and where `Error` is raised
    the text at `last_pos` starts with `%`. -/
theorem segmentation_is_finditer (db : CharDB) (s : List Char) :
    (CFmt.walk s (CFmt.finditer db CFmtRe.directiveRe s) 0).1 = (CFmt.scan s).1 ∧
    (CFmt.walk s (CFmt.finditer db CFmtRe.directiveRe s) 0).2.1 = (CFmt.scan s).2 ∧
    ((CFmt.walk s (CFmt.finditer db CFmtRe.directiveRe s) 0).2.1 = false →
      (s.drop (CFmt.walk s (CFmt.finditer db CFmtRe.directiveRe s) 0).2.2).head? = some '%') :=
  CFmtRe.walk_finditer db (CFmtRe.matchAt_live db) s

/-- so `_printable_prefix(s[last_pos:])` — `re.compile('[ -~]+').match(…).group()` — never hits `None.group()` there -/
theorem error_prefix_printable (db : CharDB) (t : List Char) :
    (matchAt db CFmtRe.printablePrefixRe ('%' :: t) 0).isSome = true :=
  CFmtRe.printable_prefix_matches db t

/-- every match `finditer` yields in the contiguous part decodes to the scanner's item: the named groups of a directive
    match, read as slices of the subject, are its index digits, flags, width, precision, length, conversion / inttypes name -/
theorem match_decodes {s : List Char} {pos : Nat} {cs : List Char} {it : Item} {rest : List Char}
    (hs : s.drop pos = cs) (h : CFmt.scanItem cs = some (it, rest)) :
    CFmt.decodeMatch s ⟨pos, ⟨rest, pos + it.render.length, CFmt.itemCaps pos it⟩⟩ = some it :=
  CFmtRe.decodeMatch_item hs h

/-- **`CFmt.conversion` IS the regenerated code.**  `Generated.CFmtConv.checks` is the statement-by-statement translation
    (tools/translate/cfmtconv2lean.py, every run) of `Conversion.__init__` from the statement after `self.type = tp` to the end
    — the `Counter` loop over the flags, the redundancy warnings, `width`/`varwidth`/`varwidth_index`,
    `precision`/`varprec`/`varprec_index`, `index`, the three calls of the (equally regenerated) `add_argument` with their `except`
    clauses — reading
    `match.group(name)` from `Py.groupOf d` (the group texts of the match that decodes to `d`: `match_decodes`).  For every
    well-formed directive (what a match of `_directive_re` decodes to), the model's `conversion` is: the type from the probed
    table (`typeInfo`, tied by `ctables_pin`), the NonPortableConversion warning, then that code. -/
theorem generated_conversion_eq_model (w : Bool) (st : CFmt.St) (d : Directive) (hd : d.Wf) :
    CFmt.conversion w st d =
      match CFmt.typeInfo d.body with
      | .error e => .error e
      | .ok (tp, _, np) =>
        Generated.CFmtConv.checks w (if np then CFmt.warn w st .NonPortableConversion else st) (CFmt.Py.groupOf d)
          (.str [d.body.conv]) tp st.nitems :=
  CFmt.Py.conversion_eq_generated w st d hd

/-- `FormatString.add_argument`, translated from the source by the same translator (the attributes `_next_arg_index` and
    `_argument_map` are the fields of the model's state), wrapped in the two `except` clauses every caller in `Conversion.__init__`
    uses (`IndexError` → `ArgumentNumberingMixture`, `OverflowError` → `ArgumentRangeError`), IS the model's `addArgument`
    (`i` = `None` or an `int`, what the callers pass) -/
theorem generated_add_argument_eq_model (st : CFmt.St) (i : Option Nat) (e : Entry) :
    CFmt.Py.except1 (CFmt.Py.except1 (Generated.CFmtConv.add_argument st (CFmt.Py.optVal i) e) .IndexError (.error .ArgumentNumberingMixture))
      .Overflow (.error .ArgumentRangeError) = CFmt.addArgument st i e := by
  rw [CFmt.Py.add_argument_eq_kit, CFmt.Py.except_addArgument_eq]

/-- every directive the scanner reads is well-formed, so the hypothesis of `generated_conversion_eq_model` holds for every
    conversion `FormatString.__init__` constructs -/
theorem scanned_directive_wf {cs : List Char} {d : Directive} {rest : List Char} (h : CFmt.scanItem cs = some (.dir d, rest)) : d.Wf :=
  CFmtRe.scanItem_dir_wf h

/-! ## Non-vacuity -/

/-- any database would do: the theorems hold for every `db` -/
def db0 : CharDB := ⟨fun _ => false, fun _ => false⟩

example : (matchAt db0 CFmtRe.directiveRe "%2$-08.*3$lld rest".toList 5).map (fun st => (st.rest, st.pos, st.caps)) =
    some (" rest".toList, 18, [(2, 5, 18), (12, 17, 18), (11, 15, 17), (10, 13, 15), (9, 12, 13), (5, 10, 11), (4, 8, 10), (3, 6, 8)]) := by
  rw [String.toList_ofList, String.toList_ofList]
  decide +kernel
example : (matchAt db0 CFmtRe.directiveRe "%<PRIxLEAST32>!".toList 0).map (fun st => (st.rest, st.pos, st.caps)) =
    some ("!".toList, 14, [(2, 0, 14), (14, 6, 13), (13, 5, 6), (4, 1, 1)]) := by
  rw [String.toList_ofList, String.toList_ofList]
  decide +kernel
example : matchAt db0 CFmtRe.directiveRe "%.*1d".toList 0 = none := by
  rw [directive_regex]; rfl
example : (matchAt db0 CFmtRe.directiveRe "abc%d".toList 7).map (fun st => (st.rest, st.pos, st.caps)) =
    some ("%d".toList, 10, [(1, 7, 10)]) := by decide +kernel
example : (CFmt.walk "a%5$hhu%%".toList (CFmt.finditer db0 CFmtRe.directiveRe "a%5$hhu%%".toList) 0).2.1 = true := by
  rw [(segmentation_is_finditer db0 _).2.1]; rfl
example : Generated.CFmtConv.checks true CFmt.St.init (CFmt.Py.groupOf ⟨none, ['0', '-'], .star none, .num ['3'], .std (some .l) 'd'⟩)
    (.str ['d']) "long int" 0 =
    .ok { next := some 3, map := [(1, ⟨.width, "int", 0⟩), (2, ⟨.conv, "long int", 0⟩)], nitems := 0,
          warnings := [.RedundantFlag, .RedundantFlag] } := by rfl
example : Generated.CFmtConv.checks true CFmt.St.init (CFmt.Py.groupOf ⟨some ['1'], [], .none, .none, .std none '%'⟩) (.str ['%']) "void" 0 =
    .error .ForbiddenArgumentIndex := by rfl
example : (CFmt.walk "a%y".toList (CFmt.finditer db0 CFmtRe.directiveRe "a%y".toList) 0) = ([.lit ['a']], false, 1) := by decide +kernel

end I18n.Props.C11Tie
