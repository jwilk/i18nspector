import I18n.Lemmas.PoUnescape
import I18n.Lemmas.PoFlags
import I18n.Lemmas.PoPre
import I18n.Lemmas.PoComments
import I18n.Lemmas.PoFile
import I18n.Lemmas.PoDetect
/-! # C10 — PO text decodes to exactly the strings gettext would see

Model: `I18n.Po` (Model/Po.lean) — `polib.pofile` after `lib.polib4us.install_patches()`.
Spec: `I18n.Spec.PoSpelling` — spellings as data (`Choice`, `FlagPiece`, …).  -/
namespace I18n.Props.C10
open I18n I18n.Po I18n.Spec.PoSpelling
open I18n.Generated.PolibFsm (St Sym Handler)

/-- the hand-written scanners stand for these regex texts (a change of text breaks this pin; the check then goes
    to the falsifier) -/
theorem regex_pins :
    Generated.PolibFsm.escapesRe = " ( \\\\\n(?: [ntbrfva]\n  | \\\\\n  | \"\n  | [0-7]{1,3}\n  | x[0-9a-fA-F]{1,2}\n  ))+\n" ∧
    Generated.PolibFsm.escapesReFlags = 96 ∧
    Generated.PolibFsm.shortXEscapeRe = "\n    \\\\x ([0-9a-fA-F]) (?= \\\\ | $ )\n" ∧
    Generated.PolibFsm.bigOctalEscapeRe = "\n    \\\\ ([4-7][0-7]{2})\n" ∧
    Generated.PolibFsm.iterlines = "[^\\n]*(?:\\n|\\Z)" ∧ Generated.PolibFsm.iterlinesMethod = "findall" ∧
    Generated.PolibFsm.atypicalComment = "#[^ .:,|~]" ∧ Generated.PolibFsm.atypicalCommentMethod = "match" ∧
    Generated.PolibFsm.detectPattern = ["\"?Content-Type:.+? charset=([\\w_\\-:\\.]+)"] ∧
    Generated.PolibFsm.quoteRes = ["([^\\\\]|^)\""] ∧
    Generated.PolibFsm.defaultEncoding = "ASCII" := by
  refine ⟨rfl, rfl, rfl, rfl, rfl, rfl, rfl, rfl, rfl, rfl, rfl⟩

/-- For every string `t` and every per-character spelling choice `p` of it (raw, one of the nine
    letter escapes, or the bytes of its encoding in the file's charset as octal escapes of 1–3 digits ≤ `\377` / hex escapes
    of 1–2 digits of either case), `polib_unescape` gives back `t` — for every codec environment in which the charset is
    ASCII-transparent and decodes what it encodes.  Excluded spellings: `okSeq` (a short octal escape followed by an octal
    digit, a hex escape followed by a hex digit). -/
theorem unescape_spelling (env : Env) (enc : Bytes) (E : Codec) (hE : CodecOk env enc E) (p : List Choice)
    (hv : ∀ x ∈ p, x.Valid E) (hs : okSeq p = true) :
    unescape env enc (render p) = some (text p) :=
  Lemmas.PoUnescape.unescape_spelling hE p hv hs

/-- the excluded spellings are excluded for a reason: `\x4` followed by the letter `1` reads as `\x41` -/
theorem unescape_swallow_witness (env : Env) (enc : Bytes) :
    unescape env enc ['\\', 'x', '4', '1'] = some ['A'] ∧ unescape env enc ['\\', '1', '0', '1'] = some ['A'] := by
  constructor <;> rfl

/-- fix 9de4551: `\8` and `\9` are not escapes, and octal escapes above `\377` keep their low 8 bits -/
theorem unescape_octal_fix (env : Env) (enc : Bytes) :
    unescape env enc ['a', '\\', '8'] = some ['a', '\\', '8'] ∧ unescape env enc ['\\', '4', '0', '1'] = some ['\x01'] := by
  constructor <;> rfl

/-- for non-vacuity: the ASCII codec as the specification sees it -/
def asciiCodec : Codec := ⟨fun c => if c.toNat < 128 then some [UInt8.ofNat c.toNat] else none⟩

/-- an interpreter whose every encoding is ASCII; `asciiCodecOk`: it satisfies `CodecOk` with `asciiCodec` -/
def asciiEnv : Env where
  asciiCompatible _ := true
  codecExists _ := true
  decode _ bs := match decodeAscii bs with | some t => .text t | none => .ude
  isSpace := pyIsSpace
  isDigit := pyIsDigit
  decimal := pyDecimal

theorem decodeFile_asciiEnv (enc bs : Bytes) (t : Text) (h : decodeAscii bs = some t) : decodeFile asciiEnv enc bs = .ok t := by
  simp [decodeFile, asciiEnv, h]

theorem asciiCodecOk (enc : Bytes) : CodecOk asciiEnv enc asciiCodec := by
  have hascii : ∀ c : Char, c.toNat < 128 → asciiCodec.encode c = some [UInt8.ofNat c.toNat] := by
    intro c hc; simp [asciiCodec, hc]
  have hnon : ∀ (c : Char) (bs : Bytes), 128 ≤ c.toNat → asciiCodec.encode c = some bs → ∃ b ∈ bs, 128 ≤ b.toNat := by
    intro c bs hc h; simp [asciiCodec] at h; omega
  refine ⟨hascii, hnon, fun pairs hp => ?_⟩
  have hall : ∀ b ∈ (pairs.map (·.2)).flatten, b.toNat < 128 := by
    intro b hb
    simp only [List.mem_flatten, List.mem_map] at hb
    obtain ⟨bs, ⟨q, hq, rfl⟩, hb⟩ := hb
    have := hp q hq
    simp only [asciiCodec] at this
    split at this
    · rename_i hlt
      simp at this; rw [← this] at hb; simp at hb; subst hb
      simp; omega
    · simp at this
  have := Lemmas.PoUnescape.ascii_pairs hascii hnon pairs hp hall
  simp only [asciiEnv, Lemmas.PoUnescape.decodeAscii_eq, if_pos hall, this]

/-- a spelling that mixes every form -/
def sampleSpelling : List Choice :=
  [.raw 'a', .simple 0, .bytes 'A' [.hex2 ⟨4, false⟩ ⟨1, false⟩], .bytes 'B' [.oct3 1 0 2], .bytes '\x07' [.oct1 7], .raw 'x',
   .bytes '\n' [.hex1 ⟨10, true⟩], .simple 8, .raw ' ']

example : render sampleSpelling = "a\\n\\x41\\102\\7x\\xA\\\" ".toList := by
  -- the literal as a list of characters before `decide`, here and below: see `PoLines.isKw_msgctxt`
  rw [String.toList_ofList]
  decide +kernel
example : text sampleSpelling = "a\nAB\x07x\n\" ".toList := by
  rw [String.toList_ofList]
  decide +kernel
example : unescape asciiEnv asciiName (render sampleSpelling) = some (text sampleSpelling) :=
  unescape_spelling asciiEnv asciiName asciiCodec (asciiCodecOk _) sampleSpelling
    (by intro x hx; simp [sampleSpelling] at hx; rcases hx with rfl | rfl | rfl | rfl | rfl | rfl | rfl | rfl | rfl <;>
          simp [Choice.Valid, rawOk, asciiCodec, EscForm.value] <;> decide)
    (by decide)

/-- the generated strip set of the patched `flags` setter is white space for the interpreter -/
theorem flag_strip_set_is_space : ∀ c : Char, isFlagSpace c = true → pyIsSpace c = true :=
  Lemmas.PoFlags.isFlagSpace_space

/-- A flags line `#,` + one white-space character + comma-separated items with any white space around
    them adds exactly the items — trimmed, in order, duplicates and empty items kept — to the entry's flags
    (the patched setter re-splits the whole list and changes nothing). -/
theorem flags_split (env : Env) (enc : Bytes) (hcomma : env.isSpace ',' = false)
    (hsub : ∀ c, isFlagSpace c = true → env.isSpace c = true)
    (ps : List FlagPiece) (hne : ps ≠ []) (hv : ∀ x ∈ ps, x.Valid env.isSpace)
    (ws : Char) (n : Nat) (s : PState) (hold : ∀ f ∈ (flushIfDone n s).cur.flags, FlagItem env.isSpace f) :
    handle env enc n .fl ('#' :: ',' :: ws :: flagBody ps) s =
      some ({ flushIfDone n s with cur := { (flushIfDone n s).cur with flags := (flushIfDone n s).cur.flags ++ ps.map FlagPiece.item } }, true) :=
  Lemmas.PoFlags.handle_fl env enc hcomma hsub ps hne hv ws n s hold

/-- `load_spells` of DESIGN.md §6 C10, stated on the lines `Codecs.open` hands to polib (the decode / `Codecs.open` /
    charset-detection layers are the separate theorems below; `load_render_partial` and `load_render_detected_partial` compose
    them into one statement about the file's bytes).

    For every catalog and every spelling of it (`CatalogSp`): noise lines (white-space lines, `#~| …`, bare `#.` `#:` `#,`)
    anywhere except after the last line; the file's header comment as `# text` lines; per entry any interleaving of
    translator comments `# text`, extracted comments `#. text`, source references `#: file:12 name …`, flag lines `#, a, b`
    (any white space around the items, empty and duplicate items kept), previous-msgid annotations `#| msgctxt/msgid/msgid_plural "…"` with `#| "…"` continuation lines,
    and noise; then `msgctxt`? `msgid` (`msgstr` | `msgid_plural` `msgstr[0]` … `msgstr[N]`, N ≤ 9) behind the obsolete marker
    `#~` or not; every string spelled with any valid per-character choices (raw, letter escapes, octal/hex escaped bytes of
    the file's charset) and cut anywhere into continuation lines, empty segments included; blanks/tabs before a message line
    and any white space after any line —

    polib's line loop with the patches, in any environment where the charset is ASCII-transparent and decodes what it
    encodes, yields exactly: the header comment, and for every entry in order its msgctxt, msgid, msgid_plural, msgstr,
    indexed plural strings, flags, obsolete flag, previous msgctxt/msgid/msgid_plural, source references, extracted and
    translator comments (everything but the line number polib records). -/
theorem load_spells_partial (E : Codec) (env : Env) (hsp : env.isSpace = pyIsSpace) (hdig : env.isDigit = pyIsDigit)
    (hdec : env.decimal = pyDecimal) (enc : Bytes)
    (hE : CodecOk env enc E) (cat : CatalogSp) (hv : cat.Valid E) :
    ∃ f, parseLines env enc cat.lines = .ok f ∧ f.header = cat.headerText ∧
      f.entries.map Lemmas.PoCatalog.content = cat.entries.map EntrySp.entry :=
  Lemmas.PoComments.parse_catalog hsp hE hdec cat hv fun _ _ _ => hdig

/-- the character U+0105 as the two bytes C4 85, in an environment that decodes exactly that -/
def twoByteEnv : Env :=
  { asciiEnv with decode := fun _ bs => if bs = [0xC4, 0x85] then .text [Char.ofNat 0x105] else
      match decodeAscii bs with | some t => .text t | none => .ude }

/-- `load_spells` is refuted for cuts INSIDE a character: the same two escaped bytes load as the character when they are on
    one line and are a syntax error when a continuation cut separates them (polib unescapes, hence decodes, line by line;
    a PO reader that concatenates first accepts both).  `load_spells_partial` covers cuts BETWEEN characters.
    Recorded as an open finding (`C10:cut-inside-escaped-character`) and replayed on the real loader on every run. -/
theorem load_spells_refuted :
    (match parseLines twoByteEnv asciiName ["msgid \"\\xc4\\x85\"\n".toList, "msgstr \"\"\n".toList] with
      | .ok f => decide (f.entries.map (·.msgid) = [[Char.ofNat 0x105]])
      | .error _ => false) = true ∧
    (match parseLines twoByteEnv asciiName ["msgid \"\\xc4\"\n".toList, "\"\\x85\"\n".toList, "msgstr \"\"\n".toList] with
      | .ok _ => false
      | .error e => decide (e = .syntax 1 .plain)) = true := by
  constructor <;> decide +kernel

/-- attribution, by definition of `EntrySp.entry` (that the loader agrees with it is `load_spells_partial`): the flags, the two
    comments, the occurrences and the previous msgid of the entry a spelling stands for are those its own comment lines give,
    the obsolete flag that of its message lines -/
theorem comments_attributed (e : EntrySp) :
    e.entry.flags = (e.comments.foldl CommentSp.apply {}).flags ∧ e.entry.comment = (e.comments.foldl CommentSp.apply {}).comment ∧
    e.entry.tcomment = (e.comments.foldl CommentSp.apply {}).tcomment ∧
    e.entry.occurrences = (e.comments.foldl CommentSp.apply {}).occurrences ∧
    e.entry.previousMsgid = (e.comments.foldl CommentSp.apply {}).previousMsgid ∧ e.entry.obsolete = e.msg.pre.isObsolete :=
  ⟨rfl, rfl, rfl, rfl, rfl, rfl⟩

/-- non-vacuity: `msgid "a"` / `msgstr ""` / `"b\n"` followed by a bare `#.` inside the entry -/
def sampleMsg : MsgSp where
  pre := .plain
  msgctxt := none
  msgid := ⟨[' '], ⟨[], [.raw 'a'], ['\n']⟩, [], []⟩
  body := .singular ⟨[' '], ⟨[], [], ['\n']⟩, [.bare [] '.' ['\n']], [(⟨[], [.raw 'b', .simple 0], ['\n']⟩, [])]⟩

example : sampleMsg.lines = ["msgid \"a\"\n".toList, "msgstr \"\"\n".toList, "#.\n".toList, "\"b\\n\"\n".toList] := by
  repeat rw [String.toList_ofList]
  decide +kernel

theorem sampleMsg_valid : sampleMsg.Valid asciiCodec := by
  refine ⟨Or.inl rfl, nofun, ?_, ?_⟩
  · simp only [sampleMsg, StrSp.Valid, Seg.Valid, Blank, Choice.Valid, rawOk, okSeq, List.forall_mem_cons, List.not_mem_nil,
      false_imp_iff, implies_true, and_true]
    decide
  · simp only [sampleMsg, StrSp.Valid, Seg.Valid, Blank, Choice.Valid, rawOk, okSeq, okAdj, Noise.Valid, List.forall_mem_cons,
      List.not_mem_nil, false_imp_iff, implies_true, and_true]
    decide

example : sampleMsg.Valid asciiCodec ∧ sampleMsg.EndsReal := ⟨sampleMsg_valid, rfl⟩

example : sampleMsg.entry {} = { msgid := ['a'], msgstr := some ['b', '\n'] } := by decide +kernel

/-- non-vacuity of the catalog theorem: header comment, a fuzzy entry with an extracted comment, noise -/
def sampleCatalog : CatalogSp where
  noiseA := [.blank ['\n']]
  header := [⟨"hdr".toList, ['\n']⟩]
  noiseB := []
  entries := [⟨[.extracted ' ' "x".toList ['\n'], .refs ' ' [([], .withLine "a.c".toList [1, 2]), ([' '], .noLine "b".toList)] ['\n'],
                .flags ' ' [⟨[], "fuzzy".toList, []⟩, ⟨[' '], "c-format".toList, []⟩] ['\n']], sampleMsg⟩]

example : sampleCatalog.lines =
    ["\n".toList, "# hdr\n".toList, "#. x\n".toList, "#: a.c:12 b\n".toList, "#, fuzzy, c-format\n".toList,
     "msgid \"a\"\n".toList, "msgstr \"\"\n".toList, "#.\n".toList, "\"b\\n\"\n".toList] := by
  repeat rw [String.toList_ofList]
  decide +kernel

example : sampleCatalog.entries.map EntrySp.entry =
    [{ msgid := ['a'], msgstr := some ['b', '\n'], comment := ['x'], flags := ["fuzzy".toList, "c-format".toList],
       occurrences := [("a.c".toList, "12".toList), ("b".toList, [])] }] := by
  repeat rw [String.toList_ofList]
  decide +kernel

example : sampleCatalog.headerText = "hdr".toList := by decide +kernel

/-- the charset is taken from the FIRST physical line matching polib's pattern, whatever that line is: a comment that
    mentions `Content-Type: … charset=KOI8-R` before the header makes the loader read a UTF-8 file as KOI8-R
    (open finding `C10:charset-from-earlier-line`; replayed on the real loader every run).
    Files whose first matching line is the header's: `detect_header`, `detect_header_general`. -/
theorem detect_first_match_refuted :
    detectEncoding asciiEnv
      ("# Content-Type: text/plain; charset=KOI8-R\nmsgid \"\"\nmsgstr \"Content-Type: text/plain; charset=UTF-8\\n\"\n".toList.map
        fun c => UInt8.ofNat c.toNat) = ("KOI8-R".toList.map fun c => UInt8.ofNat c.toNat) := by
  rw [String.toList_ofList, String.toList_ofList]
  decide +kernel

/-- "any supported charset declared on one physical line of the header": if the first physical line of the file that matches
    polib's pattern is `"Content-Type: text/plain; charset=NAME…` (NAME a non-empty run of `[\\w\\-:.]`, followed by a byte that
    cannot continue it, e.g. the backslash of `\\n"`) and NAME is a codec Python knows, the file is read in NAME.  The condition on
    the earlier lines is exactly what `detect_first_match_refuted` shows cannot be dropped. -/
theorem detect_header (env : Env) (file : Bytes) (pre post : List Bytes) (name rest : Bytes)
    (hlines : byteLines file = pre ++ (Lemmas.PoDetect.headerPrefix ++ (name ++ rest)) :: post)
    (hpre : ∀ l ∈ pre, detectLine l = none) (hne : name ≠ []) (hn : ∀ b ∈ name, isCharsetByte b = true)
    (hr : ∀ b r, rest = b :: r → isCharsetByte b = false) (hex : env.codecExists name = true) :
    detectEncoding env file = name :=
  Lemmas.PoDetect.detect_header env file pre post name rest hlines hpre hne hn hr hex

/-- header forms: anything without a `C` before `Content-Type:`, one byte, parameters in which ` charset=` cannot start
    (`text/plain;`, `text/html; x=y;`, …), then ` charset=NAME` -/
theorem detect_header_general (env : Env) (file : Bytes) (pre post : List Bytes) (a params name rest : Bytes) (x : UInt8)
    (hlines : byteLines file = pre ++ (a ++ (contentTypeLit ++ (x :: (params ++ (charsetLit ++ (name ++ rest)))))) :: post)
    (hpre : ∀ l ∈ pre, detectLine l = none) (ha : (67 : UInt8) ∉ a) (hp : Lemmas.PoDetect.SpaceNotC params)
    (hne : name ≠ []) (hn : ∀ b ∈ name, isCharsetByte b = true) (hr : ∀ b r, rest = b :: r → isCharsetByte b = false)
    (hex : env.codecExists name = true) : detectEncoding env file = name :=
  Lemmas.PoDetect.detect_header_general env file pre post a params name rest x hlines hpre ha hp hne hn hr hex

/-- a file that is the encoding of its text decodes to that text (the `hfile` hypothesis of the theorems below, from `CodecOk`) -/
theorem decode_file_of_codec (E : Codec) (env : Env) (enc : Bytes) (hE : CodecOk env enc E) (hc : env.asciiCompatible enc = true)
    (pairs : List (Char × Bytes)) (hp : ∀ p ∈ pairs, E.encode p.1 = some p.2) :
    decodeFile env enc (pairs.map (·.2)).flatten = .ok (pairs.map (·.1)) := by
  simp [decodeFile, hc, hE.decode pairs hp]

/-- the layers composed: if the file decodes to `contents`, its physical lines are `body ++ tail` where `Codecs.open` holds back
    every line of `tail` but not the last line of `body`, and `body`, once atypical comments are normalised, is a spelling
    `cat` — then `polib.pofile(path, encoding=enc)` yields the catalog.  (`load_spells_file_partial` discharges the condition on
    the last line of `body`; `load_render_partial` derives all three from a `FileSp`.) -/
theorem load_file_partial (E : Codec) (env : Env) (hsp : env.isSpace = pyIsSpace) (hdig : env.isDigit = pyIsDigit)
    (hdec : env.decimal = pyDecimal) (enc : Bytes) (hE : CodecOk env enc E) (cat : CatalogSp) (hv : cat.Valid E)
    (file : Bytes) (contents : Text) (hfile : decodeFile env enc file = .ok contents)
    (b : List Text) (l : Text) (tail : List Text) (hlines : physLines contents = b ++ l :: tail)
    (hl : ¬ Lemmas.PoPre.Held env l) (ht : ∀ x ∈ tail, Lemmas.PoPre.Held env x) (hb : (b ++ [l]).map normalise = cat.lines) :
    ∃ f, loadWith env enc file = .ok f ∧ f.header = cat.headerText ∧
      f.entries.map Lemmas.PoCatalog.content = cat.entries.map EntrySp.entry := by
  obtain ⟨f, h1, h2, h3⟩ := load_spells_partial E env hsp hdig hdec enc hE cat hv
  refine ⟨f, ?_, h2, h3⟩
  simp only [loadWith, hfile, Lemmas.PoPre.preprocess_body env contents b l hl tail ht hlines, hb, h1]

/-- The same for every spelled catalog, with the side conditions about the body discharged —
    the last line of a `CatalogSp` is a message line and `Codecs.open` never holds a message line back.  What remains as
    hypothesis is about the FILE, not the spelling: it decodes; its physical lines are `body ++ tail`; `body` with atypical
    comments normalised is the spelling; `Codecs.open` holds back every trailing line (blank lines, `# …` comments, `#~| …`,
    bare `#.` `#:` `#,`).  (`partial`: the charset `enc` is given; for `detectEncoding` see `detect_header`,
    `detect_first_match_refuted`.) -/
theorem load_spells_file_partial (E : Codec) (env : Env) (hsp : env.isSpace = pyIsSpace) (hdig : env.isDigit = pyIsDigit)
    (hdec : env.decimal = pyDecimal) (enc : Bytes) (hE : CodecOk env enc E) (cat : CatalogSp) (hv : cat.Valid E)
    (file : Bytes) (contents : Text) (hfile : decodeFile env enc file = .ok contents)
    (body tail : List Text) (hlines : physLines contents = body ++ tail)
    (hb : body.map normalise = cat.lines) (ht : ∀ x ∈ tail, Lemmas.PoPre.Held env x) :
    ∃ f, loadWith env enc file = .ok f ∧ f.header = cat.headerText ∧
      f.entries.map Lemmas.PoCatalog.content = cat.entries.map EntrySp.entry := by
  obtain ⟨b', l', hcl, hmsg⟩ := Lemmas.PoFile.catalog_last E cat hv
  -- the last line of `body` is the one that normalises to the catalog's last line, a message line
  obtain ⟨b, last, rfl, -, hlast⟩ := List.map_eq_append_iff.1 (hb.trans hcl)
  obtain ⟨l, rfl, hl'⟩ := List.map_eq_singleton_iff.1 hlast
  have hl : ¬ Lemmas.PoPre.Held env l := Lemmas.PoPre.not_held_of_normalise hl' (Lemmas.PoFile.not_held_msg env hsp l' hmsg)
  exact load_file_partial E env hsp hdig hdec enc hE cat hv file contents hfile b l tail (by simpa using hlines) hl ht hb

/-- **load_spells** (as far as it is true): `polib.pofile(path)` itself — charset detection, decode, `Codecs.open`, line loop —
    yields the catalog for every spelled catalog whose file declares its charset on the first line matching polib's pattern.
    Remaining hypotheses are about the file's bytes and lines only (see `load_spells_file_partial`, `detect_header`).
    `partial` because of the two refuted corners (`load_spells_refuted`, `detect_first_match_refuted`) and the stated exclusions. -/
theorem load_spells_detected_partial (E : Codec) (env : Env) (hsp : env.isSpace = pyIsSpace) (hdig : env.isDigit = pyIsDigit)
    (hdec : env.decimal = pyDecimal) (cat : CatalogSp) (file : Bytes) (name : Bytes) (hE : CodecOk env name E) (hv : cat.Valid E)
    (pre post : List Bytes) (rest : Bytes)
    (hbl : byteLines file = pre ++ (Lemmas.PoDetect.headerPrefix ++ (name ++ rest)) :: post)
    (hpre : ∀ l ∈ pre, detectLine l = none) (hne : name ≠ []) (hn : ∀ b ∈ name, isCharsetByte b = true)
    (hr : ∀ b r, rest = b :: r → isCharsetByte b = false) (hex : env.codecExists name = true)
    (contents : Text) (hfile : decodeFile env name file = .ok contents)
    (body tail : List Text) (hlines : physLines contents = body ++ tail)
    (hb : body.map normalise = cat.lines) (ht : ∀ x ∈ tail, Lemmas.PoPre.Held env x) :
    ∃ f, load env file = .ok f ∧ f.header = cat.headerText ∧
      f.entries.map Lemmas.PoCatalog.content = cat.entries.map EntrySp.entry := by
  unfold load
  rw [detect_header env file pre post name rest hbl hpre hne hn hr hex]
  exact load_spells_file_partial E env hsp hdig hdec name hE cat hv file contents hfile body tail hlines hb ht

/-- End to end from `Spec.render`.  For every spelled file `f` (a `CatalogSp` plus trailing lines that
    `Codecs.open` drops) that is `Valid` — every line carries its only line feed, comments are written in the normal form —
    and every charset `enc` that is ASCII-compatible for the tool and whose codec satisfies `CodecOk`: if the charset can encode
    the file's text (`f.render E = some file`), then `polib.pofile(path, encoding=enc)` on those BYTES yields the catalog.
    All hypotheses are about the spelling and the codec; none is about the file. -/
theorem load_render_partial (E : Codec) (env : Env) (hsp : env.isSpace = pyIsSpace) (hdig : env.isDigit = pyIsDigit)
    (hdec : env.decimal = pyDecimal) (enc : Bytes) (hE : CodecOk env enc E) (hcompat : env.asciiCompatible enc = true)
    (f : FileSp) (hv : f.Valid E) (file : Bytes) (hrender : f.render E = some file) :
    ∃ r, loadWith env enc file = .ok r ∧ r.header = f.cat.headerText ∧
      r.entries.map Lemmas.PoCatalog.content = f.cat.entries.map EntrySp.entry := by
  obtain ⟨hcat, htail, hlines, hnorm⟩ := hv
  obtain ⟨pairs, h1, h2, h3⟩ := Lemmas.PoFile.encodeText_pairs E f.text file hrender
  have hfile : decodeFile env enc file = .ok f.text := by
    rw [h1, h2]; exact decode_file_of_codec E env enc hE hcompat pairs h3
  refine load_spells_file_partial E env hsp hdig hdec enc hE f.cat hcat file f.text hfile f.cat.lines (f.tail.map TailSp.render)
    (Lemmas.PoPre.physLines_flatten f.lines hlines) ?_ ?_
  · exact List.map_congr_left (fun l hl => Lemmas.PoPre.normalise_of_not_atypical l (hnorm l hl)) |>.trans (List.map_id _)
  · intro x hx
    simp only [List.mem_map] at hx
    obtain ⟨t, ht, rfl⟩ := hx
    exact Lemmas.PoFile.tail_held env hsp t (htail t ht)

/-- the same with the charset detected by polib from the file (`polib.pofile(path)`).  What is left as hypothesis about the bytes
    is exactly the precondition of `detect_header_general`: the first byte line matching polib's pattern is the header's
    `Content-Type:… charset=NAME` line (see `detect_first_match_refuted` for why it cannot be dropped: in a multi-byte charset
    even the trail bytes of raw characters could spell the pattern earlier). -/
theorem load_render_detected_partial (E : Codec) (env : Env) (hsp : env.isSpace = pyIsSpace) (hdig : env.isDigit = pyIsDigit)
    (hdec : env.decimal = pyDecimal) (name : Bytes) (hE : CodecOk env name E) (hcompat : env.asciiCompatible name = true)
    (f : FileSp) (hv : f.Valid E) (file : Bytes) (hrender : f.render E = some file)
    (pre post : List Bytes) (a params rest : Bytes) (x : UInt8)
    (hbl : byteLines file = pre ++ (a ++ (contentTypeLit ++ (x :: (params ++ (charsetLit ++ (name ++ rest)))))) :: post)
    (hpre : ∀ l ∈ pre, detectLine l = none) (ha : (67 : UInt8) ∉ a) (hp : Lemmas.PoDetect.SpaceNotC params)
    (hne : name ≠ []) (hn : ∀ b ∈ name, isCharsetByte b = true) (hr : ∀ b r, rest = b :: r → isCharsetByte b = false)
    (hex : env.codecExists name = true) :
    ∃ r, load env file = .ok r ∧ r.header = f.cat.headerText ∧
      r.entries.map Lemmas.PoCatalog.content = f.cat.entries.map EntrySp.entry := by
  unfold load
  rw [detect_header_general env file pre post a params name rest x hbl hpre ha hp hne hn hr hex]
  exact load_render_partial E env hsp hdig hdec name hE hcompat f hv file hrender

/-- the trailing lines a file may have after its last message line without losing it (fix ed9c45c for the comment forms):
    every noise line, and every translator comment starting in the first column, is held back by `Codecs.open` -/
theorem codecs_open_holds_trailing (env : Env) (hsp : env.isSpace = pyIsSpace) :
    (∀ z : Noise, z.Valid → Lemmas.PoPre.Held env z.render) ∧
    (∀ rest : Text, rest ≠ [] →
      (∀ c r, rest = c :: r → c = ' ' ∨ ¬ (c = '.' ∨ c = ':' ∨ c = ',' ∨ c = '|' ∨ c = '~')) → Lemmas.PoPre.Held env ('#' :: rest)) :=
  ⟨fun z hz => Lemmas.PoFile.noise_held env hsp z hz, fun rest hne h => Lemmas.PoFile.tcomment_held env rest h hne⟩

/-- the physical lines of a file are its `\n`-terminated pieces: no other character ends a line (Debian #692283) -/
theorem phys_lines (ls : List Text) (h : ∀ l ∈ ls, IsLine l) : physLines ls.flatten = ls :=
  Lemmas.PoPre.physLines_flatten ls h

/-- fix ed9c45c, the witness: the last message survives a trailing comment polib skips -/
theorem trailing_ignored_comment_witness :
    (match loadWith asciiEnv asciiName ("msgid \"a\"\nmsgstr \"b\"\n#.\n".toList.map fun c => UInt8.ofNat c.toNat) with
      | .ok f => decide (f.entries.map (fun e => (e.msgid, e.msgstr)) = [(['a'], some ['b'])])
      | .error _ => false) = true := by
  decide +kernel

/-- non-vacuity of `load_file_partial`: the sample catalog as a file, with an atypical header comment (`#hdr`) and
    trailing comments that `Codecs.open` drops -/
def sampleFile : Text :=
  "\n#hdr\n#. x\n#: a.c:12 b\n#, fuzzy, c-format\nmsgid \"a\"\nmsgstr \"\"\n#.\n\"b\\n\"\n# trailing\n#~| msgid \"z\"\n".toList

theorem sampleCatalog_valid : sampleCatalog.Valid asciiCodec := by
  refine ⟨?_, ?_, nofun, ?_, nofun, ?_, ?_⟩
  · simp only [sampleCatalog, Noise.Valid, List.forall_mem_cons, List.not_mem_nil, false_imp_iff, implies_true, and_true]
    decide
  · simp only [sampleCatalog, HeaderLine.Valid, endsNonSpace, allSpace, List.forall_mem_cons, List.not_mem_nil, false_imp_iff,
      implies_true, and_true]
    decide
  · simp only [sampleCatalog, List.forall_mem_cons, List.not_mem_nil, false_imp_iff, implies_true, and_true]
    refine ⟨?_, sampleMsg_valid⟩
    simp only [CommentSp.Valid, blankChar, endsNonSpace, allSpace, refsValid, RefItem.Valid, Blank, FlagPiece.Valid, FlagItem,
      flagBody, List.forall_mem_cons, List.not_mem_nil, false_imp_iff, implies_true, and_true]
    simp [joinComma, FlagPiece.render]
    decide
  · simp only [sampleCatalog, List.head?_cons, Option.some.injEq, forall_eq', CommentSp.isTc, List.forall_mem_cons, List.not_mem_nil,
      false_imp_iff, implies_true, and_true]
  · simp only [sampleCatalog, List.getLast?_singleton, Option.some.injEq, forall_eq']
    rfl

example : ∃ f, loadWith asciiEnv asciiName (sampleFile.map fun c => UInt8.ofNat c.toNat) = .ok f ∧ f.header = "hdr".toList ∧
    f.entries.map Lemmas.PoCatalog.content = sampleCatalog.entries.map EntrySp.entry := by
  have hfile : decodeAscii (sampleFile.map fun c => UInt8.ofNat c.toNat) = some sampleFile := by
    unfold sampleFile
    rw [String.toList_ofList]
    decide +kernel
  refine load_file_partial asciiCodec asciiEnv rfl rfl rfl asciiName (asciiCodecOk _) sampleCatalog sampleCatalog_valid _ sampleFile
    (decodeFile_asciiEnv _ _ _ hfile)
    ["\n".toList, "#hdr\n".toList, "#. x\n".toList, "#: a.c:12 b\n".toList, "#, fuzzy, c-format\n".toList,
     "msgid \"a\"\n".toList, "msgstr \"\"\n".toList, "#.\n".toList] "\"b\\n\"\n".toList
    ["# trailing\n".toList, "#~| msgid \"z\"\n".toList] ?_ ?_ ?_ ?_
  · unfold sampleFile
    repeat rw [String.toList_ofList]
    decide +kernel
  · rw [Lemmas.PoPre.not_held_iff, String.toList_ofList]
    decide +kernel
  · simp only [Lemmas.PoPre.held_iff]
    repeat rw [String.toList_ofList]
    decide +kernel
  · repeat rw [String.toList_ofList]
    decide +kernel

/-- `Codecs.open` yields every physical line up to the last one it does not hold back, in order (atypical comments
    normalised), and drops the held-back lines after it (fix ed9c45c put the comment forms polib skips among them) -/
theorem codecs_open_keeps_body (env : Env) (contents : Text) (b : List Text) (l : Text) (hl : ¬ Lemmas.PoPre.Held env l)
    (tail : List Text) (ht : ∀ x ∈ tail, Lemmas.PoPre.Held env x) (hlines : physLines contents = b ++ l :: tail) :
    preprocess env contents = (b ++ [l]).map normalise :=
  Lemmas.PoPre.preprocess_body env contents b l hl tail ht hlines

/-- Loading a list of files in one process is the list of the single loads: the result for a
    file does not depend on the files loaded before it (nor on their charsets).  True of the model by construction — its loop
    threads nothing but the results — which is exactly what a module-level cache in the loader would break; the tie is the
    `po-load-sequence` stream and the sequence falsifier (files in different charsets sharing textually identical escaped
    lines, every order, each order in its own process). -/
theorem load_sequence_independent (env : Env) (files : List Bytes) : loadSeq env files = files.map (checkerLoad env) := by
  unfold loadSeq
  suffices h : ∀ acc : List (Except Err PoFile × Bool),
      files.foldl (fun results file => results ++ [checkerLoad env file]) acc = acc ++ files.map (checkerLoad env) by
    simpa using h []
  induction files with
  | nil => simp
  | cons f rest ih => intro acc; simp [List.foldl_cons, ih]

/-- whatever was loaded before, and in whatever order, the last file gets the result it gets alone -/
theorem load_after_any_history (env : Env) (history : List Bytes) (file : Bytes) :
    (loadSeq env (history ++ [file])).getLast? = some (checkerLoad env file) := by
  rw [load_sequence_independent]; simp

/-- non-vacuity: the same escaped line `\\xc4\\x85` in a file read as "two-byte" text and in a plain ASCII-declared file:
    each file gets its own answer in both orders -/
example :
    let a := "msgid \"\\xc4\\x85\"\nmsgstr \"\"\n".toList.map fun c => UInt8.ofNat c.toNat
    let b := "msgid \"x\"\nmsgstr \"\\xc4\\x85\"\n# c\n".toList.map fun c => UInt8.ofNat c.toNat
    (loadSeq twoByteEnv [a, b]).map (·.2) = [false, false] ∧
    loadSeq twoByteEnv [a, b] = (loadSeq twoByteEnv [b, a]).reverse := by
  rw [String.toList_ofList, String.toList_ofList]
  intro a b
  rw [load_sequence_independent, load_sequence_independent]
  refine ⟨?_, rfl⟩
  decide +kernel

/-- non-vacuity of `load_render_partial`: the sample catalog followed by two trailing lines, rendered in ASCII -/
def sampleFileSp : FileSp :=
  ⟨sampleCatalog, [.comment " trailing\n".toList, .noise (.ignoredPrev [] " msgid \"z\"".toList ['\n'])]⟩

theorem sampleFileSp_valid : sampleFileSp.Valid asciiCodec := by
  refine ⟨sampleCatalog_valid, ?_, ?_, ?_⟩
  · intro t ht
    simp [sampleFileSp] at ht
    rcases ht with rfl | rfl
    · refine ⟨by decide, ?_⟩
      intro c r e; simp at e; exact Or.inl e.1.symm
    · simp [TailSp.Valid, Noise.Valid, Blank]; decide
  · have : ∀ l ∈ sampleFileSp.lines, Lemmas.PoPre.isLineB l = true := by decide +kernel
    exact fun l hl => Lemmas.PoPre.isLine_of_isLineB l (this l hl)
  · decide +kernel

set_option maxRecDepth 8000 in
example : ∃ file, sampleFileSp.render asciiCodec = some file ∧ ∃ r, loadWith asciiEnv asciiName file = .ok r ∧ r.header = "hdr".toList ∧
    r.entries.map Lemmas.PoCatalog.content = sampleCatalog.entries.map EntrySp.entry := by
  have hr : (sampleFileSp.render asciiCodec).isSome = true := by decide +kernel
  obtain ⟨file, hfile⟩ := Option.isSome_iff_exists.mp hr
  exact ⟨file, hfile, load_render_partial asciiCodec asciiEnv rfl rfl rfl asciiName (asciiCodecOk _) rfl sampleFileSp sampleFileSp_valid file hfile⟩

/-- `translated()` as patched: not obsolete, not fuzzy, and `msgstr` or some plural form non-empty -/
theorem translated_iff (e : Entry) :
    translated e = true ↔
      e.obsolete = false ∧ ['f', 'u', 'z', 'z', 'y'] ∉ e.flags ∧
        ((∃ c t, e.msgstr = some (c :: t)) ∨ ∃ kv ∈ e.msgstrPlural, kv.2 ≠ []) := by
  unfold translated
  cases e.obsolete
  · by_cases hf : ['f', 'u', 'z', 'z', 'y'] ∈ e.flags
    · simp only [Bool.false_eq_true, if_false, List.contains_eq_mem, hf, decide_true, if_true, not_true, false_and, and_false]
    · simp only [Bool.false_eq_true, if_false, List.contains_eq_mem, hf, decide_false, true_and, not_false_eq_true,
        Bool.or_eq_true, List.any_eq_true, Bool.not_eq_true', List.isEmpty_eq_false_iff]
      refine or_congr ?_ Iff.rfl
      rcases e.msgstr with _ | _ | ⟨c, t⟩
      · simp
      · simp
      · simp
  · simp only [if_true, Bool.false_eq_true, Bool.true_eq_false, false_and]

end I18n.Props.C10
