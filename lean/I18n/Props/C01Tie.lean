import I18n.Generated.CheckLoad
import I18n.Props.C01
/-!
# C01 — the tie: the control flow of `Checker.check` REGENERATED from `lib/check/__init__.py` is the model `Check.check`

`I18n.Generated.CheckLoad` is rewritten from the repository's current `lib/check/__init__.py` by `tools/translate/checkload2lean.py` on
every run: the method is executed symbolically (fall through / `return` / exception continuations; `os.stat`, the extension class and the
two loader calls are the points where the outside world decides; handlers are met by exception class; `finally` runs on every way out).
The theorem below proves the result equal, for ALL arguments, to the hand-written `Check.check` that `check_uncaught_iff`,
`pipeline_nocrash_unconditional` (C01), C03, C09's `checkerLoad` and C17's `whole_is_composition` rest on; `stage_order_pin` pins the order
in which the nine `check_*` methods are called.  The loader, `init` and the stages stay parameters (they are the component models).
-/
namespace I18n.Props.C01Tie
open I18n I18n.Check I18n.Generated

/-- `Checker.check` as regenerated = `Check.check` -/
theorem generated_check_eq_model {F σ τ : Type} (statOk : Bool) (ext : Ext) (load : Bool → Except LoadErr F) (init : F → Bool → σ)
    (stages : List (Stage σ τ)) :
    CheckLoad.check statOk ext load init stages = Check.check statOk ext load init stages := by
  unfold CheckLoad.check Check.check
  cases statOk <;> cases ext <;> simp only [Bool.not_true, Bool.not_false, if_true, if_false, Bool.false_eq_true, reduceCtorEq] <;>
    (cases load false with
     | ok f => rfl
     | error e =>
       cases e <;> simp only [] <;>
         (cases load true with
          | ok f => rfl
          | error e2 => cases e2 <;> rfl))

/-- the nine `check_*` calls of `Checker.check`, as the translator reads them off the source, in order -/
theorem stage_order_pin : CheckLoad.stageOrder =
    ["check_comments", "check_headers", "check_language", "check_plurals", "check_mime", "check_dates", "check_project",
     "check_translator", "check_messages"] := by decide +kernel

/-- a first loader call that fails with one of the three mapped kinds leaves no exception in the regenerated `check`, whatever `check_*`
    methods would follow: none of them is reached (when one does escape is `C01.check_uncaught_iff`, which speaks of the regenerated
    method through the tie) -/
theorem generated_handled_load_failure {F σ τ : Type} (ext : Ext) (load : Bool → Except LoadErr F) (init : F → Bool → σ)
    (stages : List (Stage σ τ)) (e : LoadErr) (h1 : load false = .error e) (he : e = .moSyntax ∨ e = .osErrno ∨ e = .poSyntax) :
    (CheckLoad.check true ext load init stages).uncaught = false := by
  rw [generated_check_eq_model]
  unfold Check.check
  rcases he with rfl | rfl | rfl <;> cases ext <;> simp [h1]

/-- `generated_handled_load_failure` with no stage after the load -/
theorem generated_no_uncaught_of_handled {F σ τ : Type} (ext : Ext) (load : Bool → Except LoadErr F) (init : F → Bool → σ)
    (e : LoadErr) (h1 : load false = .error e) (he : e = .moSyntax ∨ e = .osErrno ∨ e = .poSyntax) :
    (CheckLoad.check (σ := σ) (τ := τ) true ext load init []).uncaught = false :=
  generated_handled_load_failure ext load init [] e h1 he

/-- a file on which `os.stat` fails: no traceback (the run is the model's single `os-error` line) -/
theorem generated_stat_failure {F σ τ : Type} (ext : Ext) (load : Bool → Except LoadErr F) (init : F → Bool → σ) (stages : List (Stage σ τ)) :
    (CheckLoad.check false ext load init stages).uncaught = false := by
  rw [generated_check_eq_model]; rfl

end I18n.Props.C01Tie
