import I18n.Model.Plural
import I18n.Lemmas.Codomain
import I18n.Lemmas.ExceptDec
/-!
# C05 — range analysis of plural expressions is sound

Stated about the definitions generated from `lib/intexpr.py` (`Generated/Intexpr.lean`), for every
expression of the AST, every width `bits` (0 included) and every `n < 2^bits`.
-/
namespace I18n.Props.C05
open I18n I18n.Py I18n.Plural

private theorem two_pow_pos (bits : Nat) : (0 : Int) < (2 : Int) ^ bits :=
  Int.pow_pos (by decide)

/-- The analysis itself never fails: none of the `assert`s in `CodomainEvaluator` can fire, and no
    other exception is possible. -/
theorem codomain_nocrash (bits : Nat) (e : Expr) : ∃ r, codomain bits e = .ok r := by
  obtain ⟨r, hr, _⟩ := codomain_main 0 ⟨Int.le_refl 0, two_pow_pos bits⟩ e
  exact ⟨r, hr⟩

/-- When `Expression.codomain` returns `(L, R)` — the pair `check_plurals` compares with `nplurals` for the
    `codomain-error-in-plural-forms` tags — every `n < 2^bits` at which the expression evaluates successfully
    satisfies `L ≤ f(n) ≤ R`. -/
theorem codomain_sound (bits : Nat) (e : Expr) (L R : Int) (h : codomain bits e = .ok (some (L, R)))
    (n : Nat) (hn : (n : Int) < 2 ^ bits) (v : Int) (hv : evalAt bits n e = .ok v) :
    L ≤ v ∧ v ≤ R :=
  (codomain_ok h ⟨Int.natCast_nonneg n, hn⟩).within v hv

/-- When `Expression.codomain` returns `None`, the expression fails (overflow or division by zero) for every
    `n < 2^bits`. -/
theorem codomain_none_fails (bits : Nat) (e : Expr) (h : codomain bits e = .ok none)
    (n : Nat) (hn : (n : Int) < 2 ^ bits) : ∀ v, evalAt bits n e ≠ .ok v :=
  (codomain_ok h ⟨Int.natCast_nonneg n, hn⟩).fails

/-- The reported interval is well formed: `0 ≤ L ≤ R`, and `R < 2^bits` (or `R ≤ 1`: comparison
    results are not overflow-checked, which only matters at width 0). -/
theorem codomain_interval_wf (bits : Nat) (e : Expr) (L R : Int) (h : codomain bits e = .ok (some (L, R))) :
    0 ≤ L ∧ L ≤ R ∧ (R < 2 ^ bits ∨ R ≤ 1) :=
  (codomain_ok h ⟨Int.le_refl 0, two_pow_pos bits⟩).inv

section
open scoped I18n.ExceptDec

/-! Non-vacuity: concrete expressions on which the hypotheses hold with a non-trivial conclusion. -/

/-- `n % 10 + 1` at width 32 has bounds `(1, 10)`. -/
example : codomain 32 (.binop (.binop .name .mod (.num 10)) .add (.num 1)) = .ok (some (1, 10)) := by decide +kernel
/-- `n / 0` has no bounds. -/
example : codomain 32 (.binop .name .div (.num 0)) = .ok none := by decide +kernel
example : evalAt 32 7 (.binop (.binop .name .mod (.num 10)) .add (.num 1)) = .ok 8 := by decide +kernel

end

end I18n.Props.C05
