import I18n.Props.C08
import I18n.Lemmas.MetaDeb
import I18n.Lemmas.MetaPo
import I18n.Lemmas.MetaBinary
import I18n.Lemmas.MetaBlame
import I18n.Lemmas.MetaRealBinary
import I18n.Lemmas.MetaRealCharset
import I18n.Lemmas.MetaRealHeader
import I18n.Lemmas.MetaWhole
import I18n.Spec.Metamorphic
import I18n.Generated.BinaryReads
import I18n.Lemmas.ExceptDec
/-!
# C17 — diagnostics depend on content, not on encoding or packaging   (PARTIAL: see the end of this comment)

A family of invariance and composition laws about `Checker.check`.  Sections 1–5 state each for any stages that meet the law's
hypothesis — MO layouts (a corollary of C08 `parse_of_encodes`), PO spellings (the loader's round-trip law as a hypothesis), transcoding
and PO versus MO (instances of the composition law `check_sim` of `Lemmas/MetaSim.lean`), `--unpack-deb` (`Model/Deb.lean`) — and pin
the inventories regenerated from /repo that justify the hypotheses: where `ctx.is_binary`, `ctx.encoding`, the Content-Type value, the
entry attributes and the packaging options are read (`Generated.BinaryReads`).  Section 6 draws the conclusions for the composed checker
`Meta.Real.pipeline` (the loaders of C10 and C08, the stage models of C15, C19, C07, C20, C18, C16, C14), where what is assumed is about
the files (`SpelledFile`, `Encodes`) and their `ctx` (`Real.TcRel`) and not about a loader or a stage; section 7: the composed
checker is the function the `whole-files` stream runs, and it prints its tags in the order of the source.

NOT provable in a model (TEST level, tools/checks/C17.py on the real tool): that `dpkg-deb` extracts faithfully, the order
and content of `os.walk`, that `TemporaryDirectory` removes its tree (also when a member fails), that the real
per-member tag calls do not depend on `fake_root`/`ignore_tags` beyond the pinned inventory (`option_uses_pinned`),
PO files outside `SpelledFile` (C10's exclusions), and that the seven parameter stages of `Meta.pipeline` really cannot see `is_binary`
(pinned inventory + the metamorphic comparison of real PO/MO pairs).
-/
namespace I18n.Props.C17
open I18n I18n.Check I18n.Meta I18n.Deb
open I18n.Mo.Spec (Encodes CatEntry Layout serialize)

/-! ## 1. MO files that encode the same catalog -/

/-- **Two MO files that encode the same catalog get identical diagnostics**: for all byte strings `b1`, `b2` that are
    legal layouts of the well-formed catalog `cat` with the same hidden-strings flag, `Checker.check` behaves
    identically — same lines in the same order, same exit — for any `ctx` initialisation and any stages. -/
theorem mo_layout_invariant {σ τ : Type} (db : Mo.CodecDB) (b1 b2 : Mo.Bytes) (cat : List CatEntry) (hidden : Bool)
    (h1 : Encodes b1 cat hidden) (h2 : Encodes b2 cat hidden) (hwf : ∀ e ∈ cat, e.WF)
    (statOk : Bool) (init : Mo.MoFile → Bool → σ) (stages : List (Stage σ τ)) :
    check statOk .mo (moLoad db b1) init stages = check statOk .mo (moLoad db b2) init stages := by
  apply check_congr_load
  intro retry
  unfold moLoad
  rw [C08.parse_of_encodes db _ b1 cat hidden h1 hwf, C08.parse_of_encodes db _ b2 cat hidden h2 hwf]

/-- the concrete family: byte order, revision words, table order, gaps, per-string padding, trailer -/
theorem mo_layout_family_invariant {σ τ : Type} (db : Mo.CodecDB) (cat : List CatEntry) (l1 l2 : Layout)
    (ok1 : l1.OK cat) (ok2 : l2.OK cat) (hh : l1.hidden = l2.hidden) (hwf : ∀ e ∈ cat, e.WF)
    (statOk : Bool) (init : Mo.MoFile → Bool → σ) (stages : List (Stage σ τ)) :
    check statOk .mo (moLoad db (serialize cat l1)) init stages = check statOk .mo (moLoad db (serialize cat l2)) init stages :=
  mo_layout_invariant db _ _ cat l1.hidden (C08.serialize_encodes cat l1 ok1) (hh ▸ C08.serialize_encodes cat l2 ok2) hwf
    statOk init stages

/-! ## 2. PO files that spell the same catalog -/

/-- **Two PO files that spell the same catalog get identical diagnostics**, given the PO loader's round-trip law:
    `hload` is C10's `load_spells` (every spelling of `cat` loads to the result determined by `cat` alone, on the first
    attempt and on the ISO-8859-1 retry).  The law for ANY loader with that property; `po_spelling_invariant` (section 6) is about
    `poLoad` and does not go through it: C10 determines the first attempt of a spelled file only, which is all `check` runs. -/
theorem po_spelling_invariant_of_load_spells {Lines Cat F σ τ : Type}
    (Spells : Cat → Lines → Prop) (loadPO : Lines → Bool → Except LoadErr F) (expected : Cat → Bool → Except LoadErr F)
    (hload : ∀ cat l, Spells cat l → ∀ retry, loadPO l retry = expected cat retry)
    (cat : Cat) (l1 l2 : Lines) (h1 : Spells cat l1) (h2 : Spells cat l2)
    (statOk : Bool) (ext : Ext) (init : F → Bool → σ) (stages : List (Stage σ τ)) :
    check statOk ext (loadPO l1) init stages = check statOk ext (loadPO l2) init stages := by
  apply check_congr_load
  intro retry
  rw [hload cat l1 h1 retry, hload cat l2 h2 retry]

/-- The same, in the shape C10 proves it: the loader's result is determined by the catalog only UP TO A VIEW (polib's
    `linenum` differs between spellings; `entry_attrs_pinned` below shows lib/check/ never reads it), and `ctx` is built
    from the view. -/
theorem po_spelling_invariant_of_load_spells_view {Lines Cat F V σ τ : Type}
    (Spells : Cat → Lines → Prop) (loadPO : Lines → Bool → Except LoadErr F) (view : F → V)
    (expected : Cat → Bool → Except LoadErr V)
    (hload : ∀ cat l, Spells cat l → ∀ retry, mapLoad view (loadPO l retry) = expected cat retry)
    (cat : Cat) (l1 l2 : Lines) (h1 : Spells cat l1) (h2 : Spells cat l2)
    (statOk : Bool) (ext : Ext) (init : V → Bool → σ) (stages : List (Stage σ τ)) :
    check statOk ext (loadPO l1) (fun f b => init (view f) b) stages
      = check statOk ext (loadPO l2) (fun f b => init (view f) b) stages := by
  rw [check_map_load statOk ext (loadPO l1) view init stages, check_map_load statOk ext (loadPO l2) view init stages]
  apply check_congr_load
  intro retry
  rw [hload cat l1 h1 retry, hload cat l2 h2 retry]

/-! ## 3. transcoding -/

/-- **Transcoding.**  Two files whose loaded forms are related by `Rf` (the same catalog, the charset name in the
    Content-Type field aside) and whose `ctx` are then related by `R` (equal apart from the charset name and the value of
    `ctx.encoding`, both not `None`): if every stage before and after `check_mime` maps related states to related states
    and prints IDENTICAL tags, and `check_mime` does so apart from the charset tags, the two runs print the same lines
    apart from the charset tags, in the same order, and end alike. -/
theorem transcoding_invariant {F σ τ : Type} (R : σ → σ → Prop) (Rf : F → F → Prop) (charsetTag : τ → Bool)
    (statOk : Bool) (ext : Ext) (load1 load2 : Bool → Except LoadErr F) (init : F → Bool → σ)
    (pre post : List (Stage σ τ)) (mime : Stage σ τ)
    (hload : ∀ retry, LoadAlike Rf (load1 retry) (load2 retry))
    (hinit : ∀ f g broken, Rf f g → R (init f broken) (init g broken))
    (hpre : ∀ st ∈ pre, Exact R st st) (hpost : ∀ st ∈ post, Exact R st st)
    (hmime : Respects R (fun t => !charsetTag t) mime mime) :
    Spec.Metamorphic.EqModulo (keepLine (fun t => !charsetTag t))
      (check statOk ext load1 init (pre ++ mime :: post)).lines (check statOk ext load2 init (pre ++ mime :: post)).lines ∧
    (check statOk ext load1 init (pre ++ mime :: post)).uncaught = (check statOk ext load2 init (pre ++ mime :: post)).uncaught :=
  check_sim R Rf _ statOk ext load1 load2 init init _ _ hload hinit
    (respectsAll_append R _ (respectsAll_of_exact R _ pre hpre) (.cons hmime (respectsAll_of_exact R _ post hpost)))

/-- `ctx.encoding` is read in three places … -/
theorem encoding_reads_pinned : Generated.BinaryReads.encodingReads = Spec.Metamorphic.documentedEncodingReads := rfl

/-- … each of which only asks whether it is `None`: the NAME of the charset never leaves `check_mime` -/
theorem encoding_reads_are_none_tests :
    ∀ r ∈ Generated.BinaryReads.encodingReads, r.2.2 = "if ctx.encoding is None" ∨ r.2.2 = "if ctx.encoding is not None" := by
  decide +kernel

theorem encoding_writes_pinned : Generated.BinaryReads.encodingWrites = Spec.Metamorphic.documentedEncodingWrites := rfl

/-- the Content-Type value is looked up by `check_mime` and (for the Publican prefix) by `check_dates` only -/
theorem content_type_sites_pinned : Generated.BinaryReads.contentTypeSites = Spec.Metamorphic.documentedContentTypeSites := rfl

/-- the tags that can carry the charset name -/
theorem charset_tag_sites_pinned : Generated.BinaryReads.charsetTagSites = Spec.Metamorphic.documentedCharsetTags := rfl

/-- the modulo set used by the metamorphic check is among them -/
theorem charset_tags_documented : ∀ t ∈ Spec.Metamorphic.charsetTags, t ∈ Spec.Metamorphic.documentedCharsetTags := by decide +kernel

/-! ## 4. PO versus MO -/

/-- **MO entries mimic PO entries**: for a translated message, every observation the checker makes of the entry built
    by `moparser` (`comment = None`, `flags = ()`, `occurrences = ()`, `translated = lambda: True`, `previous_* = None`)
    equals the observation of the entry the PO loader builds for the same message without PO-only features. -/
theorem mo_entry_view_neutral (e : Mo.Entry) (h : Translated e) : observe (ofMo e) = observe (ofPo e) := by
  rw [← Real.ofPoEntry_poOfMo]
  exact (Real.observe_poOfMo e h).symm

/-- without the hypothesis the two views differ in `translated()` only (read by `check_plurals` alone: the last row of
    `entry_attr_reads_pinned`) -/
theorem mo_entry_view_untranslated (e : Mo.Entry) :
    { observe (ofMo e) with translated := (observe (ofPo e)).translated } = observe (ofPo e) := by
  unfold ofMo ofPo observe
  cases e.body <;> rfl

theorem mo_entry_fields_pinned : Generated.BinaryReads.moEntryFields = Spec.Metamorphic.documentedMoEntryFields := rfl
theorem entry_attr_reads_pinned : Generated.BinaryReads.entryAttrReads = Spec.Metamorphic.documentedEntryAttrReads := rfl
theorem entry_attrs_pinned : Generated.BinaryReads.entryAttrs = Spec.Metamorphic.documentedEntryAttrs := rfl

/-- **`ctx.is_binary` is read in exactly two places**: the POT-Creation-Date exemption and the `empty-file` gate -/
theorem binary_reads_pinned : Generated.BinaryReads.binaryReads = Spec.Metamorphic.documentedBinaryReads := rfl
theorem binary_writes_pinned : Generated.BinaryReads.binaryWrites = Spec.Metamorphic.documentedBinaryWrites := rfl

variable {κ τ : Type}

/-- **PO versus MO, the pipeline.**  Same `ctx` apart from `is_binary`; the MO file's revision hides nothing (what
    msgfmt writes).  Then the MO run prints exactly the PO run's tags without `no-date-header-field POT-Creation-Date`,
    in the same order, and raises iff the PO run does. -/
theorem po_vs_mo (p : Parts κ τ) (k : κ) :
    (runStages (pipeline p) (⟨true, false⟩, k)).1 = (runStages (pipeline p) (⟨false, false⟩, k)).1.filter notExempt ∧
    (runStages (pipeline p) (⟨true, false⟩, k)).2 = (runStages (pipeline p) (⟨false, false⟩, k)).2 :=
  runStages_binary isExempt _ (pipeline_respects p) (pipeline_clean p) k

/-- any revision: additionally `empty-file` may differ (and only that) -/
theorem po_vs_mo_hidden (p : Parts κ τ) (k : κ) (hidden hiddenPo : Bool) :
    Spec.Metamorphic.EqModulo notExemptNorEmpty
      (runStages (pipeline p) (⟨true, hidden⟩, k)).1 (runStages (pipeline p) (⟨false, hiddenPo⟩, k)).1 ∧
    (runStages (pipeline p) (⟨true, hidden⟩, k)).2 = (runStages (pipeline p) (⟨false, hiddenPo⟩, k)).2 :=
  runStages_sim (BinRel false) notExemptNorEmpty _ _ (pipeline_respects_any p) _ _ ⟨rfl, rfl, rfl, fun h => by cases h⟩

/-- `no-date-header-field` comes from the `len(dates) == 0` branch only, and not for POT-Creation-Date in a binary file -/
theorem noDate_mem_checkDatesField (isBinary : Bool) (dedup : List Text → List Text) (perDate : Bool → Text → List τ)
    (pot p : Bool) (dates : List Text) :
    PTag.noDate p ∈ checkDatesField isBinary dedup perDate pot dates ↔ (p = pot ∧ dates = [] ∧ (pot && isBinary) = false) := by
  cases dates with
  | nil =>
    cases hb : (pot && isBinary)
    · simp [checkDatesField, hb]
    · simp [checkDatesField, hb]
  | cons d ds =>
    cases ds with
    | nil => simp [checkDatesField]
    | cons d' ds => simp [checkDatesField]

/-- the exempted tag appears in the PO run of `check_dates` exactly when the field is missing, never in the MO run -/
theorem exemption_iff (isBinary : Bool) (dedup : List Text → List Text) (perDate : Bool → Text → List τ) (potDates poDates : List Text) :
    PTag.noDate true ∈ checkDates isBinary dedup perDate potDates poDates ↔ (isBinary = false ∧ potDates = []) := by
  rw [checkDates, List.mem_append, noDate_mem_checkDatesField, noDate_mem_checkDatesField]
  simp [and_comm]

/-- the exemption does not extend to PO-Revision-Date -/
theorem no_exemption_for_revision_date (dedup : List Text → List Text) (perDate : Bool → Text → List τ) (potDates : List Text) :
    PTag.noDate false ∈ checkDates true dedup perDate potDates [] := by
  rw [checkDates, List.mem_append, noDate_mem_checkDatesField, noDate_mem_checkDatesField]
  exact Or.inr ⟨rfl, rfl, rfl⟩

/-- **PO versus MO, `Checker.check`.**  An MO loader and a PO loader that fail alike or deliver files whose `ctx` agree
    apart from `is_binary` (this is where `mo_entry_view_neutral` and the loaders' theorems enter): the two runs print
    the same lines apart from the exemption, and end alike. -/
theorem po_vs_mo_check {F₁ F₂ : Type} (p : Parts κ τ) (statOk : Bool)
    (loadMo : Bool → Except LoadErr F₁) (loadPo : Bool → Except LoadErr F₂)
    (ctxMo : F₁ → Bool → κ) (ctxPo : F₂ → Bool → κ)
    (hload : ∀ retry, LoadAlike (fun f g => ∀ broken, ctxMo f broken = ctxPo g broken) (loadMo retry) (loadPo retry)) :
    Spec.Metamorphic.EqModulo (keepLine notExempt)
      (check statOk .mo loadMo (fun f b => ((⟨true, false⟩ : BinFlags), ctxMo f b)) (pipeline p)).lines
      (check statOk .po loadPo (fun g b => ((⟨false, false⟩ : BinFlags), ctxPo g b)) (pipeline p)).lines ∧
    (check statOk .mo loadMo (fun f b => ((⟨true, false⟩ : BinFlags), ctxMo f b)) (pipeline p)).uncaught
      = (check statOk .po loadPo (fun g b => ((⟨false, false⟩ : BinFlags), ctxPo g b)) (pipeline p)).uncaught := by
  rw [check_ext statOk .po .mo (by decide) (by decide)]
  exact check_sim (BinRel true) (fun (f : F₁) (g : F₂) => ∀ broken, ctxMo f broken = ctxPo g broken) notExempt statOk .mo
    loadMo loadPo _ _ (pipeline p) (pipeline p) hload (fun f g broken h => ⟨rfl, rfl, h broken, fun _ => rfl⟩) (pipeline_respects p)

/-- The hypothesis `hload` cannot be dropped: the clause is FALSE for a PO loader and an MO loader that read the charset
    declaration differently.  That happens on the real code (recorded finding `po-vs-mo:charset-declaration`): for
    `Content-Type: text/plain;charset=UTF-8` (no blank before `charset=`) polib's detection regex finds no charset, the PO file
    is decoded as ASCII and the first attempt raises `UnicodeDecodeError`, while moparser's `charset=([^ \t\n]+)` finds UTF-8.
    In the model: an MO loader that succeeds, a PO loader whose first attempt raises `UnicodeDecodeError`. -/
def PoVsMoUnconditional : Prop :=
  ∀ (p : Parts Unit Unit) (loadMo loadPo : Bool → Except LoadErr Unit),
    Spec.Metamorphic.EqModulo (keepLine notExempt)
      (check true .mo loadMo (fun _ _ => ((⟨true, false⟩ : BinFlags), ())) (pipeline p)).lines
      (check true .po loadPo (fun _ _ => ((⟨false, false⟩ : BinFlags), ())) (pipeline p)).lines

def quietParts : Parts Unit Unit where
  comments := fun k => (k, [], false)
  headers := fun k => (k, [], false)
  language := fun k => (k, [], false)
  plurals := fun k => (k, [], false)
  mime := fun k => (k, [], false)
  resetEncoding := id
  dedup := id
  perDate := fun _ _ _ => []
  potDates := fun _ => [['d']]
  poDates := fun _ => [['d']]
  project := fun k => (k, [], false)
  translator := fun k => (k, [], false)
  messages := fun _ => ([], false, 1)

theorem po_vs_mo_unconditional_refuted : ¬ PoVsMoUnconditional := by
  intro h
  have := h quietParts (fun _ => .ok ()) (fun retry => if retry then .ok () else .error .unicodeDecode)
  simp [Spec.Metamorphic.EqModulo, check, afterLoad, runStages, pipeline, blind, datesStage, messagesStage, quietParts,
    checkDates, checkDatesField, emptyFileGate, keepLine] at this

/-- the witness of that finding in the two loader models (C10's `Po.detectLine` = polib's line regex, C08's `Mo.findCharset` =
    moparser's / gettext's `charset=` search): for the header line `Content-Type: text/plain;charset=UTF-8` the PO loader
    finds no charset declaration, the MO loader finds `UTF-8` -/
theorem charset_declaration_refuted :
    Po.detectLine ("\"Content-Type: text/plain;charset=UTF-8\\n\"\n".toList.map fun c => UInt8.ofNat c.toNat) = none ∧
    Mo.findCharset ("Content-Type: text/plain;charset=UTF-8\n".toList.map fun c => UInt8.ofNat c.toNat)
      = some ("UTF-8".toList.map fun c => UInt8.ofNat c.toNat) := by
  repeat rw [String.toList_ofList]
  decide +kernel

/-- … while for the usual spelling both find it -/
theorem charset_declaration_usual :
    Po.detectLine ("\"Content-Type: text/plain; charset=UTF-8\\n\"\n".toList.map fun c => UInt8.ofNat c.toNat)
      = some ("UTF-8".toList.map fun c => UInt8.ofNat c.toNat) ∧
    Mo.findCharset ("Content-Type: text/plain; charset=UTF-8\n".toList.map fun c => UInt8.ofNat c.toNat)
      = some ("UTF-8".toList.map fun c => UInt8.ofNat c.toNat) := by
  repeat rw [String.toList_ofList]
  decide +kernel

/-! ## 4b. why the PO file of the PO-versus-MO clause is taken in msgfmt order

`unusual-character-in-translation` reports each character once per file, under the first message (in file order) whose
translation has it.  WHAT is reported is independent of the order of the messages; WHO carries it is not.  (The same
holds for `inconsistent-number-of-plural-forms`, which names the first two differing counts.)  An MO file is sorted by
msgfmt; for a PO file in another order these two diagnostics may name another message — `po_vs_mo` above compares the
same `ctx`, i.e. the same entries in the same order, and the check compares PO files in msgfmt order exactly and PO files in
any other order up to these two diagnostics. -/

/-- the set of unusual characters reported for a file does not depend on the order of its messages -/
theorem unusual_characters_order_invariant {μ : Type} (l1 l2 : List (μ × List (List Char))) (h : l1.Perm l2) (c : Char) :
    c ∈ (blame [] l1).flatMap (·.2) ↔ c ∈ (blame [] l2).flatMap (·.2) := by
  rw [blame_chars, blame_chars]
  constructor
  · rintro ⟨hf, m, hm, hs⟩
    exact ⟨hf, m, h.mem_iff.mp hm, hs⟩
  · rintro ⟨hf, m, hm, hs⟩
    exact ⟨hf, m, h.mem_iff.mpr hm, hs⟩

/-- … but the message that is blamed does: two messages with the same unusual character, in either order -/
theorem blame_is_order_sensitive :
    ∃ l1 l2 : List (Nat × List (List Char)), l1.Perm l2 ∧ blame [] l1 ≠ blame [] l2 :=
  ⟨[(1, [['\x07']]), (2, [['\x07']])], [(2, [['\x07']]), (1, [['\x07']])], List.Perm.swap _ _ _, by decide⟩

/-! ## 5. packages -/

/-- **the rewrite**: `path = real_root + m` is shown as `fake_root + m` -/
theorem fake_path_rewrite (realRoot fakeRoot m : Str) (h1 : endsWithSep realRoot = true) (h2 : endsWithSep fakeRoot = true) :
    fakePath (some (realRoot, fakeRoot)) (realRoot ++ m) = .ok (fakeRoot ++ m) :=
  fakePath_under realRoot fakeRoot m h1 h2

/-- for a package: the member `m` of the tree unpacked in `tmpdir` is shown as `<package>/<m>` -/
theorem fake_path_package (w : World) (k : Kind) (filename m : Str) (hk : kindOf filename ≠ .unsupported)
    (h1 : w.tmpdir ≠ []) (h2 : endsWithSep w.tmpdir = false) :
    fakePath (some (realRoot w k, join filename [])) (baseDir w k ++ sep :: m) = .ok (filename ++ sep :: m) := by
  rw [realRoot_eq w k h1 h2, join_package filename hk]
  have := fakePath_under (baseDir w k ++ [sep]) (filename ++ [sep]) m (endsWithSep_append_singleton _) (endsWithSep_append_singleton _)
  simpa using this

/-- paths outside the root are unchanged -/
theorem fake_path_outside_unchanged (realRoot fakeRoot path : Str) (h1 : endsWithSep realRoot = true)
    (h2 : endsWithSep fakeRoot = true) (h : realRoot.isPrefixOf path = false) :
    fakePath (some (realRoot, fakeRoot)) path = .ok path :=
  fakePath_outside realRoot fakeRoot path h1 h2 h

/-- the only failure of the path code: a root without trailing separator -/
theorem fake_path_value_error_iff (realRoot fakeRoot path : Str) :
    fakePath (some (realRoot, fakeRoot)) path = .error .valueError ↔ (endsWithSep realRoot = false ∨ endsWithSep fakeRoot = false) :=
  fakePath_error_iff realRoot fakeRoot path

/-- the prefix test is a DIRECTORY test (the separator is part of the root): a sibling `…/i18nspector.deb.abcX/f` of the
    root `…/i18nspector.deb.abc/` is not rewritten -/
theorem fake_path_prefix_is_directory (dir fakeRoot path : Str) (h2 : endsWithSep fakeRoot = true)
    (h : fakePath (some (dir ++ [sep], fakeRoot)) path ≠ .ok path) : ∃ m, path = dir ++ sep :: m :=
  fakePath_prefix_is_directory dir fakeRoot path h2 h

/-- **`--unpack-deb`**: for a file the suffix dispatch accepts and the unpacker unpacks, the run is the sequence, in
    `os.walk` order, over the regular non-link files below the temporary tree, of each member's own tag calls —
    filtered by the caller's `ignore_tags` and `unknown-file-type` — printed under `<package>/<member>`. -/
theorem deb_output (w : World) (raw : Str → List Deb.TagCall × Bool) (o : Options) (filename : Str)
    (hk : kindOf filename ≠ .unsupported) (hu : w.unpackOk = true) (hw : WalkOK w (kindOf filename)) :
    checkDeb w raw o filename = some (runAll (memberRun w raw o (kindOf filename) filename) (walkPaths w)) := by
  rw [checkDeb_eq w raw o filename hk]
  simp only [hu, Bool.not_true, Bool.false_eq_true, if_false]
  congr 1
  apply runAll_congr
  intro p hp
  obtain ⟨m, rfl⟩ := walkPaths_under w _ hw p hp
  exact checkRegular_member w raw o _ filename m hk hw.tmp_ne hw.tmp_nosep

/-- when no member makes `check()` raise: the output is the concatenation of the per-member outputs, and the run ends normally -/
theorem deb_output_lines (w : World) (raw : Str → List Deb.TagCall × Bool) (o : Options) (filename : Str)
    (hk : kindOf filename ≠ .unsupported) (hu : w.unpackOk = true) (hw : WalkOK w (kindOf filename))
    (hraw : ∀ p ∈ walkPaths w, (raw p).2 = false) :
    checkDeb w raw o filename =
      some ⟨(walkPaths w).flatMap (fun p => (memberRun w raw o (kindOf filename) filename p).lines), .normal⟩ := by
  rw [deb_output w raw o filename hk hu hw, runAll_normal]
  intro p hp
  simp [memberRun, hraw p hp]

/-- in every case what is printed is a prefix of that concatenation (nothing else is ever printed) -/
theorem deb_lines_prefix (w : World) (raw : Str → List Deb.TagCall × Bool) (o : Options) (filename : Str)
    (hk : kindOf filename ≠ .unsupported) (hu : w.unpackOk = true) (hw : WalkOK w (kindOf filename)) :
    ∃ r, checkDeb w raw o filename = some r ∧
      r.lines <+: (walkPaths w).flatMap (fun p => (memberRun w raw o (kindOf filename) filename p).lines) :=
  ⟨_, deb_output w raw o filename hk hu hw, runAll_lines_prefix _ _⟩

/-- **nothing for other members**: a member for which `check()` only says `unknown-file-type` prints nothing -/
theorem deb_other_member_silent (w : World) (raw : Str → List Deb.TagCall × Bool) (o : Options) (k : Kind) (filename p : Str)
    (h : ∀ c ∈ (raw p).1, c.name = unknownFileType) : (memberRun w raw o k filename p).lines = [] := by
  simp only [memberRun, cliTags, List.map_eq_nil_iff, List.filter_eq_nil_iff]
  intro c hc
  simp [h c hc]

/-- a member's line is one of its own tag calls, not ignored, not `unknown-file-type`, under `<package>/<member>` -/
theorem deb_member_line (w : World) (raw : Str → List Deb.TagCall × Bool) (o : Options) (k : Kind) (filename p : Str) (l : Line)
    (hl : l ∈ (memberRun w raw o k filename p).lines) :
    ∃ c ∈ (raw p).1, c.name ≠ unknownFileType ∧ c.name ∉ o.ignoreTags ∧
      l = ⟨c.prio, filename ++ sep :: member w k p, c.rest⟩ := by
  simp only [memberRun, cliTags, List.mem_map, List.mem_filter] at hl
  obtain ⟨c, ⟨hc, hf⟩, rfl⟩ := hl
  have hf' : ¬ c.name = unknownFileType ∧ ¬ c.name ∈ o.ignoreTags := by simpa using hf
  exact ⟨c, hc, hf'.1, hf'.2, rfl⟩

/-- the roots `check_deb` builds always satisfy `Checker.__init__`: no `ValueError` -/
theorem deb_no_value_error (w : World) (raw : Str → List Deb.TagCall × Bool) (o : Options) (filename : Str)
    (hk : kindOf filename ≠ .unsupported) (hu : w.unpackOk = true) (hw : WalkOK w (kindOf filename)) :
    ∀ r, checkDeb w raw o filename = some r → r.exit ≠ .valueError := by
  intro r hr
  rw [deb_output w raw o filename hk hu hw] at hr
  cases hr
  rcases runAll_exit (memberRun w raw o (kindOf filename) filename) (walkPaths w) with h | ⟨p, _, h⟩
  · rw [h]
    nofun
  · rw [h, memberRun]
    split <;> nofun

/-- **a file that is not a package** (other suffix, or the unpacker fails) is checked as a regular file, with the options
    of the caller (so `unknown-file-type` is reported for it unless the caller ignores it) -/
theorem not_a_package_is_regular (w : World) (raw : Str → List Deb.TagCall × Bool) (o : Options) (path : Str)
    (h : kindOf path = .unsupported ∨ w.unpackOk = false) : checkFile w raw o path = checkRegular raw o path := by
  unfold checkFile
  split
  · have : checkDeb w raw o path = none := by
      unfold checkDeb
      rcases h with h | h
      · rw [h]
      · cases kindOf path <;> simp [h]
    rw [this]
  · rfl

theorem no_unpack_is_regular (w : World) (raw : Str → List Deb.TagCall × Bool) (o : Options) (path : Str)
    (h : o.unpackDeb = false) : checkFile w raw o path = checkRegular raw o path := by
  simp [checkFile, h]

/-- `fake_root`, `fake_path` and `ignore_tags` are used by `Checker.__init__`/`Checker.tag`/`check_deb` only -/
theorem option_uses_pinned : Generated.BinaryReads.optionUses = Spec.Metamorphic.documentedOptionUses := rfl

/-! ## 6. the composed checker: C10's loader, the stage models of C15 / C19 / C07 / C20 / C18 / C16 / C14 -/

section Composed
open I18n.Spec.PoSpelling

/-- **Two PO files that spell the same catalog get identical diagnostics** — no hypothesis about the loader left.
    `SpelledFile` (Lemmas/MetaPo.lean) bundles the side conditions of C10's `load_spells_detected_partial`, all of them about
    the file's bytes and lines: it declares its charset on the first line polib's pattern matches, it decodes, its lines are
    a spelling (`Spec.PoSpelling.CatalogSp`: wrapping, escape style, blank lines, comments …) followed by lines `Codecs.open`
    drops.  "The same catalog": the same header comment and the same entries (`EntrySp.entry`: everything but polib's line
    numbers).  `PyEnv`: the interpreter's `isspace` / `isdigit` / `int` are the dumped tables.  For any `ctx` built from what
    lib/check/ can see of the loaded file, and any stages. -/
theorem po_spelling_invariant {σ τ : Type} (env : Po.Env) (hpy : PyEnv env) (E1 E2 : Codec) (name1 name2 : Po.Bytes)
    (cat1 cat2 : CatalogSp) (file1 file2 : Po.Bytes)
    (h1 : SpelledFile env E1 name1 cat1 file1) (h2 : SpelledFile env E2 name2 cat2 file2)
    (hheader : cat1.headerText = cat2.headerText) (hentries : cat1.entries.map EntrySp.entry = cat2.entries.map EntrySp.entry)
    (statOk : Bool) (ext : Ext) (init : Po.Text × List Po.Entry → Bool → σ) (stages : List (Stage σ τ)) :
    check statOk ext (poLoad env file1) (fun f b => init (poView f) b) stages
      = check statOk ext (poLoad env file2) (fun f b => init (poView f) b) stages := by
  obtain ⟨f1, l1, v1⟩ := poLoad_spelled env hpy E1 name1 cat1 file1 h1
  obtain ⟨f2, l2, v2⟩ := poLoad_spelled env hpy E2 name2 cat2 file2 h2
  exact check_same_view statOk ext _ _ poView init stages f1 f2 l1 l2 (by rw [v1, v2, hheader, hentries])

/-- the same for the composed checker (`Real.checkPo`: C10's loader, then the ten stage models) -/
theorem po_spelling_invariant_composed (w : Real.World) (env : Po.Env) (hpy : PyEnv env) (E1 E2 : Codec) (name1 name2 : Po.Bytes)
    (cat1 cat2 : CatalogSp) (file1 file2 : Po.Bytes)
    (h1 : SpelledFile env E1 name1 cat1 file1) (h2 : SpelledFile env E2 name2 cat2 file2)
    (hheader : cat1.headerText = cat2.headerText) (hentries : cat1.entries.map EntrySp.entry = cat2.entries.map EntrySp.entry)
    (isTemplate statOk : Bool) :
    Real.checkPo w env isTemplate statOk file1 = Real.checkPo w env isTemplate statOk file2 :=
  po_spelling_invariant env hpy E1 E2 name1 name2 cat1 cat2 file1 file2 h1 h2 hheader hentries statOk _ (Real.ctxOfPo isTemplate) (Real.pipeline w)

/-- **Two MO files that encode the same catalog get identical diagnostics**, for the composed checker -/
theorem mo_layout_invariant_composed (w : Real.World) (db : Mo.CodecDB) (b1 b2 : Mo.Bytes) (cat : List CatEntry) (hidden : Bool)
    (h1 : Encodes b1 cat hidden) (h2 : Encodes b2 cat hidden) (hwf : ∀ e ∈ cat, e.WF) (statOk : Bool) :
    Real.checkMo w db statOk b1 = Real.checkMo w db statOk b2 :=
  mo_layout_invariant db b1 b2 cat hidden h1 h2 hwf statOk Real.ctxOfMo (Real.pipeline w)

/-- **C17, first two sentences, for the composed model** (C10 loader / C08 loader, then the stage models of C15, C19, C07,
    C20, C18, C16, C14).  Remaining assumptions, all explicit: `PyEnv` and `SpelledFile` for the two PO files (facts about
    the files' bytes: C10's exclusions — a cut inside an escaped multibyte character, two string tokens on a line,
    `msgstr[N]` with N ≥ 10, a charset declared after an earlier matching line — are outside `SpelledFile`), `Encodes` + `WF`
    for the MO files (C08); the stage models' own inputs (`World`) are the same on both sides.  Transcoding is
    `transcoding_composed` below. -/
theorem same_catalog_same_diagnostics (w : Real.World) :
    (∀ (env : Po.Env) (_ : PyEnv env) (E1 E2 : Codec) (name1 name2 : Po.Bytes) (cat1 cat2 : CatalogSp) (file1 file2 : Po.Bytes),
      SpelledFile env E1 name1 cat1 file1 → SpelledFile env E2 name2 cat2 file2 →
      cat1.headerText = cat2.headerText → cat1.entries.map EntrySp.entry = cat2.entries.map EntrySp.entry →
      ∀ isTemplate statOk, Real.checkPo w env isTemplate statOk file1 = Real.checkPo w env isTemplate statOk file2) ∧
    (∀ (db : Mo.CodecDB) (b1 b2 : Mo.Bytes) (cat : List CatEntry) (hidden : Bool),
      Encodes b1 cat hidden → Encodes b2 cat hidden → (∀ e ∈ cat, e.WF) →
      ∀ statOk, Real.checkMo w db statOk b1 = Real.checkMo w db statOk b2) :=
  ⟨fun env hpy E1 E2 n1 n2 c1 c2 f1 f2 h1 h2 hh he tpl st =>
      po_spelling_invariant_composed w env hpy E1 E2 n1 n2 c1 c2 f1 f2 h1 h2 hh he tpl st,
   fun db b1 b2 cat hidden h1 h2 hwf st => mo_layout_invariant_composed w db b1 b2 cat hidden h1 h2 hwf st⟩

/-- **PO versus MO for the composed checker.**  Same `ctx` apart from `is_binary`, MO revision hides nothing: the MO run
    prints exactly the PO run's lines without the `no-date-header-field POT-Creation-Date` of `check_dates`, in the same
    order, and raises iff the PO run does.  The blindness of the other stages is not assumed here: the models of
    `check_comments`, `check_headers`, `check_language`, `check_plurals`, `check_mime`, `check_project`,
    `check_translator` do not take the flag; for `Date.checkDates` (C18) and `Msg.trace` (C16), which do, see
    `Real.checkDates_binary` and `Real.trace_binary`. -/
theorem po_vs_mo_composed (w : Real.World) (k : Real.RCtx) :
    (runStages (Real.pipeline w) (⟨true, false⟩, k)).1 = (runStages (Real.pipeline w) (⟨false, false⟩, k)).1.filter Real.notExempt ∧
    (runStages (Real.pipeline w) (⟨true, false⟩, k)).2 = (runStages (Real.pipeline w) (⟨false, false⟩, k)).2 :=
  runStages_binary Real.isExempt _ (Real.pipeline_respects w) (Real.pipeline_clean w) k

/-- `Checker.check` on a PO file and on an MO file whose loaded forms look alike to lib/check/ (same observations of the
    entries — this is where `mo_entry_view_neutral` enters —, no header comment, MO revision hides nothing) -/
theorem po_vs_mo_composed_check (w : Real.World) (env : Po.Env) (db : Mo.CodecDB) (statOk : Bool) (filePo : Po.Bytes) (fileMo : Mo.Bytes)
    (f : Po.PoFile) (g : Mo.MoFile) (hp : poLoad env filePo false = .ok f) (hm : moLoad db fileMo false = .ok g)
    (hh : g.possibleHiddenStrings = false) (hc : f.header = [])
    (he : f.entries.map (observe ∘ ofPoEntry) = g.entries.map (observe ∘ ofMo)) :
    Spec.Metamorphic.EqModulo (keepLine Real.notExempt) (Real.checkMo w db statOk fileMo).lines (Real.checkPo w env false statOk filePo).lines ∧
    (Real.checkMo w db statOk fileMo).uncaught = (Real.checkPo w env false statOk filePo).uncaught := by
  unfold Real.checkMo Real.checkPo
  simp only [Bool.false_eq_true, if_false]
  rw [check_ext statOk .po .mo (by decide) (by decide)]
  refine check_sim_first_ok (BinRel true) Real.notExempt statOk .mo _ _ g f hm hp Real.ctxOfMo
    (fun f b => Real.ctxOfPo false (poView f) b) (Real.pipeline w) (Real.pipeline w) ⟨rfl, rfl, ?_, fun _ => hh⟩
    (Real.pipeline_respects w)
  simp only [Real.ctxOfMo, Real.ctxOfPo, poView, hc, ← he, List.map_map]
  rfl

/-- **C17, third sentence, end to end for the composed model.**  A PO file that spells a catalog (C10) whose messages have
    no PO-only features (`Real.poOfMo`: no flags, comments, references, previous msgid; not obsolete), all translated, no
    header comment — and an MO file that encodes (C08, any layout, revision without hidden strings) a byte catalog decoding
    to the same messages: the MO run prints the PO run's lines minus `no-date-header-field POT-Creation-Date`, and ends alike.
    (The PO entries are in the MO file's order: see `blame_is_order_sensitive`.  The loaders must agree on the charset:
    `hdec` says what the MO loader decodes, `SpelledFile` what the PO loader does — cf. `charset_declaration_refuted`.) -/
theorem po_file_vs_compiled_mo (w : Real.World) (env : Po.Env) (hpy : PyEnv env) (E : Codec) (name : Po.Bytes) (cat : CatalogSp)
    (filePo : Po.Bytes) (hpo : SpelledFile env E name cat filePo)
    (db : Mo.CodecDB) (fileMo : Mo.Bytes) (mcat : List CatEntry) (hmo : Encodes fileMo mcat false) (hwf : ∀ e ∈ mcat, e.WF)
    (mes : List Mo.Entry) (hdec : Mo.Spec.expected db none mcat false = .ok ⟨mes, false⟩)
    (hcomment : cat.headerText = []) (hsame : cat.entries.map EntrySp.entry = mes.map Real.poOfMo)
    (htr : ∀ e ∈ mes, Translated e) (statOk : Bool) :
    Spec.Metamorphic.EqModulo (keepLine Real.notExempt) (Real.checkMo w db statOk fileMo).lines (Real.checkPo w env false statOk filePo).lines ∧
    (Real.checkMo w db statOk fileMo).uncaught = (Real.checkPo w env false statOk filePo).uncaught := by
  obtain ⟨f, lf, vf⟩ := poLoad_spelled env hpy E name cat filePo hpo
  have lg : moLoad db fileMo false = .ok ⟨mes, false⟩ := by
    unfold moLoad
    simp only [Bool.false_eq_true, if_false]
    rw [C08.parse_of_encodes db none fileMo mcat false hmo hwf, hdec]
  have hv : f.header = cat.headerText ∧ f.entries.map Lemmas.PoCatalog.content = cat.entries.map EntrySp.entry := by
    simp only [poView, Prod.mk.injEq] at vf; exact vf
  apply po_vs_mo_composed_check w env db statOk filePo fileMo f ⟨mes, false⟩ lf lg rfl (by rw [hv.1, hcomment])
  have e1 : f.entries.map (observe ∘ ofPoEntry) = (f.entries.map Lemmas.PoCatalog.content).map (observe ∘ ofPoEntry) := by
    rw [List.map_map]
    apply List.map_congr_left
    intro e _
    exact (Real.observe_content e).symm
  rw [e1, hv.2, hsame, List.map_map]
  apply List.map_congr_left
  intro e he
  exact Real.observe_poOfMo e (htr e he)

/-- **Transcoding for the composed checker.**  Two `ctx` related by `Real.TcRel`: the header entries' texts may differ in the
    charset name of their one well-formed `Content-Type: text/plain; charset=<name>` line (`Real.EntryRel` / `Real.HeaderRel`:
    same unusual characters, same parsed lines but that one), both names known to the tool (`Real.TcName`: C20's fragment
    returns an encoding); `ctx.metadata` may differ in that value (`Real.MetaRel`) and `ctx.encoding` in its value, not in being
    `None`; everything else is equal.  Then the two runs print the same lines in the same order,
    apart from the charset tags of `check_mime` (`Real.notCharset`: boilerplate-in-content-type, unknown-encoding,
    non-ascii-compatible-encoding, non-portable-encoding, unrepresentable-characters), and raise alike.  The
    charset-name-blindness of every other stage is PROVED for the instantiated models (Lemmas/MetaRealCharset.lean):
    `check_headers` parses the name into `ctx.metadata` and prints the same tags; `check_language`, `check_plurals`,
    `check_project`, `check_translator` read other fields; `check_dates` looks at the Content-Type value for the
    Publican prefix only; `check_messages` and the format checkers see `ctx.encoding is not None` only.
    `Real.DbOk`: `\b` holds between the blank and `charset` (` ` is not a word character, `c` is). -/
theorem transcoding_composed (w : Real.World) (hdb : Real.DbOk w.hx.db) (fl : BinFlags) (k1 k2 : Real.RCtx) (h : Real.TcRel w k1 k2) :
    Spec.Metamorphic.EqModulo Real.notCharset (runStages (Real.pipeline w) (fl, k1)).1 (runStages (Real.pipeline w) (fl, k2)).1 ∧
    (runStages (Real.pipeline w) (fl, k1)).2 = (runStages (Real.pipeline w) (fl, k2)).2 :=
  runStages_sim (Real.TcRelS w) Real.notCharset _ _ (Real.pipeline_respects_tc w hdb) (fl, k1) (fl, k2) ⟨rfl, h⟩

/-- `Real.HeaderRel` holds by the SHAPE of the header text: its lines, each terminated by a line feed, the one Content-Type
    field being the line `Content-Type: text/plain; charset=<name>`; the two names graphic ASCII (`Real.PlainName`) and known
    to the tool.  (So the hypothesis of `transcoding_composed` about the header entries is: this is what they look like.) -/
theorem transcoding_header_shape (w : Real.World) (pre post : List Real.Str) (n1 n2 : Real.Str)
    (hl : ∀ l ∈ pre ++ post, '\n' ∉ l) (hct : ∀ l ∈ pre ++ post, ∀ v, Hdr.parseLine l ≠ .field Real.ctKey v)
    (p1 : Real.PlainName n1) (p2 : Real.PlainName n2) (t1 : Real.TcName w n1) (t2 : Real.TcName w n2) :
    Real.HeaderRel w (Real.terminated (pre ++ Real.ctLine n1 :: post)) (Real.terminated (pre ++ Real.ctLine n2 :: post)) :=
  Real.headerRel_of_lines w pre post n1 n2 hl hct p1 p2 t1 t2

/-- the same from the files: two spelled PO files (C10) whose catalogs have the same header comment and entries related
    by `Real.EntryRel` — e.g. the same catalog transcoded, charset name adjusted -/
theorem transcoding_composed_files (w : Real.World) (hdb : Real.DbOk w.hx.db) (env : Po.Env) (hpy : PyEnv env) (E1 E2 : Codec)
    (name1 name2 : Po.Bytes) (cat1 cat2 : CatalogSp) (file1 file2 : Po.Bytes)
    (h1 : SpelledFile env E1 name1 cat1 file1) (h2 : SpelledFile env E2 name2 cat2 file2)
    (hheader : cat1.headerText = cat2.headerText)
    (hentries : Real.ListRel (Real.EntryRel w) ((cat1.entries.map EntrySp.entry).map (observe ∘ ofPoEntry))
      ((cat2.entries.map EntrySp.entry).map (observe ∘ ofPoEntry)))
    (isTemplate statOk : Bool) :
    Spec.Metamorphic.EqModulo (keepLine Real.notCharset) (Real.checkPo w env isTemplate statOk file1).lines
      (Real.checkPo w env isTemplate statOk file2).lines ∧
    (Real.checkPo w env isTemplate statOk file1).uncaught = (Real.checkPo w env isTemplate statOk file2).uncaught := by
  obtain ⟨f1, l1, v1⟩ := poLoad_spelled env hpy E1 name1 cat1 file1 h1
  obtain ⟨f2, l2, v2⟩ := poLoad_spelled env hpy E2 name2 cat2 file2 h2
  unfold Real.checkPo
  apply check_sim_first_ok (Real.TcRelS w) Real.notCharset statOk _ _ _ f1 f2 l1 l2 _ _ _ _ _ (Real.pipeline_respects_tc w hdb)
  show Real.TcRelS w (Real.ctxOfPo isTemplate (poView f1) false) (Real.ctxOfPo isTemplate (poView f2) false)
  rw [v1, v2]
  exact ⟨rfl, ⟨rfl, rfl, hheader, hentries, Real.MetaRel.refl w _, rfl, rfl, rfl⟩⟩

end Composed

/-! ## non-vacuity -/

/-- the C08 witness catalog in the plainest little-endian and big-endian layouts: different bytes … -/
example : serialize C08.witnessCat ⟨false, 0, 0, 0, [], false, [], [], [], []⟩
    ≠ serialize C08.witnessCat ⟨true, 0, 0, 0, [], true, [1, 2, 3], [], [[9]], [7]⟩ := by decide +kernel

/-- … same (non-trivial) load result, hence the same run -/
example : moLoad Mo.asciiDB (serialize C08.witnessCat ⟨true, 0, 0, 0, [], true, [1, 2, 3], [], [[9]], [7]⟩) false
    = .ok ⟨[⟨['i'], some ['c'], .singular ['s']⟩], false⟩ := by rfl

section
open scoped I18n.ExceptDec
example : fakePath (some ("/tmp/t/".toList, "p.deb/".toList)) "/tmp/t/usr/x.po".toList = .ok "p.deb/usr/x.po".toList := by
  repeat rw [String.toList_ofList]
  decide +kernel
example : fakePath (some ("/tmp/t/".toList, "p.deb/".toList)) "/tmp/tt/x.po".toList = .ok "/tmp/tt/x.po".toList := by
  repeat rw [String.toList_ofList]
  decide +kernel
example : fakePath (some ("/tmp/t".toList, "p.deb/".toList)) "/tmp/t/x.po".toList = .error .valueError := by
  repeat rw [String.toList_ofList]
  decide +kernel
end

/-- a package with a PO member (one tag), a text file (only `unknown-file-type`) and a symlink -/
def demoWorld : World where
  tmpdir := "/tmp/T".toList
  unpackOk := true
  walk := [("/tmp/T".toList, []), ("/tmp/T/usr".toList, ["a.po".toList, "b.txt".toList, "l.po".toList])]
  islink := fun p => p == "/tmp/T/usr/l.po".toList
  isfile := fun _ => true

def demoRaw (p : Str) : List Deb.TagCall × Bool :=
  if p == "/tmp/T/usr/a.po".toList then ([⟨"empty-file".toList, ['W'], "empty-file".toList⟩], false)
  else ([⟨unknownFileType, ['I'], unknownFileType⟩], false)

example : checkFile demoWorld demoRaw ⟨[], none, true⟩ "p.deb".toList
    = ⟨[⟨['W'], "p.deb/usr/a.po".toList, "empty-file".toList⟩], .normal⟩ := by
  unfold demoWorld demoRaw
  repeat rw [String.toList_ofList]
  decide +kernel

example : checkFile demoWorld demoRaw ⟨[], none, true⟩ "p.txt".toList
    = ⟨[⟨['I'], "p.txt".toList, unknownFileType⟩], .normal⟩ := by decide +kernel

/-- `check_dates` on a header without POT-Creation-Date: the PO run has the tag, the MO run does not -/
example : checkDates (τ := Unit) false id (fun _ _ => []) [] ["2012-11-01 14:42+0100".toList] = [.noDate true] := by decide
example : checkDates (τ := Unit) true id (fun _ _ => []) [] ["2012-11-01 14:42+0100".toList] = [] := by decide

example : observe (ofMo ⟨['a'], none, .singular ['b']⟩) = observe (ofPo ⟨['a'], none, .singular ['b']⟩) := by decide
example : ofMo ⟨['a'], none, .singular ['b']⟩ ≠ ofPo ⟨['a'], none, .singular ['b']⟩ := by decide

/-! ## 7. the function the `whole-files` stream exercises -/

/-- **whole_is_composition.**  `Real.wholeCheck` — what the driver op `whole check` (lean/I18n/Driver/Whole.lean) runs on the bytes of a file,
    and what the `whole-files` stream of tools/checks/C17.py compares line by line with the real `Checker.check` — IS `Check.check`
    (the model of C01/C03) instantiated with the loader models (C10 `poLoad`, C08 `moLoad`), the `ctx` built from what lib/check can
    observe of the loaded file, and `Real.pipeline`; the extension (or `--file-type`) only selects the loader and `is_template`.
    `same_catalog_same_diagnostics`, `transcoding_composed_files`, `po_file_vs_compiled_mo` above hold for every `Real.World`, so also
    for the one the driver builds.  C01's `real_po_nocrash` / `real_mo_nocrash` / `pipeline_nocrash_unconditional` ask for
    `Real.WorldOk w`, whose field `kmsg_real` fixes `w.kmsg` to `PipelineBrace.kmsgReal _` (brace strings handed over parsed); the
    driver's world has `Real.kmsgOf` (raw strings for the `…Str` back ends), so they are not about that world as they stand. -/
theorem whole_is_composition (w : Real.World) (env : Po.Env) (db : Mo.CodecDB) (fileType : Option Real.Str) (statOk : Bool) (file : List UInt8) :
    (Real.extOf fileType w.path = .po →
      Real.wholeCheck w env db fileType statOk file
        = check statOk .po (poLoad env file) (fun f b => Real.ctxOfPo false (poView f) b) (Real.pipeline w)) ∧
    (Real.extOf fileType w.path = .pot →
      Real.wholeCheck w env db fileType statOk file
        = check statOk .pot (poLoad env file) (fun f b => Real.ctxOfPo true (poView f) b) (Real.pipeline w)) ∧
    (Real.extOf fileType w.path = .mo →
      Real.wholeCheck w env db fileType statOk file = check statOk .mo (moLoad db file) Real.ctxOfMo (Real.pipeline w)) ∧
    (Real.extOf fileType w.path = .other →
      (Real.wholeCheck w env db fileType statOk file).lines = (if statOk then [.unknownFileType] else [.osError]) ∧
      (Real.wholeCheck w env db fileType statOk file).uncaught = false) := by
  refine ⟨fun h => ?_, fun h => ?_, fun h => ?_, fun h => ?_⟩
  · simp only [Real.wholeCheck, h, Real.checkPo]; rfl
  · simp only [Real.wholeCheck, h, Real.checkPo]; rfl
  · simp only [Real.wholeCheck, h, Real.checkMo]
  · simp only [Real.wholeCheck, h]
    cases statOk <;> exact ⟨rfl, rfl⟩

/-- it is `Real.checkPo` / `Real.checkMo` of the theorems above -/
theorem whole_is_checkPo_checkMo (w : Real.World) (env : Po.Env) (db : Mo.CodecDB) (fileType : Option Real.Str) (statOk : Bool) (file : List UInt8) :
    (Real.extOf fileType w.path = .po → Real.wholeCheck w env db fileType statOk file = Real.checkPo w env false statOk file) ∧
    (Real.extOf fileType w.path = .pot → Real.wholeCheck w env db fileType statOk file = Real.checkPo w env true statOk file) ∧
    (Real.extOf fileType w.path = .mo → Real.wholeCheck w env db fileType statOk file = Real.checkMo w db statOk file) :=
  ⟨fun h => by simp only [Real.wholeCheck, h], fun h => by simp only [Real.wholeCheck, h], fun h => by simp only [Real.wholeCheck, h]⟩

/-- `--file-type` overrides the extension; `.po` / `.pot` / `.mo`, `.gmo` are the three kinds (lines 133-146) -/
theorem ext_of_file_type (path : Real.Str) :
    Real.extOf (some "po".toList) path = .po ∧ Real.extOf (some "pot".toList) path = .pot ∧
    Real.extOf (some "mo".toList) path = .mo ∧ Real.extOf (some "gmo".toList) path = .mo ∧ Real.extOf (some "txt".toList) path = .other := by
  have h : ∀ t : Real.Str, Real.extOf (some t) path = Real.classifyExt ('.' :: t) := fun _ => rfl
  simp only [h]
  clear h path
  decide

/-- **the order of the stage calls is the order of the source**: `Generated.BinaryReads.checkStages` is what `Checker.check` says
    (regenerated from /repo by ast on every run) … -/
theorem stage_order_pinned :
    Generated.BinaryReads.checkStages =
      ["check_comments(ctx)", "check_headers(ctx)", "check_language(ctx)", "check_plurals(ctx)", "check_mime(ctx)",
       "if broken_encoding: ctx.encoding = None", "check_dates(ctx)", "check_project(ctx)", "check_translator(ctx)", "check_messages(ctx)"] := rfl

/-- … **output_order**: and the composed checker prints its tags stage by stage in that order — for every `ctx`, the positions
    (in the SOURCE list) of the stage calls the printed tags come from are non-decreasing: comments, headers, language, plurals,
    mime, dates, project, translator, messages.  (`Real.stagePos` looks the stage of a tag up in the generated list, so exchanging
    two calls in lib/check/__init__.py breaks this proof, and the `whole-files` stream finds the file.) -/
theorem output_order (w : Real.World) (s : BinFlags × Real.RCtx) :
    ((runStages (Real.pipeline w) s).1.map Real.stagePos).Pairwise (· ≤ ·) :=
  (Real.runStages_ordered Real.stagePos (Real.pipeline w) 0 (Real.pipeline_ordered w) s).2

/-- the same for a whole run: the lines `check` prints itself come first or last (`afterLoad`), the stage tags in source order -/
theorem output_order_check {F : Type} (w : Real.World) (statOk : Bool) (ext : Ext) (load : Bool → Except LoadErr F)
    (init : F → Bool → BinFlags × Real.RCtx) :
    (((check statOk ext load init (Real.pipeline w)).lines.filterMap fun l => match l with | .tag t => some (Real.stagePos t) | _ => none)).Pairwise (· ≤ ·) := by
  have key : ∀ (pre : List (Line Real.RTag)) (s : BinFlags × Real.RCtx), (∀ l ∈ pre, ∀ t, l ≠ .tag t) →
      ((afterLoad pre (Real.pipeline w) s).lines.filterMap fun l => match l with | .tag t => some (Real.stagePos t) | _ => none).Pairwise (· ≤ ·) := by
    intro pre s hpre
    have e : (afterLoad pre (Real.pipeline w) s).lines.filterMap (fun l => match l with | .tag t => some (Real.stagePos t) | _ => none)
        = (runStages (Real.pipeline w) s).1.map Real.stagePos := by
      simp only [afterLoad, List.filterMap_append]
      have h1 : pre.filterMap (fun l => match l with | .tag t => some (Real.stagePos t) | _ => none) = [] := by
        apply List.filterMap_eq_nil_iff.mpr
        intro l hl
        cases l with
        | tag t => exact absurd rfl (hpre _ hl t)
        | _ => rfl
      rw [h1, List.nil_append, List.filterMap_map]
      exact congrFun (List.filterMap_eq_map (f := Real.stagePos)) _
    rw [e]
    exact output_order w s
  -- the two branches that reach the stages; everywhere else `check` prints lines of its own only
  fun_cases check statOk ext load init (Real.pipeline w)
  case case3 => exact key _ _ (fun _ hl => absurd hl List.not_mem_nil)  -- loaded at once: `afterLoad []`
  case case9 => exact key _ _ (fun l hl t => List.mem_singleton.1 hl ▸ nofun)  -- loaded on the retry: `afterLoad [.brokenEncoding]`
  all_goals exact List.Pairwise.nil

/-! ### non-vacuity of the composed theorems: a small world, a header without POT-Creation-Date, one message -/

namespace Demo

def demoDb : Hdr.UDB := ⟨fun c => c.isAlphanum || c == '_', fun c => c == ' ' || c == '\t' || c == '\n', fun c => c.isDigit, id⟩
def demoW : Real.World where
  hx := ⟨demoDb, id, fun _ => none, fun _ => false, fun _ => none⟩
  now := 0
  menv := Msg.liveEnv (fun _ => .ok)
  munch := id
  path := []
  optLanguage := none
  charset := fun _ _ n => .ok ([], some n)
  pluralForms := fun _ => (none, [])
  reprParen := fun _ _ => []
  kmsg := fun _ _ => .other

def obsOf (msgid msgstr : String) : Obs :=
  { msgid := msgid.toList, msgctxt := none, msgidPlural := none, msgstrOrEmpty := msgstr.toList, msgstrPlural := [], flags := [],
    commentOrEmpty := [], occurrences := [], obsolete := false, hasPrevious := (false, false, false), translated := true }

def hdr (cs : String) : String := "Language: de\nContent-Type: text/plain; charset=" ++ cs ++ "\nPO-Revision-Date: 2012-11-01 14:42+0100\n"
def ctxOf (cs : String) : Real.RCtx :=
  { isTemplate := false, broken := false, comments := [], entries := [obsOf "" (hdr cs), obsOf "a" "b"] }

/-- `hdr cs` as its lines; rewriting with this (and `String.toList_ofList` for the literals that remain) keeps the kernel from
    decoding the string, which it does slowly -/
theorem hdr_toList (cs : String) : (hdr cs).toList =
    Real.terminated (["Language: de".toList] ++ Real.ctLine cs.toList :: ["PO-Revision-Date: 2012-11-01 14:42+0100".toList]) := by
  unfold hdr
  rw [String.toList_append, String.toList_append]
  repeat rw [String.toList_ofList]
  simp [Real.terminated, Real.ctLine, Real.ctKey, Real.ctValue, Real.ctPrefix]

example : (runStages (Real.pipeline demoW) (⟨false, false⟩, ctxOf "UTF-8")).1.any Real.isExempt = true := by
  simp only [ctxOf, obsOf, hdr_toList]
  repeat rw [String.toList_ofList]
  decide +kernel
example : (runStages (Real.pipeline demoW) (⟨true, false⟩, ctxOf "UTF-8")).1.any Real.isExempt = false := by
  simp only [ctxOf, obsOf, hdr_toList]
  repeat rw [String.toList_ofList]
  decide +kernel

theorem tcName (n : Real.Str) (h1 : n ≠ []) (h2 : ∀ c ∈ n, demoDb.isSpace c = false ∧ c ≠ ';') : Real.TcName demoW n :=
  ⟨h1, h2, fun _ _ => ⟨[], Hdr.toName n, rfl⟩⟩

/-- an instance of `transcoding_header_shape` -/
theorem hdrRel : Real.HeaderRel demoW (hdr "UTF-8").toList (hdr "ISO-8859-2").toList := by
  rw [hdr_toList, hdr_toList]
  have hp : ∀ l ∈ ["Language: de".toList] ++ ["PO-Revision-Date: 2012-11-01 14:42+0100".toList],
      '\n' ∉ l ∧ (match Hdr.parseLine l with | .field k _ => k != Real.ctKey | .stray _ => true) = true := by
    repeat rw [String.toList_ofList]
    decide +kernel
  have plain : ∀ n : String, n = "UTF-8" ∨ n = "ISO-8859-2" → Real.PlainName n.toList ∧ Real.TcName demoW n.toList := by
    rintro n (rfl | rfl)
    all_goals
      rw [String.toList_ofList]
      exact ⟨⟨by decide, by decide⟩, tcName _ (by decide) (by decide)⟩
  refine transcoding_header_shape demoW _ _ _ _ (fun l hl => (hp l hl).1) (fun l hl v e => ?_)
    (plain _ (.inl rfl)).1 (plain _ (.inr rfl)).1 (plain _ (.inl rfl)).2 (plain _ (.inr rfl)).2
  have h := (hp l hl).2
  simp only [e, bne_self_eq_false, Bool.false_eq_true] at h

/-- the two contexts are related, so `transcoding_composed` applies to them -/
theorem ctxRel : Real.TcRel demoW (ctxOf "UTF-8") (ctxOf "ISO-8859-2") := by
  refine ⟨rfl, rfl, rfl,
    .cons (.inr ⟨String.toList_ofList, rfl, rfl, (hdr "ISO-8859-2").toList, rfl, ?_⟩) (.cons (.inl rfl) .nil),
    Real.MetaRel.refl _ _, rfl, rfl, rfl⟩
  -- `exact hdrRel` alone makes the unifier evaluate `(hdr "UTF-8").toList` before it looks at the projection
  simp only [obsOf]
  exact hdrRel

example := transcoding_composed demoW ⟨by decide, by decide⟩ ⟨false, false⟩ _ _ ctxRel
end Demo

end I18n.Props.C17
