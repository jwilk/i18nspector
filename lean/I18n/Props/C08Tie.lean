import I18n.Lemmas.MoGenerated
import I18n.Props.C08
import I18n.Props.C09
/-!
# C08/C09 — the tie: the parser REGENERATED from `lib/moparser.py` is the model the theorems are about

`I18n.Generated.MoParser` is rewritten from the repository's current `lib/moparser.py` by
`tools/translate/mo2lean.py` on every run (`Parser.__init__`, `_parse`, `_read_ints`, `_parse_entry`, the module
constants; rules of the translation in its docstring and in DESIGN-notes/mo.md).  `generated_parse_eq_model` proves,
for every byte string, every codec database and either `encoding` argument, that this regenerated definition
computes the same function as the hand-written model `Mo.parse`.  Consequently every theorem of `Props/C08.lean` and
`Props/C09.lean` holds of the regenerated text; the headline ones are restated below about
`Generated.MoParser.parse`.  A change of the source changes the generated definitions and these proofs stop
compiling (or the translator reports the construct as outside its subset) — no test input is involved.
-/
namespace I18n.Props.C08Tie
open I18n.Mo I18n.Mo.Spec

/-- `Parser._read_ints` as regenerated = `Mo.readInts` (for an object whose `_endian` is `'<'` / `'>'`) -/
theorem generated_read_ints_eq_model (db : CodecDB) (self : I18n.Generated.MoParser.Self) (be : Bool)
    (h : self._endian = Gen.endianOf be) (at_ n : Nat) :
    I18n.Generated.MoParser.Parser._read_ints db self at_ n = readInts be self._view at_ n :=
  Gen.read_ints_eq db self be h at_ n

/-- `Parser._parse_entry` as regenerated = `Mo.parseEntry` (`self._encoding`, `self._last_msgid` = the model's state) -/
theorem generated_parse_entry_eq_model (db : CodecDB) (self : I18n.Generated.MoParser.Self) (be : Bool)
    (h : self._endian = Gen.endianOf be) (i msgidOffset msgstrOffset : Nat) :
    I18n.Generated.MoParser.Parser._parse_entry db self i msgidOffset msgstrOffset =
      Gen.liftSt self (parseEntry db be self._view (Gen.stOf self) i msgidOffset msgstrOffset) :=
  Gen.parse_entry_eq db self be h i msgidOffset msgstrOffset

/-- `Parser._parse` as regenerated (magic, revision, hidden-strings flag, tables, the loop) = `Mo.parse` -/
theorem generated_parse_body_eq_model (db : CodecDB) (self : I18n.Generated.MoParser.Self)
    (h : self.instance_ = ⟨[], false⟩) :
    Gen.instOf (I18n.Generated.MoParser.Parser._parse db self) = Mo.parse db self._encoding self._view :=
  Gen.parse_body_eq db self h

/-- **The tie.**  `Parser(path, encoding=enc).parse()` as translated from the current source, on a file with
    contents `bytes`, is `Mo.parse db enc bytes` — for ALL byte strings. -/
theorem generated_parse_eq_model (db : CodecDB) (enc : Option Bytes) (bytes : Bytes) :
    I18n.Generated.MoParser.parse db enc bytes = Mo.parse db enc bytes :=
  Gen.generated_parse_eq db enc bytes

/-- C08 as stated, of the regenerated parser -/
theorem parse_of_encodes_generated (db : CodecDB) (given : Option Bytes) (b : Bytes) (cat : List CatEntry)
    (hidden : Bool) (h : Encodes b cat hidden) (hwf : ∀ e ∈ cat, e.WF) :
    I18n.Generated.MoParser.parse db given b = expected db given cat hidden := by
  rw [generated_parse_eq_model]; exact C08.parse_of_encodes db given b cat hidden h hwf

/-- `forall catalogs c, forall layouts l: parse(serialize(c, l)) == c`, of the regenerated parser -/
theorem parse_serialize_generated (db : CodecDB) (given : Option Bytes) (cat : List CatEntry) (l : Layout)
    (hok : l.OK cat) (hwf : ∀ e ∈ cat, e.WF) :
    I18n.Generated.MoParser.parse db given (serialize cat l) = expected db given cat l.hidden := by
  rw [generated_parse_eq_model]; exact C08.parse_serialize db given cat l hok hwf

/-- C09, closed error set, of the regenerated parser: never `struct.error`, an unpacking `ValueError`, `TypeError`,
    `AssertionError`, `IndexError`, or any other exception class of the translation -/
theorem parse_total_closed_generated (db : CodecDB) (given : Option Bytes) (b : Bytes) (c : Crash) :
    I18n.Generated.MoParser.parse db given b ≠ .error (.crash c) := by
  rw [generated_parse_eq_model]; exact C09.parse_total_closed db given b c

/-- C09, acceptance ⇔ well-formedness, of the regenerated parser -/
theorem parse_ok_iff_generated (db : CodecDB) (given : Option Bytes) (b : Bytes) (f : MoFile) :
    I18n.Generated.MoParser.parse db given b = .ok f ↔
      ∃ cat, Encodes b cat f.possibleHiddenStrings ∧ (∀ e ∈ cat, e.WF) ∧
        expected db given cat f.possibleHiddenStrings = .ok f := by
  rw [generated_parse_eq_model]; exact C09.parse_ok_iff db given b f

/-- a file that is not a legal MO file of any catalog is never loaded by the regenerated parser -/
theorem reject_not_encodes_generated (db : CodecDB) (given : Option Bytes) (b : Bytes) (h : ¬ WellFormedFile b) :
    (∃ x, I18n.Generated.MoParser.parse db given b = .error (.syntax x)) ∨
      I18n.Generated.MoParser.parse db given b = .error .decode := by
  rw [generated_parse_eq_model]; exact C09.reject_not_encodes db given b h

/-- the hidden-strings flag of the regenerated parser -/
theorem hidden_flag_generated (db : CodecDB) (given : Option Bytes) (b : Bytes) (f : MoFile)
    (h : I18n.Generated.MoParser.parse db given b = .ok f) :
    ∃ be rev, Slice b 0 (magicOf be) ∧ WordAt be b 4 rev ∧ HiddenFlag be b (rev % 65536) f.possibleHiddenStrings := by
  rw [generated_parse_eq_model] at h; exact C08.hidden_flag db given b f h

/-! Non-vacuity: the tie instantiated at two files — each statement is rewritten with `generated_parse_eq_model` and then the MODEL is
evaluated (`C08.witness_parse`, `rfl` on `Mo.parse`); on the generated side only the two module constants are evaluated -/

example : I18n.Generated.MoParser.parse asciiDB none C08.witnessFile =
    .ok ⟨[⟨['i'], some ['c'], .singular ['s']⟩], false⟩ := by
  rw [generated_parse_eq_model]; exact C08.witness_parse

example : I18n.Generated.MoParser.parse asciiDB none [] = .error (.syntax .magic) := by
  rw [generated_parse_eq_model]; rfl

example : I18n.Generated.MoParser.little_endian_magic = leMagic ∧ I18n.Generated.MoParser.big_endian_magic = beMagic :=
  ⟨rfl, rfl⟩

end I18n.Props.C08Tie
