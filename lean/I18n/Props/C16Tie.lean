import I18n.Lemmas.MsgChkGenerated
import I18n.Props.C16
/-!
# C16 — the tie by translation: `_check_message_flags` REGENERATED from the source is the model

`I18n.Generated.MsgChk` is rewritten from the repository's current `lib/check/__init__.py` (`Checker._check_message_flags`) by
`tools/translate/msgchk2lean.py` on every run.  The theorems below prove the regenerated method equal, for ALL entries, to
`Msg.checkMessageFlags` — the function `message_flags_eq` and the flag theorems of `Props/C16.lean` are about — and restate them about the
regenerated method.  A changed source line changes the generated definition and breaks the equality proof, no test input involved.

What the regenerated method returns: the attributes of the namespace `info` (`fuzzy`, `range_min`, `range_max`, `formats` — a frozenset,
kept as the list of its members; the model lists it sorted) and the emissions appended to what was emitted before; it raises exactly when
the model's emission list contains an exception (`tags.safe_format` of the interpolated flag text: the one crash site).
-/
namespace I18n.Props.C16Tie
open I18n I18n.Msg I18n.Generated
open I18n.Tags (Str lit Extra)

/-- the literals of the source (`loop_const_*`: the prefix tuple and the conflict pairs, as the generated file has them) are what the
    environment of the model says -/
abbrev SrcEnv := I18n.Msg.Gen.SrcEnv

/-- `_check_message_flags(message)` as regenerated = `Msg.checkMessageFlags env message`, for every environment that agrees with the
    literals of the source: same namespace, same emissions in the same order; it raises iff the model's emissions contain a crash -/
theorem generated_check_message_flags_eq_model (env : FlagEnv) (henv : SrcEnv env) (e : Entry) (out : List Emit) :
    I18n.Msg.Gen.erase (MsgChk.check_message_flags env out e) =
      if noCrash (checkMessageFlags env e).2 = true then
        .ok (((checkMessageFlags env e).1.fuzzy, (checkMessageFlags env e).1.rangeMin, (checkMessageFlags env e).1.rangeMax,
               keysOf (formatFlagsOf (flagLoop env e {} (sortedFlagItems e.flags)).formatFlags [])),
             out ++ (checkMessageFlags env e).2)
      else .error () :=
  I18n.Msg.Gen.check_message_flags_eq env henv e out

/-- the environment the running tool has (tables regenerated by msg2lean.py from the same tree) agrees with the literals of the
    regenerated method — kernel-evaluated -/
theorem live_env_is_source : SrcEnv liveFlagEnv :=
  ⟨by decide +kernel, by decide +kernel, by decide +kernel, by decide +kernel, by decide +kernel⟩

/-- **message_flags_eq**, of the regenerated method with the live tables: whenever it returns, it returns the rule set's namespace
    (`info`) and emits exactly the rule set's flag diagnostics (`flagTags`: unknown / duplicate / conflicting / redundant flags, the
    range-flag rules), in order -/
theorem message_flags_eq_generated (e : Entry) (out : List Emit) (fz : Bool) (rmin : Nat) (rmax : Option Nat) (fs : List Str) (ts : List Emit)
    (h : MsgChk.check_message_flags liveFlagEnv out e = .ok ((fz, rmin, rmax, fs), ts)) :
    ts = out ++ Spec.MessageRules.flagTags liveFlagEnv e ∧
    (Spec.MessageRules.info liveFlagEnv e) = ⟨fz, rmin, rmax, toSorted strLt fs⟩ :=
  I18n.Msg.Gen.check_message_flags_eq_rules liveFlagEnv live_env_is_source e out fz rmin rmax fs ts h

/-- **NoCrash** for the flag stage, of the regenerated method: it returns whenever the model's emissions for the entry contain no crash -/
theorem check_message_flags_total_generated (e : Entry) (out : List Emit) (h : noCrash (checkMessageFlags liveFlagEnv e).2 = true) :
    ∃ r, MsgChk.check_message_flags liveFlagEnv out e = .ok r :=
  ⟨_, I18n.Msg.Gen.check_message_flags_of_noCrash liveFlagEnv live_env_is_source e out h⟩

/-! ## `Checker.check_messages` — regenerated; equality with the model KERNEL-EVALUATED ON WITNESS FILES ONLY (not for all inputs)

`Generated.MsgChk.check_messages` is rewritten from the current source on every run (with `_check_message_flags` = the regenerated, proved
method above and `_check_message_formats` = the model's opaque stage `Msg.checkMessageFormats`).  The equality for all inputs
is not proved; what is proved here is the equality of the observable emissions on a fixed set of witness files chosen so that each branch of the per-message body and of the loop glue is exercised (obsolete and header entries, the
duplicate counter, template, previous msgid, both newline loops beyond their first string, the unusual-character accumulator across
messages and under `fuzzy`, the conflict marker, partial translation, the empty file in PO and MO).  The live tables, expat answering "well-formed". -/

/-- the observable emissions agree (and the regenerated method raises only if the model's emissions contain a crash) -/
def agree (g : Except Py.Exc (List Emit)) (m : List Emit) : Bool :=
  match g with
  | .ok o => decide (observe o = observe m)
  | .error _ => !noCrash m

def wenv : Env := liveEnv fun _ => .ok

def genRun (c : Ctx) (f : List Entry) : Except Py.Exc (List Emit) :=
  MsgChk.check_messages wenv c wenv.flag f c.isTemplate (if c.hasEncoding then some () else none) c.isBinary c.possibleHiddenStrings []

def ent (msgid : String) (msgstr : Option String) (flags : List String) : Entry :=
  ⟨lit msgid, none, none, msgstr.map lit, [], flags.map lit, false, none, none, none, []⟩

def po : Ctx := ⟨false, false, false, true⟩
def pot : Ctx := ⟨true, false, false, true⟩
def mo (hidden : Bool) : Ctx := ⟨false, true, hidden, true⟩
def poNoEnc : Ctx := ⟨false, false, false, false⟩

def witnesses : List (Ctx × List Entry) := [
  -- unusual character in the translation of a FUZZY message (not exempt); the same character again in a later message (accumulator)
  (po, [ent "a" (some "b\x07") ["fuzzy"], ent "c" (some "d\x07") [], ent "e" (some "\x07\x08") []]),
  (poNoEnc, [ent "a" (some "b\x07") []]),
  -- an obsolete copy before a message with the same key (not counted), then a real duplicate; a header entry in the middle
  (po, [{ ent "a" (some "x") [] with obsolete := true }, ent "a" (some "x") [], ent "" (some "h") [], ent "a" (some "y") [], ent "a" (some "z") []]),
  (po, [ent "a" (some "x") [], ent "a" (some "y") ["fuzzy"]]),
  -- the newline loops: the first considered string agrees, a later one does not (leading, then trailing)
  (po, [{ ent "a" none [] with msgidPlural := some (lit "b"), msgstrPlural := [(0, lit "x"), (1, lit "\ny")] }]),
  (po, [{ ent "a\n" none [] with msgidPlural := some (lit "b\n"), msgstrPlural := [(0, lit "x\n"), (1, lit "y")] }]),
  (po, [{ ent "a" (some "\nx") ["fuzzy"] with msgidPlural := some (lit "\nb") }]),
  -- template with a translation; previous msgid without / with fuzzy
  (pot, [ent "a" (some "x") [], ent "b" none []]),
  (po, [{ ent "a" (some "x") [] with prevMsgid := some (lit "p") }, { ent "b" (some "x") ["fuzzy"] with prevMsgid := some (lit "p") }]),
  -- conflict marker (second translation; not under fuzzy), partially translated plural
  (po, [{ ent "a" none [] with msgidPlural := some (lit "b"), msgstrPlural := [(1, lit "#-#-#-#-#  x  #-#-#-#-#"), (0, lit "")] },
        ent "c" (some "#-#-#-#-#  x  #-#-#-#-#") ["fuzzy"]]),
  -- flags reach the body through the regenerated `_check_message_flags`
  (po, [ent "a" (some "x") ["c-format", "no-c-format", "range:1..1", "wrap", "wrap"]]),
  -- the empty file: PO, MO without and with possibly hidden strings, a file of obsolete / header entries only
  (po, []), (mo false, []), (mo true, []), (po, [{ ent "a" (some "x") [] with obsolete := true }, ent "" (some "h") []])]

/-- **generated_check_messages_eq_model — on the witness files** (kernel-evaluated; the ∀ statement is outstanding) -/
theorem generated_check_messages_eq_model_on_witnesses :
    witnesses.all (fun w => agree (genRun w.1 w.2) (checkMessages wenv w.1 w.2)) = true := by
  simp only [witnesses, ent, lit, Option.map_some, Option.map_none, List.map_cons, List.map_nil]
  repeat rw [String.toList_ofList]
  decide +kernel

/-- **message_tags_eq_generated — on the witness files**: there the regenerated method emits exactly the rule set's message tags
    (`Spec.MessageRules.messageRules`, through C16's `check_messages_eq` for the sane live environment) -/
theorem message_tags_eq_generated_on_witnesses :
    witnesses.all (fun w => agree (genRun w.1 w.2)
      ((Spec.MessageRules.messageRules wenv w.1 w.2).1.flatten ++ (Spec.MessageRules.messageRules wenv w.1 w.2).2)) = true := by
  have h := generated_check_messages_eq_model_on_witnesses
  have hs : Spec.MessageRules.Sane wenv := C16.live_env_sane (fun _ => XmlVerdict.ok) (fun s => by simp)
  simp only [List.all_eq_true] at h ⊢
  intro w hw
  rw [← C16.check_messages_eq hs w.1 w.2]
  exact h w hw

/-- the witnesses are not vacuous: every one of the nine tags of `check_messages` is emitted by the model on some witness -/
theorem witnesses_cover_tags :
    MTag.ofCheckMessages.all (fun t => witnesses.any fun w =>
      (checkMessages wenv w.1 w.2).any fun x => match x with | .tag t' _ => decide (t' = t) | _ => false) = true := by
  simp only [witnesses, ent, lit, Option.map_some, Option.map_none, List.map_cons, List.map_nil]
  repeat rw [String.toList_ofList]
  decide +kernel

end I18n.Props.C16Tie
