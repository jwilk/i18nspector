import I18n.Lemmas.CheckPluralsReport
import I18n.Lemmas.PluralFormsText
import I18n.Lemmas.PluralRegistry
/-!
# C07 — Plural-Forms diagnostics are truthful, and complete on the examined window

About the hand-written model `CheckPlurals` of `Checker.check_plurals` / `gettext.parse_plural_forms` (tied to the real
method by the `check-plurals` correspondence stream; `parse_plural_forms` and the part of `check_plurals` after the header value
has parsed are also regenerated from /repo and proved equal to the model in Props/C07Tie.lean and Props/C07ChkTie.lean).
What is NOT hand-written and regenerated from /repo on every run: the three expression analyses
(`Plural.evalAt/codomain/period`, from lib/intexpr.py), the `re._parser` tree of the header pattern, the registry of
declarations as `lib.ling` loaded it, the window size and the `format_range` maximum (`Generated.PluralForms`).

Reading of the statement (DESIGN §6 C07): "the field contains `nplurals=<positive integer>; plural=<valid expression>`"
= `Spec.PluralForms.declOf v ≠ none`: the LEFTMOST match of the live header pattern (reference engine semantics
`Spec.PluralFormsRe`: greedy, backtracking order, leftmost start) whose group 2 is accepted by the expression parser.

The clauses about tags (`syntax_tag_iff`, `junk_tag_iff`, `window_report`, `nplurals_tag_iff`, `inconsistent_tag_iff`,
`clean_decl_*`, `registry_[string_]never_unusual`, `unusual_tag_iff`) are about `checkPlurals inp = .ok out` for a non-template input with one
distinct Plural-Forms value (`headerValues inp = [pf]`; a repeated identical field is included, it adds the `duplicate-header-field`
tag).  The others are about the pieces: the header scanner and reader, the window and the gap analysis by themselves, `format_range`,
the remaining exits of the method, the shipped registry, and that no exception escapes.
-/
namespace I18n.Props.C07
open I18n I18n.Py I18n.Plural I18n.CheckPlurals I18n.Spec.PluralForms

/-- **Header pattern pin.**  The `re._parser` tree of the pattern `parse_plural_forms` uses — dumped from the live compiled
    pattern on every run, character classes canonicalised — is the tree the scanner theorems are about; it is used with
    `search` and without flags. -/
theorem header_regex_pin :
    Generated.PluralForms.headerRe = CheckPlurals.headerRe ∧
    Generated.PluralForms.headerMethod = "search" ∧ Generated.PluralForms.headerFlags = 0 :=
  ⟨headerRe_eq, by decide, by decide⟩

/-- **Window pin.**  `codomain_limit`, the only `range(…)` the method loops over, and `format_range`'s `max`. -/
theorem window_constants_pin :
    Generated.PluralForms.codomainLimit = CheckPlurals.codomainLimit ∧
    Generated.PluralForms.rangeLoops = ["codomain_limit"] ∧
    Generated.PluralForms.formatRangeMax = 5 := by decide +kernel

/-- **The model's scanner is `pattern.search`.**  On every string the hand-written scanner returns `None` exactly when the
    reference engine finds no match of the live pattern, and otherwise the same text before the match, the same text
    after it and the same two groups. -/
theorem scanner_is_search (s : List Char) :
    (Spec.PluralFormsRe.search Generated.PluralForms.headerRe s).map (fun f => (f.pre, f.post, f.caps)) =
      (CheckPlurals.search [] s).map (fun y => (y.1, y.2.2.2, [(1, y.2.1), (2, y.2.2.1)])) := by
  rw [header_regex_pin.1]
  exact search_header s []

/-- `search` of the reference engine is "leftmost start position that admits a match, the engine's preferred match there" -/
theorem search_leftmost (r : Spec.PluralFormsRe.Re) (s : List Char) :
    (∀ f, Spec.PluralFormsRe.search r s = some f → Spec.PluralFormsRe.IsLeftmost r s f) ∧
    (Spec.PluralFormsRe.search r s = none ↔ ∀ p q, s = p ++ q → Spec.PluralFormsRe.runs r q = []) := by
  unfold Spec.PluralFormsRe.search
  rw [searchFrom_eq_firstAt]
  constructor
  · intro f h
    obtain ⟨⟨pre, m, post, caps⟩, hx, rfl⟩ := Option.map_eq_some_iff.1 h
    obtain ⟨p, q, rfl, rfl, hq, hleft⟩ := (firstAt_eq_some _ _ _ _ _).1 hx
    cases runs_split r q _ (List.mem_of_head? hq)
    exact ⟨rfl, hq, fun p' q' hpq hl => matchAt_eq_none.1 (hleft p' q' hpq hl)⟩
  · rw [Option.map_eq_none_iff, firstAt_eq_none]
    simp only [matchAt_eq_none]

/-- **The model's reader is the reference reading** of a header value: `parse_plural_forms(v, strict=False)` succeeds
    exactly when `v` contains a declaration and returns it (nplurals, expression, text before, text after); the `ValueError`
    outcome of `int()` is unreachable. -/
theorem reader_is_reference (v : List Char) :
    parsePluralForms v = match declOf v with
      | some d => .ok d.n d.e d.ljunk d.rjunk
      | none => .syntaxError :=
  parsePluralForms_eq_declOf v

/-- **The reference reading, as plain text** (no regex engine involved).  `v` contains the declaration `d` iff
    `v = ljunk ++ q` where `q` STARTS with `nplurals=<ds>;<blanks>plural=<ex>[;]` (`OccursAt`: `ds` a positive numeral without
    leading zero, blanks are spaces and tabs, `ex` the non-empty text up to the first `;` or the end) followed by `rjunk`, no
    occurrence of that syntax starts earlier in `v`, `n` is the decimal value of `ds`, and `ex` parses to `e`. -/
theorem decl_is_text (v : List Char) (d : Decl) :
    declOf v = some d ↔ ∃ q ds ex, v = d.ljunk ++ q ∧ OccursAt q ds ex d.rjunk ∧ NoneBefore v d.ljunk.length ∧
      d.n = decimal ds ∧ PluralParse.parse ex = .ok d.e := by
  obtain ⟨n, e, lj, rj⟩ := d
  rw [declOf_eq_search]
  constructor
  · intro h
    cases hs : CheckPlurals.search [] v with
    | none => rw [hs] at h; cases h
    | some y =>
      obtain ⟨lj', ds, ex, rj'⟩ := y
      rw [hs] at h
      dsimp only at h
      cases hp : PluralParse.parse ex with
      | ok e' =>
        rw [hp] at h
        cases h
        obtain ⟨q, hv, hocc, hleft⟩ := (search_text v _ ds ex _).1 hs
        exact ⟨q, ds, ex, hv, hocc, hleft, rfl, hp⟩
      | syntaxError => rw [hp] at h; cases h
      | valueError => rw [hp] at h; cases h
  · rintro ⟨q, ds, ex, hv, hocc, hleft, hn, hp⟩
    rw [(search_text v lj ds ex rj).2 ⟨q, hv, hocc, hleft⟩]
    dsimp only at hn hp ⊢
    rw [hp, hn]

/-- … and `v` contains no declaration iff the syntax occurs nowhere in it, or the expression text of its LEFTMOST occurrence
    does not parse (a later well-formed occurrence does not help: the reading fixed in DESIGN §6 C07). -/
theorem no_decl_is_text (v : List Char) :
    ¬ HasDecl v ↔ (∀ p q, v = p ++ q → ∀ ds ex rj, ¬ OccursAt q ds ex rj) ∨
      (∃ p q ds ex rj, v = p ++ q ∧ OccursAt q ds ex rj ∧ NoneBefore v p.length ∧ ∀ e, PluralParse.parse ex ≠ .ok e) := by
  rw [not_hasDecl_iff, declOf_eq_search]
  cases hs : CheckPlurals.search [] v with
  | none => exact iff_of_true rfl (Or.inl ((search_none_iff v []).1 hs))
  | some y =>
    obtain ⟨lj, ds, ex, rj⟩ := y
    obtain ⟨q, hv, hocc, hleft⟩ := (search_text v lj ds ex rj).1 hs
    dsimp only
    constructor
    · intro h
      refine Or.inr ⟨lj, q, ds, ex, rj, hv, hocc, hleft, fun e he => ?_⟩
      rw [he] at h
      cases h
    · rintro (hnone | ⟨p', q', ds', ex', rj', hv', hocc', hleft', hnp⟩)
      · exact absurd hocc (hnone lj q hv ds ex rj)
      · -- the leftmost occurrence is the one the scanner found
        have hs' := (search_text v p' ds' ex' rj').2 ⟨q', hv', hocc', hleft'⟩
        rw [hs] at hs'
        cases hs'
        cases hp : PluralParse.parse ex with
        | ok e => exact absurd hp (hnp e)
        | syntaxError => rfl
        | valueError => rfl

/-! ## clause 1: syntax error iff no declaration; junk -/

/-- A `syntax-error-in-[unused-]plural-forms` tag is emitted iff the header value contains no
    declaration; it quotes the value (and the hint), and is then the only tag besides duplicate / inconsistent-number ones. -/
theorem syntax_tag_iff (inp : Input) (pf : List Char) (out : Output) (hv : headerValues inp = [pf]) (ht : inp.isTemplate = false)
    (h : checkPlurals inp = .ok out) :
    ((∃ t ∈ out.tags, isSyntaxName t.name) ↔ ¬ HasDecl pf) ∧
    (∀ t ∈ out.tags, isSyntaxName t.name → t = syntaxTag (hasPlurals inp) pf (hintOf inp)) ∧
    (¬ HasDecl pf → out = ⟨tags0Of inp ++ [syntaxTag (hasPlurals inp) pf (hintOf inp)], none⟩) := by
  obtain ⟨mid, last, rs, horig, -, hnone, -⟩ := report_spec inp pf out hv ht h
  have key : ∀ t ∈ out.tags, isSyntaxName t.name → declOf pf = none ∧ t = syntaxTag (hasPlurals inp) pf (hintOf inp) :=
    fun t htm => (horig t htm).of_syntax
  rw [not_hasDecl_iff]
  refine ⟨⟨fun ⟨t, htm, hn⟩ => (key t htm hn).1, fun hd' => ?_⟩, fun t htm hn => (key t htm hn).2, hnone⟩
  exact ⟨syntaxTag (hasPlurals inp) pf (hintOf inp), by rw [hnone hd']; simp, tagName_syntax _⟩

/-- `leading-junk-in-plural-forms` (`trailing-…`) is emitted iff the value contains a declaration and
    the text before (after) the leftmost match is not empty; the tag quotes exactly that text. -/
theorem junk_tag_iff (inp : Input) (pf : List Char) (out : Output) (hv : headerValues inp = [pf]) (ht : inp.isTemplate = false)
    (h : checkPlurals inp = .ok out) :
    ((∃ t ∈ out.tags, t.name = "leading-junk-in-plural-forms") ↔ ∃ d, declOf pf = some d ∧ d.ljunk ≠ []) ∧
    ((∃ t ∈ out.tags, t.name = "trailing-junk-in-plural-forms") ↔ ∃ d, declOf pf = some d ∧ d.rjunk ≠ []) ∧
    (∀ t ∈ out.tags, t.name = "leading-junk-in-plural-forms" → ∃ d, declOf pf = some d ∧ t.extras = [.str d.ljunk]) ∧
    (∀ t ∈ out.tags, t.name = "trailing-junk-in-plural-forms" → ∃ d, declOf pf = some d ∧ t.extras = [.str d.rjunk]) := by
  obtain ⟨mid, last, rs, horig, -, -, hwin⟩ := report_spec inp pf out hv ht h
  have hl : ∀ t ∈ out.tags, t.name = "leading-junk-in-plural-forms" →
      ∃ d, declOf pf = some d ∧ d.ljunk ≠ [] ∧ t = ⟨"leading-junk-in-plural-forms", [.str d.ljunk]⟩ :=
    fun t htm => (horig t htm).of_leading
  have hr : ∀ t ∈ out.tags, t.name = "trailing-junk-in-plural-forms" →
      ∃ d, declOf pf = some d ∧ d.rjunk ≠ [] ∧ t = ⟨"trailing-junk-in-plural-forms", [.str d.rjunk]⟩ :=
    fun t htm => (horig t htm).of_trailing
  have hin : ∀ d, declOf pf = some d → ∀ t ∈ junkTags d.ljunk d.rjunk, t ∈ out.tags := by
    intro d hd t ht'
    obtain ⟨m, W⟩ := hwin d hd
    exact W.mem_of_junk ht'
  refine ⟨⟨?_, ?_⟩, ⟨?_, ?_⟩, ?_, ?_⟩
  · rintro ⟨t, htm, hn⟩
    obtain ⟨d, hd, hne, -⟩ := hl t htm hn
    exact ⟨d, hd, hne⟩
  · rintro ⟨d, hd, hne⟩
    exact ⟨_, hin d hd _ (mem_junkTags.2 (Or.inl ⟨hne, rfl⟩)), rfl⟩
  · rintro ⟨t, htm, hn⟩
    obtain ⟨d, hd, hne, -⟩ := hr t htm hn
    exact ⟨d, hd, hne⟩
  · rintro ⟨d, hd, hne⟩
    exact ⟨_, hin d hd _ (mem_junkTags.2 (Or.inr ⟨hne, rfl⟩)), rfl⟩
  · intro t htm hn
    obtain ⟨d, hd, -, rfl⟩ := hl t htm hn
    exact ⟨d, hd, rfl⟩
  · intro t htm hn
    obtain ⟨d, hd, -, rfl⟩ := hr t htm hn
    exact ⟨d, hd, rfl⟩

/-! ## clause 2: the window diagnostic; clause 3: "never produced" claims -/

/-- `window_tag_iff`, `window_tag_least` and `gap_claim_true` on the whole method.  For a value that
    contains a declaration `(n, e)` (registry declarations total on the window — true of the shipped registry,
    `shipped_registry_clean`): the tags are `front ++ last ++ gaps` where
    * `front` holds no arithmetic-error / codomain-error tag;
    * `last = []` iff every `i < 200` evaluates to a value `< n`; otherwise `last` is exactly ONE tag, for the LEAST `i`
      that fails or yields a value `≥ n`, stating its true outcome (`badMsg`: `f(i) = v >= n`, `f(i): integer overflow`,
      `f(i): division by zero`), named codomain-error for a value and arithmetic-error for a failure;
    * `gaps` are the `f(x) != a, …` tags: each about a non-empty range `[a, b)` NO member of which is produced by ANY
      `m < 2^32`;
    * a preimage is recorded only if there is neither a window diagnostic nor a gap. -/
theorem window_report (inp : Input) (pf : List Char) (out : Output) (hv : headerValues inp = [pf]) (ht : inp.isTemplate = false)
    (d : Decl) (hd : declOf pf = some d) (h : checkPlurals inp = .ok out) (hreg : RegistryClean inp) :
    ∃ front last rs, out.tags = front ++ last ++ gapTags (hasPlurals inp) rs ∧
      (∀ t ∈ front, ¬ isArithName t.name ∧ ¬ isCodomainName t.name) ∧
      (last = [] ↔ ∀ i, i < codomainLimit → badMsg d.n d.e i = none) ∧
      (∀ i msg, i < codomainLimit → (∀ j, j < i → badMsg d.n d.e j = none) → badMsg d.n d.e i = some msg →
        last = [⟨badTagName d.n d.e i (hasPlurals inp), [.safe msg]⟩]) ∧
      (∀ r ∈ rs, r.1 < r.2 ∧ ∀ k : Nat, r.1 ≤ k → k < r.2 → ∀ m : Nat, (m : Int) < 2 ^ 32 → evalAt 32 m d.e ≠ .ok (k : Int)) ∧
      (out.preimage ≠ none → last = [] ∧ rs = []) := by
  obtain ⟨m, mid, last, rs, W⟩ := report_window inp pf out hv ht d hd h
  have hlc := compared_total hreg pf d.n
  refine ⟨_, last, rs, W.tags, ?_, ?_, ?_, W.gaps, ?_⟩
  · -- `front` is the report of a window that neither stopped nor found a gap: a tag of it with such a name has nowhere to be
    intro t htm
    have horig : Origin inp pf mid [] [] t :=
      origin_of_decl hd mid [] [] W.mem_mid (fun _ hnil => nomatch hnil) t (by simpa [gapTags] using htm)
    have hnot : ¬ (isArithName t.name ∨ isCodomainName t.name) := fun hn => by
      obtain ⟨_, _, hmem | hmem⟩ := horig.of_stop hn
      · cases hmem
      · cases hmem
    exact ⟨fun hn => hnot (Or.inl hn), fun hn => hnot (Or.inr hn)⟩
  · rcases Nat.lt_or_ge m codomainLimit with hm | hm
    · obtain ⟨msg, hbad, rfl⟩ := W.stop hlc hm
      simp only [reduceCtorEq, false_iff]
      intro hall
      rw [hall m hm] at hbad
      cases hbad
    · rcases W.last_cases with ⟨rfl, rfl⟩ | ⟨hm', _⟩
      · exact iff_of_true rfl W.good
      · omega
  · -- the least bad index is where the window stopped
    intro i msg hi hleast hbad
    have him : ¬ i < m := fun him => by rw [W.good i him] at hbad; cases hbad
    have hmi : m = i := by
      rcases Nat.lt_or_ge m i with hlt | hge
      · obtain ⟨msg', hbad', _⟩ := W.stop hlc (by omega)
        rw [hleast m hlt] at hbad'
        cases hbad'
      · omega
    subst hmi
    obtain ⟨msg', hbad', hlast⟩ := W.stop hlc hi
    rw [hbad] at hbad'
    cases hbad'
    exact hlast
  · intro hpre
    rcases W.preimage with ⟨h', _⟩ | ⟨h1, h2, _⟩
    · exact absurd h' hpre
    · exact ⟨h1, h2⟩

/-- … in particular for every catalog whose language is unknown or one of the SHIPPED registry (no hypothesis left about the
    registry: `shipped_registry_clean`) -/
theorem window_report_shipped (inp : Input) (pf : List Char) (out : Output) (hv : headerValues inp = [pf]) (ht : inp.isTemplate = false)
    (d : Decl) (hd : declOf pf = some d) (h : checkPlurals inp = .ok out) (hreg : FromRegistry inp) :
    ∃ front last rs, out.tags = front ++ last ++ gapTags (hasPlurals inp) rs ∧
      (∀ t ∈ front, ¬ isArithName t.name ∧ ¬ isCodomainName t.name) ∧
      (last = [] ↔ ∀ i, i < codomainLimit → badMsg d.n d.e i = none) ∧
      (∀ i msg, i < codomainLimit → (∀ j, j < i → badMsg d.n d.e j = none) → badMsg d.n d.e i = some msg →
        last = [⟨badTagName d.n d.e i (hasPlurals inp), [.safe msg]⟩]) ∧
      (∀ r ∈ rs, r.1 < r.2 ∧ ∀ k : Nat, r.1 ≤ k → k < r.2 → ∀ m : Nat, (m : Int) < 2 ^ 32 → evalAt 32 m d.e ≠ .ok (k : Int)) ∧
      (out.preimage ≠ none → last = [] ∧ rs = []) :=
  window_report inp pf out hv ht d hd h hreg.clean

/-- what `badMsg = none` means: the index evaluates, to a valid form index -/
theorem badMsg_none_iff (n : Nat) (e : Expr) (i : Nat) :
    badMsg n e i = none ↔ ∃ v, evalAt 32 i e = .ok v ∧ 0 ≤ v ∧ v < n := by
  constructor
  · exact badMsg_none
  · rintro ⟨v, hv, _, hvn⟩
    simp only [badMsg, hv]
    rw [if_neg (by omega)]

/-- and what it says otherwise: the true outcome at `i` -/
theorem badMsg_some (n : Nat) (e : Expr) (i : Nat) (msg : List Char) (h : badMsg n e i = some msg) :
    (evalAt 32 i e = .error .Overflow ∧ msg = "f(".toList ++ natStr i ++ "): integer overflow".toList) ∨
    (evalAt 32 i e = .error .ZeroDivision ∧ msg = "f(".toList ++ natStr i ++ "): division by zero".toList) ∨
    (∃ v, evalAt 32 i e = .ok v ∧ v ≥ n ∧ msg = "f(".toList ++ natStr i ++ ") = ".toList ++ intStr v ++ " >= ".toList ++ natStr n) := by
  revert h
  fun_cases badMsg n e i with
  | case1 hev => exact fun h => Or.inl ⟨hev, (Option.some.inj h).symm⟩
  | case2 hev => exact fun h => Or.inr (Or.inl ⟨hev, (Option.some.inj h).symm⟩)
  | case3 ex _ _ hev => exact nofun
  | case4 v hev hv => exact fun h => Or.inr (Or.inr ⟨v, hev, hv, (Option.some.inj h).symm⟩)
  | case5 v hev hv => exact nofun

/-- **Truthfulness of "never produced" claims** (window level).  Run the 200-window as `check_plurals` does (empty preimage
    at the start), then the gap analysis.  For every range `[a, b)` for which a `f(x) != a, …, b-1` diagnostic is emitted,
    NO `m` in `[0, 2^32)` evaluates to a value in it: from C05 `codomain_sound` and the periodicity of the outcome
    (`periodic_image`). -/
theorem gap_claim_true (n : Nat) (e : Expr) (lc : Option (Nat × Expr)) (hp : Bool) (ut : TagCall)
    (st0 st : WinState) (fin : WinEnd) (h0 : st0.pre = [])
    (hw : window n e lc hp ut (List.range codomainLimit) st0 = (st, fin))
    (rs : List (Nat × Nat)) (hg : gapRanges n e (completedOf st fin) = .ok rs) :
    ∀ r ∈ rs, ∀ k : Nat, r.1 ≤ k → k < r.2 → ∀ m : Nat, (m : Int) < 2 ^ 32 → evalAt 32 m e ≠ .ok (k : Int) :=
  gapRanges_true n e (completedOf st fin) rs hg (completedOf_facts n e lc hp ut st0 st fin h0 hw)

/-- **Completeness on the window** (window level; registry expression total on the window).  The window stops with an
    arithmetic-error or codomain-error diagnostic iff some `i < 200` fails or yields a value `≥ nplurals` … -/
theorem window_tag_iff (n : Nat) (e : Expr) (lc : Option (Nat × Expr)) (hp : Bool) (ut : TagCall)
    (st0 st : WinState) (fin : WinEnd) (hlc : LcTotal lc (List.range codomainLimit))
    (hw : window n e lc hp ut (List.range codomainLimit) st0 = (st, fin)) :
    (fin = .stopped ↔ ∃ i, i < codomainLimit ∧ badMsg n e i ≠ none) := by
  obtain ⟨m, _, hgood, _, _, hfin⟩ := window_range hlc hw
  rcases hfin with ⟨rfl, rfl, _⟩ | ⟨rfl, hm, msg, hbad, _⟩
  · simp only [reduceCtorEq, false_iff, not_exists, not_and]
    exact fun i hi hbad => hbad (hgood i hi)
  · exact iff_of_true rfl ⟨m, hm, by simp [hbad]⟩

/-- … and then the diagnostic is the last tag, names the LEAST such `i` and states its true outcome; before it at most
    `unusual-…` tags. -/
theorem window_tag_least (n : Nat) (e : Expr) (lc : Option (Nat × Expr)) (hp : Bool) (ut : TagCall)
    (st0 st : WinState) (hlc : LcTotal lc (List.range codomainLimit))
    (hw : window n e lc hp ut (List.range codomainLimit) st0 = (st, .stopped)) :
    ∃ i msg mid, i < codomainLimit ∧ (∀ j, j < i → badMsg n e j = none) ∧ badMsg n e i = some msg ∧
      st.tags = st0.tags ++ mid ++ [⟨badTagName n e i hp, [.safe msg]⟩] ∧ (∀ t ∈ mid, t = ut) := by
  obtain ⟨m, mid, hgood, hmid, _, hfin⟩ := window_range hlc hw
  rcases hfin with ⟨hc, _⟩ | ⟨_, hm, msg, hbad, htags⟩
  · cases hc
  · exact ⟨m, msg, mid, hm, hgood, hbad, htags, by rcases hmid with rfl | rfl <;> simp⟩

/-- The text after `f(x) != ` is `", ".join(items)` where every item is the decimal of a member of the
    (non-empty) range or the ellipsis; up to 5 members are listed in full, longer ranges as `a, a+1, a+2, ..., b-1` —
    so every index NAMED in a gap tag is covered by `window_report`'s claim. -/
theorem format_range_sound (a b : Nat) (hab : a < b) :
    formatRange a b = ", ".toList.intercalate (rangeItems a b) ∧
    (∀ it ∈ rangeItems a b, it = "...".toList ∨ ∃ k, a ≤ k ∧ k < b ∧ it = natStr k) ∧
    (b - a ≤ 5 → rangeItems a b = (List.range (b - a)).map (fun k => natStr (k + a))) ∧
    (5 < b - a → rangeItems a b = [natStr a, natStr (a + 1), natStr (a + 2), "...".toList, natStr (b - 1)]) := by
  refine ⟨formatRange_eq a b, ?_, ?_, ?_⟩
  · intro it hit
    unfold rangeItems at hit
    by_cases hlen : b - a ≤ 5
    · rw [if_pos hlen] at hit
      simp only [List.mem_map, List.mem_range] at hit
      obtain ⟨k, hk, rfl⟩ := hit
      exact Or.inr ⟨k + a, Nat.le_add_left a k, Nat.add_lt_of_lt_sub hk, rfl⟩
    · rw [if_neg hlen] at hit
      simp only [List.mem_append, List.mem_map, List.mem_range, List.mem_cons, List.not_mem_nil, or_false] at hit
      rcases hit with ⟨k, hk, rfl⟩ | rfl | rfl
      · exact Or.inr ⟨k + a, Nat.le_add_left a k, by omega, rfl⟩
      · exact Or.inl rfl
      · exact Or.inr ⟨b - 1, Nat.le_sub_one_of_lt hab, Nat.sub_one_lt (Nat.ne_zero_of_lt hab), rfl⟩
  · intro h; simp [rangeItems, h]
  · intro h
    simp only [rangeItems, Nat.not_le.2 h, ↓reduceIte]
    simp [List.range_succ, Nat.add_comm]

/-! ## clause 4: nplurals against the messages -/

/-- `incorrect-number-of-plural-forms` is emitted iff the value contains a declaration and its
    nplurals differs from THE number of msgstr[] forms of the translated, non-obsolete plural messages (all of them have
    that number: `ConsistentCount`); the tag states both numbers. -/
theorem nplurals_tag_iff (inp : Input) (pf : List Char) (out : Output) (hv : headerValues inp = [pf]) (ht : inp.isTemplate = false)
    (h : checkPlurals inp = .ok out) :
    ((∃ t ∈ out.tags, t.name = "incorrect-number-of-plural-forms") ↔
      ∃ d k, declOf pf = some d ∧ ConsistentCount inp k ∧ d.n ≠ k) ∧
    (∀ t ∈ out.tags, t.name = "incorrect-number-of-plural-forms" →
      ∃ d k, declOf pf = some d ∧ ConsistentCount inp k ∧ d.n ≠ k ∧
        t.extras = [.int d.n, .safe "(Plural-Forms header field)".toList, .str "!=".toList, .int k, .safe "(number of msgstr items)".toList]) := by
  obtain ⟨mid, last, rs, horig, -, -, hwin⟩ := report_spec inp pf out hv ht h
  have key : ∀ t ∈ out.tags, t.name = "incorrect-number-of-plural-forms" →
      ∃ d, declOf pf = some d ∧ t ∈ nplTags d.n (expectedOf inp) :=
    fun t htm => (horig t htm).of_incorrect
  refine ⟨⟨?_, ?_⟩, ?_⟩
  · rintro ⟨t, htm, hn⟩
    obtain ⟨d, hd, h'⟩ := key t htm hn
    obtain ⟨k, hk, hne, -⟩ := mem_nplTags_ref.1 h'
    exact ⟨d, k, hd, hk, hne⟩
  · rintro ⟨d, k, hd, hk, hne⟩
    obtain ⟨m, W⟩ := hwin d hd
    exact ⟨_, W.mem_of_npl (mem_nplTags_ref.2 ⟨k, hk, hne, rfl⟩), rfl⟩
  · intro t htm hn
    obtain ⟨d, hd, h'⟩ := key t htm hn
    obtain ⟨k, hk, hne, rfl⟩ := mem_nplTags_ref.1 h'
    exact ⟨d, k, hd, hk, hne, rfl⟩

/-- what the scan of the catalog computes: `expected_nplurals` is the single pair `(k, _)` iff all counted messages have `k`
    forms (and there is one); it is empty iff none is counted; `has_plurals` iff some non-obsolete message is plural -/
theorem scan_spec (inp : Input) :
    (expectedOf inp = [] ↔ formCounts inp.msgs = []) ∧
    (∀ k, (∃ x, expectedOf inp = [(k, x)]) ↔ ConsistentCount inp k) ∧
    hasPlurals inp = inp.msgs.any (fun m => !m.obsolete && m.hasPlural) := by
  refine ⟨expectedOf_eq_nil inp, expected_single_iff inp, ?_⟩
  simpa [hasPlurals] using (scanMsgs_spec inp.msgs false [] (by simp)).2.2

/-- `inconsistent-number-of-plural-forms` is emitted iff two translated, non-obsolete plural
    messages have different numbers of msgstr[] forms — so "the (consistent) number" of `nplurals_tag_iff` exists exactly when
    this tag is absent and some plural message is translated. -/
theorem inconsistent_tag_iff (inp : Input) (pf : List Char) (out : Output) (hv : headerValues inp = [pf]) (ht : inp.isTemplate = false)
    (h : checkPlurals inp = .ok out) :
    (∃ t ∈ out.tags, t.name = "inconsistent-number-of-plural-forms") ↔
      ∃ a ∈ formCounts inp.msgs, ∃ b ∈ formCounts inp.msgs, a ≠ b := by
  obtain ⟨mid, last, rs, horig, hin, -, -⟩ := report_spec inp pf out hv ht h
  rw [← inconsistentTags_ne_nil]
  constructor
  · rintro ⟨t, htm, hn⟩
    exact List.ne_nil_of_mem ((horig t htm).of_inconsistent hn)
  · intro hne
    obtain ⟨t, htm⟩ := List.exists_mem_of_ne_nil _ hne
    exact ⟨t, hin t (List.mem_append.2 (Or.inr htm)), name_inconsistent htm⟩

/-- **The other exits of the method** (outside the scope of the statement, for completeness of the case map): several distinct
    values ⇒ only the duplicate tag; no field ⇒ a `no-[required-]plural-forms-header-field` tag iff the catalog has plural
    messages; a template ⇒ the value is not analysed. -/
theorem other_exits (inp : Input) :
    ((headerValues inp).length > 1 → checkPlurals inp = .ok ⟨[⟨"duplicate-header-field-plural-forms", []⟩], none⟩) ∧
    (headerValues inp = [] → checkPlurals inp = .ok ⟨tags0Of inp ++
      (if hasPlurals inp then
        [⟨if (expectedOf inp).isEmpty then "no-plural-forms-header-field" else "no-required-plural-forms-header-field", [hintOf inp]⟩]
       else []), none⟩) ∧
    (∀ pf, headerValues inp = [pf] → inp.isTemplate = true → checkPlurals inp = .ok ⟨tags0Of inp, none⟩) := by
  refine ⟨fun hv => ?_, fun hv => ?_, fun pf hv ht => ?_⟩
  · have hdup : inp.pluralForms.length > 1 := by
      by_cases h : inp.pluralForms.length > 1
      · exact h
      · simp only [headerValues, h, ↓reduceIte] at hv
    rw [checkPlurals_eq]
    rcases hh : headerValues inp with _ | ⟨a, _ | ⟨b, l⟩⟩
    · simp [hh] at hv
    · simp [hh] at hv
    · simp [dupTags, hdup]
  · rw [checkPlurals_eq, hv]
  · rw [checkPlurals_eq, hv]
    simp [ht]

/-! ## clause 5: a clean declaration is silent; clause 6: the registry is never unusual -/

/-- One Plural-Forms field whose value is exactly a declaration `(n, e)` (no junk) that is total
    on the window, in range and onto `{0..n-1}`, `n` agreeing with the messages, the declaration being one of the registry's
    for the language (or no language known): `check_plurals` emits NO tag and records a preimage table whose keys are the
    values taken on the window. -/
theorem clean_decl_silent (inp : Input) (pf : List Char) (hpfs : inp.pluralForms = [pf]) (ht : inp.isTemplate = false)
    (n : Nat) (e : Expr) (hd : declOf pf = some ⟨n, e, [], []⟩) (hclean : CleanOnWindow n e)
    (hcount : ∀ j ∈ formCounts inp.msgs, j = n) (hparses : RegistryParses inp)
    (hreg : inp.correct = none ∨ ∃ cs c lj' rj', inp.correct = some cs ∧ c ∈ cs ∧ parsePluralFormsStrict c = .ok n e lj' rj') :
    ∃ pre, checkPlurals inp = .ok ⟨[], some pre⟩ ∧ ∀ k, k ∈ keys pre ↔ ∃ i : Nat, i < codomainLimit ∧ evalAt 32 i e = .ok k := by
  have hv : headerValues inp = [pf] := by simp [headerValues, hpfs]
  cases h : checkPlurals inp with
  | error ex => exact absurd h (CheckPlurals.checkPlurals_nocrash inp hparses ex)
  | ok out =>
    obtain ⟨m, mid, last, rs, W⟩ := report_window inp pf out hv ht _ hd h
    obtain ⟨hp1, hp2⟩ := compared_registered (n := n) (e := e) pf hreg
    -- compared with nothing or with itself: total on the window, and never different
    have hlc : LcTotal (compared inp pf n).2 (List.range codomainLimit) := by
      intro ln le hlc i hi
      rcases hp2 with h' | h'
      · rw [h'] at hlc
        cases hlc
      · rw [h'] at hlc
        cases hlc
        obtain ⟨v, hv, _⟩ := hclean.total i (List.mem_range.1 hi)
        exact ⟨v, hv⟩
    obtain ⟨hlast, hrs, pre, hpre, hk⟩ := W.clean hlc hclean
    -- nothing to say about the catalog either
    have hdup : dupTags inp = [] := by simp [dupTags, hpfs]
    have hexp : expectedOf inp = [] ∨ ∃ x, expectedOf inp = [(n, x)] := by
      by_cases hfc : formCounts inp.msgs = []
      · exact Or.inl ((expectedOf_eq_nil inp).2 hfc)
      · exact Or.inr ((expected_single_iff inp n).2 ⟨hfc, hcount⟩)
    have hinc : inconsistentTags (expectedOf inp) = [] := by
      rcases hexp with h' | ⟨x, h'⟩ <;> simp [inconsistentTags, h']
    have hnpl : nplTags n (expectedOf inp) = [] := by
      rcases hexp with h' | ⟨x, h'⟩ <;> simp [nplTags, h']
    have htags : out.tags = [] := by
      rw [W.tags, tags0Of, hdup, hinc, hnpl, hp1, W.mid_nil hp2, hlast, hrs]
      rfl
    refine ⟨pre, ?_, hk.windowKeys⟩
    obtain ⟨tags, preimage⟩ := out
    cases htags
    cases hpre
    rfl

/-- Without the agreement hypotheses: a declaration that is total on the window, in range
    and onto draws no diagnostic about ITSELF — every tag is junk around it, or a comparison with the catalog / the
    registry (duplicate field, inconsistent / incorrect number of forms, unusual) — and a preimage table is recorded, whose
    keys are the values taken on the window. -/
theorem clean_decl_no_own_diagnostic (inp : Input) (pf : List Char) (out : Output) (hv : headerValues inp = [pf])
    (ht : inp.isTemplate = false) (d : Decl) (hd : declOf pf = some d) (h : checkPlurals inp = .ok out)
    (hclean : CleanOnWindow d.n d.e) (hreg : RegistryClean inp) :
    (∀ t ∈ out.tags, isComparisonName t.name ∨ t = ⟨"leading-junk-in-plural-forms", [.str d.ljunk]⟩ ∨
        t = ⟨"trailing-junk-in-plural-forms", [.str d.rjunk]⟩) ∧
    ∃ pre, out.preimage = some pre ∧ ∀ k, k ∈ keys pre ↔ ∃ i : Nat, i < codomainLimit ∧ evalAt 32 i d.e = .ok k := by
  obtain ⟨mid, last, rs, horig, -, -, hwin⟩ := report_spec inp pf out hv ht h
  obtain ⟨m, W⟩ := hwin d hd
  obtain ⟨hlast, hrs, pre, hpre, hrec⟩ := W.clean (compared_total hreg pf d.n) hclean
  refine ⟨fun t htm => ?_, pre, hpre, hrec.windowKeys⟩
  rcases (horig t htm).of_decl hd with ⟨h', _⟩ | ⟨h', _⟩ | ho
  · exact Or.inl (Or.inl h')
  · exact Or.inl (Or.inr (Or.inl h'))
  · -- the alternatives of `TagOrigin`: leading junk, trailing junk, incorrect number, unusual, then a stop tag or a gap
    rcases ho with ⟨_, _, h'⟩ | ⟨_, _, h'⟩ | ⟨h', _⟩ | ⟨h', _⟩ | ⟨_, h' | h'⟩
    · exact Or.inr (Or.inl h')
    · exact Or.inr (Or.inr h')
    · exact Or.inl (Or.inr (Or.inr (Or.inl h')))
    · exact Or.inl (Or.inr (Or.inr (Or.inr h')))
    -- a clean declaration stops nowhere and leaves no gap
    · rw [hlast] at h'
      cases h'
    · rw [hrs] at h'
      cases h'

/-- If the declared `(n, e)` is what one of the registry's strings for the
    language parses to (or no language is known), no `unusual-[unused-]plural-forms` tag is emitted — whatever else is wrong. -/
theorem registry_never_unusual (inp : Input) (pf : List Char) (out : Output) (hv : headerValues inp = [pf]) (ht : inp.isTemplate = false)
    (d : Decl) (hd : declOf pf = some d) (h : checkPlurals inp = .ok out)
    (hreg : inp.correct = none ∨ ∃ cs c lj' rj', inp.correct = some cs ∧ c ∈ cs ∧ parsePluralFormsStrict c = .ok d.n d.e lj' rj') :
    ∀ t ∈ out.tags, ¬ isUnusualName t.name := by
  obtain ⟨mid, last, rs, horig, -, -, hwin⟩ := report_spec inp pf out hv ht h
  obtain ⟨m, W⟩ := hwin d hd
  obtain ⟨hp1, hp2⟩ := compared_registered pf hreg
  intro t htm hn
  -- neither the comparison with the registry nor the window added the tag
  rcases (W.unusual_iff hd horig).1 ⟨t, htm, hn⟩ with hne | ⟨j, _, hj⟩
  · exact hne hp1
  · exact hj.false_of_none_or_self hp2

/-- … in particular the registry's own string for the language, used as the header value, is never called unusual. -/
theorem registry_string_never_unusual (inp : Input) (pf : List Char) (out : Output) (hv : headerValues inp = [pf])
    (ht : inp.isTemplate = false) (cs : List (List Char)) (hcs : inp.correct = some cs) (hmem : pf ∈ cs)
    (hparse : ∃ n e, parsePluralFormsStrict pf = .ok n e [] []) (h : checkPlurals inp = .ok out) :
    ∀ t ∈ out.tags, ¬ isUnusualName t.name := by
  obtain ⟨n, e, hs⟩ := hparse
  exact registry_never_unusual inp pf out hv ht ⟨n, e, [], []⟩ (parsePluralForms_eq_ok_iff.1 (strict_iff.1 hs).1) h
    (Or.inr ⟨cs, pf, [], [], hcs, hmem, hs⟩)

/-- (Registry declarations total on the window.)  `unusual-[unused-]plural-forms` is emitted iff
    the language is known and either NO declaration of its registry has the declared nplurals (`registryDecls`: the strict
    readings of the registry strings with that nplurals), or EXACTLY ONE has and the declared expression differs from it at
    some `i < 200` that the window reaches (every `j ≤ i` evaluates to a valid form index).  The tag quotes the value and the
    hint.  (With two or more registry declarations of one nplurals nothing is compared; no language of the shipped registry
    is like that: `shipped_registry_clean`.) -/
theorem unusual_tag_iff (inp : Input) (pf : List Char) (out : Output) (hv : headerValues inp = [pf]) (ht : inp.isTemplate = false)
    (d : Decl) (hd : declOf pf = some d) (h : checkPlurals inp = .ok out) (hreg : RegistryClean inp) :
    ((∃ t ∈ out.tags, isUnusualName t.name) ↔
      ∃ cs, inp.correct = some cs ∧ (registryDecls cs d.n = [] ∨
        ∃ le, registryDecls cs d.n = [(d.n, le)] ∧
          ∃ i, i < codomainLimit ∧ (∀ j, j ≤ i → badMsg d.n d.e j = none) ∧ evalAt 32 i d.e ≠ evalAt 32 i le)) ∧
    (∀ t ∈ out.tags, isUnusualName t.name → t = unusualTag (hasPlurals inp) pf (hintOf inp)) := by
  obtain ⟨mid, last, rs, horig, -, -, hwin⟩ := report_spec inp pf out hv ht h
  obtain ⟨m, W⟩ := hwin d hd
  refine ⟨?_, fun t htm hn => ?_⟩
  · rw [W.unusual_iff hd horig, compared_fst_ne_nil]
    -- the registry being total on the window, it passes `i` iff no `j ≤ i` is bad; the rest regroups the quantifiers
    simp only [W.lt_iff (compared_total hreg pf d.n), DiffersAt, compared_snd_eq_some]
    constructor
    · rintro (⟨cs, hcs, hr⟩ | ⟨i, ⟨hi, hgood⟩, le, ⟨cs, hcs, hr⟩, hne⟩)
      · exact ⟨cs, hcs, Or.inl hr⟩
      · exact ⟨cs, hcs, Or.inr ⟨le, hr, i, hi, hgood, hne⟩⟩
    · rintro ⟨cs, hcs, hr | ⟨le, hr, i, hi, hgood, hne⟩⟩
      · exact Or.inl ⟨cs, hcs, hr⟩
      · exact Or.inr ⟨i, ⟨hi, hgood⟩, le, ⟨cs, hcs, hr⟩, hne⟩
  · obtain ⟨d', hd', htag, -⟩ := (horig t htm).of_unusual hn
    cases hd.symm.trans hd'
    exact htag

/-- **The shipped registry** (kernel evaluation over the dump of data/languages as loaded): every one of its declarations
    parses strictly, is total on the window, in range and onto; its indices are valid; and no language has two declarations
    with the same nplurals. -/
theorem shipped_registry_clean :
    (∀ c ∈ Generated.PluralForms.registryStrings, ∃ n e, parsePluralFormsStrict c = .ok n e [] [] ∧ CleanOnWindow n e) ∧
    (∀ en ∈ Generated.PluralForms.registry, ∀ i ∈ en.2, i < Generated.PluralForms.registryStrings.length) ∧
    (∀ en ∈ Generated.PluralForms.registry, ((entryStrings en.2).map npluralsOf).Nodup) := by
  refine ⟨registry_string_clean, ?_, ?_⟩
  · intro en hen i hi
    have := List.all_eq_true.1 registry_indices_valid en hen
    simpa using List.all_eq_true.1 this i hi
  · intro en hen
    simpa using List.all_eq_true.1 registry_nplurals_distinct en hen

/-- **A registry declaration used as the header is silent**: for a language of the shipped registry, a catalog whose single
    Plural-Forms value is one of the language's registry strings and whose translated plural messages have that many forms
    gets no Plural-Forms tag at all. -/
theorem registry_declaration_silent (inp : Input) (pf : List Char) (hpfs : inp.pluralForms = [pf]) (ht : inp.isTemplate = false)
    (en : String × List Nat) (hen : en ∈ Generated.PluralForms.registry) (hcs : inp.correct = some (entryStrings en.2))
    (hmem : pf ∈ entryStrings en.2) (hcount : ∀ j ∈ formCounts inp.msgs, j = npluralsOf pf) :
    ∃ pre, checkPlurals inp = .ok ⟨[], some pre⟩ := by
  obtain ⟨n, e, hs, hclean⟩ := registry_string_clean pf (mem_entryStrings hmem)
  have hn : npluralsOf pf = n := by simp [npluralsOf, hs]
  have hfrom : FromRegistry inp := Or.inr ⟨en, hen, hcs⟩
  obtain ⟨pre, hpre, _⟩ := clean_decl_silent inp pf hpfs ht n e (parsePluralForms_eq_ok_iff.1 (strict_iff.1 hs).1) hclean (by rw [← hn]; exact hcount)
    hfrom.clean.parses (Or.inr ⟨_, pf, [], [], hcs, hmem, hs⟩)
  exact ⟨pre, hpre⟩

/-- The window itself never lets an exception escape. -/
theorem window_nocrash (n : Nat) (e : Expr) (lc : Option (Nat × Expr)) (hp : Bool) (ut : TagCall)
    (is : List Nat) (st st' : WinState) (ex : Exc) : window n e lc hp ut is st ≠ (st', .crashed ex) :=
  CheckPlurals.window_nocrash n e lc hp ut is st st' ex

/-- The gap analysis never raises — also for an expression without a codomain, e.g. `plural=n/0`: `uncov_rngs = []` is
    assigned before `if codomain is not None:`. -/
theorem gap_nocrash (n : Nat) (e : Expr) (completed : Option Preimage) : ∃ rs, gapRanges n e completed = .ok rs :=
  gapRanges_nocrash n e completed

/-- The whole method returns normally — for EVERY list of Plural-Forms values, every message
    list, template or not — whenever the language is unknown or one of the shipped registry: the `except` arms
    (`PluralFormsSyntaxError`, `OverflowError`, `ZeroDivisionError`) catch everything the body can raise.  (The model's two
    other exits — `ValueError` from `int()`, unreachable because lib/__init__.py lifts the digit limit
    (`sys.set_int_max_str_digits(0)`), and a registry string that does not parse — are excluded by
    `PluralParse.parse_never_valueError` and `shipped_registry_clean`.) -/
theorem checkPlurals_nocrash (inp : Input) (hreg : FromRegistry inp) : ∃ out, checkPlurals inp = .ok out := by
  cases h : checkPlurals inp with
  | ok out => exact ⟨out, rfl⟩
  | error ex => exact absurd h (CheckPlurals.checkPlurals_nocrash inp hreg.clean.parses ex)

/-- … and for any registry whatsoever, as long as its strings parse (data integrity of the tool, not of the checked file) -/
theorem checkPlurals_nocrash_of_parses (inp : Input) (hreg : RegistryParses inp) (ex : Exc) : checkPlurals inp ≠ .error ex :=
  CheckPlurals.checkPlurals_nocrash inp hreg ex

section examples

/-- the plain-text syntax: an occurrence at the head of a string -/
example : OccursAt "nplurals=2; plural=n>1; y".toList "2".toList "n>1".toList " y".toList :=
  (matchHere_iff _ _ _ _).1 (by
    repeat rw [String.toList_ofList]
    decide +kernel)
/-- the reference reading: leftmost match, groups, junk -/
example : (declOf "x nplurals=2; plural=n>1; y".toList).map (fun d => (d.n, d.ljunk, d.rjunk)) = some (2, "x ".toList, " y".toList) := by
  repeat rw [String.toList_ofList]
  decide +kernel
/-- leftmost: the first occurrence is broken (`(` does not parse) and the second is fine — no declaration -/
example : (declOf "nplurals=2; plural=(; nplurals=1; plural=0;".toList).isNone = true := by
  repeat rw [String.toList_ofList]
  decide +kernel
/-- not a positive integer -/
example : (declOf "nplurals=0; plural=0;".toList).isNone = true := by
  repeat rw [String.toList_ofList]
  decide +kernel
/-- greedy `[^;]+` then optional `;`: the rest after the match starts after the first `;` -/
example : (declOf "nplurals=1; plural=0;;".toList).map (·.rjunk) = some ";".toList := by
  repeat rw [String.toList_ofList]
  decide +kernel

/-- syntax error: exactly that tag -/
example : names (checkPlurals ⟨["nplurals=2; plural=n+;".toList], none, [], [], false⟩) = ["syntax-error-in-unused-plural-forms"] := by
  repeat rw [String.toList_ofList]
  decide +kernel
/-- junk on both sides is quoted -/
example : extrasOf (checkPlurals ⟨["x nplurals=1; plural=0; y".toList], none, [], [], false⟩) =
    [[.str "x ".toList], [.str " y".toList]] := by
  repeat rw [String.toList_ofList]
  decide +kernel
/-- nplurals 2 against messages with 3 forms -/
example : names (checkPlurals ⟨[en], none, [], [plMsg 3], false⟩) = ["incorrect-number-of-plural-forms"] := by
  unfold en
  repeat rw [String.toList_ofList]
  decide +kernel
example : ConsistentCount ⟨[en], none, [], [plMsg 3, plMsg 3], false⟩ 3 := ⟨by decide, by decide⟩
/-- two translated plural messages with different numbers of forms -/
example : names (checkPlurals ⟨[en], none, [], [plMsg 2, plMsg 3], false⟩) = ["inconsistent-number-of-plural-forms"] := by
  unfold en
  repeat rw [String.toList_ofList]
  decide +kernel
/-- no field, plural messages translated -/
example : names (checkPlurals ⟨[], none, [], [plMsg 2], false⟩) = ["no-required-plural-forms-header-field"] := by decide +kernel
/-- the registry's declaration with agreeing messages: silent (hypotheses of `clean_decl_silent` hold) -/
example : names (checkPlurals ⟨[en], some [en], [en], [plMsg 2], false⟩) = [] := by
  unfold en
  repeat rw [String.toList_ofList]
  decide +kernel
example : CleanOnWindow 2 (.compare .name .noteq (.num 1)) := cleanOnWindowB_sound (by decide +kernel)
/-- the registry's declarations of a language with a given nplurals -/
example : (registryDecls [en] 2).length = 1 ∧ (registryDecls [en] 3).length = 0 := by
  unfold en
  repeat rw [String.toList_ofList]
  decide +kernel
/-- a clean but different declaration IS unusual (so `registry_never_unusual` is not vacuous) -/
example : names (checkPlurals ⟨["nplurals=2; plural=n>1;".toList], some [en], [en], [plMsg 2], false⟩) = ["unusual-plural-forms"] := by
  unfold en
  repeat rw [String.toList_ofList]
  decide +kernel
/-- the least bad index and its true outcome -/
example : extrasOf (checkPlurals ⟨["nplurals=2; plural=n%3;".toList], none, [], [plMsg 2], false⟩) = [[.safe "f(2) = 2 >= 2".toList]] := by
  repeat rw [String.toList_ofList]
  decide +kernel
example : badMsg 2 (.binop .name .mod (.num 3)) 2 = some "f(2) = 2 >= 2".toList := by
  repeat rw [String.toList_ofList]
  decide +kernel
/-- total and in range on the window, yet index 1 is never produced: the gap analysis says so -/
example : extrasOf (checkPlurals ⟨["nplurals=3; plural=n%2*2;".toList], none, [], [], false⟩) = [[.safe "f(x) != 1".toList]] := by
  repeat rw [String.toList_ofList]
  decide +kernel
/-- `plural=n/0`: division by zero at 0, no codomain, nothing else claimed, no crash -/
example : extrasOf (checkPlurals ⟨["nplurals=3; plural=n/0;".toList], none, [], [], false⟩) = [[.safe "f(0): division by zero".toList]] := by
  repeat rw [String.toList_ofList]
  decide +kernel
example : gapRanges 3 (.binop .name .div (.num 0)) none = .ok [] := by rfl
/-- `format_range` abbreviates from six members on -/
example : formatRange 0 10 = "0, 1, 2, ..., 9".toList := by
  repeat rw [String.toList_ofList]
  decide +kernel
example : formatRange 2 7 = "2, 3, 4, 5, 6".toList := by
  repeat rw [String.toList_ofList]
  decide +kernel
/-- the shipped registry: 78 languages, 10 distinct declarations -/
example : Generated.PluralForms.registry.length = 78 ∧ Generated.PluralForms.registryStrings.length = 10 := by decide
/-- `nplurals=2; plural=n>1` on the window: completed, nothing to report -/
example : (window 2 (.compare .name .gt (.num 1)) none true ⟨"u", []⟩ (List.range codomainLimit) ⟨[], [], false⟩).2 = .completed := by rfl
end examples

end I18n.Props.C07
