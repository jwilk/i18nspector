import I18n.Lemmas.PyKitLemmas
import I18n.Lemmas.TagsFmtGenerated
import I18n.Props.C02
/-!
# C02 — the tie: the output path REGENERATED from `lib/tags.py` is the model the theorems are about

`I18n.Generated.TagsFmt` is rewritten from the repository's current `lib/tags.py` (`_escape`, `safe_format`, `Tag.get_priority`,
`Tag.format`) by `tools/translate/tagsfmt2lean.py` on every run.  The theorems below prove, for ALL inputs, that each regenerated
definition computes the hand-written model function of `Model/Tags.lean` (`escape`, `safeFormat`, `priority`, `format`), so every
theorem of `Props/C02.lean` holds of the regenerated text; the headline ones are restated about the regenerated definitions.
`repr(str)`, `repr(bytes)`, `str(int)`, `str.format` and `_is_safe` are the model's primitives on both sides (tied to CPython by
the tags-escape / tags-safe-format streams and `is_safe_pin`).  A change of the source changes the generated definitions and these
proofs stop compiling, or the translator reports the construct as outside its subset — no test input is involved.
-/
namespace I18n.Props.C02Tie
open I18n I18n.Tags I18n.Spec I18n.Spec.Tags I18n.Generated

/-- `_escape(s)` as regenerated = `Tags.escape` (and it never raises) -/
theorem generated_escape_eq_model (db : UnicodeDB) (s : Extra) : TagsFmt._escape db s = .ok (escape db s) :=
  Gen.escape_eq db s

/-- `safe_format(template, *args, **kwargs)` as regenerated = `Tags.safeFormat` -/
theorem generated_safe_format_eq_model (db : UnicodeDB) (template : Str) (args : List Extra) (kwargs : List (Str × Extra)) :
    TagsFmt.safe_format db template args kwargs = safeFormat db template args kwargs := by
  simp only [TagsFmt.safe_format, safeFormat]
  rw [PyKit.mapM_ok _ (escape db) (Gen.escape_eq db)]
  simp only []
  rw [PyKit.mapM_ok _ (fun kv : Str × Extra => (kv.1, escape db kv.2)) ?h]
  case h => intro kv; obtain ⟨k, v⟩ := kv; simp [Gen.escape_eq]

/-- `Tag.get_priority()` as regenerated = the letter of `Tags.priority`, as a one-character str -/
theorem generated_get_priority_eq_model (db : UnicodeDB) (t : Tag) :
    TagsFmt.Tag.get_priority db t = .ok [(priority t.severity t.certainty).code] :=
  Gen.get_priority_eq db t

/-- `Tag.format(target, *extra, color=color)` as regenerated = `Tags.format`; `colors` = what `get_colors()` answers -/
theorem generated_format_eq_model (db : UnicodeDB) (colors : Str × Str) (t : Tag) (target : Str) (extra : List Extra) (color : Bool) :
    TagsFmt.Tag.format db colors t target extra color = .ok (format db t target extra (if color then some colors else none)) := by
  simp only [TagsFmt.Tag.format, format, Gen.get_priority_eq]
  rw [PyKit.mapM_ok _ (escape db) (Gen.escape_eq db)]
  cases color <;> cases extra.isEmpty <;>
    simp [Gen.lit_empty, Tag.priority, List.append_assoc]

/-- the same with the model's optional colour pair -/
theorem generated_format_eq_model_colour (db : UnicodeDB) (t : Tag) (target : Str) (extra : List Extra) (colour : Option (Str × Str)) :
    TagsFmt.Tag.format db (colour.getD ([], [])) t target extra colour.isSome = .ok (format db t target extra colour) := by
  rw [generated_format_eq_model]; cases colour <;> rfl

/-- **escape_clean**, of the regenerated `_escape`: no newline, ESC, C0/C1, DEL, format or separator character, or surrogate in the
    escape of any argument that is not a safestr -/
theorem escape_clean_generated {db : UnicodeDB} (h : Sound db) (x : Extra) (hx : x.escaped = true) :
    ∃ out, TagsFmt._escape db x = .ok out ∧ Clean db out :=
  ⟨_, generated_escape_eq_model db x, C02.escape_clean h x hx⟩

/-- **escape_token**, of the regenerated `_escape`: exactly one token -/
theorem escape_token_generated {db : UnicodeDB} (h : Sound db) (x : Extra) (hx : x.escaped = true) :
    ∃ out, TagsFmt._escape db x = .ok out ∧ Token db out :=
  ⟨_, generated_escape_eq_model db x, C02.escape_token h x hx⟩

/-- **format_grammar**, of the regenerated `Tag.format` without colour: `<letter>: <path>: <tag>[ <extra>…]` -/
theorem format_grammar_generated (db : UnicodeDB) (colors : Str × Str) (t : Tag) (p : Str) (xs : List Extra) :
    TagsFmt.Tag.format db colors t p xs false = .ok (lineOf t.priority.code p t.name (xs.map (escape db))) ∧
    (t.priority.toChar = 'E' ∨ t.priority.toChar = 'W' ∨ t.priority.toChar = 'I' ∨ t.priority.toChar = 'P') := by
  obtain ⟨h1, h2⟩ := C02.format_grammar db t p xs
  exact ⟨by rw [generated_format_eq_model]; simp only [Bool.false_eq_true, if_false]; rw [h1], h2⟩

/-- **colour_strip**, of the regenerated `Tag.format` -/
theorem colour_strip_generated (db : UnicodeDB) (t : Tag) (p : Str) (xs : List Extra) (on off : Str) :
    ∃ pre post : Str,
      TagsFmt.Tag.format db (on, off) t p xs true = .ok (pre ++ on ++ t.name ++ off ++ post) ∧
      TagsFmt.Tag.format db (on, off) t p xs false = .ok (pre ++ t.name ++ post) := by
  obtain ⟨pre, post, h1, h2⟩ := C02.colour_strip db t p xs on off
  exact ⟨pre, post, by rw [generated_format_eq_model]; simp only [if_true]; rw [h1],
    by rw [generated_format_eq_model]; simp only [Bool.false_eq_true, if_false]; rw [h2]⟩

/-- **line_clean**, of the regenerated `Tag.format` -/
theorem line_clean_generated {db : UnicodeDB} (h : Sound db) (colors : Str × Str) (t : Tag) (p : Str) (xs : List Extra)
    (hp : Clean db p) (hn : Clean db t.name) (hsafe : ∀ s, Extra.safe s ∈ xs → Clean db s) :
    ∃ out, TagsFmt.Tag.format db colors t p xs false = .ok out ∧ Clean db out :=
  ⟨_, by rw [generated_format_eq_model]; simp only [Bool.false_eq_true, if_false], C02.line_clean h t p xs hp hn hsafe⟩

/-- **safe_format_clean**, of the regenerated `safe_format` -/
theorem safe_format_clean_generated {db : UnicodeDB} (h : Sound db) (template : Str) (args : List Extra)
    (kwargs : List (Str × Extra)) (out : Str) (hout : TagsFmt.safe_format db template args kwargs = .ok out)
    (ht : Clean db template)
    (hargs : ∀ x ∈ args, x.escaped = false → Clean db (escape db x))
    (hkw : ∀ kv ∈ kwargs, kv.2.escaped = false → Clean db (escape db kv.2)) : Clean db out := by
  rw [generated_safe_format_eq_model] at hout
  exact C02.safe_format_clean h template args kwargs out hout ht hargs hkw

/-- **priority_monotone**, of the regenerated `Tag.get_priority` -/
theorem priority_monotone_generated (db : UnicodeDB) (t t' : Tag) (hs : t.severity.rank ≤ t'.severity.rank)
    (hc : t.certainty.rank ≤ t'.certainty.rank) :
    ∃ l l' : Letter, TagsFmt.Tag.get_priority db t = .ok [l.code] ∧ TagsFmt.Tag.get_priority db t' = .ok [l'.code] ∧ l.rank ≤ l'.rank :=
  ⟨_, _, generated_get_priority_eq_model db t, generated_get_priority_eq_model db t', C02.priority_monotone _ _ _ _ hs hc⟩

/-! Non-vacuity: the regenerated definitions are executable -/

example : TagsFmt.Tag.get_priority ⟨fun _ => true, fun _ => false⟩ ⟨lit "x", .important, .wildGuess⟩ = .ok (lit "W") := by rfl
example : TagsFmt._escape ⟨fun _ => true, fun _ => false⟩ (.str []) = .ok (lit "(empty string)") := by rfl

end I18n.Props.C02Tie
