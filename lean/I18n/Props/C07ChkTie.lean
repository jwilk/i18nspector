import I18n.Lemmas.ChkPluralsGenerated
/-!
# C07 — the tie (second part): `misc.format_range` and the analysing part of `Checker.check_plurals`, REGENERATED, are the model's functions

`I18n.Generated.ChkPlurals` is rewritten from the repository's current `lib/misc.py` (`format_range`) and `lib/check/__init__.py`
(`Checker.check_plurals`, everything after the header value has been parsed) by `tools/translate/chkplurals2lean.py` on every run.
The method is split at its three natural seams, each a regenerated definition of its own, and each is proved equal — for ALL inputs —
to the function of `Model/CheckPlurals.lean` the theorems of `Props/C07.lean` are about:

  `check_plurals_registry`  (the comparison with the language registry)          = `localCorrect` + the `unusual-…` decision of `analyse`
  `check_plurals_window`    (the 200-value loop, its `else:`, the two handlers)   = `window`
  `check_plurals_gaps`      (codomain / period gap analysis, the final loop)      = `gapRanges` + the gap tags of `analyse`
  `format_range`            (called by the final loop)                            = `formatRange`

The expression objects are the regenerated evaluators of lib/intexpr.py at 32 bits and the registry strings are read by the regenerated
strict `parse_plural_forms` (`Model/ChkPluralsGen.lean`).  The glue between the seams (`check_plurals_tail`: junk tags, the number-of-forms
tag, `unusual_plural_forms = False`, `codomain_limit = 200`, passing the results on) is regenerated too and `window_then_gaps` composes the
last two seams into the model's `afterRegistry`; `generated_check_plurals_tail_eq_model` proves the whole `check_plurals_tail` equal to
`analyse`.  The part of the method before the parse is tied by the `check-plurals` stream.  The proofs are in
`Lemmas/ChkPluralsGenerated.lean`; the theorems here are its equations under the names the documents use.
-/
namespace I18n.Props.C07ChkTie
open I18n I18n.Py I18n.Plural I18n.CheckPlurals I18n.CheckPlurals.Py I18n.CheckPlurals.GenChk I18n.Generated

/-- `misc.format_range(range(a, b), max=5)` as regenerated = `formatRange a b` (non-empty range) -/
theorem generated_format_range_eq_model (a b : Nat) (h : a < b) :
    ChkPlurals.format_range (PyKit.rangeInt a b) 5 = .ok (formatRange a b) :=
  format_range_eq a b h

/-- the registry comparison as regenerated = the model's `localCorrect` and its decision (which declaration is "locally correct", the
    `unusual-[unused-]plural-forms` tag when there is none) -/
theorem generated_registry_eq_model (out : List TagCall) (pf : List Char) (hint : Extra) (hp : Bool) (correct : Option (List (List Char))) (n : Nat) :
    ChkPlurals.check_plurals_registry pluralOps out pf hint hp correct n =
      match (match correct with | none => .ok none | some cs => (localCorrect n cs).map some : Except Exc (Option (List (Nat × Expr)))) with
      | .error ex => .error ex
      | .ok lcs => .ok (match lcs with
          | none => (none, none, out)
          | some [] => (none, none, out ++ [unusualTagOf hp pf hint])
          | some [x] => (some x.2, some x.1, out)
          | some _ => (none, none, out)) :=
  registry_eq out pf hint hp correct n

/-- the window loop with its `else:` clause and the OverflowError / ZeroDivisionError handlers as regenerated = the model's `window`:
    the tags, and the value of `ctx.plural_preimage` (set exactly when the loop ran to completion) -/
theorem generated_window_eq_model (out : List TagCall) (c0 : Option (List (Int × List Nat))) (pf : List Char) (hint : Extra) (hp : Bool) (n : Nat)
    (e : Expr) (lc : Option (Nat × Expr)) :
    ChkPlurals.check_plurals_window pluralOps out c0 pf hint hp n e (lc.map (·.1)) (lc.map (·.2)) false 200 =
      match window n e lc hp (unusualTagOf hp pf hint) (List.range 200) ⟨out, [], false⟩ with
      | (_, .crashed ex) => .error ex
      | (st, .completed) => .ok (some st.pre, st.tags)
      | (st, .stopped) => .ok (c0, st.tags) :=
  window_eq 200 out c0 pf hint hp n e lc

/-- the gap analysis and the final loop as regenerated = the model's `gapRanges` and gap tags (keys of a preimage are values of the
    expression, hence non-negative) -/
theorem generated_gaps_eq_model (out : List TagCall) (c : Option (List (Int × List Nat))) (hp : Bool) (n : Nat) (e : Expr)
    (hc : ∀ p, c = some p → ∀ k ∈ keys p, 0 ≤ k) :
    ChkPlurals.check_plurals_gaps pluralOps out c hp n e 200 =
      match gapRanges n e c with
      | .error ex => .error ex
      | .ok rs => .ok (out ++ rs.map (gapTag hp), if rs.isEmpty then c else none) :=
  gaps_eq out c hp n e hc

/-- the window, then the gap analysis, as regenerated = the last part of the model's `analyse` (`afterRegistry`) -/
theorem generated_window_then_gaps_eq_model (out : List TagCall) (pf : List Char) (hint : Extra) (hp : Bool) (n : Nat) (e : Expr) (lc : Option (Nat × Expr))
    (c : Option (List (Int × List Nat))) (out' : List TagCall)
    (hr : ChkPlurals.check_plurals_window pluralOps out none pf hint hp n e (lc.map (·.1)) (lc.map (·.2)) false 200 = .ok (c, out')) :
    ChkPlurals.check_plurals_gaps pluralOps out' c hp n e 200 = (afterRegistry pf hp hint n e lc out).map (fun o => (o.tags, o.preimage)) :=
  (window_then_gaps_ok out pf hint hp n e lc c out' hr).symm

/-- an exception leaves the regenerated window exactly when it leaves the model -/
theorem generated_window_error_eq_model (out : List TagCall) (pf : List Char) (hint : Extra) (hp : Bool) (n : Nat) (e : Expr) (lc : Option (Nat × Expr)) (ex : Exc)
    (hr : ChkPlurals.check_plurals_window pluralOps out none pf hint hp n e (lc.map (·.1)) (lc.map (·.2)) false 200 = .error ex) :
    (afterRegistry pf hp hint n e lc out).map (fun o => (o.tags, o.preimage)) = .error ex :=
  window_then_gaps_error out pf hint hp n e lc ex hr

/-- **the glue**: everything `check_plurals` does after the header value has parsed, as regenerated (`check_plurals_tail`: junk tags, the
    number-of-forms tag, the three seams, `unusual_plural_forms = False`, `codomain_limit = 200`), is the model's `analyse` — tags and
    `ctx.plural_preimage`.  In particular the regenerated `codomain_limit` is the model's `codomainLimit`: another value breaks this proof. -/
theorem generated_check_plurals_tail_eq_model (inp : Input) (pf : List Char) (hp : Bool) (expected : List (Nat × List Char)) (hint : Extra)
    (tags0 : List TagCall) (n : Nat) (e : Expr) (lj rj : List Char) :
    ChkPlurals.check_plurals_tail pluralOps tags0 none pf hint hp expected inp.correct n e lj rj =
      (analyse inp pf hp expected hint tags0 n e lj rj).map (fun o => (o.tags, o.preimage)) :=
  tail_eq inp pf hp expected hint tags0 n e lj rj


/-- the regenerated `format_range` does not raise on a non-empty range, which is how the final loop calls it; its value is the model's
    rendering (`generated_format_range_eq_model`), of which `C07.format_range_sound` says what it lists -/
theorem format_range_generated_never_fails (a b : Nat) (h : a < b) : ∃ s, ChkPlurals.format_range (PyKit.rangeInt a b) 5 = .ok s :=
  ⟨_, generated_format_range_eq_model a b h⟩


example : ChkPlurals.format_range (PyKit.rangeInt ((2 : Nat) : Int) ((9 : Nat) : Int)) 5 = .ok (formatRange 2 9) :=
  generated_format_range_eq_model 2 9 (by decide)

end I18n.Props.C07ChkTie
