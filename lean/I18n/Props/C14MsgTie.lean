import I18n.Lemmas.FmtMsgGenerated
import I18n.Props.C14Tie
/-!
# C14 — the tie, second part: `check_message` REGENERATED from the source is the model's `checkMessage`

`I18n.Generated.FmtMsg.check_message` is rewritten from the repository's current `lib/check/msgformat/__init__.py`
(`Checker.check_message`: which strings are compared with which, the plural-form / range-flag pairing, the preimage filter, the
tolerance for an omitted integer argument) by `tools/translate/fmtmsg2lean.py` on every run.  `generated_check_message_eq_model`
proves it equal to `FmtCheck.checkMessage` for EVERY back end, context, message and flags; with the first part (`Props/C14Tie.lean`:
the four `check_args` and `get_last_integer_conversion`) the whole of `_check_message_formats` over regenerated code is the model
(`generated_msg_check_formats_eq_model`).  The headline message-level theorems are restated about the regenerated definitions.
`check_string` / `check_msgids` of the individual checkers and the parsers remain model primitives (`FmtCheck.checkString`, `Backend`).
-/
namespace I18n.Props.C14MsgTie
open I18n I18n.FmtCheck I18n.FmtSig I18n.Spec.FmtCompare I18n.Spec.Printf I18n.Generated

/-- **The tie.**  `Checker.check_message(ctx, message, flags)` as regenerated, for the checker given by the back end `b`,
    emits exactly the tag calls of `FmtCheck.checkMessage` (and raises exactly when it does) -/
theorem generated_check_message_eq_model {σ F : Type} (b : Backend σ F) (ctx : Ctx) (msg : Msg σ) (fl : Flags) :
    FmtMsg.check_message b [] ctx msg fl = checkMessage b ctx msg fl := by
  rw [GenMsg.check_message_eq, Gen.appendTags_nil]

/-- with output already emitted -/
theorem generated_check_message_append {σ F : Type} (b : Backend σ F) (out : List TagCall) (ctx : Ctx) (msg : Msg σ) (fl : Flags) :
    FmtMsg.check_message b out ctx msg fl = Gen.appendTags out (checkMessage b ctx msg fl) :=
  GenMsg.check_message_eq b out ctx msg fl

/-- `Checker._check_message_formats` over the regenerated `check_message` AND the regenerated `check_args` is the model -/
theorem generated_msg_check_formats_eq_model (ctx : Ctx) (fl : Flags) (formats : List (List Char × KMsg)) :
    GenMsg.checkFormats ctx fl formats = FmtCheck.checkFormats ctx fl formats := by
  obtain ⟨h1, h2, h3, h4, h5, h6⟩ := C14Tie.generated_backends_eq_model
  have hc : ∀ m, GenMsg.check ctx fl m = KMsg.check ctx fl m := by
    intro m; cases m <;> simp only [GenMsg.check, KMsg.check, generated_check_message_eq_model, h1, h2, h3, h4, h5, h6]
  have hr : ∀ l, GenMsg.runAll ctx fl l = FmtCheck.runAll ctx fl l := by
    intro l
    induction l with
    | nil => rfl
    | cons p l ih =>
      obtain ⟨name, m⟩ := p
      simp only [GenMsg.runAll, FmtCheck.runAll, hc, ih]
      split
      · cases KMsg.check ctx fl m with
        | error e => rfl
        | ok t => cases FmtCheck.runAll ctx fl l <;> rfl
      · rfl
  simp only [GenMsg.checkFormats, FmtCheck.checkFormats, hr]

/-- **plain_message**, of the regenerated `check_message`: a non-plural message with a valid `msgstr` gets, besides `check_msgids` and the
    warnings about `msgstr`, exactly the tags of `check_args(msgid, msgstr)` with no tolerance -/
theorem plain_message_generated {σ F : Type} (b : Backend σ F) (ctx : Ctx) (msg : Msg σ) (fl : Flags) (hdom : InDomain ctx fl)
    (hpl : msg.msgidPlural = none) (hforms : msg.msgstrPlural = []) (f0 f : F) (h0 : b.parse msg.msgid = .ok f0)
    (ht : b.truthy msg.msgstr = true) (h : b.parse msg.msgstr = .ok f) (tags : List TagCall)
    (hargs : b.checkArgs msg.pfx "msgid".toList f0 "msgstr".toList f false = .ok tags) :
    FmtMsg.check_message b [] ctx msg fl = .ok (b.checkMsgids msg.repr (some f0) ++
      (b.okTags false false msg.pfx msg.repr f ++ tags)) := by
  rw [generated_check_message_eq_model]
  exact C14.plain_message b ctx msg fl hdom hpl hforms f0 f h0 ht h tags hargs

/-- **invalid_msgstr_error**, of the regenerated `check_message` -/
theorem invalid_msgstr_error_generated {σ F : Type} (b : Backend σ F) (ctx : Ctx) (msg : Msg σ) (fl : Flags) (hdom : InDomain ctx fl)
    (hpl : msg.msgidPlural = none) (hforms : msg.msgstrPlural = []) (f0 : F) (h0 : b.parse msg.msgid = .ok f0)
    (ht : b.truthy msg.msgstr = true) (h : b.parse msg.msgstr = .own) :
    FmtMsg.check_message b [] ctx msg fl = .ok (b.checkMsgids msg.repr (some f0) ++ [⟨b.errTag, [msg.pfx]⟩]) := by
  rw [generated_check_message_eq_model]
  exact C14.invalid_msgstr_error b ctx msg fl hdom hpl hforms f0 h0 ht h

/-- **message_tags**, of the regenerated `check_message`: what a message gets, generically in the kind (which plural forms are compared
    with which source and with what tolerance is `allPlans`, characterised by `plural_form_plan` / `plural_form_is_compared`) -/
theorem message_tags_generated {σ F : Type} (b : Backend σ F) (ctx : Ctx) (msg : Msg σ) (fl : Flags) (hdom : InDomain ctx fl)
    (f0 : F) (h0 : b.parse msg.msgid = .ok f0) (f1 : Option F)
    (h1 : match msg.msgidPlural with | none => f1 = none | some sp => ∃ g, b.parse sp = .ok g ∧ f1 = some g)
    (hs : NoCrashOn b msg.msgstr) (hforms : ∀ p ∈ msg.msgstrPlural, NoCrashOn b p.2)
    (hargs : ∀ d ∈ allPlans b ctx msg fl (some f0) f1, PlanOk b msg.pfx d) :
    FmtMsg.check_message b [] ctx msg fl = .ok (b.checkMsgids msg.repr (some f0) ++
      ((if b.truthy msg.msgstr then stringTags b ctx msg msg.msgstr else []) ++ (pluralPart b ctx msg fl (some f0) f1).1 ++
       (allPlans b ctx msg fl (some f0) f1).flatMap (planTags b msg.pfx))) := by
  rw [generated_check_message_eq_model]
  exact C14.message_tags b ctx msg fl hdom f0 h0 f1 h1 hs hforms hargs

/-- `check_message` of the C and Python-% checkers, regenerated and over the regenerated `check_args`, never raises -/
theorem check_message_nocrash_generated (ctx : Ctx) (msg : Msg (List Char)) (fl : Flags) :
    (∃ t, FmtMsg.check_message Gen.cBackend [] ctx msg fl = .ok t) ∧ (∃ t, FmtMsg.check_message Gen.pyBackend [] ctx msg fl = .ok t) := by
  simp only [generated_check_message_eq_model]
  exact C14Tie.check_message_nocrash_generated ctx msg fl

end I18n.Props.C14MsgTie
