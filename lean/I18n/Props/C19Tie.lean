import I18n.Lemmas.LingGenerated
import I18n.Lemmas.ChkLangGenerated
import I18n.Props.C19
import I18n.Lemmas.ExceptDec
/-!
# C19 — the tie by translation: `lib/ling.py` REGENERATED from the source is the model the theorems of C19 are about

`I18n.Generated.Ling` is rewritten from the repository's current `lib/ling.py` (class `Language`, `parse_language`, the two code look-ups)
by `tools/translate/linglang2lean.py` on every run.  The theorems below prove every regenerated definition equal, for ALL inputs, to the
hand-written model (`Locale.parseLanguageE`, `fixCodes`, `removeEncoding`, `removeNonlinguisticModifier`, `removePrincipalTerritory`,
`isAlmostEqual`, `Language.str`, `lookupLanguage`, `lookupTerritory`) and restate the headline theorems of clauses 1 and 2 of C19 about the
regenerated definitions.  Shared by both sides (trusted, see `DESIGN-notes/locale.md`): the scanner standing for `_language_regexp.match`
(`Locale.Py.languageMatch`, tied to the live regex tree by `C19.regex_pin` / `parse_iff_grammar`), `str.upper` on ASCII, the dumped tables.
A method that assigns attributes returns `(result, object afterwards)`; `None`-or-`True` results are `Option Bool` (`Py.noneOrTrue`).
-/
namespace I18n.Props.C19Tie
open I18n I18n.Locale I18n.Locale.Py I18n.Spec.LocaleRe I18n.Spec.Locale I18n.Generated

/-- `parse_language(s)` as regenerated = `parseLanguageE` (result or `LanguageSyntaxError`) -/
theorem generated_parse_language_eq_model (s : List Char) : Ling.parse_language s = parseLanguageE s :=
  Gen.parse_language_eq s

/-- `Language(language_code, territory_code, encoding, modifier)` as regenerated: the four attributes, the encoding upper-cased -/
theorem generated_init_eq_model (a : List Char) (b c d : Option (List Char)) :
    Ling.Language.__init__ a b c d = .ok ⟨a, b, c.map upper, d⟩ :=
  Gen.init_eq a b c d

/-- `Language.fix_codes()` as regenerated = `fixCodes` (the object afterwards, `fixed`, or the exception) -/
theorem generated_fix_codes_eq_model (l : Language) :
    Ling.Language.fix_codes l = (fixCodes l).map (fun r => (noneOrTrue r.2, r.1)) :=
  Gen.fix_codes_eq l

/-- `Language.remove_encoding()` as regenerated = `removeEncoding` -/
theorem generated_remove_encoding_eq_model (l : Language) :
    Ling.Language.remove_encoding l = .ok (noneOrTrue (removeEncoding l).2, (removeEncoding l).1) :=
  Gen.remove_encoding_eq l

/-- `Language.remove_nonlinguistic_modifier()` as regenerated = `removeNonlinguisticModifier` -/
theorem generated_remove_nonlinguistic_modifier_eq_model (l : Language) :
    Ling.Language.remove_nonlinguistic_modifier l =
      .ok (noneOrTrue (removeNonlinguisticModifier l).2, (removeNonlinguisticModifier l).1) :=
  Gen.remove_nonlinguistic_modifier_eq l

/-- `Language.remove_principal_territory_code()` as regenerated = `removePrincipalTerritory` (`True` iff it changed the object) -/
theorem generated_remove_principal_territory_code_eq_model (l : Language) :
    Ling.Language.remove_principal_territory_code l =
      .ok (noneOrTrue (decide (removePrincipalTerritory l ≠ l)), removePrincipalTerritory l) :=
  Gen.remove_principal_eq l

/-- `a.is_almost_equal(b)` as regenerated = `isAlmostEqual a b` for objects the code constructs (every `Language` comes out of
    `__init__`, which upper-cases the encoding: `EncUpper`, preserved by every method — see below) -/
theorem generated_is_almost_equal_eq_model (a b : Language) (ha : EncUpper a) (hb : EncUpper b) :
    Ling.Language.is_almost_equal a b = .ok (isAlmostEqual a b) := by
  rw [Gen.is_almost_equal_eq_general]
  unfold EncUpper at ha hb
  rw [ha, hb]

/-- … and for arbitrary records: both operands go through `clone()` = the constructor, which upper-cases the encoding once more (the
    hand-written model left `clone()` out; on constructed objects it is the identity: `generated_clone_id`) -/
theorem generated_is_almost_equal_eq_model_general (a b : Language) :
    Ling.Language.is_almost_equal a b =
      .ok (isAlmostEqual { a with enc := a.enc.map upper } { b with enc := b.enc.map upper }) :=
  Gen.is_almost_equal_eq_general a b

theorem generated_clone_id (l : Language) (h : EncUpper l) : Ling.Language.clone l = .ok l := by
  rw [Gen.clone_eq]; unfold EncUpper at h; rw [h]

/-- `str(language)` as regenerated = `Language.str` -/
theorem generated_str_eq_model (l : Language) : Ling.Language.__str__ l = .ok l.str := by
  obtain ⟨ll, cc, enc, mod⟩ := l
  cases cc <;> cases enc <;> cases mod <;> simp [Ling.Language.__str__, Language.str, Locale.optPart]

/-- `a == b`, `a != b` as regenerated = structural (in)equality of the four attributes -/
theorem generated_eq_eq_model (a b : Language) : Ling.Language.__eq__ a b = .ok (a == b) ∧ Ling.Language.__ne__ a b = .ok (a != b) :=
  ⟨Gen.eq_eq a b, Gen.ne_eq a b⟩

/-- `_lookup_language_code`, `lookup_territory_code` as regenerated = the model's look-ups in the dumped tables -/
theorem generated_lookups_eq_model (k : List Char) :
    Ling._lookup_language_code k = .ok (lookupLanguage k) ∧ Ling.lookup_territory_code k = .ok (lookupTerritory k) :=
  ⟨Gen.lookup_language_eq k, Gen.lookup_territory_eq k⟩

/-- the invariant `EncUpper` holds of everything the constructor, the parser and the mutating methods produce -/
theorem enc_upper_invariant (s : List Char) (l l' : Language) (f : Bool) :
    (parseLanguageE s = .ok l → EncUpper l) ∧ (EncUpper l → fixCodes l = .ok (l', f) → EncUpper l')
      ∧ (EncUpper l → EncUpper (removeEncoding l).1) ∧ (EncUpper l → EncUpper (removeNonlinguisticModifier l).1)
      ∧ (EncUpper l → EncUpper (removePrincipalTerritory l)) := by
  exact ⟨Gen.parse_language_encUpper s l, Gen.fix_codes_encUpper l l' f, Gen.remove_encoding_encUpper l,
    Gen.remove_nonlinguistic_modifier_encUpper l, Gen.remove_principal_encUpper l⟩

/-! ## Clause 1 of C19, of the regenerated `parse_language` / `__str__` -/

/-- `parse_language(s)` (regenerated) succeeds iff `_language_regexp.match(s)` does iff `s` is `ll[_CC][.encoding][@modifier]`; everything
    else raises `LanguageSyntaxError` and nothing else -/
theorem parse_iff_locale_name_generated (s : List Char) :
    ((∃ l, Ling.parse_language s = .ok l) ↔ IsLocaleName s)
      ∧ ((∃ l, Ling.parse_language s = .ok l) ↔ Matches Generated.Locale.languageRegexp s)
      ∧ (∀ e, Ling.parse_language s = .error e → e = .syntax) := by
  rw [generated_parse_language_eq_model]
  have hk : (∃ l, parseLanguageE s = .ok l) ↔ (parseLanguage s).isSome := by
    simp only [parseLanguageE_ok, Option.isSome_iff_exists]
  refine ⟨hk.trans (C19.parse_iff_locale_name s), hk.trans (C19.parse_iff_grammar s), ?_⟩
  intro e h; exact (C19.leaf_error_kinds s default e).1 h

theorem generated_parse_language_ok_iff (s : List Char) (l : Language) : Ling.parse_language s = .ok l ↔ parseLanguage s = some l := by
  rw [generated_parse_language_eq_model]
  exact parseLanguageE_ok

/-- printing a parsed name gives the name back up to the case of the encoding — of the regenerated `parse_language` and `__str__` -/
theorem print_parse_generated (s t : List Char) (l : Language) (h : Ling.parse_language s = .ok l) (ht : Ling.Language.__str__ l = .ok t) :
    ∃ p : Parts, p.WF ∧ s = p.render ∧ t = { p with enc := p.enc.map (List.map asciiUpper) }.render := by
  rw [generated_str_eq_model] at ht
  cases ht
  exact C19.print_parse s l ((generated_parse_language_ok_iff s l).1 h)

/-- … exactly the name when no encoding is written -/
theorem print_parse_exact_generated (s : List Char) (l : Language) (h : Ling.parse_language s = .ok l) (he : l.enc = none) :
    Ling.Language.__str__ l = .ok s := by
  rw [generated_str_eq_model, C19.print_parse_exact s l ((generated_parse_language_ok_iff s l).1 h) he]

/-- parse ∘ str ∘ parse = parse, of the regenerated definitions -/
theorem parse_str_parse_generated (s : List Char) (l : Language) (h : Ling.parse_language s = .ok l) :
    ∃ t, Ling.Language.__str__ l = .ok t ∧ Ling.parse_language t = .ok l := by
  exact ⟨l.str, generated_str_eq_model l,
    (generated_parse_language_ok_iff _ l).2 (C19.parse_str_parse s l ((generated_parse_language_ok_iff s l).1 h))⟩

/-! ## Clause 2 of C19, of the regenerated `fix_codes` -/

/-- `fix_codes()` (regenerated): succeeds iff the language code is in the ISO 639 table and the territory code (if any) in the ISO 3166
    table; replaces the language code by its canonical form, returns `True` iff that changed it (else `None`), changes nothing else;
    otherwise `FixingLanguageCodesFailed` -/
theorem fix_codes_spec_generated (l : Language) :
    Ling.Language.fix_codes l =
      match lookupLanguage l.ll with
      | none => .error .fixingCodes
      | some v =>
        if (∀ c, l.cc = some c → c ∈ Generated.Locale.iso3166) then .ok (noneOrTrue (v != l.ll), { l with ll := v })
        else .error .fixingCodes := by
  rw [generated_fix_codes_eq_model, C19.fix_codes_spec]
  cases lookupLanguage l.ll with
  | none => rfl
  | some v => simp only []; split <;> rfl

theorem generated_fix_codes_ok_iff (l l' : Language) (r : Option Bool) :
    Ling.Language.fix_codes l = .ok (r, l') ↔ ∃ f, fixCodes l = .ok (l', f) ∧ r = noneOrTrue f := by
  rw [generated_fix_codes_eq_model, PyKit.map_eq_ok]
  constructor
  · rintro ⟨⟨l2, f⟩, h, e⟩
    injection e with e1 e2
    subst e1 e2
    exact ⟨f, h, rfl⟩
  · rintro ⟨f, h, rfl⟩
    exact ⟨_, h, rfl⟩

/-- the canonical form is the code itself or the two-letter equivalent of a three-letter code; `True` iff the code changed -/
theorem fix_codes_three_to_two_generated (l l' : Language) (r : Option Bool) (h : Ling.Language.fix_codes l = .ok (r, l')) :
    l'.cc = l.cc ∧ l'.enc = l.enc ∧ l'.mod = l.mod ∧ (l'.ll = l.ll ∨ (l.ll.length = 3 ∧ l'.ll.length = 2)) ∧ (r = some true ↔ l'.ll ≠ l.ll)
      ∧ (r = none ↔ l'.ll = l.ll) := by
  obtain ⟨f, hf, rfl⟩ := (generated_fix_codes_ok_iff l l' r).1 h
  obtain ⟨h1, h2, h3, h4, h5⟩ := C19.fix_codes_three_to_two l l' f hf
  refine ⟨h1, h2, h3, h4, ?_, ?_⟩
  · rw [← h5]; cases f <;> simp [noneOrTrue]
  · have : (f = false ↔ l'.ll = l.ll) := by
      cases f <;> simp_all
    rw [← this]; cases f <;> simp [noneOrTrue]

/-- `fix_codes` (regenerated) is idempotent: a second call succeeds, changes nothing, returns `None` -/
theorem fix_codes_idempotent_generated (l l' : Language) (r : Option Bool) (h : Ling.Language.fix_codes l = .ok (r, l')) :
    Ling.Language.fix_codes l' = .ok (none, l') := by
  obtain ⟨f, hf, -⟩ := (generated_fix_codes_ok_iff l l' r).1 h
  exact (generated_fix_codes_ok_iff l' l' none).2 ⟨false, C19.fix_codes_idempotent l l' f hf, rfl⟩

/-- unknown codes are rejected, with `FixingLanguageCodesFailed` and nothing else (the bare `ValueError` is unreachable) -/
theorem fix_codes_rejects_generated (l : Language) :
    ((∃ e, Ling.Language.fix_codes l = .error e) ↔ (lookupLanguage l.ll = none ∨ ∃ c, l.cc = some c ∧ c ∉ Generated.Locale.iso3166))
      ∧ (∀ e, Ling.Language.fix_codes l = .error e → e = .fixingCodes) := by
  simp only [generated_fix_codes_eq_model, PyKit.map_eq_error]
  exact ⟨C19.fix_codes_rejects l, fun e h => (C19.leaf_error_kinds [] l e).2.1 h⟩

/-! ## "compared consistently", of the regenerated `is_almost_equal` -/

/-- `is_almost_equal` (regenerated) is an equivalence relation that contains equality — on all records: it compares the `clone()`s of
    its operands, so an encoding that is not upper-cased makes no difference (that it never raises is
    `generated_is_almost_equal_eq_model_general`) -/
theorem is_almost_equal_equivalence (a b c : Language) :
    Ling.Language.is_almost_equal a a = .ok true
      ∧ Ling.Language.is_almost_equal a b = Ling.Language.is_almost_equal b a
      ∧ (Ling.Language.is_almost_equal a b = .ok true → Ling.Language.is_almost_equal b c = .ok true → Ling.Language.is_almost_equal a c = .ok true)
      ∧ (a = b → Ling.Language.is_almost_equal a b = .ok true) := by
  simp only [generated_is_almost_equal_eq_model_general]
  obtain ⟨hrefl, hsymm, htrans, heq⟩ := C19.almost_equal_equivalence
    { a with enc := a.enc.map upper } { b with enc := b.enc.map upper } { c with enc := c.enc.map upper }
  refine ⟨by rw [hrefl], by rw [hsymm], ?_, ?_⟩
  · intro x y
    rw [htrans (by injection x) (by injection y)]
  · intro e
    rw [heq (by rw [e])]

/-- `is_almost_equal_equivalence` restricted to constructed objects; the three hypotheses are not needed -/
theorem almost_equal_equivalence_generated (a b c : Language) (ha : EncUpper a) (hb : EncUpper b) (hc : EncUpper c) :
    Ling.Language.is_almost_equal a a = .ok true
      ∧ Ling.Language.is_almost_equal a b = Ling.Language.is_almost_equal b a
      ∧ (Ling.Language.is_almost_equal a b = .ok true → Ling.Language.is_almost_equal b c = .ok true → Ling.Language.is_almost_equal a c = .ok true)
      ∧ (a = b → Ling.Language.is_almost_equal a b = .ok true) :=
  is_almost_equal_equivalence a b c

/-! ## the path-derived part of `Checker.check_language` REGENERATED from `lib/check/__init__.py` (tools/translate/chklang2lean.py) -/

/-- the statements of `check_language` from `language = self.options.language` up to the first `if meta_language:` — the `-l` option, the
    component before `LC_MESSAGES`, the base name of a `.po` file — as regenerated (calling the regenerated `Language` methods) = the
    model's `stagePath`: (language, language_source, language_source_quality) or the escaping exception, for ALL option values and paths -/
theorem generated_path_language_eq_model (opt : Option Language) (path : List Char) :
    ChkLang.path_language opt path = Gen.ofStage (stagePath opt path) :=
  Gen.path_language_eq opt path

/-- the `-l` option wins: with an option value the path is not looked at -/
theorem path_language_option_generated (l : Language) (path : List Char) :
    ChkLang.path_language (some l) path = .ok (some l, "command-line".toList, 1) := by
  rw [generated_path_language_eq_model]; rfl

/-! Non-vacuity: the regenerated definitions are executable -/
section
open scoped I18n.ExceptDec

example : Ling.parse_language "de_AT.utf-8@euro".toList = .ok ⟨"de".toList, some "AT".toList, some "UTF-8".toList, some "euro".toList⟩ := by
  repeat rw [String.toList_ofList]
  decide +kernel
example : Ling.parse_language "pl\n".toList = .error .syntax := by
  repeat rw [String.toList_ofList]
  decide +kernel
example : Ling.Language.__str__ ⟨"de".toList, some "AT".toList, some "UTF-8".toList, some "euro".toList⟩ = .ok "de_AT.UTF-8@euro".toList := by
  repeat rw [String.toList_ofList]
  decide +kernel
example : Ling.Language.remove_nonlinguistic_modifier ⟨"de".toList, none, none, some "euro".toList⟩ = .ok (some true, ⟨"de".toList, none, none, none⟩) := by
  repeat rw [String.toList_ofList]
  decide +kernel
example : Ling.Language.remove_encoding ⟨"de".toList, none, none, none⟩ = .ok (none, ⟨"de".toList, none, none, none⟩) := by
  repeat rw [String.toList_ofList]
  decide +kernel
example : Ling.Language.is_almost_equal ⟨"pl".toList, some "PL".toList, none, none⟩ ⟨"pl".toList, none, none, none⟩ = .ok true := by
  rw [generated_is_almost_equal_eq_model _ _ (by rfl) (by rfl)]; rfl
example : (Ling.Language.fix_codes ⟨"pol".toList, some "PL".toList, none, none⟩).toOption = some (some true, ⟨"pl".toList, some "PL".toList, none, none⟩) := by
  rw [generated_fix_codes_eq_model]; decide +kernel

end

end I18n.Props.C19Tie
