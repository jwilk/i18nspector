import I18n.Lemmas.MoParse
import I18n.Lemmas.MoLayout
/-!
# C08 — every well-formed MO file decodes to exactly the catalog it encodes

Stated about `Mo.parse` (the line-by-line model of `lib/moparser.py`) against `Spec.Encodes`, the declarative
reading of the MO format, for every byte string and every codec database (text decoding is a parameter).

The model follows lib/moparser.py as of /repo commit 8953e21 (`fix: MO loader exchanged msgctxt and msgid`): line 155 binds
the part of `msgctxt EOT msgid` before the EOT to msgctxt and the part after it to msgid.  With the two bound the other way
round the property is false; the 42-byte file that shows it is kept (`witness_parse`).
-/
namespace I18n.Props.C08
open I18n.Mo I18n.Mo.Spec

/-- **C08 as stated**: a byte string that is a legal layout of the (well-formed) catalog `cat` (any layout, either
    byte order, any placement/overlap/padding, any `encoding=` argument) loads to exactly `cat`, decoded in the
    charset `charsetOf` gives (the `encoding=` argument if there is one, else the charset its header entry names;
    ASCII if there is neither or it is not ASCII-compatible), in file order, with msgctxt, msgid, msgid_plural,
    msgstr / indexed forms and the hidden-strings flag. -/
theorem parse_of_encodes (db : CodecDB) (given : Option Bytes) (b : Bytes) (cat : List CatEntry) (hidden : Bool)
    (h : Encodes b cat hidden) (hwf : ∀ e ∈ cat, e.WF) :
    parse db given b = expected db given cat hidden :=
  parse_complete db given h hwf

/-! the regression witness: `msgctxt "c"  msgid "i"  msgstr "s"` in the plainest little-endian layout -/

def witnessFile : Bytes :=
  [0xDE, 0x12, 0x04, 0x95,  0, 0, 0, 0,  1, 0, 0, 0,  20, 0, 0, 0,  28, 0, 0, 0,   -- magic, revision 0, N = 1, O = 20, T = 28
   3, 0, 0, 0,  36, 0, 0, 0,                                                       -- key: length 3 at 36
   1, 0, 0, 0,  40, 0, 0, 0,                                                       -- value: length 1 at 40
   99, 4, 105, 0,  115, 0]                                                         -- "c" EOT "i" NUL  "s" NUL

def witnessCat : List CatEntry := [⟨some [99], [105], none, [[115]]⟩]

theorem witness_encodes : Encodes witnessFile witnessCat false := by
  refine .intro (be := false) (major := 0) (minor := 0) (ko := 20) (to := 28)
    { magic := Slice.prefix_iff.2 ⟨witnessFile.drop 4, by rfl⟩
      count := WordAt_of_read1 (by rfl)
      keys := WordAt_of_read1 (by rfl)
      values := WordAt_of_read1 (by rfl) }
    (revision := WordAt_of_read1 (by rfl)) (major_le := by decide) (minor_lt := by decide) (flag := rfl)
    (entries := ⟨?key, ?value, trivial⟩) (sorted := trivial)
  case key => exact StringAt_of_readString .msgidNotTerminated (by rfl)
  case value => exact StringAt_of_readString .msgstrNotTerminated (by rfl)

theorem witness_wf : ∀ e ∈ witnessCat, e.WF := by
  intro e he
  simp only [witnessCat, List.mem_singleton] at he
  subst he
  exact {
    ctxt_clean := by intro c hc; cases hc; decide
    msgid_no_nul := by decide
    msgid_no_eot := by intro h; cases h
    plural_no_nul := by intro p hp; cases hp
    forms_no_nul := by intro f hf; simp at hf; subst hf; decide
    forms_ne := by decide
    singular_one := by intro _; rfl }

/-- the code returns msgctxt "c", msgid "i", not the two exchanged -/
theorem witness_parse :
    parse asciiDB none witnessFile = .ok ⟨[⟨['i'], some ['c'], .singular ['s']⟩], false⟩ := by rfl

theorem witness_expected :
    expected asciiDB none witnessCat false = .ok ⟨[⟨['i'], some ['c'], .singular ['s']⟩], false⟩ := by rfl

/-- **Every layout of the family is a legal file**: either byte order, major 0/1, any minor revision (with word 36
    when it is 1), arbitrary bytes after the five header words a reader needs (hash-table fields, sysdep fields, a
    hash table, …), the two descriptor tables in either order with arbitrary bytes between and after them, every
    string preceded by arbitrary padding, arbitrary trailer.  With `parse_of_encodes` this gives
    `parse (serialize cat l)` for every catalog and every such layout. -/
theorem serialize_encodes (cat : List CatEntry) (l : Layout) (hok : l.OK cat) :
    Encodes (serialize cat l) cat l.hidden :=
  Mo.serialize_encodes cat l hok

/-- `forall catalogs c, forall layouts l: parse(serialize(c, l)) == c` -/
theorem parse_serialize (db : CodecDB) (given : Option Bytes) (cat : List CatEntry) (l : Layout)
    (hok : l.OK cat) (hwf : ∀ e ∈ cat, e.WF) :
    parse db given (serialize cat l) = expected db given cat l.hidden :=
  parse_complete db given (serialize_encodes cat l hok) hwf

/-- the witness file is the plainest layout of the witness catalog -/
theorem witness_is_serialized :
    serialize witnessCat ⟨false, 0, 0, 0, [], false, [], [], [], []⟩ = witnessFile := by decide +kernel

/-- **C08, last sentence.**  A loaded file is flagged iff its minor revision is unknown (> 1) or it is 1 and the
    header announces system-dependent strings (word 36 > 0) … -/
theorem hidden_flag (db : CodecDB) (given : Option Bytes) (b : Bytes) (f : MoFile) (h : parse db given b = .ok f) :
    ∃ be rev, Slice b 0 (magicOf be) ∧ WordAt be b 4 rev ∧ HiddenFlag be b (rev % 65536) f.possibleHiddenStrings := by
  obtain ⟨cat, henc, _⟩ := parse_ok h
  obtain ⟨be, rev, hm, hrev, _, hh⟩ := henc.revision
  exact ⟨be, rev, hm, hrev, hh⟩

/-- … and a flagged binary file is never reported as `empty-file`. -/
theorem hidden_suppresses_empty_file (f : MoFile) (counted : Nat) (h : f.possibleHiddenStrings = true) :
    emptyFileTag true f counted = false := by
  simp [emptyFileTag, h]

theorem unflagged_empty_is_reported (f : MoFile) (h : f.possibleHiddenStrings = false) :
    emptyFileTag true f 0 = true := by
  simp [emptyFileTag, h]

/-! Non-vacuity -/

example : parse asciiDB none witnessFile ≠ .error (.syntax .magic) := by
  rw [witness_parse]; intro h; cases h

example : HiddenFlag false witnessFile 0 false := rfl

end I18n.Props.C08
