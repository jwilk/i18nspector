import I18n.Lemmas.LocaleFixCodes
import I18n.Lemmas.LocaleParse
import I18n.Lemmas.LocaleRe
import I18n.Lemmas.LocaleLoad
import I18n.Lemmas.LocaleTags
import I18n.Lemmas.LocaleTagIff
import I18n.Lemmas.LocalePath
/-
C19 — locale names are parsed, normalised and compared consistently.
Clause 1: parse/print; clause 2: fix_codes; clause 3: the language tags of check_language.
-/
namespace I18n.Props.C19
open I18n.Locale I18n.Spec.LocaleRe I18n.Spec.Locale

/-! ## Clause 1 — `parse_language` / `str` -/

/-- the regex the code declares (its `re._parser` tree, regenerated on every run) IS the locale grammar of the specification,
    anchored at the very end of the string -/
theorem regex_pin : Generated.Locale.languageRegexp = Spec.Locale.localeRegexp := by decide

/-- `parse_language(s)` succeeds iff `_language_regexp.match(s)` does -/
theorem parse_iff_grammar (s : List Char) :
    (parseLanguage s).isSome ↔ Matches Generated.Locale.languageRegexp s := by
  rw [regex_pin, matches_localeRegexp]
  exact isSome_parse_iff s

/-- … iff `s` is `ll[_CC][.encoding][@modifier]`; everything else is rejected (`LanguageSyntaxError`) -/
theorem parse_iff_locale_name (s : List Char) : (parseLanguage s).isSome ↔ IsLocaleName s :=
  isSome_parse_iff s

/-- the parts of an accepted name are found exactly (the grammar is unambiguous: two well-formed records with the same
    rendering are equal) -/
theorem render_injective (p q : Parts) (hp : p.WF) (hq : q.WF) (h : p.render = q.render) : p = q := by
  -- the scanner reads the parts off the rendering, all but the case of the encoding (`ofParts` upper-cases it) …
  have h1 := parse_complete p hp
  have h2 := parse_complete q hq
  rw [h] at h1
  have e : ofParts p = ofParts q := Option.some.inj (h1.symm.trans h2)
  obtain ⟨a, b, c, d⟩ := p
  obtain ⟨a', b', c', d'⟩ := q
  obtain ⟨rfl, rfl, -, rfl⟩ := ofParts_eq_iff.1 e
  -- … and the encoding is what is left of the rendering when the other three parts are cancelled
  simp only [Parts.render] at h
  have henc : Spec.Locale.optPart '.' c = Spec.Locale.optPart '.' c' :=
    List.append_cancel_right (List.append_cancel_left (List.append_cancel_left h))
  rw [optPart_inj henc]

/-- printing a parsed name gives the name back, up to the case of the encoding: the name is the rendering of well-formed
    parts, the printed form is the rendering of the same parts with the encoding upper-cased -/
theorem print_parse (s : List Char) (l : Language) (h : parseLanguage s = some l) :
    ∃ p : Parts, p.WF ∧ s = p.render ∧ l.str = { p with enc := p.enc.map (List.map asciiUpper) }.render := by
  obtain ⟨p, hp, hs, rfl⟩ := parse_sound s l h
  exact ⟨p, hp, hs, by rw [str_eq_render, toParts_ofParts]⟩

/-- … and exactly the name when the encoding is written in upper case already -/
theorem print_parse_upper (s : List Char) (l : Language) (h : parseLanguage s = some l)
    (p : Parts) (hp : p.WF) (hs : s = p.render) (he : ∀ e, p.enc = some e → e.map asciiUpper = e) : l.str = s := by
  rw [hs, parse_complete p hp] at h
  cases h
  rw [str_eq_render, hs, toParts_ofParts_of_upper p he]

/-- … in particular when there is no encoding -/
theorem print_parse_exact (s : List Char) (l : Language) (h : parseLanguage s = some l) (he : l.enc = none) : l.str = s := by
  obtain ⟨p, hp, hs, rfl⟩ := parse_sound s l h
  refine print_parse_upper s _ h p hp hs fun e hpe => ?_
  rw [ofParts_enc, hpe] at he
  cases he

/-- parsing a printed `Language` gives it back (for every object `Language.__init__` can have produced from the grammar:
    `Locale.parse_range`) -/
theorem parse_print (l : Language) (hwf : (toParts l).WF) (hup : ∀ e, l.enc = some e → e.map asciiUpper = e) :
    parseLanguage l.str = some l :=
  (parse_str_iff l).2 ⟨hwf, hup⟩

/-- parse ∘ str ∘ parse = parse -/
theorem parse_str_parse (s : List Char) (l : Language) (h : parseLanguage s = some l) : parseLanguage l.str = some l :=
  (parse_str_iff l).2 ((parse_range l).1 ⟨s, h⟩)

/-- the result of a successful parse is well formed -/
theorem parse_wf (s : List Char) (l : Language) (h : parseLanguage s = some l) : (toParts l).WF :=
  ((parse_range l).1 ⟨s, h⟩).1

-- In the examples `rw [String.toList_ofList]` replaces `"…".toList` by the list of the characters: in the kernel `String.toList`
-- of a literal decodes UTF-8, quadratic in its length.  One `rw` takes one literal (all its occurrences), hence `repeat` for several.
example : parseLanguage "de_AT.utf-8@euro".toList = some ⟨"de".toList, some "AT".toList, some "UTF-8".toList, some "euro".toList⟩ := by
  repeat rw [String.toList_ofList]
  decide +kernel
example : (⟨"de".toList, some "AT".toList, some "UTF-8".toList, some "euro".toList⟩ : Language).str = "de_AT.UTF-8@euro".toList := by
  repeat rw [String.toList_ofList]
  decide +kernel
example : parseLanguage "pl\n".toList = none := by
  rw [String.toList_ofList]
  decide +kernel
example : parseLanguage "pl_pl".toList = none := by
  rw [String.toList_ofList]
  decide +kernel
example : parseLanguage "p".toList = none := by
  rw [String.toList_ofList]
  decide +kernel
example : IsLocaleName "sr@latin".toList :=
  ⟨⟨"sr".toList, none, none, some "latin".toList⟩, ⟨⟨by decide +kernel, by decide +kernel⟩, trivial, trivial, ⟨by decide +kernel, by decide +kernel⟩⟩, by decide +kernel⟩

/-- `Language.is_almost_equal` is an equivalence relation that contains equality (it compares a normal form) -/
theorem almost_equal_equivalence (a b c : Language) :
    isAlmostEqual a a = true ∧ (isAlmostEqual a b = isAlmostEqual b a)
      ∧ (isAlmostEqual a b = true → isAlmostEqual b c = true → isAlmostEqual a c = true)
      ∧ (a = b → isAlmostEqual a b = true) := by
  unfold isAlmostEqual
  refine ⟨by simp, ?_, ?_, ?_⟩
  · rw [Bool.eq_iff_iff]
    simp only [beq_iff_eq]
    exact eq_comm
  · intro h1 h2
    have e1 : removePrincipalTerritory a = removePrincipalTerritory b := by simpa using h1
    have e2 : removePrincipalTerritory b = removePrincipalTerritory c := by simpa using h2
    simp [e1, e2]
  · intro h; subst h; simp

/-! ## Clause 2 — `fix_codes` -/

/-- `fix_codes` succeeds iff the language code is in the ISO 639 table and the territory code (if any) in the ISO 3166 table;
    it replaces the language code by its canonical form, reports `fixed` iff that changed it, and changes nothing else;
    otherwise it raises `FixingLanguageCodesFailed` (never the bare `ValueError`) -/
theorem fix_codes_spec (l : Language) :
    fixCodes l =
      match lookupLanguage l.ll with
      | none => .error .fixingCodes
      | some v =>
        if (∀ c, l.cc = some c → c ∈ Generated.Locale.iso3166) then .ok ({ l with ll := v }, v != l.ll)
        else .error .fixingCodes :=
  fixCodes_eq l

/-- the canonical form of a code is the code itself, or the two-letter equivalent of a three-letter code
    (`lookupLanguage_shape`: the shape of the rows of data/iso-codes) -/
theorem fix_codes_three_to_two (l l' : Language) (f : Bool) (h : fixCodes l = .ok (l', f)) :
    l'.cc = l.cc ∧ l'.enc = l.enc ∧ l'.mod = l.mod ∧ (l'.ll = l.ll ∨ (l.ll.length = 3 ∧ l'.ll.length = 2)) ∧ (f = true ↔ l'.ll ≠ l.ll) := by
  obtain ⟨v, hv, -, rfl, rfl⟩ := (fixCodes_ok_iff ..).1 h
  exact ⟨rfl, rfl, rfl, lookupLanguage_shape _ _ hv, by simp⟩

/-- `fix_codes` is idempotent: a second call succeeds, changes nothing and reports nothing
    (`lookupLanguage_idem`: the loop of `_read_iso_codes` maps a two-letter code to itself whenever it maps a code to it) -/
theorem fix_codes_idempotent (l l' : Language) (f : Bool) (h : fixCodes l = .ok (l', f)) : fixCodes l' = .ok (l', false) :=
  fixCodes_idem l l' f h

/-- unknown codes are rejected -/
theorem fix_codes_rejects (l : Language) :
    (∃ e, fixCodes l = .error e) ↔ (lookupLanguage l.ll = none ∨ ∃ c, l.cc = some c ∧ c ∉ Generated.Locale.iso3166) := by
  simp only [fixCodes_error_iff]
  exact ⟨fun ⟨_, _, h⟩ => h, fun h => ⟨_, rfl, h⟩⟩

/-- PIN: the language table the code has loaded is the dict the loop of `_read_iso_codes` (modelled: `loadStep`) builds from the
    rows of data/iso-codes as `ConfigParser` presents them; the territory set is the upper-cased key list -/
theorem iso_tables_loaded :
    loadIso639 (Generated.Locale.iso639.map (·.1)) Generated.Locale.languageCodes = Generated.Locale.iso639
      ∧ loadIso3166 Generated.Locale.territoryKeys = Generated.Locale.iso3166 :=
  ⟨iso639_is_loaded, iso3166_is_loaded⟩

/-- in terms of the data file: `fix_codes` accepts a language code iff it is the three-letter code or the two-letter equivalent of
    a row of data/iso-codes, and the result is the row's two-letter equivalent if it has one, else its three-letter code -/
theorem fix_codes_by_data (k : List Char) :
    (∀ v, lookupLanguage k = some v →
        ∃ r ∈ Generated.Locale.languageCodes, (r.2 ≠ [] ∧ v = r.2 ∧ (k = r.2 ∨ k = r.1)) ∨ (r.2 = [] ∧ k = r.1 ∧ v = r.1))
    ∧ (∀ r ∈ Generated.Locale.languageCodes,
        (r.2 ≠ [] → lookupLanguage r.1 = some r.2 ∧ lookupLanguage r.2 = some r.2) ∧ (r.2 = [] → lookupLanguage r.1 = some r.1)) :=
  ⟨fun v h => lookupLanguage_from_data k v h, fun r hr => lookupLanguage_of_row r hr⟩

example : (fixCodes ⟨"pol".toList, some "PL".toList, none, some "euro".toList⟩).toOption
    = some (⟨"pl".toList, some "PL".toList, none, some "euro".toList⟩, true) := by
  repeat rw [String.toList_ofList]
  decide +kernel
example : (fixCodes ⟨"ace".toList, none, none, none⟩).toOption = some (⟨"ace".toList, none, none, none⟩, false) := by
  rw [String.toList_ofList]
  decide +kernel
example : (fixCodes ⟨"xx".toList, none, none, none⟩).toOption = none := by
  rw [String.toList_ofList]
  decide +kernel
example : (fixCodes ⟨"pl".toList, some "XX".toList, none, none⟩).toOption = none := by
  repeat rw [String.toList_ofList]
  decide +kernel

/-! ## Clause 3 — the language tags of `check_language` -/
open I18n.Spec.LocaleTags

/-- whenever `check_language` returns, the tags it emitted (names, extras, order) and `ctx.language` are exactly the reference
    verdict `Spec.LocaleTags` — one rule "tag ⇔ condition" per tag: source precedence (option, `LC_MESSAGES` directory,
    base name), LibreOffice exception, disparity after dropping encoding and `@euro`, invalid-language with or without
    correction, `unable-to-determine-language` iff no source names a language.  For every option, path, list of `Language`,
    `X-Poedit-Language`, `X-Poedit-Country` values and every `_munch_language_name` function. -/
theorem language_tags_iff (munch : List Char → List Char) (inp : Input) (out : Output)
    (h : checkLanguage munch inp = .ok out) :
    out.tags = verdictTags munch inp ∧ out.language = verdictLanguage munch inp :=
  checkLanguage_verdict munch inp out h

/-- the `-l` option: accepted iff it is a locale name with known codes; what is stored has canonical codes, no encoding and
    no `@euro`; otherwise `invalid language` (a `LanguageError`), never another exception -/
theorem cli_language_spec (s : List Char) :
    cliLanguage s = (match known s with
      | some l => .ok (dropEuro (dropEncoding l))
      | none => .error (if (parseLanguage s).isSome then .fixingCodes else .syntax)) := by
  unfold cliLanguage known parseLanguageE
  cases parseLanguage s with
  | none => rfl
  | some l =>
    simp only
    rcases fixCodes_cases l with ⟨l', f, hf⟩ | hf <;> rw [hf]
    · simp [removeEncoding_eq, removeNonling_eq]
    · rfl

/-- "when no source names a language the tool says so instead of guessing": the file's language is undetermined iff neither an
    outside source (after the LibreOffice exception), nor the field, nor X-Poedit-Language names one -/
theorem final_language_none_iff (munch : List Char → List Char) (inp : Input) :
    finalLanguage munch inp = none ↔
      (effectiveOutside munch inp).isNone ∧ fieldLanguage munch inp.metaLanguages = none
        ∧ (poeditValue inp).bind (named munch) = none := by
  unfold finalLanguage primary
  cases effectiveOutside munch inp with
  | some o => simp
  | none => cases fieldLanguage munch inp.metaLanguages <;> simp

/-- `language-disparity` is reported iff a source outside the header (the option, else an `LC_MESSAGES` directory, else the base
    name; minus the LibreOffice exception) and the `Language` field name different languages after dropping encoding and
    `@euro`, or the file's language and X-Poedit-Language have different language codes -/
theorem language_disparity_iff (munch : List Char → List Char) (inp : Input) (out : Output)
    (h : checkLanguage munch inp = .ok out) :
    hasName "language-disparity" out.tags ↔
      inp.isTemplate = false ∧
        ((∃ o m, effectiveOutside munch inp = some o ∧ fieldLanguage munch inp.metaLanguages = some m ∧ o.language ≠ m)
          ∨ (∃ p pl l src, poeditValue inp = some p ∧ named munch p = some pl ∧ primary munch inp = some (l, src) ∧ l.ll ≠ pl.ll)) := by
  rw [(checkLanguage_verdict munch inp out h).1]
  cases ht : inp.isTemplate <;> simp [hasName_verdict, hasName_fieldRules, ht]

/-- source precedence, spelled out: the option outranks everything and is never overruled; without it the directory in front of
    `LC_MESSAGES` (encoding and `@euro` dropped) outranks the base name; the base name (never with an encoding) is the weak source
    that the LibreOffice exception can discard -/
theorem source_precedence (munch : List Char → List Char) (inp : Input) :
    (∀ l, inp.optLanguage = some l →
        ∃ o, effectiveOutside munch inp = some o ∧ o.language = l ∧ o.source = "command-line")
    ∧ (∀ l, inp.optLanguage = none → (lcMessagesDir inp.path).bind known = some l →
        ∃ o, effectiveOutside munch inp = some o ∧ o.language = dropEuro (dropEncoding l) ∧ o.source = "pathname")
    ∧ (inp.optLanguage = none → (lcMessagesDir inp.path).bind known = none →
        ∀ o, outside inp = some o → o.strength = .weak ∧ o.language.enc = none ∧ o.source = "pathname"
          ∧ ∃ l, (poStem inp.path).bind known = some l ∧ o.language = dropEuro l) := by
  refine ⟨?_, ?_, ?_⟩
  · intro l hl
    exact ⟨⟨l, "command-line", .strong⟩, effectiveOutside_of_strong munch inp _ (by simp only [outside, hl]) rfl, rfl, rfl⟩
  · intro l ho hl
    exact ⟨⟨dropEuro (dropEncoding l), "pathname", .strong⟩,
      effectiveOutside_of_strong munch inp _ (by simp only [outside, ho, hl]) rfl, rfl, rfl⟩
  · intro ho hl o hout
    unfold outside at hout
    simp only [ho, hl] at hout
    cases hk : (poStem inp.path).bind known with
    | none => simp [hk] at hout
    | some l =>
      simp only [hk] at hout
      cases hle : l.enc with
      | some e => simp [hle] at hout
      | none =>
        simp only [hle, Option.isSome_none, Bool.false_eq_true, if_false, Option.some.injEq] at hout
        subst hout
        exact ⟨rfl, hle, rfl, l, rfl, rfl⟩

/-- `invalid-language` is reported iff the field's value is not a locale name with known, canonical codes -/
theorem invalid_language_iff (munch : List Char → List Char) (inp : Input) (out : Output)
    (h : checkLanguage munch inp = .ok out) :
    hasName "invalid-language" out.tags ↔
      inp.isTemplate = false ∧ ∃ v, fieldValue inp.metaLanguages = some v ∧ v ≠ []
        ∧ ¬ ∃ l, parseLanguage v = some l ∧ ∃ l', canonical l = some (l', false) := by
  rw [(checkLanguage_verdict munch inp out h).1]; exact I18n.Locale.invalid_language_iff munch inp

/-- `unable-to-determine-language` is reported iff no source names a language (and then `ctx.language` is `None`: no guess) -/
theorem unable_to_determine_iff (munch : List Char → List Char) (inp : Input) (out : Output)
    (h : checkLanguage munch inp = .ok out) :
    (hasName "unable-to-determine-language" out.tags ↔ inp.isTemplate = false ∧ finalLanguage munch inp = none)
      ∧ (hasName "unable-to-determine-language" out.tags → out.language = none) := by
  obtain ⟨h1, h2⟩ := checkLanguage_verdict munch inp out h
  rw [h1, h2]
  have hu : hasName "unable-to-determine-language" (verdictTags munch inp) ↔ inp.isTemplate = false ∧ finalLanguage munch inp = none := by
    cases ht : inp.isTemplate <;> simp [hasName_verdict, hasName_fieldRules, ht]
  refine ⟨hu, fun h => ?_⟩
  simp [verdictLanguage, (hu.1 h).1, (hu.1 h).2]

/-- `encoding-in-language-header-field` iff what the field denotes carries an encoding; `language-variant-does-not-affect-translation`
    iff it carries `@euro` -/
theorem encoding_and_variant_iff (munch : List Char → List Char) (inp : Input) (out : Output)
    (h : checkLanguage munch inp = .ok out) :
    (hasName "encoding-in-language-header-field" out.tags ↔
        inp.isTemplate = false ∧ ∃ v, fieldValue inp.metaLanguages = some v ∧ v ≠ [] ∧ ∃ l, candidate munch v = some l ∧ l.enc.isSome = true)
    ∧ (hasName "language-variant-does-not-affect-translation" out.tags ↔
        inp.isTemplate = false ∧ ∃ v, fieldValue inp.metaLanguages = some v ∧ v ≠ [] ∧ ∃ l, candidate munch v = some l ∧ l.mod = some "euro".toList) := by
  rw [(checkLanguage_verdict munch inp out h).1]
  cases ht : inp.isTemplate <;> simp [hasName_verdict, hasName_fieldRules, ht]

/-- `unknown-poedit-language` iff X-Poedit-Language is consulted (one distinct value, at most one distinct X-Poedit-Country) and
    names no language; `no-language-header-field` iff the field is absent (or empty) and not present with conflicting values
    (for a template: iff there is no single value) -/
theorem poedit_and_absent_iff (munch : List Char → List Char) (inp : Input) (out : Output)
    (h : checkLanguage munch inp = .ok out) :
    (hasName "unknown-poedit-language" out.tags ↔ inp.isTemplate = false ∧ ∃ p, poeditValue inp = some p ∧ named munch p = none)
    ∧ (hasName "no-language-header-field" out.tags ↔
        (if inp.isTemplate then (fieldValue inp.metaLanguages).isNone = true else fieldAbsent inp.metaLanguages = true)) := by
  rw [(checkLanguage_verdict munch inp out h).1]
  cases ht : inp.isTemplate <;> simp [hasName_verdict, hasName_fieldRules, ht]

/-- the correction offered for an English language name always comes from the name table -/
theorem name_correction_sound (m : List Char) (l : Language) (h : getLanguageForName m = .ok l) :
    ∃ n c, nameCode n = some c ∧ parseLanguage c = some l ∧
      (n = m ∨ (∃ x ∈ splitOn ';' m, n = strip x)
        ∨ n = strip ((m.dropWhile (· ≠ ',')).drop 1) ++ ' ' :: strip (m.takeWhile (· ≠ ','))
        ∨ (∃ x ∈ splitOn ',' m, n = strip x)) := by
  rcases getLanguageForName_spec m with h' | ⟨l', n, c, h', hc, hl, ho⟩
  · rw [h] at h'; cases h'
  · rw [h] at h'; cases h'; exact ⟨n, c, hc, hl, ho⟩

/-- … and a name of the table is always recognised -/
theorem name_correction_complete (m c : List Char) (h : nameCode m = some c) : ∃ l, getLanguageForName m = .ok l := by
  obtain ⟨l, hl⟩ := nameCode_parses m c h
  exact ⟨l, by rw [getLanguageForName_whole m c h]; simp [parseLanguageE, hl]⟩

/-- `check_language` lets no exception escape, whatever the path, the options (also the hidden `--file-type`) and the header: the
    base name is read as a locale only when `os.path.splitext` gives it the extension `.po`, so `assert ext == '.po'` holds
    (base names `.po`, `..po`, …, which end in `.po` and reach `check_language` under `--file-type po`, have no extension:
    `Locale.assertion_paths`). -/
theorem check_language_error_kinds (munch : List Char → List Char) (inp : Input) (e : LErr) : checkLanguage munch inp ≠ .error e := by
  rw [checkLanguage_eq]; nofun

/-- `check_language` raises nothing -/
theorem check_language_nocrash (munch : List Char → List Char) (inp : Input) : ∃ out, checkLanguage munch inp = .ok out :=
  ⟨_, checkLanguage_eq munch inp⟩

/-- the two together: for every path, `check_language` returns exactly the reference verdict -/
theorem language_tags_total (munch : List Char → List Char) (inp : Input) :
    checkLanguage munch inp = .ok ⟨verdictTags munch inp, verdictLanguage munch inp⟩ :=
  checkLanguage_eq munch inp

/-- `parse_language`, `fix_codes`, the `-l` handling and `get_language_for_name` raise only their documented exceptions -/
theorem leaf_error_kinds (s : List Char) (l : Language) (e : LErr) :
    (parseLanguageE s = .error e → e = .syntax) ∧ (fixCodes l = .error e → e = .fixingCodes)
      ∧ (cliLanguage s = .error e → e.isLanguageError = true) ∧ (getLanguageForName s = .error e → e = .lookupError) := by
  refine ⟨?_, fixCodes_err l e, ?_, ?_⟩
  · intro h; unfold parseLanguageE at h; split at h <;> cases h; rfl
  · intro h
    rw [cli_language_spec] at h
    split at h
    · cases h
    · cases h; split <;> rfl
  · intro h
    rcases getLanguageForName_cases s with ⟨l', hl⟩ | hl
    · rw [hl] at h; cases h
    · rw [hl] at h; cases h; rfl

-- a base name that is only dots and `po` has no extension: it is not read as a language
example : (checkLanguage (fun s => s) ⟨false, none, "/x/.po".toList, [], [], []⟩).toOption
    = some ⟨[tag "no-language-header-field" [], tag "unable-to-determine-language" []], none⟩ := by
  rw [String.toList_ofList]
  decide +kernel
example : knownExtension "/x/.po".toList = false := by
  rw [String.toList_ofList]
  decide +kernel
example : knownExtension "/x/pl.po".toList = true := by
  rw [String.toList_ofList]
  decide +kernel

example : verdictTags (fun s => s) ⟨false, none, "po/pl.po".toList, ["de".toList], [], []⟩
    = [disparity ⟨"pl".toList, none, none, none⟩ "pathname" ⟨"de".toList, none, none, none⟩ "Language header field"] := by
  repeat rw [String.toList_ofList]
  decide +kernel
example : verdictTags (fun s => s) ⟨false, none, "x.po".toList, [], [], []⟩
    = [tag "no-language-header-field" [], tag "unable-to-determine-language" []] := by
  rw [String.toList_ofList]
  decide +kernel
example : verdictTags (fun s => s) ⟨false, none, "translations/source/da/dictionaries/pl_PL.po".toList, ["da".toList], [], []⟩ = [] := by
  repeat rw [String.toList_ofList]
  decide +kernel
example : verdictTags (fun s => s) ⟨false, none, "x.po".toList, ["pol_PL.UTF-8@euro".toList], [], []⟩
    = [tag "encoding-in-language-header-field" [.str "pol_PL.UTF-8@euro".toList],
       tag "language-variant-does-not-affect-translation" [.str "pol_PL.UTF-8@euro".toList],
       tag "invalid-language" [.str "pol_PL.UTF-8@euro".toList, sExtra "=>", .str "pl_PL".toList]] := by
  repeat rw [String.toList_ofList]
  decide +kernel
example : (checkLanguage (fun s => if s = "Polish".toList then "polish".toList else s)
      ⟨false, none, "/usr/share/locale/de/LC_MESSAGES/x.mo".toList, ["Polish".toList], ["german".toList], []⟩).toOption
    = some ⟨[tag "invalid-language" [.str "Polish".toList, sExtra "=>", .str "pl".toList],
             disparity ⟨"de".toList, none, none, none⟩ "pathname" ⟨"pl".toList, none, none, none⟩ "Language header field"],
            some ⟨"de".toList, none, none, none⟩⟩ := by
  repeat rw [String.toList_ofList]
  decide +kernel

end I18n.Props.C19
