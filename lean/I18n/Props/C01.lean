import I18n.Model.Pipeline
import I18n.Lemmas.PluralNoCrash
import I18n.Props.C02
import I18n.Lemmas.EvalSpec
import I18n.Props.C09
import I18n.Props.C11
import I18n.Lemmas.PyFmtFold
import I18n.Props.C13
import I18n.Props.C18
import I18n.Props.C19
import I18n.Lemmas.CharsetTables
import I18n.Lemmas.PipelineReal
import I18n.Model.XmlEncode
/-!
# C01 — every input file is handled without crash, hang or abnormal exit   (PARTIAL: see below)

The *exception closure* of `cli.main → check_all → check_file → Checker.check → check_*`, as a composition.  Which classes each `try` of
lib/ catches, what the clause prints and how it ends is READ FROM THE SOURCE on every run (`Generated/ExcMap.lean`; section 1 pins what is
needed of it: a narrowed `except`, a class re-parented away from its module's `Error`, a handler that no longer emits its tag break a pin);
`ExcFlow.checkString` is `check_string` over those tables, `Check.check` and `Cli.main` model `Checker.check` (its `try` statements as
the tables have them: `check_sites_pin`) and the exit status, and every loader and stage is closed by the property that owns it.  Main
theorem: `pipeline_nocrash_unconditional` (section 7) — arbitrary byte strings as MO, PO or POT files give exit status 0, empty stderr
and tag lines only, under hypotheses about the world outside the file alone (`WorldOk`, `Po.CodecsBehave`, `C09.Latin1OK`; sections 8
and 9: the shipped data tables, and text being Unicode scalar values).

REFUTED on the real code, not exhibited by any model here (the models recurse structurally): a plural expression nested deeper
than the interpreter's recursion limit allows raises `RecursionError` in lib/intexpr.py (open finding, replayed on every run).
`recursion_budget` states the frame count the evaluators need (2·depth + 3), which the check compares with the real limit.

What no model here can exhibit, and is decided by the search of tools/checks/C01.py on the real code (test level):
wall-clock/CPU time of CPython's regex engine and of `int()`, polib/rply/expat/iconv internals, the OS, `-j` process
failures, the terminal encoding.
-/
namespace I18n.Props.C01
open I18n I18n.Check I18n.ExcFlow I18n.Pipeline I18n.Generated.ExcMap

/-! ## 1. the exception map of the source -/

def cls (name : String) : Cls := clsId name
def className (c : Cls) : String := classNames.getD c "?"

def view (h : Handler) : List String × List String × End := (h.classes.map className, h.tags, h.fin)

def backendFile (fmt : String) : String :=
  if fmt = "c" then "c" else if fmt = "python" then "python" else if fmt = "python-brace" then "pybrace" else "perlbrace"

/-- `check_string` of the checker registered for a format flag -/
def checkStringSite (fmt : String) : TrySite := site ("lib/check/msgformat/" ++ backendFile fmt ++ ".py") "Checker.check_string" 0
/-- the `try` around `self.backend.FormatString(s)` for a msgid of a non-template in `check_message` -/
def checkMessageSite (fmt : String) : TrySite := site ("lib/check/msgformat/__init__.py[" ++ fmt ++ "]") "Checker.check_message" 0

/-- the file of a strformat backend, as it appears in `raiseSites` -/
def strformatFile (fmt : String) : String := "lib/strformat/" ++ backendFile fmt ++ ".py"

/-- an exception of class `c` raised while parsing a string of format `fmt` is reported by `check_string` of the checker
    registered for the format as exactly that format's `…-format-string-error` tag (the clause then falls through to
    `return fmt`), and is swallowed (`return`) by `check_message` when it parses a msgid -/
def caughtAsError (fmt : String) (c : Cls) : Bool :=
  ((dispatch (checkStringSite fmt).handlers c).map (fun h => (h.tags, h.fin)) == some ([fmt ++ "-format-string-error"], .fallthrough)) &&
  ((dispatch (checkMessageSite fmt).handlers c).map (fun h => (h.tags, h.fin)) == some ([], .ret))

/-- **every own-`Error` subclass of every strformat module** (the classes are enumerated from the live module) is caught by
    `check_string` / `check_message` of its caller as described by `caughtAsError`; and so is **every class of the module that
    one of its `raise` statements names**, whether or not it derives from `Error` — a class re-parented away from `Error` that is
    still raised breaks this pin, one that is only ever recorded as a warning does not (it is `warnings_caught`'s business) -/
theorem strformat_errors_caught :
    (ownErrors.map (·.1) = ["c", "perl-brace", "python", "python-brace"]) ∧
    (ownErrors.all fun (fmt, _, err, defined) =>
      defined.contains err &&
      (defined.all fun c => !isSub c err || caughtAsError fmt c) &&
      (raiseSites.all fun (file, _, c) => !(file == strformatFile fmt && defined.contains c) || caughtAsError fmt c)) = true := by
  decide +kernel

/-- the checkers use the backends whose classes were enumerated -/
theorem checkers_pin : checkers.map (fun (f, _, b) => (f, b)) = ownErrors.map (fun (f, b, _, _) => (f, b)) := by decide +kernel

/-- **every class that ends up in `fmt.warnings`** (the `parent.warn(<Class>, …)` calls of the parsers) is caught by the `try`
    inside `for warn in fmt.warnings: raise warn` of the same format's `check_string`, by a clause that emits one tag and goes on;
    the two brace parsers record no warnings -/
theorem warnings_caught :
    (warnSites.all fun (file, _, c) =>
      (file == "lib/strformat/c.py" &&
        ((dispatch cWarnSite.handlers c).map (fun h => (h.tags.length, h.fin)) == some (1, .fallthrough))) ||
      (file == "lib/strformat/python.py" &&
        ((dispatch pyWarnSite.handlers c).map (fun h => (h.tags.length, h.fin)) == some (1, .fallthrough)))) = true := by
  decide +kernel

/-- **plural forms**: the lexer's and the parser's exceptions (rply) become `PluralExpressionSyntaxError` in
    `parse_plural_expression`; that and `PluralFormsSyntaxError` are caught by `check_plurals`, which reports
    `syntax-error-in-(unused-)plural-forms` and returns -/
theorem plural_errors_caught :
    let pe := site "lib/gettext.py" "parse_plural_expression" 0
    let cp := site "lib/check/__init__.py" "Checker.check_plurals" 0
    (dispatch pe.handlers (cls "rply.errors.LexingError")).map (·.fin) = some (.raises [cls "lib.gettext.PluralExpressionSyntaxError"]) ∧
    (dispatch pe.handlers (cls "rply.errors.ParsingError")).map (·.fin) = some (.raises [cls "lib.gettext.PluralExpressionSyntaxError"]) ∧
    (dispatch cp.handlers (cls "lib.gettext.PluralExpressionSyntaxError")).map view =
      some (["lib.gettext.PluralFormsSyntaxError"], ["syntax-error-in-plural-forms", "syntax-error-in-unused-plural-forms"], .ret) ∧
    (dispatch cp.handlers (cls "lib.gettext.PluralFormsSyntaxError")).map (·.fin) = some .ret := by
  decide +kernel

/-- **arithmetic failures**: the two exceptions the evaluator raises (`OverflowError` from `_check_overflow`,
    `ZeroDivisionError` from `//` and `%`) are caught by the `try` around the window loop of `check_plurals`, each by a clause
    that reports `arithmetic-error-in-(unused-)plural-forms` and goes on to the range analysis -/
theorem arithmetic_errors_caught :
    let cp := site "lib/check/__init__.py" "Checker.check_plurals" 1
    (dispatch cp.handlers (cls "builtins.OverflowError")).map view =
      some (["builtins.OverflowError"], ["arithmetic-error-in-plural-forms", "arithmetic-error-in-unused-plural-forms"], .fallthrough) ∧
    (dispatch cp.handlers (cls "builtins.ZeroDivisionError")).map view =
      some (["builtins.ZeroDivisionError"], ["arithmetic-error-in-plural-forms", "arithmetic-error-in-unused-plural-forms"], .fallthrough) ∧
    -- and nothing else: a RecursionError, ValueError, … from the evaluator passes through
    dispatch cp.handlers (cls "builtins.RecursionError") = none ∧ dispatch cp.handlers (cls "builtins.ValueError") = none ∧
    (raiseSites.filter (fun (f, fn, _) => f == "lib/intexpr.py" && fn == "Evaluator._check_overflow")).map (·.2.2) =
      [cls "builtins.OverflowError", cls "builtins.OverflowError"] := by
  decide +kernel

/-- **dates**: `fix_date_format` raises `BoilerplateDate`, `DateSyntaxError` (and `ValueError` for a malformed hint, which
    `check_dates` never passes: C18); `check_dates` reports the first as `boilerplate-in-date` — the clause comes first although
    the class derives from `DateSyntaxError` — and the second as `invalid-date`, then continues with the next value -/
theorem date_errors_caught :
    let cd := site "lib/check/__init__.py" "Checker.check_dates" 1
    (dispatch cd.handlers (cls "lib.gettext.BoilerplateDate")).map view = some (["lib.gettext.BoilerplateDate"], ["boilerplate-in-date"], .cont) ∧
    (dispatch cd.handlers (cls "lib.gettext.DateSyntaxError")).map view = some (["lib.gettext.DateSyntaxError"], ["invalid-date"], .cont) ∧
    isSub (cls "lib.gettext.BoilerplateDate") (cls "lib.gettext.DateSyntaxError") = true ∧
    ((raiseSites.filter (fun (f, fn, _) => f == "lib/gettext.py" && (fn == "fix_date_format" || fn == "parse_date"))).all fun (_, _, c) =>
      isSub c (cls "lib.gettext.DateSyntaxError") || c == cls "builtins.ValueError") = true ∧
    -- strptime's ValueError becomes DateSyntaxError in both places
    (dispatch (site "lib/gettext.py" "parse_date" 0).handlers (cls "builtins.ValueError")).map (·.fin) = some (.raises [cls "lib.gettext.DateSyntaxError"]) := by
  decide +kernel

/-- **XML**: expat's `ExpatError` (= `xml.SyntaxError`) is caught at both calls of `xml.check_fragment` -/
theorem xml_errors_caught :
    (dispatch (site "lib/check/__init__.py" "Checker._check_message_xml_format" 0).handlers (cls "xml.parsers.expat.ExpatError")).map (fun h => (h.tags, h.fin))
      = some (["malformed-xml"], .ret) ∧
    (dispatch (site "lib/check/__init__.py" "Checker._check_message_xml_format" 1).handlers (cls "xml.parsers.expat.ExpatError")).map (fun h => (h.tags, h.fin))
      = some (["malformed-xml"], .fallthrough) := by
  decide +kernel

/-- **charset**: an unknown encoding name (`EncodingLookupError`) is `unknown-encoding` / `boilerplate-in-content-type` -/
theorem charset_errors_caught :
    (dispatch (site "lib/check/__init__.py" "Checker.check_mime" 0).handlers (cls "lib.encodings.EncodingLookupError")).map (fun h => (h.tags, h.fin))
      = some (["boilerplate-in-content-type", "unknown-encoding"], .fallthrough) ∧
    isSub (cls "lib.encodings.EncodingLookupError") (cls "builtins.LookupError") = true := by
  decide +kernel

/-- **language**: both `LanguageError` subclasses are caught wherever `check_language` parses or fixes a locale name, the
    `LookupError` of `get_language_for_name` wherever it looks a name up; on the command line `-l` is rejected through `ap.error` -/
theorem language_errors_caught :
    ([1, 2, 3, 5].all fun k =>
      [cls "lib.ling.LanguageSyntaxError", cls "lib.ling.FixingLanguageCodesFailed", cls "lib.ling.LanguageError"].all fun c =>
        (dispatch (site "lib/check/__init__.py" "Checker.check_language" k).handlers c).map (·.fin) == some .fallthrough) = true ∧
    ([4, 6].all fun k =>
      (dispatch (site "lib/check/__init__.py" "Checker.check_language" k).handlers (cls "builtins.LookupError")).map (·.fin) == some .fallthrough) = true ∧
    (dispatch (site "lib/cli.py" "main" 0).handlers (cls "lib.ling.LanguageSyntaxError")).isSome = true ∧
    (dispatch (site "lib/cli.py" "main" 0).handlers (cls "lib.ling.FixingLanguageCodesFailed")).isSome = true := by
  decide +kernel

/-- **Debian packages**: a helper that fails (`CalledProcessError`) is turned into `UnsupportedFileType`, which `check_file`
    catches (`pass`) before checking the path as a regular file (/repo 4ff67ee) -/
theorem deb_errors_caught :
    (dispatch (site "lib/cli.py" "check_deb" 0).handlers (cls "subprocess.CalledProcessError")).map (·.fin) = some (.raises [cls "lib.cli.UnsupportedFileType"]) ∧
    (dispatch (site "lib/cli.py" "check_file" 0).handlers (cls "lib.cli.UnsupportedFileType")).map (·.fin) = some .pass := by
  decide +kernel

/-- the three `try` statements of `Checker.check`, as the model `Check.check` assumes them -/
theorem check_sites_pin :
    checkStat.handlers.map view = [(["builtins.OSError"], ["os-error"], .ret)] ∧
    checkInner.handlers.map view = [(["builtins.UnicodeDecodeError"], [], .fallthrough)] ∧
    checkOuter.handlers.map view = [(["lib.moparser.SyntaxError"], ["invalid-mo-file"], .ret),
                                    (["builtins.OSError"], ["os-error", "syntax-error-in-po-file"], .mayReraise)] ∧
    checkOuter.hasFinally = true ∧ checkOuter.finallyTags = ["broken-encoding"] := by
  decide +kernel

/-- **how `Checker.check` classifies what a loader raises**, for EVERY class of the table and every value of the two
    attributes it looks at: `UnicodeDecodeError` (only) is retried; `moparser.SyntaxError` is `invalid-mo-file`; an `OSError`
    (any subclass) is `os-error` if it carries an errno, `syntax-error-in-po-file` if its text says so, re-raised otherwise;
    anything else is not handled.  On the retry a second `UnicodeDecodeError` is not handled. -/
theorem loader_classification :
    ((List.range classNames.length).all fun c => [true, false].all fun en => [true, false].all fun tx =>
      let r : Raised := ⟨c, en, tx⟩
      (loadErrOf r ==
        (if c = cls "builtins.UnicodeDecodeError" then LoadErr.unicodeDecode
         else if c = cls "lib.moparser.SyntaxError" then .moSyntax
         else if isSub c (cls "builtins.OSError") then (if en then .osErrno else if tx then .poSyntax else .osOther)
         else .other)) &&
      (loadErrOfRetry r ==
        (if c = cls "builtins.UnicodeDecodeError" then LoadErr.unicodeDecode
         else if c = cls "lib.moparser.SyntaxError" then .moSyntax
         else if isSub c (cls "builtins.OSError") then (if en then .osErrno else if tx then .poSyntax else .osOther)
         else .other))) = true ∧
    LoadErr.handledRetry .unicodeDecode = false := by
  decide +kernel

/-- the two exceptions the MO loader raises (C09) are the two `Model/Pipeline.moLoad` maps them to, and every flavour of "the
    file cannot be read" that `open()` reports (an `OSError` subclass carrying an errno) is `os-error` — on the first call and on
    the retry; polib's own `OSError('Syntax error in po file …')` (no errno) is `syntax-error-in-po-file` -/
theorem loader_classes :
    (∀ en tx, loadErrOf ⟨cls "lib.moparser.SyntaxError", en, tx⟩ = .moSyntax ∧ loadErrOfRetry ⟨cls "lib.moparser.SyntaxError", en, tx⟩ = .moSyntax) ∧
    (∀ en tx, loadErrOf ⟨cls "builtins.UnicodeDecodeError", en, tx⟩ = .unicodeDecode) ∧
    (["builtins.OSError", "builtins.PermissionError", "builtins.FileNotFoundError", "builtins.IsADirectoryError", "builtins.NotADirectoryError"].all fun n =>
      [true, false].all fun tx => loadErrOf ⟨cls n, true, tx⟩ == .osErrno && loadErrOfRetry ⟨cls n, true, tx⟩ == .osErrno) = true ∧
    loadErrOf ⟨cls "builtins.OSError", false, true⟩ = .poSyntax ∧ loadErrOf ⟨cls "builtins.OSError", false, false⟩ = .osOther ∧
    -- a bare UnicodeError (what idna/punycode raise for malformed input) is NOT handled: lib/encodings.decode has to convert it (ded8ac2)
    loadErrOf ⟨cls "builtins.UnicodeError", false, false⟩ = .other := by
  decide +kernel

/-! ## 2. `check_string` over the tables -/

theorem warnLoop_total (t : TrySite) (ws : List Cls) (h : ∀ w ∈ ws, (dispatch t.handlers w).isSome = true) :
    (warnLoop t ws).2 = none := by
  induction ws with
  | nil => rfl
  | cons w ws ih =>
    obtain ⟨hh, hd⟩ := Option.isSome_iff_exists.1 (h w List.mem_cons_self)
    simp only [warnLoop, hd]
    exact ih fun w' hm => h w' (List.mem_cons_of_mem _ hm)

/-- a parse error is reported by exactly the tag of the clause that caught it, and `check_string` returns `None` -/
theorem checkString_error {φ : Type} (errSite : TrySite) (warnSite : Option TrySite) (c : Cls) (tags : List String)
    (hd : (dispatch errSite.handlers c).map (·.tags) = some tags) :
    checkString (φ := φ) errSite warnSite (.raised c) = ⟨none, tags.take 1, none⟩ := by
  obtain ⟨h, hh, rfl⟩ := Option.map_eq_some_iff.1 hd
  simp only [checkString, hh]

/-- **`check_string` lets no exception escape** when the parser raises only classes the first `try` catches and records only
    warnings the second one catches -/
theorem checkString_nocrash {φ : Type} (errSite : TrySite) (warnSite : Option TrySite) (p : Parse φ)
    (herr : ∀ c, p = .raised c → (dispatch errSite.handlers c).isSome = true)
    (hwarn : ∀ f ws t, p = .ok (f, ws) → warnSite = some t → ∀ w ∈ ws, (dispatch t.handlers w).isSome = true) :
    (checkString errSite warnSite p).uncaught = none := by
  cases p with
  | raised c =>
    obtain ⟨h, hd⟩ := Option.isSome_iff_exists.1 (herr c rfl)
    rw [checkString_error errSite warnSite c h.tags (by rw [hd]; rfl)]
  | ok fw =>
    cases warnSite with
    | none => rfl
    | some t => exact warnLoop_total t fw.2 (hwarn fw.1 fw.2 t rfl rfl)

/-- every `Error` class of the four strformat modules that the models' parsers raise is caught by `check_string` of its checker
    as that format's `…-format-string-error`, and every warning class of the C and Python parsers is caught inside the loop over
    `fmt.warnings`.  One statement, because every separate evaluation makes the kernel decode the strings of the tables again. -/
theorem parser_classes_caught :
    (∀ e ∈ [CFmt.CErr.Error, .ForbiddenArgumentIndex, .ArgumentRangeError, .MissingArgument, .ArgumentTypeMismatch,
        .ArgumentNumberingMixture, .LengthError, .FlagError, .WidthError, .WidthRangeError, .PrecisionError, .PrecisionRangeError],
      (dispatch cErrSite.handlers (cErrCls e)).map (·.tags) = some ["c-format-string-error"]) ∧
    (∀ w ∈ [CFmt.Warn.NonPortableConversion, .RedundantFlag], (dispatch cWarnSite.handlers (cWarnCls w)).isSome = true) ∧
    (∀ e ∈ [PyFmt.PErr.Error, .ForbiddenArgumentKey, .ArgumentIndexingMixture, .ArgumentTypeMismatch, .WidthRangeError,
        .PrecisionRangeError],
      (dispatch pyErrSite.handlers (pErrCls e)).map (·.tags) = some ["python-format-string-error"]) ∧
    (∀ w ∈ [PyFmt.Warn.RedundantFlag, .RedundantPrecision, .RedundantLength, .ObsoleteConversion],
      (dispatch pyWarnSite.handlers (pWarnCls w)).isSome = true) ∧
    (∀ c ∈ [PyBrace.ErrClass.Error, .ConversionError, .FormatError, .FormatTypeMismatch, .ArgumentNumberingMixture,
        .ArgumentRangeError, .ArgumentTypeMismatch],
      (dispatch pybraceErrSite.handlers (clsId ("lib.strformat.pybrace." ++ c.name))).map (·.tags)
        = some ["python-brace-format-string-error"]) ∧
    (dispatch perlbraceErrSite.handlers (clsId "lib.strformat.perlbrace.Error")).map (·.tags)
      = some ["perl-brace-format-string-error"] := by
  decide +kernel

theorem c_own_caught (e : CFmt.CErr) (h : e.own = true) :
    (dispatch cErrSite.handlers (cErrCls e)).map (·.tags) = some ["c-format-string-error"] := by
  obtain ⟨c_errors, -⟩ := parser_classes_caught
  apply c_errors
  cases e
  case crash => cases h
  all_goals decide

/-- an ill-formed C format string is reported as `c-format-string-error`, whatever the error -/
theorem cCheckString_error_tag (s : List Char) (e : CFmt.CErr) (h : CFmt.parse s = .error e) :
    (cCheckString s).fmt = none ∧ (cCheckString s).tags = ["c-format-string-error"] := by
  simp only [cCheckString, cParse, h]
  rw [checkString_error _ _ _ _ (c_own_caught e (C11.parse_error_own h))]
  exact ⟨rfl, rfl⟩

/-- **`msgformat.c.Checker.check_string` never raises**, for every string (C11: the parser raises only its own `Error` classes) -/
theorem cCheckString_nocrash (s : List Char) : (cCheckString s).uncaught = none := by
  unfold cCheckString cParse
  cases h : CFmt.parse s with
  | error e => rw [checkString_error _ _ _ _ (c_own_caught e (C11.parse_error_own h))]
  | ok r =>
    refine warnLoop_total _ _ fun w hw => ?_
    obtain ⟨x, _, rfl⟩ := List.mem_map.1 hw
    obtain ⟨-, c_warnings, -⟩ := parser_classes_caught
    apply c_warnings
    cases x <;> decide

theorem py_own_caught (e : PyFmt.PErr) (h : e.own = true) :
    (dispatch pyErrSite.handlers (pErrCls e)).map (·.tags) = some ["python-format-string-error"] := by
  obtain ⟨-, -, py_errors, -⟩ := parser_classes_caught
  apply py_errors
  cases e
  case crash => cases h
  all_goals decide

theorem pyCheckString_error_tag (s : List Char) (e : PyFmt.PErr) (h : PyFmt.parse s = .error e) :
    (pyCheckString s).fmt = none ∧ (pyCheckString s).tags = ["python-format-string-error"] := by
  simp only [pyCheckString, pyParse, h]
  rw [checkString_error _ _ _ _ (py_own_caught e (PyFmt.parse_error_own h))]
  exact ⟨rfl, rfl⟩

/-- **`msgformat.python.Checker.check_string` never raises** (C12 `error_own`) -/
theorem pyCheckString_nocrash (s : List Char) : (pyCheckString s).uncaught = none := by
  unfold pyCheckString pyParse
  cases h : PyFmt.parse s with
  | error e => rw [checkString_error _ _ _ _ (py_own_caught e (PyFmt.parse_error_own h))]
  | ok r =>
    refine warnLoop_total _ _ fun w hw => ?_
    obtain ⟨x, _, rfl⟩ := List.mem_map.1 hw
    obtain ⟨-, -, -, py_warnings, -⟩ := parser_classes_caught
    apply py_warnings
    cases x <;> decide

/-- the brace backends (python-brace, perl-brace): `check_string` never raises PROVIDED the parser raises only classes deriving
    from its module's `Error` — C13's closure statement for lib/strformat/pybrace.py and perlbrace.py, a hypothesis here
    (`pybraceCheckString_nocrash` / `perlbraceCheckString_nocrash` below are without it); they record no warnings: `warnings_caught` -/
theorem braceCheckString_nocrash {φ : Type} (fmt : String) (hf : fmt = "python-brace" ∨ fmt = "perl-brace") (p : Parse φ)
    (c13_own : ∀ c, p = .raised c → ∃ row ∈ ownErrors, row.1 = fmt ∧ row.2.2.2.contains c = true ∧ isSub c row.2.2.1 = true) :
    (checkString (checkStringSite fmt) none p).uncaught = none := by
  refine checkString_nocrash _ _ _ (fun c hc => ?_) (fun _ _ _ _ ht => nomatch ht)
  obtain ⟨⟨f, b, err, defined⟩, hrow, rfl, hdefined, hsub⟩ := c13_own c hc
  replace hsub : isSub c err = true := hsub
  -- the row of the pin for this module: its `Error` is defined, every defined subclass of it is caught, every raised class is caught
  have hpin := List.all_eq_true.1 strformat_errors_caught.2 _ hrow
  simp only [Bool.and_eq_true, List.all_eq_true] at hpin
  obtain ⟨⟨_, hsubclasses⟩, _⟩ := hpin
  have hcaught : caughtAsError f c = true := by
    simpa only [hsub, Bool.not_true, Bool.false_or] using hsubclasses c (List.contains_iff_mem.1 hdefined)
  -- of `caughtAsError`, the half about `check_string`'s handlers
  simp only [caughtAsError, Bool.and_eq_true, beq_iff_eq] at hcaught
  obtain ⟨h, hd, _⟩ := Option.map_eq_some_iff.1 hcaught.1
  rw [hd]
  rfl

theorem pybrace_own_caught (c : PyBrace.ErrClass) (a : PyBrace.ErrArg) :
    (dispatch pybraceErrSite.handlers (braceErrCls (.own c a))).map (·.tags) = some ["python-brace-format-string-error"] := by
  obtain ⟨-, -, -, -, pybrace_errors, -⟩ := parser_classes_caught
  apply pybrace_errors
  cases c <;> decide

theorem pybraceCheckString_error_tag (s : List Char) (e : PyBrace.PErr) (h : PyBrace.parse s = .error e) :
    (pybraceCheckString s).fmt = none ∧ (pybraceCheckString s).tags = ["python-brace-format-string-error"] := by
  obtain ⟨cl, a, rfl⟩ := C13.brace_error_own h
  simp only [pybraceCheckString, pybraceParse, h]
  rw [checkString_error _ _ _ _ (pybrace_own_caught cl a)]
  exact ⟨rfl, rfl⟩

/-- **`msgformat.pybrace.Checker.check_string` never raises**, for every string (C13 `brace_error_own`: the parser raises only
    its module's `Error` classes — the `assert`s, `int()`, `_printable_prefix` are unreachable) -/
theorem pybraceCheckString_nocrash (s : List Char) : (pybraceCheckString s).uncaught = none := by
  unfold pybraceCheckString pybraceParse
  cases h : PyBrace.parse s with
  | ok r => rfl
  | error e =>
    obtain ⟨cl, a, rfl⟩ := C13.brace_error_own h
    rw [checkString_error _ _ _ _ (pybrace_own_caught cl a)]

/-- **`msgformat.perlbrace.Checker.check_string` never raises** (C13 `perl_error_own`) -/
theorem perlbraceCheckString_nocrash (s : List Char) : (perlbraceCheckString s).uncaught = none := by
  unfold perlbraceCheckString perlbraceParse
  cases h : PerlBrace.parse s with
  | ok r => rfl
  | error e =>
    obtain ⟨p, rfl⟩ := C13.perl_error_own h
    obtain ⟨-, -, -, -, -, perlbrace_error⟩ := parser_classes_caught
    exact congrArg StringCheck.uncaught (checkString_error _ _ _ _ perlbrace_error)

/-! ## 3. the stages -/

theorem runStages_raise {σ τ : Type} (stages : List (Stage σ τ)) (s : σ) (h : (runStages stages s).2 = true) :
    ∃ st ∈ stages, ∃ s', (st s').2.2 = true := by
  fun_induction runStages stages s with
  | case1 => cases h
  | case2 st rest s s' out hst => exact ⟨st, List.mem_cons_self, s, by rw [hst]⟩
  | case3 st rest s s' out hst r ih =>
    obtain ⟨st', hm, s'', hr⟩ := ih h
    exact ⟨st', List.mem_cons_of_mem _ hm, s'', hr⟩

theorem runStages_total {σ τ : Type} (stages : List (Stage σ τ)) (h : ∀ st ∈ stages, ∀ s, (st s).2.2 = false) (s : σ) :
    (runStages stages s).2 = false := by
  refine Bool.eq_false_iff.2 fun hr => ?_
  obtain ⟨st, hm, s', hs⟩ := runStages_raise stages s hr
  cases (h st hm s').symm.trans hs

/-- **`check_plurals` never raises**, for every Plural-Forms value, message list and language whose registry strings parse
    (C05 `codomain_nocrash`, C06 `period_nocrash`, C07 `window_nocrash` / `gap_nocrash`, and the lexer's `ValueError` outcome
    being unreachable since `fix:` 871d4d7) — in the model, which recurses structurally: see `recursion_budget` -/
theorem plurals_stage_total {σ : Type} (input : σ → CheckPlurals.Input) (store : σ → Option CheckPlurals.Preimage → σ)
    (hreg : ∀ s, CheckPlurals.RegistryParses (input s)) (s : σ) : (pluralsStage input store s).2.2 = false := by
  unfold pluralsStage
  cases h : CheckPlurals.checkPlurals (input s) with
  | ok out => rfl
  | error ex => exact absurd h (CheckPlurals.checkPlurals_nocrash (input s) (hreg s) ex)

/-- **`check_dates` never raises** (C18 `NoCrash`: the second `parse_date` cannot fail, the hint is well-formed, the length
    assertion holds) -/
theorem dates_stage_total {σ : Type} (input : σ → Date.Ctx) (s : σ) : (datesStage input s).2.2 = false := by
  unfold datesStage
  cases h : Date.checkDates (input s) with
  | some tags => rfl
  | none => exact absurd h (C18.NoCrash (input s))

/-- **`check_language` never raises** (C19 `check_language_nocrash`: for every path, a base name `.po` included — /repo d16b49e) -/
theorem language_stage_total {σ : Type} (munch : List Char → List Char) (input : σ → Locale.Input)
    (store : σ → Option Locale.Language → σ) (s : σ) : (languageStage munch input store s).2.2 = false := by
  unfold languageStage
  obtain ⟨out, h⟩ := C19.check_language_nocrash munch (input s)
  rw [h]

/-- the evaluator raises nothing but overflow and division by zero (both reported as tags: `arithmetic_errors_caught`) -/
theorem eval_errors_closed {bits : Nat} (hb : 1 ≤ bits) (n : Int) (e : Expr) (ex : Py.Exc)
    (h : Plural.evalAt bits n e = .error ex) : ex = .Overflow ∨ ex = .ZeroDivision :=
  Plural.evalAt_error_kinds hb n e ex h

/-! ### recursion: what the structural models do not show -/

/-- nesting depth of a plural expression as the AST-walking evaluators of lib/intexpr.py see it -/
def depth : Expr → Nat
  | .num _ | .name => 1
  | .unaryop _ e => depth e + 1
  | .binop a _ b => max (depth a) (depth b) + 1
  | .compare a _ b => max (depth a) (depth b) + 1
  | .boolop _ a b => max (depth a) (depth b) + 1
  | .ifexp c a b => max (depth c) (max (depth a) (depth b)) + 1

def iter {α : Type} (f : α → α) : Nat → α → α
  | 0, a => a
  | k + 1, a => f (iter f k a)

/-- Python frames the concrete evaluator has on the stack at its deepest point: `_visit` + `_visit_<node>` per nesting level,
    plus `_visit(op)` → `_visit_<op>` → `_check_overflow` on top of the innermost operator (or `_check_overflow` under a leaf) -/
def framesNeeded (e : Expr) : Nat := 2 * depth e + 3

/-- left- and right-nested chains: `!`×k n and n (+ n)×k need 2k + 5 frames: linear in the length of the expression, so no
    fixed recursion limit covers every input (the open finding; `k = 600` is the replayed witness) -/
theorem recursion_budget (k : Nat) :
    framesNeeded (iter (Expr.unaryop .not) k .name) = 2 * k + 5 ∧
    framesNeeded (iter (fun e => Expr.binop e .add .name) k .name) = 2 * k + 5 := by
  have h : ∀ g : Expr → Expr, (∀ e n, depth e = n + 1 → depth (g e) = n + 2) → ∀ k, depth (iter g k .name) = k + 1 := by
    intro g hg k
    induction k with
    | zero => rfl
    | succ k ih => exact hg _ _ ih
  unfold framesNeeded
  rw [h _ fun e n he => by simp [depth, he], h _ fun e n he => by simp [depth, he]]
  omega

/-! ## 4. `Checker.check` -/

variable {F σ τ : Type}

/-- **Exactly when an exception leaves `check()`**: the first loader call raised something that is neither retried nor
    mapped to a tag, or the retry did, or a `check_*` stage raised. -/
theorem check_uncaught_iff (statOk : Bool) (ext : Ext) (load : Bool → Except LoadErr F) (init : F → Bool → σ)
    (stages : List (Stage σ τ)) :
    (check statOk ext load init stages).uncaught = true ↔
      statOk = true ∧ ext ≠ .other ∧
      ((∃ e, load false = .error e ∧ e.handledFirst = false) ∨
       (load false = .error .unicodeDecode ∧ ∃ e, load true = .error e ∧ e.handledRetry = false) ∨
       (∃ f, load false = .ok f ∧ (runStages stages (init f false)).2 = true) ∨
       (load false = .error .unicodeDecode ∧ ∃ f, load true = .ok f ∧ (runStages stages (init f true)).2 = true)) := by
  -- a table: each arm of `check` fixes `statOk`, `ext`, `load false` and, after a decode error, `load true`, which decides every
  -- disjunct on the right; on the left `uncaught` is a literal, or the stages' flag in the two arms that reach `afterLoad`
  fun_cases check statOk ext load init stages <;> simp_all [LoadErr.handledFirst, LoadErr.handledRetry, afterLoad]

/-- **The run returns normally** whenever the loader raises only what `check` is written to handle and no stage
    raises — whatever the file. -/
theorem check_total (statOk : Bool) (ext : Ext) (load : Bool → Except LoadErr F) (init : F → Bool → σ)
    (stages : List (Stage σ τ))
    (h1 : ∀ e, load false = .error e → e.handledFirst = true)
    (h2 : ∀ e, load true = .error e → e.handledRetry = true)
    (h3 : ∀ st ∈ stages, ∀ s, (st s).2.2 = false) :
    (check statOk ext load init stages).uncaught = false := by
  refine Bool.eq_false_iff.2 fun h => ?_
  obtain ⟨_, _, ⟨e, he, hf⟩ | ⟨_, e, he, hf⟩ | ⟨f, _, hr⟩ | ⟨_, f, _, hr⟩⟩ := (check_uncaught_iff statOk ext load init stages).1 h
  · cases (h1 e he).symm.trans hf
  · cases (h2 e he).symm.trans hf
  · cases (runStages_total stages h3 _).symm.trans hr
  · cases (runStages_total stages h3 _).symm.trans hr

/-- an unreadable path is reported as `os-error` and nothing else happens -/
theorem unreadable_is_tag (ext : Ext) (load : Bool → Except LoadErr F) (init : F → Bool → σ) (stages : List (Stage σ τ)) :
    check false ext load init stages = ⟨[.osError], false⟩ := rfl

/-- a file of another type is reported as `unknown-file-type`; it is not even opened -/
theorem unknown_type_is_tag (load : Bool → Except LoadErr F) (init : F → Bool → σ) (stages : List (Stage σ τ)) :
    check true .other load init stages = ⟨[.unknownFileType], false⟩ := rfl

/-- **A file the loader refuses is reported by exactly one tag** (`invalid-mo-file`, `os-error` or
    `syntax-error-in-po-file`), followed only by the pending `broken-encoding`; no `check_*` runs. -/
theorem loader_failure_lines (ext : Ext) (hext : ext ≠ .other) (load : Bool → Except LoadErr F) (init : F → Bool → σ)
    (stages : List (Stage σ τ)) (e : LoadErr) (he : e.handledRetry = true) :
    (load false = .error e → (check true ext load init stages).lines.length = 1 ∧
        (check true ext load init stages).uncaught = false ∧
        ∀ t, Line.tag t ∉ (check true ext load init stages).lines) ∧
    (load false = .error .unicodeDecode → load true = .error e →
        (∃ l, (check true ext load init stages).lines = [l, .brokenEncoding]) ∧
        (check true ext load init stages).uncaught = false) := by
  cases e
  case unicodeDecode | osOther | other => cases he
  all_goals exact ⟨fun h1 => by simp [check, hext, h1], fun h1 h2 => by simp [check, hext, h1, h2]⟩

/-- `broken-encoding` is printed iff the first loader call raised `UnicodeDecodeError` -/
theorem broken_encoding_iff (ext : Ext) (hext : ext ≠ .other) (load : Bool → Except LoadErr F) (init : F → Bool → σ)
    (stages : List (Stage σ τ)) :
    Line.brokenEncoding ∈ (check true ext load init stages).lines ↔ load false = .error .unicodeDecode := by
  fun_cases check true ext load init stages <;> simp_all [afterLoad]

/-! ### the MO loader (C09) -/

theorem moLoad_first (db : Mo.CodecDB) (view : Mo.Bytes) (e : LoadErr) (he : moLoad db view false = .error e) :
    e.handledFirst = true := by
  revert he
  fun_cases moLoad db view false with
  | case1 => exact nofun  -- loaded
  | case2 | case3 =>  -- `moparser.SyntaxError`, `UnicodeDecodeError`: both handled on the first attempt
    rintro ⟨⟩
    rfl
  | case4 c hp => exact absurd hp (C09.parse_total_closed db none view c)  -- any other exception: C09 excludes it

theorem moLoad_retry (db : Mo.CodecDB) (hl : C09.Latin1OK db) (view : Mo.Bytes) (e : LoadErr) (he : moLoad db view true = .error e) :
    e.handledRetry = true := by
  revert he
  fun_cases moLoad db view true with
  | case1 => exact nofun  -- loaded
  | case2 =>  -- `moparser.SyntaxError`
    rintro ⟨⟩
    rfl
  | case3 hp => exact absurd hp (Mo.parse_no_decode db hl.compat hl.total view)  -- `UnicodeDecodeError`: not under ISO-8859-1
  | case4 c hp => exact absurd hp (C09.parse_total_closed db _ view c)  -- any other exception: C09 excludes it

/-- **Every byte string with an MO extension**: the loader raises only `moparser.SyntaxError` or
    `UnicodeDecodeError` (C09 `parse_total_closed`), the ISO-8859-1 retry cannot raise the latter, so if no `check_*`
    stage raises the run returns normally. -/
theorem mo_check_total (db : Mo.CodecDB) (hl : C09.Latin1OK db) (view : Mo.Bytes) (init : Mo.MoFile → Bool → σ)
    (stages : List (Stage σ τ)) (h3 : ∀ st ∈ stages, ∀ s, (st s).2.2 = false) :
    (check true .mo (moLoad db view) init stages).uncaught = false :=
  check_total _ _ _ _ _ (moLoad_first db view) (moLoad_retry db hl view) h3

/-- the loading phase of this model is C09's `checkerLoad`: the same lines, tag for tag, and an exception leaves the one
    iff it leaves the other -/
theorem mo_load_is_checkerLoad (db : Mo.CodecDB) (view : Mo.Bytes) :
    (check (σ := Unit) (τ := Unit) true .mo (moLoad db view) (fun _ _ => ()) []).lines
      = (Mo.checkerLoad db view).tags.map (fun t => match t with
          | .invalidMoFile _ => Line.invalidMoFile
          | .brokenEncoding => .brokenEncoding) ∧
    (Mo.checkerLoad db view).uncaught.isSome =
      (check (σ := Unit) (τ := Unit) true .mo (moLoad db view) (fun _ _ => ()) []).uncaught := by
  unfold Mo.checkerLoad check moLoad
  simp only [Bool.not_true, Bool.false_eq_true, if_false, if_true]
  -- both sides branch on the same two calls of the parser
  cases Mo.parse db none view with
  | ok f => exact ⟨rfl, rfl⟩
  | error e =>
    cases e with
    | decode =>
      cases Mo.parse db (some Mo.latin1Name) view with
      | ok f => exact ⟨rfl, rfl⟩
      | error e => cases e <;> exact ⟨rfl, rfl⟩
    | _ => exact ⟨rfl, rfl⟩

/-- in particular the two loading phases raise alike -/
theorem mo_load_agrees (db : Mo.CodecDB) (view : Mo.Bytes) :
    ((Mo.checkerLoad db view).uncaught.isSome =
      (check (σ := Unit) (τ := Unit) true .mo (moLoad db view) (fun _ _ => ()) []).uncaught) :=
  (mo_load_is_checkerLoad db view).2

/-! ## 5. the command line: exit status, stderr, `-j`, `--unpack-deb` -/

theorem run_ok {α : Type} (checkFile : α → Cli.FileRun) (paths : List α) (h : ∀ p ∈ paths, (checkFile p).uncaught = false) :
    Cli.runSeq checkFile paths = ((paths.map fun p => (checkFile p).lines).flatten, false) ∧
    Cli.runPar checkFile paths = ((paths.map fun p => (checkFile p).lines).flatten, false) := by
  induction paths with
  | nil => exact ⟨rfl, rfl⟩
  | cons p ps ih =>
    obtain ⟨i1, i2⟩ := ih fun q hq => h q (List.mem_cons_of_mem _ hq)
    simp only [Cli.runSeq, Cli.runPar, h p List.mem_cons_self, Bool.false_eq_true, if_false, List.map_cons, List.flatten_cons,
      i1, i2, and_self]

/-- both loops report an exception iff some `check_file` call raised: they differ only in what was printed before it -/
theorem run_uncaught {α : Type} (checkFile : α → Cli.FileRun) (paths : List α) :
    (Cli.runSeq checkFile paths).2 = paths.any (fun p => (checkFile p).uncaught) ∧
    (Cli.runPar checkFile paths).2 = paths.any (fun p => (checkFile p).uncaught) := by
  induction paths with
  | nil => exact ⟨rfl, rfl⟩
  | cons p ps ih =>
    simp only [Cli.runSeq, Cli.runPar, List.any_cons]
    cases (checkFile p).uncaught with
    | true => exact ⟨rfl, rfl⟩
    | false => exact ih

theorem runPar_fails_iff {α : Type} (checkFile : α → Cli.FileRun) (paths : List α) :
    (Cli.runPar checkFile paths).2 = true ↔ ∃ p ∈ paths, (checkFile p).uncaught = true := by
  rw [(run_uncaught checkFile paths).2, List.any_eq_true]

/-- when `-l` is accepted, stderr and the exit status say whether some `check_file` call raised, and nothing else — whatever `-j` -/
theorem main_status {α : Type} (lang : Cli.LangOpt) (hl : lang ≠ .invalid) (checkFile : α → Cli.FileRun) (paths : List α) (jobs : Nat) :
    (Cli.main lang checkFile paths jobs).stderr = paths.any (fun p => (checkFile p).uncaught) ∧
    (Cli.main lang checkFile paths jobs).rc = if paths.any (fun p => (checkFile p).uncaught) then 1 else 0 := by
  by_cases hj : paths.length ≤ 1 ∨ jobs ≤ 1
  · simp only [Cli.main, if_neg hl, if_pos hj, (run_uncaught checkFile paths).1, and_self]
  · simp only [Cli.main, if_neg hl, if_neg hj, (run_uncaught checkFile paths).2, and_self]

/-- **the exit status is 0 iff `-l` was not rejected and no `check_file` call raised** — in particular a tag, of whatever
    severity, never changes it; stderr is empty in exactly the same case -/
theorem main_rc_zero_iff {α : Type} (lang : Cli.LangOpt) (checkFile : α → Cli.FileRun) (paths : List α) (jobs : Nat) :
    ((Cli.main lang checkFile paths jobs).rc = 0 ↔ lang ≠ .invalid ∧ ∀ p ∈ paths, (checkFile p).uncaught = false) ∧
    ((Cli.main lang checkFile paths jobs).stderr = false ↔ (Cli.main lang checkFile paths jobs).rc = 0) := by
  by_cases hl : lang = .invalid
  · simp [hl, Cli.main]
  · obtain ⟨h1, h2⟩ := main_status lang hl checkFile paths jobs
    have hall : (∀ p ∈ paths, (checkFile p).uncaught = false) ↔ (paths.any fun p => (checkFile p).uncaught) = false := by
      simp only [List.any_eq_false, Bool.not_eq_true]
    rw [h1, h2, hall]
    cases paths.any fun p => (checkFile p).uncaught <;> simp [hl]

/-- when nothing raises, the run prints the per-file lines in argument order, exits 0 with empty stderr — whatever `-j` -/
theorem main_ok {α : Type} (lang : Cli.LangOpt) (hl : lang ≠ .invalid) (checkFile : α → Cli.FileRun) (paths : List α) (jobs : Nat)
    (h : ∀ p ∈ paths, (checkFile p).uncaught = false) :
    Cli.main lang checkFile paths jobs = ⟨(paths.map fun p => (checkFile p).lines).flatten, false, 0⟩ := by
  unfold Cli.main
  simp only [hl, if_false]
  by_cases hj : paths.length ≤ 1 ∨ jobs ≤ 1
  · simp [hj, (run_ok checkFile paths h).1]
  · simp [hj, (run_ok checkFile paths h).2]

/-- … and if every file's lines are renderings through `fmt`, so is every line of stdout -/
theorem main_ok_lines {α β : Type} (lang : Cli.LangOpt) (hl : lang ≠ .invalid) (checkFile : α → Cli.FileRun) (paths : List α) (jobs : Nat)
    (h : ∀ p ∈ paths, (checkFile p).uncaught = false) (fmt : β → String)
    (hfmt : ∀ p ∈ paths, ∃ ls : List β, (checkFile p).lines = ls.map fmt) :
    (Cli.main lang checkFile paths jobs).rc = 0 ∧ (Cli.main lang checkFile paths jobs).stderr = false ∧
    ∀ l ∈ (Cli.main lang checkFile paths jobs).stdout, ∃ x, l = fmt x := by
  rw [main_ok lang hl checkFile paths jobs h]
  refine ⟨rfl, rfl, fun l hl' => ?_⟩
  simp only [List.mem_flatten, List.mem_map] at hl'
  obtain ⟨_, ⟨p, hp, rfl⟩, hmem⟩ := hl'
  obtain ⟨ls, hls⟩ := hfmt p hp
  obtain ⟨x, _, rfl⟩ := List.mem_map.1 (hls ▸ hmem)
  exact ⟨x, rfl⟩

/-- a rejected `-l` ends the run before any file is read: usage error, status 2 (not a "valid combination of options") -/
theorem main_invalid_language {α : Type} (checkFile : α → Cli.FileRun) (paths : List α) (jobs : Nat) :
    Cli.main .invalid checkFile paths jobs = ⟨[], true, 2⟩ := rfl

/-- `check_file` with `--unpack-deb`: no exception if checking the path itself and checking every member raise none — also
    when the helper cannot unpack the file (/repo 4ff67ee) -/
theorem checkFile_ok {α : Type} (unpackDeb : Bool) (deb : α → Cli.DebOutcome α) (regular members : α → Cli.FileRun) (p : α)
    (h1 : (regular p).uncaught = false) (h2 : ∀ ms, deb p = .members ms → ∀ m ∈ ms, (members m).uncaught = false) :
    (Cli.checkFile unpackDeb deb regular members p).uncaught = false := by
  fun_cases Cli.checkFile unpackDeb deb regular members p with
  | case3 _ ms hd => exact congrArg Prod.snd (run_ok members ms (h2 ms hd)).1  -- unpacked: the members are checked
  | case1 | case2 | case4 => exact h1  -- not a package, unpacking failed, no `--unpack-deb`: the path itself is checked

/-! ## 6. the composition -/

/-- one command-line argument, as far as `Checker.check` distinguishes -/
inductive FileIn (F σ : Type) where
  /-- `os.stat` fails (missing, dangling link, no permission on a directory of the path), whatever the extension -/
  | unreadable
  /-- an extension (or `--file-type`) that is none of po, pot, mo, gmo -/
  | otherType
  /-- `.mo` / `.gmo`: any byte string -/
  | mo (db : Mo.CodecDB) (view : Mo.Bytes) (init : Mo.MoFile → Bool → σ)
  /-- `.po` / `.pot`: the file as `polib.pofile` sees it (a loader with its retry) -/
  | po (template : Bool) (load : Bool → Except LoadErr F) (init : F → Bool → σ)

/-- **what the component models must deliver** — one field per closure statement, named after the property that owns it.
    No value of it is built: section 7 proves the conclusion of `pipeline_nocrash` for `Meta.Real.pipeline` directly, with each of
    these closure statements supplied by that property's theorem (`Meta.Real.pipeline_total`, `poLoad_first` / `poLoad_retry`) -/
structure Pending {F σ : Type} (st : Stages σ) (files : List (FileIn F σ)) : Prop where
  /-- C10 (`Model/Po.lean`): `polib.pofile(path)` raises only `UnicodeDecodeError`, `OSError` with an errno, or the
      `OSError('Syntax error in po file …')` of polib's parser -/
  c10_po_loader_first : ∀ t load init, FileIn.po t load init ∈ files → ∀ e, load false = .error e → e.handledFirst = true
  /-- C10: the ISO-8859-1 retry raises none but the last two -/
  c10_po_loader_retry : ∀ t load init, FileIn.po t load init ∈ files → ∀ e, load true = .error e → e.handledRetry = true
  /-- C09 side condition on the codec table: ISO-8859-1 is ASCII-compatible and total (true of CPython's) -/
  c09_latin1 : ∀ db view init, FileIn.mo db view init ∈ files → C09.Latin1OK db
  /-- C15 (`Model/Hdr.lean`): the header stages raise nothing (`check_mime` includes the codec calls C20 proves closed) -/
  c15_comments : ∀ s, (st.comments s).2.2 = false
  c15_headers : ∀ s, (st.headers s).2.2 = false
  c15_mime : ∀ s, (st.mime s).2.2 = false
  c15_project : ∀ s, (st.project s).2.2 = false
  c15_translator : ∀ s, (st.translator s).2.2 = false
  /-- C16 (`Model/Msg.lean`), resting on C13 (brace parsers raise only their own `Error`: `braceCheckString_nocrash`) and C14
      (`check_args` raises nothing); the C and Python `check_string` calls inside are `cCheckString_nocrash` / `pyCheckString_nocrash` -/
  c16_messages : ∀ s, (st.messages s).2.2 = false

/-- `check_file(path)` for such an argument (without `--unpack-deb`: `checkFile_ok` adds it) -/
def FileIn.run {F σ : Type} (fmt : Line TagName → String) (st : Stages σ) : FileIn F σ → Cli.FileRun
  | .unreadable => ⟨[fmt .osError], false⟩
  | .otherType => ⟨[fmt .unknownFileType], false⟩
  | .mo db view init => regularRun fmt true .mo (moLoad db view) init st
  | .po t load init => regularRun fmt true (if t then .pot else .po) load init st

/-- the two short cases are what `Checker.check` does, whatever the loader would have done -/
theorem run_unreadable {F σ : Type} (fmt : Line TagName → String) (st : Stages σ) (ext : Ext) (load : Bool → Except LoadErr F)
    (init : F → Bool → σ) :
    regularRun fmt false ext load init st = FileIn.run (F := F) fmt st .unreadable ∧
    regularRun fmt true .other load init st = FileIn.run (F := F) fmt st .otherType := ⟨rfl, rfl⟩

/-- **pipeline_nocrash** — for every list of arguments (unreadable paths, files of another type, arbitrary byte strings with
    an MO extension, PO/POT files), every `-l` that is not rejected, every `-j`: the process exits with status 0, writes
    nothing to stderr, and every stdout line is the rendering of a tag call (`fmt`, i.e. C02's `Tag.format`).
    Discharged here for all inputs: the MO loader (C09), `check_language` (C19), `check_plurals` (C04–C07; registry strings
    parse), `check_dates` (C18).  Assumed, by name: `Pending` (C10, C15, C16 ⊇ C13, C14). -/
theorem pipeline_nocrash {F σ : Type} (fmt : Line TagName → String) (st : Stages σ) (files : List (FileIn F σ))
    (munch : List Char → List Char) (inL : σ → Locale.Input) (storeL : σ → Option Locale.Language → σ)
    (inP : σ → CheckPlurals.Input) (storeP : σ → Option CheckPlurals.Preimage → σ) (inD : σ → Date.Ctx)
    (hlang : st.language = languageStage munch inL storeL)
    (hplur : st.plurals = pluralsStage inP storeP) (hreg : ∀ s, CheckPlurals.RegistryParses (inP s))
    (hdates : st.dates = datesStage inD)
    (pend : Pending st files) (lang : Cli.LangOpt) (hl : lang ≠ .invalid) (jobs : Nat) :
    (Cli.main lang (FileIn.run fmt st) files jobs).rc = 0 ∧
    (Cli.main lang (FileIn.run fmt st) files jobs).stderr = false ∧
    ∀ l ∈ (Cli.main lang (FileIn.run fmt st) files jobs).stdout, ∃ x : Line TagName, l = fmt x := by
  have hst : ∀ sg ∈ st.list, ∀ s, (sg s).2.2 = false := by
    intro sg hm s
    simp only [Stages.list, List.mem_cons, List.not_mem_nil, or_false] at hm
    rcases hm with rfl | rfl | rfl | rfl | rfl | rfl | rfl | rfl | rfl
    · exact pend.c15_comments s
    · exact pend.c15_headers s
    · rw [hlang]; exact language_stage_total munch inL storeL s
    · rw [hplur]; exact plurals_stage_total inP storeP hreg s
    · exact pend.c15_mime s
    · rw [hdates]; exact dates_stage_total inD s
    · exact pend.c15_project s
    · exact pend.c15_translator s
    · exact pend.c16_messages s
  have hfile : ∀ f ∈ files, (FileIn.run fmt st f).uncaught = false := by
    intro f hf
    cases f with
    | unreadable => rfl
    | otherType => rfl
    | mo db view init =>
      exact mo_check_total db (pend.c09_latin1 db view init hf) view init st.list hst
    | po t load init =>
      exact check_total _ _ _ _ _ (pend.c10_po_loader_first t load init hf) (pend.c10_po_loader_retry t load init hf) hst
  refine main_ok_lines lang hl _ files jobs hfile fmt fun f _ => ?_
  cases f with
  | unreadable => exact ⟨[.osError], rfl⟩
  | otherType => exact ⟨[.unknownFileType], rfl⟩
  | mo db view init => exact ⟨_, rfl⟩
  | po t load init => exact ⟨_, rfl⟩

/-- the converse direction, so that the hypotheses are seen to be needed: if a stage raises on the state a loaded file
    produces, the run ends with a traceback and status 1 -/
theorem pipeline_crash_visible {F σ : Type} (fmt : Line TagName → String) (st : Stages σ) (load : Bool → Except LoadErr F)
    (init : F → Bool → σ) (f : F) (hload : load false = .ok f) (hraise : (runStages st.list (init f false)).2 = true)
    (lang : Cli.LangOpt) (hl : lang ≠ .invalid) (jobs : Nat) :
    (Cli.main lang (FileIn.run fmt st) [FileIn.po false load init] jobs).rc = 1 ∧
    (Cli.main lang (FileIn.run fmt st) [FileIn.po false load init] jobs).stderr = true := by
  have hu : (FileIn.run fmt st (FileIn.po false load init)).uncaught = true := by
    simp only [FileIn.run, regularRun, Bool.false_eq_true, if_false]
    exact (check_uncaught_iff true .po load init st.list).2 ⟨rfl, by decide, .inr (.inr (.inl ⟨f, hload, hraise⟩))⟩
  obtain ⟨h1, h2⟩ := main_status lang hl (FileIn.run fmt st) [FileIn.po false load init] jobs
  rw [h1, h2, List.any_cons, hu]
  exact ⟨rfl, rfl⟩

/-! ## 7. the composition with every stage model in place: no hypothesis about any stage -/

theorem moLoad_eq : Pipeline.moLoad = Meta.moLoad := rfl

/-- one command-line argument for the composed checker of C17 (`Meta.Real`): the bytes of the file, and the world around it
    (`self.path`, `options.language`, the clock, the library results the stage models take as inputs) -/
inductive RealArg where
  /-- `os.stat` fails -/
  | unreadable
  /-- an extension (or `--file-type`) that is none of po, pot, mo, gmo -/
  | otherType
  /-- `.mo` / `.gmo`: any byte string -/
  | mo (w : Meta.Real.World) (bytes : Mo.Bytes)
  /-- `.po` / `.pot`: any byte string -/
  | po (w : Meta.Real.World) (template : Bool) (bytes : Po.Bytes)

/-- `check_file(path)`: `Meta.Real.checkMo` / `checkPo` are `Check.check` over the real loader models (C09, C10) and
    `Meta.Real.pipeline` — the ten statements after the load with the stage models of C15, C19, C04–C07, C20, C18, C16, C14
    (parsers: C11, C12, C13) -/
def RealArg.run (fmt : Line Meta.Real.RTag → String) (db : Mo.CodecDB) (env : Po.Env) : RealArg → Cli.FileRun
  | .unreadable => ⟨[fmt .osError], false⟩
  | .otherType => ⟨[fmt .unknownFileType], false⟩
  | .mo w bytes => ⟨(Meta.Real.checkMo w db true bytes).lines.map fmt, (Meta.Real.checkMo w db true bytes).uncaught⟩
  | .po w t bytes => ⟨(Meta.Real.checkPo w env t true bytes).lines.map fmt, (Meta.Real.checkPo w env t true bytes).uncaught⟩

def RealArg.worldOk : RealArg → Prop
  | .mo w _ => Meta.Real.WorldOk w
  | .po w _ _ => Meta.Real.WorldOk w
  | _ => True

/-- the two short cases are `Checker.check` on an unreadable path / another file type, whatever the bytes -/
theorem real_short_cases (w : Meta.Real.World) (db : Mo.CodecDB) (env : Po.Env) (t : Bool) (b1 : Mo.Bytes) (b2 : Po.Bytes) :
    Meta.Real.checkMo w db false b1 = ⟨[.osError], false⟩ ∧ Meta.Real.checkPo w env t false b2 = ⟨[.osError], false⟩ := ⟨rfl, rfl⟩

/-- **every byte string with an MO extension** is checked without an exception leaving `Checker.check` -/
theorem real_mo_nocrash (w : Meta.Real.World) (hw : Meta.Real.WorldOk w) (db : Mo.CodecDB) (hl : C09.Latin1OK db) (statOk : Bool)
    (bytes : Mo.Bytes) : (Meta.Real.checkMo w db statOk bytes).uncaught = false := by
  unfold Meta.Real.checkMo
  rw [← moLoad_eq]
  exact check_total _ _ _ _ _ (moLoad_first db bytes) (moLoad_retry db hl bytes) (Meta.Real.pipeline_total w hw)

/-- **every byte string with a PO or POT extension** is checked without an exception leaving `Checker.check` -/
theorem real_po_nocrash (w : Meta.Real.World) (hw : Meta.Real.WorldOk w) (env : Po.Env) (hc : Po.CodecsBehave env) (t statOk : Bool)
    (bytes : Po.Bytes) : (Meta.Real.checkPo w env t statOk bytes).uncaught = false := by
  unfold Meta.Real.checkPo
  exact check_total _ _ _ _ _ (Meta.Real.poLoad_first env hc bytes) (Meta.Real.poLoad_retry env hc bytes) (Meta.Real.pipeline_total w hw)

/-- **pipeline_nocrash_unconditional** — the conclusion of `pipeline_nocrash` for the composed checker, proved from `check_total` and
    `Meta.Real.pipeline_total` (not through `Pending` / `Pipeline.Stages`, whose nine stages are parameters): the loaders are the models
    of C09 (`Mo.parse`) and C10 (`Po.load`), the stages are `Meta.Real.pipeline` (C15 header stages, C19, C04–C07, C15 `check_mime`
    over C20's fragment, C18, C16 with C14's `check_message` over the parsers of C11, C12, C13).  For every list of arguments —
    unreadable paths, other file types, ARBITRARY BYTE STRINGS as MO, PO or POT files —, every accepted `-l`, every `-j`: exit status
    0, empty stderr, every stdout line the rendering of a tag call.  No hypothesis about any loader or stage is left; what remains
    is about the world outside the file: `WorldOk` (shipped plural registry, codecs and expat raise their documented exceptions
    only, format checkers see the message's strings), `Po.CodecsBehave` and `C09.Latin1OK` (ISO-8859-1 decodes everything; a
    codec the tool classified as ASCII-compatible raises only `UnicodeError`).  IMPLICIT in the types, stated in §9: `TextIsScalar` —
    the loaded file's strings are `List Char`, i.e. Unicode scalar values; a file whose declared codec (`raw_unicode_escape`,
    `unicode_escape`) yields lone surrogates is outside this theorem and is decided by the check's codec-exotica sweep (that is
    where /repo 14c240b was found: `check_fragment`'s own strict encode, modelled in `Model/XmlEncode.lean`).  Outside every
    model (see the head of this file): recursion depth (open finding), time, the OS. -/
theorem pipeline_nocrash_unconditional (fmt : Line Meta.Real.RTag → String) (db : Mo.CodecDB) (hl : C09.Latin1OK db)
    (env : Po.Env) (hc : Po.CodecsBehave env) (files : List RealArg) (hw : ∀ a ∈ files, a.worldOk)
    (lang : Cli.LangOpt) (hlang : lang ≠ .invalid) (jobs : Nat) :
    (Cli.main lang (RealArg.run fmt db env) files jobs).rc = 0 ∧
    (Cli.main lang (RealArg.run fmt db env) files jobs).stderr = false ∧
    ∀ l ∈ (Cli.main lang (RealArg.run fmt db env) files jobs).stdout, ∃ x : Line Meta.Real.RTag, l = fmt x := by
  have hfile : ∀ a ∈ files, (RealArg.run fmt db env a).uncaught = false := by
    intro a ha
    have hwa := hw a ha
    cases a with
    | unreadable => rfl
    | otherType => rfl
    | mo w bytes => exact real_mo_nocrash w hwa db hl true bytes
    | po w t bytes => exact real_po_nocrash w hwa env hc t true bytes
  refine main_ok_lines lang hlang _ files jobs hfile fmt fun a _ => ?_
  cases a with
  | unreadable => exact ⟨[.osError], rfl⟩
  | otherType => exact ⟨[.unknownFileType], rfl⟩
  | mo w bytes => exact ⟨_, rfl⟩
  | po w t bytes => exact ⟨_, rfl⟩

/-- `WorldOk` is what the running tool's world looks like: C20's fragment over the generated tables, C16's generated
    environment, a plural-forms source that answers from the shipped registry, and `kmsgReal` — under the two third-party
    contracts (expat raises only `ExpatError`; `str.encode` of the declared codec raises only `UnicodeError`) -/
theorem worldOk_live (hx : Hdr.Ext) (now : Int) (xml : Tags.Str → Msg.XmlVerdict) (hxml : ∀ s, xml s ≠ .other)
    (munch : List Char → List Char) (path : List Char) (opt : Option Locale.Language)
    (cenv : Charset.Env) (htbl : cenv.tbl = Generated.Charset.portableEncodings) (hc2e : cenv.c2e = Generated.Charset.pycodecToEncoding)
    (chars : Option Locale.Language → Option (Option (List (List Nat))))
    (henc : ∀ lang enc cs, chars lang = some (some cs) → Charset.EncodeOk (cenv.encode enc) cs)
    (pf : Option Locale.Language → Option (List (List Char)) × List (List Char))
    (hpf : ∀ lang, CheckPlurals.FromRegistry ⟨[], (pf lang).1, [], [], false⟩)
    (reprParen : List Char → Option (List Char) → List Char) (reprs : Meta.Obs → Extra × Extra) :
    Meta.Real.WorldOk
      { hx := hx, now := now, menv := Msg.liveEnv xml, munch := munch, path := path, optLanguage := opt,
        charset := fun tpl lang n => Charset.checkCharset cenv n tpl (chars lang),
        pluralForms := pf, reprParen := reprParen, kmsg := PipelineBrace.kmsgReal reprs } where
  registry := hpf
  charset_total := fun tpl lang n => Charset.Tables.checkCharset_total_shipped cenv n tpl (chars lang) htbl hc2e (fun enc cs h => henc lang enc cs h)
  menv_sane := C16.live_env_sane xml hxml
  kmsg_real := ⟨reprs, rfl⟩

/-! ## 8. the data tables the tool trusts: pins over files regenerated from /repo/data on every run of this check

`WorldOk` / `worldOk_live` and several component theorems rest on the CONTENT of data files shipped with the tool, which the code
trusts without validation (`check_plurals` parses the registry's declarations strictly OUTSIDE any `try`; `Checker.tag` raises
`DataIntegrityError` for a name missing from data/tags; `get_language_for_name` parses the code a name maps to outside any
handler for `LanguageSyntaxError`; `propose_portable_encoding` asserts on the table).  Each such assumption is re-stated here as
a theorem over the `Generated/` file that `./check C01` regenerates from the data file (pluralforms2lean, tagregistry2lean +
tagsites2lean, locale2lean, charset2lean, date2lean, msg2lean), so that an edit of the data that invalidates it breaks a proof
obligation OF THIS PROPERTY; the table sweeps of the check (tools/gen/sweep.py: every row of every table through the real
`Checker.check`) then supply the concrete input. -/

/-- **data/languages, `plural-forms`**: every declaration of the registry parses STRICTLY (no junk after the final `;`, e.g. no
    `# note` that `ConfigParser` keeps in the value) and is total, in range and onto on the window; registry indices are valid;
    no language has two declarations with the same nplurals (C07 `shipped_registry_clean`, kernel evaluation over
    `Generated.PluralForms`) — what `WorldOk.registry` relies on -/
theorem registry_parses_strictly :
    (∀ c ∈ Generated.PluralForms.registryStrings, ∃ n e, CheckPlurals.parsePluralFormsStrict c = .ok n e [] []) ∧
    (∀ en ∈ Generated.PluralForms.registry, ∀ i ∈ en.2, i < Generated.PluralForms.registryStrings.length) := by
  obtain ⟨h1, h2, _⟩ := C07.shipped_registry_clean
  exact ⟨fun c hc => by obtain ⟨n, e, h, _⟩ := h1 c hc; exact ⟨n, e, h⟩, h2⟩

/-- hence `check_plurals` raises nothing for ANY language of the registry (or none), any Plural-Forms values, any messages -/
theorem registry_language_nocrash (inp : CheckPlurals.Input) (h : CheckPlurals.FromRegistry inp) :
    ∃ out, CheckPlurals.checkPlurals inp = .ok out := C07.checkPlurals_nocrash inp h

/-- **data/tags**: every `….tag('<name>', …)` call site of lib/ names a tag of the registry (C02 `tag_sites_registered` over
    `Generated.TagSites` × `Generated.TagRegistry`): `cli.Checker.tag` never raises `DataIntegrityError` -/
theorem tags_registered : ∀ s ∈ Generated.TagSites.sites, C02.tagSiteOk s = true := C02.tag_sites_registered

/-- **data/languages `names`, data/iso-codes**: every locale name a language NAME maps to is in the locale grammar (so
    `get_language_for_name` raises nothing but `LookupError`), and the loaded code tables are what `_read_iso_codes` builds -/
theorem locale_tables_sane :
    Locale.namesParse Generated.Locale.nameToCode = true ∧
    Locale.loadIso639 (Generated.Locale.iso639.map (·.1)) Generated.Locale.languageCodes = Generated.Locale.iso639 :=
  ⟨Locale.names_parse, C19.iso_tables_loaded.1⟩

/-- **data/encodings**: the loaded tables are what `_read_encodings` builds from the file, and every Python codec the table
    proposes is itself portable: the `assert` of `propose_portable_encoding` cannot fire (C20 `tables_pin`, `Tables.c2e_rows_closed`) -/
theorem charset_tables_sane :
    (Charset.readPortable Charset.Tables.vanillaLookup Generated.Charset.dataPortable ([], [])
      = some (Generated.Charset.portableEncodings, Generated.Charset.pycodecToEncoding)) ∧
    (Generated.Charset.pycodecToEncoding.all fun kv =>
      (Charset.Tables.rowOf' (Charset.upper kv.2)).map (·.codec) == some (some kv.1)) = true :=
  ⟨Charset.Tables.portable_read, Charset.Tables.c2e_rows_closed⟩

/-- **data/timezones**: every abbreviation is alphabetic, none is listed twice, every offset is `±HHMM` (C18 `table_pin`) -/
theorem timezone_table_sane :
    Generated.DateTables.timezones.all Date.entryOk = true ∧ Date.keysDistinct Generated.DateTables.timezones = true :=
  C18.table_pin

/-- **data/string-formats** and the other tables behind `check_messages`: the generated environment is sane whatever expat
    answers short of a foreign exception (C16 `live_env_sane`: no format name or prefix holds a brace, `get_character_name` is
    total on what `find_unusual_characters` reports) -/
theorem message_tables_sane (xml : Tags.Str → Msg.XmlVerdict) (hx : ∀ s, xml s ≠ .other) : Spec.MessageRules.Sane (Msg.liveEnv xml) :=
  C16.live_env_sane xml hx

/-! ## 9. text that is not Unicode scalar values: the encode step in front of expat, and the modelling gap `TextIsScalar`

A Python `str` may hold lone surrogates; two codecs the tool accepts as ASCII-compatible (`raw_unicode_escape`,
`unicode_escape`) produce them from plain ASCII bytes (`\ud800`).  `WorldOk.menv_sane` says "`xml.check_fragment` raises nothing
but `xml.SyntaxError`"; "expat raises only `ExpatError`" does not justify it alone, because `check_fragment` ENCODES the string
before expat sees it, and with the strict handler that encode raises `UnicodeEncodeError` (the code before /repo 14c240b).  The
step is modelled in `Model/XmlEncode.lean` over code-point lists; which handler the source uses is read from the source
(`Generated.ExcMap.encodeSites`).

**The gap, stated.**  `Meta.Obs`, the PO loader model, the format parsers and everything composed in
`pipeline_nocrash_unconditional` hold text as `List Char`, and a Lean `Char` is a scalar value: those models CANNOT represent a
string with a lone surrogate, so every theorem about them silently assumes `TextIsScalar` of every string of the loaded file
(`model_text_is_scalar`, `strict_encode_never_fails_on_model_text`: on model text the strict encode cannot fail — the model could
never have exhibited the crash).  The check enforces the assumption from the other side: every file whose loaded strings are
not all scalar is counted, kept out of the string correspondences and decided by the falsifier alone (codec-exotica sweep). -/

open XmlEncode in
theorem encode_eq (e : Errors) (s : List Nat) :
    encode e s = if e = .strict ∧ ∃ c ∈ s, isSurrogate c = true then none else some (s.flatMap pattern) := by
  induction s with
  | nil => simp [encode]
  | cons c cs ih =>
    simp only [encode, encodeCp, ih, List.mem_cons, exists_eq_or_imp, List.flatMap_cons]
    cases e with
    | surrogatepass => simp
    | strict =>
      cases isSurrogate c with
      | true => simp
      | false => by_cases h : ∃ c ∈ cs, isSurrogate c = true <;> simp [h]

open XmlEncode in
theorem encode_strict_none_iff (s : List Nat) : encode .strict s = none ↔ ∃ c ∈ s, isSurrogate c = true := by
  rw [encode_eq]
  by_cases h : ∃ c ∈ s, isSurrogate c = true <;> simp [h]

open XmlEncode in
theorem encode_surrogatepass_total (s : List Nat) : ∃ bytes, encode .surrogatepass s = some bytes :=
  ⟨s.flatMap pattern, by simp [encode_eq]⟩

open XmlEncode in
/-- **`check_fragment` as the source has it raises nothing but `xml.SyntaxError`**, for every string of code points, provided
    expat does on every byte string (its documented behaviour) — the contract `WorldOk.menv_sane` needs, with the tool's own
    encode step inside the statement -/
theorem check_fragment_sane (expat : List UInt8 → Msg.XmlVerdict) (hx : ∀ bytes, expat bytes ≠ .other) (s : List Nat) :
    checkFragment .surrogatepass expat s ≠ .other := by
  obtain ⟨y, hy⟩ := encode_surrogatepass_total s
  simp only [checkFragment, hy]
  exact hx y

open XmlEncode in
/-- **refuted for the strict handler** (the code before 14c240b): a string with a lone surrogate makes `check_fragment` raise
    a foreign exception whatever expat would have said — witness `"a \ud800"`, replayed from corpus/C01 -/
theorem check_fragment_strict_refuted (expat : List UInt8 → Msg.XmlVerdict) :
    checkFragment .strict expat [0x61, 0x20, 0xD800] = .other := by rfl

/-- PIN (source): the one `.encode` in front of expat uses `surrogatepass`; every other `.encode` with a raising handler works on
    tool data (the DTD literal, the registry's `characters`, iconv's input built from them), never on text of the checked file -/
theorem xml_encode_site_pin :
    ("lib/xml.py", "check_fragment.ee_handler", "s", "UTF-8", "surrogatepass") ∈ encodeSites ∧
    ((encodeSites.filter fun e => e.2.2.2.2 == "strict" || e.2.2.2.2 == "<dynamic>").map fun e => (e.1, e.2.1)) =
      [("lib/xml.py", "<module>"), ("lib/iconv.py", "_encode_cli"), ("lib/encodings.py", "iconv_encoding.encode"),
       ("lib/ling.py", "Language.get_unrepresentable_characters"), ("lib/ling.py", "Language.get_unrepresentable_characters")] := by
  decide +kernel

/-- the generated message environment with `check_fragment` (encode step included) as its XML oracle is sane -/
theorem message_tables_sane_with_encode (expat : List UInt8 → Msg.XmlVerdict) (hx : ∀ bytes, expat bytes ≠ .other) :
    Spec.MessageRules.Sane (Msg.liveEnv (XmlEncode.checkFragment .surrogatepass expat)) :=
  C16.live_env_sane _ (check_fragment_sane expat hx)

/-- every string the composed model can hold is scalar … -/
theorem model_text_is_scalar (t : List Char) : XmlEncode.TextIsScalar (t.map Char.toNat) := by
  intro c hc
  obtain ⟨ch, _, rfl⟩ := List.mem_map.1 hc
  exact ch.valid

/-- … so on model text even the strict encode cannot fail: the `List Char` models could never have exhibited the crash -/
theorem strict_encode_never_fails_on_model_text (t : List Char) : XmlEncode.encode .strict (t.map Char.toNat) ≠ none := by
  intro h
  obtain ⟨c, hc, hs⟩ := (encode_strict_none_iff _).1 h
  have hv : c.isValidChar := model_text_is_scalar t c hc
  simp only [XmlEncode.isSurrogate, Bool.and_eq_true, decide_eq_true_eq] at hs
  unfold Nat.isValidChar at hv
  rcases hv with hv | ⟨hv, _⟩ <;> omega

/-! ## what is printed -/

/-- every printed line is `<E|W|I|P>: <path>: <tag>[ <extra>…]` without a newline inside, whatever the extras
    (C02 `format_grammar`, `line_clean`) — restated here so that the C01 file lists every ingredient -/
theorem line_is_tag_line (db : Tags.UnicodeDB) (t : Tags.Tag) (p : Tags.Str) (xs : List Tags.Extra) :
    Tags.format db t p xs none = Spec.Tags.lineOf t.priority.code p t.name (xs.map (Tags.escape db)) ∧
    (t.priority.toChar = 'E' ∨ t.priority.toChar = 'W' ∨ t.priority.toChar = 'I' ∨ t.priority.toChar = 'P') :=
  C02.format_grammar db t p xs

/-! ## Non-vacuity -/

/-- a two-stage pipeline in which the second stage raises after printing one line: the line is on stdout, the run is
    reported as failed -/
example : check (F := Unit) true .po (fun _ => .ok ()) (fun _ _ => (0 : Nat))
    [fun s => (s + 1, ["a"], false), fun s => (s, ["b"], true), fun s => (s, ["c"], false)]
    = ⟨[.tag "a", .tag "b"], true⟩ := by rfl
example : check (F := Unit) (σ := Unit) (τ := String) true .mo
    (fun r => if r then .error .moSyntax else .error .unicodeDecode) (fun _ _ => ()) []
    = ⟨[.invalidMoFile, .brokenEncoding], false⟩ := by rfl
example : (check (F := Unit) (σ := Unit) (τ := String) true .po (fun _ => .error .osOther) (fun _ _ => ()) []).uncaught = true := by rfl
/-- three files, the second raises: sequentially its partial output is printed and the third file is never read; with `-j 2`
    the partial output is lost; either way status 1 -/
example : Cli.main .absent (fun n : Nat => if n = 2 then ⟨["x"], true⟩ else ⟨[toString n], false⟩) [1, 2, 3] 1 = ⟨["1", "x"], true, 1⟩ := by decide +kernel
example : Cli.main .absent (fun n : Nat => if n = 2 then ⟨["x"], true⟩ else ⟨[toString n], false⟩) [1, 2, 3] 2 = ⟨["1"], true, 1⟩ := by decide +kernel
example : Cli.main .valid (fun n : Nat => ⟨[toString n], false⟩) [1, 2, 3] 4 = ⟨["1", "2", "3"], false, 0⟩ := by decide +kernel
/-- the class tables are not empty shells: an `IndexError` thrown by a C format parser would NOT be caught by `check_string` -/
example : dispatch cErrSite.handlers (cls "builtins.IndexError") = none := by decide +kernel
example : (cCheckString "%d %1$d".toList).tags = ["c-format-string-error"] := by
  have h : (CFmt.parse "%d %1$d".toList).toBool = false := by
    rw [String.toList_ofList]
    decide +kernel
  cases hp : CFmt.parse "%d %1$d".toList with
  | ok r =>
    rw [hp] at h
    cases h
  | error e => exact (cCheckString_error_tag _ e hp).2
example : (cCheckString "%hhd".toList).uncaught = none := cCheckString_nocrash _
example : (pyCheckString "%(a)s %s".toList).tags = ["python-format-string-error"] := by
  have h : (PyFmt.parse "%(a)s %s".toList).toBool = false := by
    rw [String.toList_ofList]
    decide +kernel
  cases hp : PyFmt.parse "%(a)s %s".toList with
  | ok r =>
    rw [hp] at h
    cases h
  | error e => exact (pyCheckString_error_tag _ e hp).2
example : framesNeeded (iter (Expr.unaryop .not) 600 .name) = 1205 := (recursion_budget 600).1

end I18n.Props.C01
