import I18n.Lemmas.GettextDateGenerated
import I18n.Lemmas.CheckDatesGenerated
import I18n.Props.C18
/-!
# C18 — the tie by translation: `fix_date_format` / `parse_date` REGENERATED from `lib/gettext.py` are the model

`I18n.Generated.GettextDate` is rewritten from the repository's current `lib/gettext.py` (`fix_date_format`, `parse_date`) by
`tools/translate/gettextdate2lean.py` on every run.  The theorems below prove both regenerated definitions equal, for ALL strings and
hints, to the hand-written model (`Date.fix`, `Date.parseCanon`) — results AND exception classes — and restate the headline theorems of
C18 about `fix_date_format` (canonical, idempotent, preserving, complete, exact rejection classes, NoCrash of the assertion) about the
regenerated definition.  Shared by both sides (trusted, see `DESIGN-notes/date.md`): the scanner standing for `_parse_date` and the
boilerplate search (tied to the live `sre_parse` trees by `C18.parse_date_regex`, `parseDate_is_regex`, `boilerplate_regex`,
`regex_groups`), the calendar primitive `parseCanon` standing for `strptime(…, '%Y-%m-%d %H:%M%z')` (`C18.parse_canon_iff`), `str.strip`,
the dumped `_timezones`.  `check_dates` (lib/check/__init__.py) is regenerated as well (`Generated/CheckDates.lean`) and tied in the last section.
-/
namespace I18n.Props.C18Tie
open I18n I18n.Date I18n.Date.Py I18n.Spec.Date I18n.Spec.DateRe I18n.Generated

/-- `fix_date_format(s, tz_hint=hint)` as regenerated = `Date.fix s hint`: the normal form, or `DateSyntaxError` / `BoilerplateDate` /
    `ValueError` (malformed hint) / `AssertionError` exactly where the model has `syntaxErr` / `boilerplate` / `hintErr` / `assertErr` -/
theorem generated_fix_date_format_eq_model (s : List Char) (hint : Option (List Char)) :
    GettextDate.fix_date_format s hint = ofOutcome (fix s hint) :=
  Gen.fix_date_format_eq s hint

/-- `parse_date(s)` as regenerated = the calendar primitive `parseCanon`, `ValueError` re-raised as `DateSyntaxError` -/
theorem generated_parse_date_eq_model (s : List Char) :
    GettextDate.parse_date s = (match parseCanon s with | some t => .ok t | none => .error .syntax) :=
  Gen.parse_date_eq s

theorem generated_ok_iff (s : List Char) (hint : Option (List Char)) (t : List Char) :
    GettextDate.fix_date_format s hint = .ok t ↔ fix s hint = .ok t := by
  rw [generated_fix_date_format_eq_model]
  cases fix s hint <;> simp [ofOutcome]

/-! ## the headline theorems of C18, of the regenerated `fix_date_format` -/

/-- **fix_canonical**: an accepted date is returned as `YYYY-MM-DD hh:mm+ZZzz` denoting an existing calendar instant -/
theorem fix_canonical_generated {s : List Char} {hint : Option (List Char)} {t : List Char}
    (h : GettextDate.fix_date_format s hint = .ok t) : Canonical t :=
  C18.fix_canonical ((generated_ok_iff s hint t).mp h)

/-- **fix_idempotent**: the result is a fixed point, with no hint, the same hint, or any well-formed hint -/
theorem fix_idempotent_generated {s : List Char} {hint : Option (List Char)} {t : List Char}
    (h : GettextDate.fix_date_format s hint = .ok t) :
    GettextDate.fix_date_format t none = .ok t ∧ GettextDate.fix_date_format t hint = .ok t
      ∧ ∀ hint', (∀ x, hint' = some x → HintOk x) → GettextDate.fix_date_format t hint' = .ok t := by
  obtain ⟨h1, h2, h3⟩ := C18.fix_idempotent ((generated_ok_iff s hint t).mp h)
  exact ⟨(generated_ok_iff _ _ _).mpr h1, (generated_ok_iff _ _ _).mpr h2, fun h' hh => (generated_ok_iff _ _ _).mpr (h3 h' hh)⟩

/-- **fix_preserves**: the result keeps the written date and `hh:mm` and carries the written numeric offset, or the unique offset of
    the written abbreviation, or — nothing being written — the hint -/
theorem fix_preserves_generated {s : List Char} {hint : Option (List Char)} {t : List Char}
    (h : GettextDate.fix_date_format s hint = .ok t) :
    ∃ date time z zone, Written (strip s) date time z ∧ ZoneResolves z hint zone ∧ t = date ++ ' ' :: time ++ zone :=
  C18.fix_preserves ((generated_ok_iff s hint t).mp h)

/-- **fix_accepts** (completeness): every header value the specification normalises is accepted, with that result -/
theorem fix_accepts_generated {s : List Char} {hint : Option (List Char)} {t : List Char} (h : Normalises (strip s) hint t) :
    GettextDate.fix_date_format s hint = .ok t :=
  (generated_ok_iff s hint t).mpr (C18.fix_accepts h)

/-- **fix_rejects**: the outcome of the regenerated function is classified exactly — the normal form iff the specification
    normalises the value; `BoilerplateDate` iff a placeholder is present; `ValueError` iff no placeholder and a malformed hint
    (caller error); plain `DateSyntaxError` iff otherwise; and NOTHING else: no `AssertionError` (the `len(s) == 21` assertion never
    fails), no `KeyError` from the table, and the kit is never used outside its domain -/
theorem fix_rejects_generated (s : List Char) (hint : Option (List Char)) :
    (∀ t, GettextDate.fix_date_format s hint = .ok t ↔ Normalises (strip s) hint t)
    ∧ (GettextDate.fix_date_format s hint = .error .boilerplate ↔ HasBoilerplate (strip s))
    ∧ (GettextDate.fix_date_format s hint = .error .valueError ↔ ¬ HasBoilerplate (strip s) ∧ ∃ x, hint = some x ∧ ¬ HintOk x)
    ∧ (GettextDate.fix_date_format s hint = .error .syntax ↔
        ¬ HasBoilerplate (strip s) ∧ (∀ x, hint = some x → HintOk x) ∧ ¬ ∃ t, Normalises (strip s) hint t)
    ∧ GettextDate.fix_date_format s hint ≠ .error .assertion
    ∧ GettextDate.fix_date_format s hint ≠ .error .keyError
    ∧ GettextDate.fix_date_format s hint ≠ .error .outsideKit := by
  obtain ⟨hok, hboiler, hhint, hsyntax, hno_assert⟩ := C18.fix_rejects s hint
  rw [generated_fix_date_format_eq_model, ← hsyntax, ← hhint, ← hboiler]
  simp only [← hok]
  -- at this point each conjunct says which outcome of the model `ofOutcome` sends to the result named: read off outcome by outcome; the model's
  -- `assertErr`, the one outcome sent to `AssertionError`, is ruled out by `hno_assert`
  cases hf : fix s hint <;> simp [ofOutcome, hf] at hno_assert ⊢

/-- with the hints the tool itself passes (none, or `-0000` for Publican) only the two date errors are possible -/
theorem fix_tool_outcomes_generated (date : List Char) (publican : Bool) :
    (∃ t, GettextDate.fix_date_format date (tzHint date publican) = .ok t)
      ∨ GettextDate.fix_date_format date (tzHint date publican) = .error .syntax
      ∨ GettextDate.fix_date_format date (tzHint date publican) = .error .boilerplate := by
  rw [generated_fix_date_format_eq_model]
  rcases C18.fix_tool_outcomes date publican with ⟨t, h⟩ | h | h <;> rw [h]
  · exact Or.inl ⟨t, rfl⟩
  · exact Or.inr (Or.inl rfl)
  · exact Or.inr (Or.inr rfl)

/-- `parse_date` (regenerated) accepts a text iff it is the canonical text of an existing instant, else `DateSyntaxError` -/
theorem parse_date_iff_generated (t : List Char) (st : Stamp) :
    (GettextDate.parse_date t = .ok st ↔ (st.toCivil.Exists ∧ t = render st.toCivil))
      ∧ (∀ e, GettextDate.parse_date t = .error e → e = .syntax) := by
  rw [generated_parse_date_eq_model]
  constructor
  · rw [← C18.parse_canon_iff]
    cases parseCanon t <;> simp
  · intro e h
    cases hp : parseCanon t <;> simp [hp] at h
    exact h.symm

/-- the second `parse_date(fixed_date)` of `check_dates` cannot fail: the result of the regenerated normaliser parses -/
theorem fixed_date_parses_generated {s : List Char} {hint : Option (List Char)} {t : List Char}
    (h : GettextDate.fix_date_format s hint = .ok t) : ∃ st, GettextDate.parse_date t = .ok st := by
  obtain ⟨c, hc, rfl⟩ := fix_canonical_generated h
  rw [generated_parse_date_eq_model, parseCanon_complete hc]
  exact ⟨_, rfl⟩

/-! ## `Checker.check_dates` REGENERATED from `lib/check/__init__.py` (tools/translate/checkdates2lean.py) -/

/-- `check_dates(ctx)` as regenerated (it calls the regenerated `fix_date_format` / `parse_date`) = the model's `checkDates`: the tags
    appended to the output in emission order; an exception escaping is the model's `none` -/
theorem generated_check_dates_eq_model (c : Ctx) (out : List Tag) :
    (CheckDates.check_dates out c).toOption = (checkDates c).map (out ++ ·) :=
  Gen.check_dates_eq c out

/-- `check_dates(ctx)` as regenerated never raises, whatever was emitted before: it returns the output so far followed by the tags of
    POT-Creation-Date, then those of PO-Revision-Date -/
theorem generated_check_dates_append (c : Ctx) (out : List Tag) :
    CheckDates.check_dates out c = .ok (out ++ (fieldTags c .pot c.pot ++ fieldTags c .po c.po)) := by
  have h := generated_check_dates_eq_model c out
  rw [C18.check_dates_shape] at h
  exact PyKit.eq_ok_of_toOption h

/-- **NoCrash**, of the regenerated method: no exception escapes `check_dates` (`IndexError` is caught, the `ValueError` of a malformed hint
    and the `AssertionError` cannot arise with the hints it passes, the second `parse_date` cannot fail), and what it returns is what the
    model returns -/
theorem check_dates_nocrash_generated (c : Ctx) : ∃ ts, CheckDates.check_dates [] c = .ok ts ∧ checkDates c = some ts :=
  ⟨_, generated_check_dates_append c [], by rw [List.nil_append]; exact C18.check_dates_shape c⟩

/-- **check_dates_shape**, of the regenerated method: the whole output is, for POT-Creation-Date then PO-Revision-Date, the tags
    `C18.check_dates_shape` / `C18.date_tags_iff` characterise -/
theorem check_dates_shape_generated (c : Ctx) :
    CheckDates.check_dates [] c = .ok (fieldTags c .pot c.pot ++ fieldTags c .po c.po) := by
  rw [generated_check_dates_append, List.nil_append]

/-! Non-vacuity: the regenerated definitions are executable -/

example : GettextDate.fix_date_format "2020-01-01T10:00:59 CEST".toList none = .ok "2020-01-01 10:00+0200".toList := by
  rw [generated_fix_date_format_eq_model, show fix "2020-01-01T10:00:59 CEST".toList none = .ok "2020-01-01 10:00+0200".toList by (repeat rw [String.toList_ofList]); decide +kernel]; rfl
example : GettextDate.fix_date_format " 2012-02-29\n23:59 UTC-00:30 ".toList none = .ok "2012-02-29 23:59-0030".toList := by
  rw [generated_fix_date_format_eq_model, show fix " 2012-02-29\n23:59 UTC-00:30 ".toList none = .ok "2012-02-29 23:59-0030".toList by (repeat rw [String.toList_ofList]); decide +kernel]; rfl
example : GettextDate.fix_date_format "2013-02-29 10:00+0100".toList none = .error .syntax := by
  rw [generated_fix_date_format_eq_model, show fix "2013-02-29 10:00+0100".toList none = .syntaxErr by (repeat rw [String.toList_ofList]); decide +kernel]; rfl
example : GettextDate.fix_date_format "YEAR-MO-DA HO:MI+ZONE".toList none = .error .boilerplate := by
  rw [generated_fix_date_format_eq_model, show fix "YEAR-MO-DA HO:MI+ZONE".toList none = .boilerplate by (repeat rw [String.toList_ofList]); decide +kernel]; rfl
example : GettextDate.fix_date_format "2002-01-01T03:05".toList (some "Z".toList) = .error .valueError := by
  rw [generated_fix_date_format_eq_model, show fix "2002-01-01T03:05".toList (some "Z".toList) = .hintErr by (repeat rw [String.toList_ofList]); decide +kernel]; rfl
example : GettextDate.fix_date_format "2002-01-01T03:05".toList (some "-0000".toList) = .ok "2002-01-01 03:05-0000".toList := by
  rw [generated_fix_date_format_eq_model, show fix "2002-01-01T03:05".toList (some "-0000".toList) = .ok "2002-01-01 03:05-0000".toList by (repeat rw [String.toList_ofList]); decide +kernel]; rfl

end I18n.Props.C18Tie
