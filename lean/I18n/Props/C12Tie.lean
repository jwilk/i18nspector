import I18n.Lemmas.PyFmtConvGenerated
import I18n.Props.C12
/-!
# C12 — the tie by translation: `Conversion.__init__` and `FormatString.add_argument` REGENERATED from
`lib/strformat/python.py` are the model

`I18n.Generated.PyFmtConv` is rewritten from the repository's current `lib/strformat/python.py` by `tools/translate/pyfmtconv2lean.py` on
every run.  The theorems below prove the regenerated `Conversion.__init__` equal, for ALL parent states, ALL directives and both values
of `w`, to the hand-written `PyFmt.conversion` (type, registered arguments, warnings, exception class), and the regenerated
`add_argument` (with its callers' `except IndexError`) to `PyFmt.addArgument`; then the whole parser with the regenerated constructor
in place of the modelled one (`parseG`) is `PyFmt.parse`, and the headline theorems of C12 are restated about it.
The hand-written character scanner of `FormatString.__init__` (the `while True:` loop over `enumerate(s)`) stays hand-modelled
(`PyFmt.scanDirective`, `loop`) and tied by the `pyfmt parse` streams; so does the final grouping / `ArgumentTypeMismatch` test.
Shared by both sides (trusted, see `DESIGN-notes/pyfmt.md`): the kit `Model/PyFmtPy.lean`, the dumped `_info` character sets and `SSIZE_MAX`.
-/
namespace I18n.Props.C12Tie
open I18n I18n.PyFmt I18n.PyFmt.Py I18n.PyFmt.G I18n.Spec.CPyPercent I18n.Spec.PyFmtArgs I18n.Generated

/-- `Conversion(parent, s, key=…, flags=…, width=…, var_width=…, prec=…, var_prec=…, length=…, conv=…)` as regenerated, called
    with the keyword arguments the scanner passes for the directive `d` and a directive text `s` that ends in the conversion
    character (the `assert s[-1] == conv`), = `PyFmt.conversion w st d`: the type, the parent afterwards, or the exception -/
theorem generated_conversion_eq_model (w : Bool) (st : St) (s : List Char) (d : Directive) (hs : s.getLast? = some d.conv) :
    PyFmtConv.Conversion.__init__ w st s d.key d.flags (widthArgOf d) (varWidthOf d) (precArgOf d) (varPrecOf d) d.length d.conv
      = (conversion w st d).map (fun r => (r.2.toList, r.1)) :=
  Gen.conversion_eq w st s d hs

/-- `parent.add_argument(key, arg)` as regenerated, under its callers' `except IndexError: raise ArgumentIndexingMixture(s)`,
    = `PyFmt.addArgument` -/
theorem generated_add_argument_eq_model (st : St) (key : Option (List Char)) (arg : Entry) :
    PyKit.tryExcept (PyFmtConv.add_argument st key arg) isIndexError (.error .ArgumentIndexingMixture) = addArgument st key arg :=
  Gen.add_argument_eq st key arg

/-- … and by itself: `IndexError` exactly when named and unnamed arguments would be mixed, else the entry is appended -/
theorem generated_add_argument_raw (st : St) (key : Option (List Char)) (arg : Entry) :
    PyFmtConv.add_argument st key arg =
      (match addArgument st key arg with
       | .ok st' => .ok st'
       | .error _ => .error (.crash .IndexError)) :=
  Gen.add_argument_raw st key arg

theorem conversionG_eq (w : Bool) (st : St) (d : Directive) : conversionG w st d = conversion w st d := by
  unfold conversionG
  rw [generated_conversion_eq_model w st [d.conv] d rfl]
  cases conversion w st d with
  | error e => rfl
  | ok r => simp [Except.map]

theorem loopG_eq (w : Bool) : ∀ fuel cs text st, loopG w fuel cs text st = loop w fuel cs text st := by
  intro fuel
  induction fuel with
  | zero => intro cs text st; rfl
  | succ n ih =>
    intro cs text st
    cases cs with
    | nil => rfl
    | cons c cs =>
      simp only [loopG, loop, conversionG_eq]
      split
      · exact ih _ _ _
      · cases scanDirective cs with
        | none => rfl
        | some p =>
          obtain ⟨d, rest⟩ := p
          simp only []
          cases conversion w (flush text st) d with
          | error e => rfl
          | ok r => obtain ⟨st', tp⟩ := r; exact ih _ _ _

/-- the parser with the regenerated constructor is the model's parser -/
theorem generated_parseW_eq_model (w : Bool) (s : List Char) : parseWG w s = parseW w s := by
  unfold parseWG parseW
  rw [loopG_eq]
  cases loop w (s.length + 1) s [] St.init <;> rfl

theorem generated_parse_eq_model (s : List Char) : parseG s = parse s := generated_parseW_eq_model true s

/-- **If the parser accepts a string, CPython formats it** when given arguments of the shape and types the parser reports -/
theorem accept_formats_generated {s : List Char} {r : Result} {a : Args} (hp : PlainPercent s) (h : parseG s = .ok r)
    (hm : Matches r a) : format s a = .ok () :=
  C12.accept_formats hp (generated_parse_eq_model s ▸ h) hm

/-- **If CPython rejects the string whatever the arguments, the parser rejects it** -/
theorem malformed_rejected_generated {s : List Char} (hp : PlainPercent s) (h : ∀ a, format s a ≠ .ok ()) :
    ∃ e, parseG s = .error e := by
  rw [generated_parse_eq_model]; exact C12.malformed_rejected hp h

/-- **A string CPython can format is rejected only for a documented reason** -/
theorem reject_reasons_generated {s : List Char} {e : PErr} (hp : PlainPercent s) (h : parseG s = .error e)
    (hf : ∃ a, format s a = .ok ()) :
    e = .ArgumentIndexingMixture ∨ e = .ArgumentTypeMismatch ∨ e = .WidthRangeError ∨ e = .PrecisionRangeError :=
  C12.reject_reasons hp (generated_parse_eq_model s ▸ h) hf

/-- **Rejection raises only the parser's own error type**: the asserts of the regenerated constructor (`s[-1] == conv`,
    `flag in '0 +'`, `width is None`, `prec is None`, `assert False`), the `TypeError` of `None > SSIZE_MAX`, the `IndexError` of
    `add_argument` are all unreachable from the scanner -/
theorem error_own_generated {s : List Char} {e : PErr} (h : parseG s = .error e) : e.own = true :=
  C12.error_own (generated_parse_eq_model s ▸ h)

/-- the canonical arguments exist and are formatted -/
theorem accept_formats_canonical_generated {s : List Char} {r : Result} (hp : PlainPercent s) (h : parseG s = .ok r) :
    format s (argsOf r) = .ok () :=
  C12.accept_formats_canonical hp (generated_parse_eq_model s ▸ h)

/-- what the regenerated constructor raises, by cause (of `PyFmt.conversion_error_cases`, Lemmas/PyFmtConv.lean) -/
theorem conversion_errors_generated {w : Bool} {st : St} {d : Directive} {e : PErr} (h : conversionG w st d = .error e) :
    e = .crash .AssertionError ∨ e = .ArgumentIndexingMixture ∨ e = .WidthRangeError ∨ e = .PrecisionRangeError ∨ e = .ForbiddenArgumentKey := by
  rw [conversionG_eq] at h
  rcases conversion_error_cases h with ⟨r, _⟩ | ⟨r, _⟩ | ⟨r, _⟩ | ⟨r, _⟩ | ⟨r, _⟩ | ⟨r, _⟩ | ⟨r, _⟩ | ⟨r, _⟩ <;> simp [r]

example : parseG "%(a)s %(b)d".toList = parse "%(a)s %(b)d".toList := generated_parse_eq_model _
example : (parseG "%5.2f%%".toList).toOption.map (fun r => r.seq.length) = some 1 := by
  rw [generated_parse_eq_model, String.toList_ofList]
  decide +kernel
example : (parseG "%(a)s %d".toList).toOption.isNone = true := by
  rw [generated_parse_eq_model, String.toList_ofList]
  decide +kernel

end I18n.Props.C12Tie
