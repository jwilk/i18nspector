import I18n.Lemmas.FmtCheckPy
import I18n.Lemmas.FmtCheckMessage
import I18n.Lemmas.FmtCheckPreimage
import I18n.Generated.TagSites
import I18n.Lemmas.FmtCheckProbes
import I18n.Lemmas.FmtCheckNumbered
import I18n.Lemmas.FmtCheckBrace
import I18n.Lemmas.FmtCheckBraceRender
import I18n.Lemmas.ExceptDec
import I18n.Lemmas.KeyRuns
/-!
# C14 — translations are flagged iff their format arguments disagree

Model: `I18n.FmtCheck` (`checkMessage`, the four `check_args`, `getLastIntConv`, the dispatch), statement by statement
from `lib/check/msgformat/*.py`, `lib/strformat/c.py`, `lib/check/__init__.py`; tied to the code on every run by the
`fmtcheck-*` correspondence streams (unit level on synthetic `ctx`, end to end through PO files).
Reference: `Spec.FmtCompare` (ways two signatures differ) over the signatures of `Spec.Printf` (C, proved equal to what the
parser reports in C11), of the Python-% parser model (C12) and — for the two brace kinds — over the parsed signature
handed over by the harness (their parsers are property C13) or, in the section on strings, produced by C13's parser models.

The docstrings name in backticks the clauses into which DESIGN.md §6 (C14) divides the property — `args_tags_iff`,
`same_signature_silent`, `reorder_silent`, `invalid_msgstr_error`, `omission_only_if`, `last_int_conv_spec`,
`check_args_nocrash`.  A theorem for a clause carries the clause's name, with the format kind in
front where it is about one kind (`c_args_tags_iff`); `omission_only_if` is `plural_form_plan` together with `omission_window`.

Reading of the statement made explicit here:
* for `msgstr[i]` the *corresponding* source string is `msgid_plural`, except for the form selected exactly for `n = 1`
  (inside the examined window and the range flag), whose source is `msgid` — what the tags themselves print
  (`… (msgstr[0]) > 0 (msgid)`) and what data/tags documents ("corresponding msgid or msgid_plural");
* "selected for a single n" includes "for no n at all" (a form never used inside the range flag);
* the window `[0, 200)` of `check_plurals` is part of the statement (`omission_window`).
-/
namespace I18n.Props.C14
open I18n I18n.FmtCheck I18n.FmtSig I18n.Spec.FmtCompare I18n.Spec.Printf

/-! ## Pin: the tag calls of `lib/check/msgformat/*.py` are the ones modelled -/

/-- (file, function, tag name, shape of the extras: `e` escaped, `s` safestr, `*` starred) -/
def expectedSites : List (String × String × String × String) := [
  ("lib/check/msgformat/__init__.py", "Checker.tag", "tagname", "*"),
  ("lib/check/msgformat/c.py", "Checker.check_msgids", "qt-plural-format-mistaken-for-c-format", "s"),
  ("lib/check/msgformat/c.py", "Checker.check_string", "c-format-string-error", "ess"),
  ("lib/check/msgformat/c.py", "Checker.check_string", "c-format-string-error", "esss"),
  ("lib/check/msgformat/c.py", "Checker.check_string", "c-format-string-error", "esese"),
  ("lib/check/msgformat/c.py", "Checker.check_string", "c-format-string-error", "es*"),
  ("lib/check/msgformat/c.py", "Checker.check_string", "c-format-string-redundant-flag", "e*"),
  ("lib/check/msgformat/c.py", "Checker.check_string", "c-format-string-non-portable-conversion", "e*"),
  ("lib/check/msgformat/c.py", "Checker.check_args", "c-format-string-excess-arguments", "eesees"),
  ("lib/check/msgformat/c.py", "Checker.check_args", "c-format-string-missing-arguments", "eesees"),
  ("lib/check/msgformat/c.py", "Checker.check_args", "c-format-string-argument-type-mismatch", "essess"),
  ("lib/check/msgformat/perlbrace.py", "Checker.check_string", "perl-brace-format-string-error", "es*"),
  ("lib/check/msgformat/perlbrace.py", "Checker.check_args", "perl-brace-format-string-unknown-argument", "eessss"),
  ("lib/check/msgformat/perlbrace.py", "Checker.check_args", "perl-brace-format-string-missing-argument", "eessss"),
  ("lib/check/msgformat/pybrace.py", "Checker.check_string", "python-brace-format-string-error", "es*"),
  ("lib/check/msgformat/pybrace.py", "Checker.check_args", "python-brace-format-string-argument-type-mismatch", "essess"),
  ("lib/check/msgformat/pybrace.py", "Checker.check_args", "python-brace-format-string-unknown-argument", "eessss"),
  ("lib/check/msgformat/pybrace.py", "Checker.check_args", "python-brace-format-string-missing-argument", "eessss"),
  ("lib/check/msgformat/python.py", "Checker.check_string", "python-format-string-error", "eses"),
  ("lib/check/msgformat/python.py", "Checker.check_string", "python-format-string-error", "es*"),
  ("lib/check/msgformat/python.py", "Checker.check_string", "python-format-string-redundant-flag", "e*"),
  ("lib/check/msgformat/python.py", "Checker.check_string", "python-format-string-redundant-precision", "eeee"),
  ("lib/check/msgformat/python.py", "Checker.check_string", "python-format-string-redundant-length", "eeee"),
  ("lib/check/msgformat/python.py", "Checker.check_string", "python-format-string-obsolete-conversion", "e*"),
  ("lib/check/msgformat/python.py", "Checker.check_string", "python-format-string-multiple-unnamed-arguments", "s"),
  ("lib/check/msgformat/python.py", "Checker.check_string", "python-format-string-unnamed-plural-argument", "s"),
  ("lib/check/msgformat/python.py", "Checker.check_args", "python-format-string-argument-number-mismatch", "eesees"),
  ("lib/check/msgformat/python.py", "Checker.check_args", "python-format-string-argument-type-mismatch", "essess"),
  ("lib/check/msgformat/python.py", "Checker.check_args", "python-format-string-argument-type-mismatch", "essess"),
  ("lib/check/msgformat/python.py", "Checker.check_args", "python-format-string-unknown-argument", "eessss"),
  ("lib/check/msgformat/python.py", "Checker.check_args", "python-format-string-missing-argument", "eessss")]

def isMsgformatSite (s : String × String × String × Nat × Nat × String) : Bool :=
  (s.1.toList.take 20) == "lib/check/msgformat/".toList

/-- **The `self.tag(...)` calls of the four checkers** — file, function, tag name, and for every extra whether it is a
    safestr or goes through the escaper — regenerated from /repo on every run, are the ones the model emits
    (`tagExcessOrMissing`: `e e s e e s`, `tagTypeMismatch`: `e s s e s s`, `tagUnknown`/`tagMissing`: `e e s s s s`). -/
theorem tag_sites_pin :
    (Generated.TagSites.sites.filter isMsgformatSite).map (fun s => (s.1, s.2.1, s.2.2.1, s.2.2.2.2.2)) = expectedSites := by
  -- the sites of one file stand together: its name is decoded and tested once.  `isMsgformatSite` is spelt out as a test of
  -- the key `s.1`, the form `p (key a)` that `filter_keyRuns` rewrites
  show (Generated.TagSites.sites.filter fun s => s.1.toList.take 20 == "lib/check/msgformat/".toList).map _ = _
  rw [KeyRuns.filter_keyRuns (·.1) (fun f : String => f.toList.take 20 == "lib/check/msgformat/".toList) Generated.TagSites.sites]
  decide +kernel

/-- **The model re-computes every probe of the live code, inside the kernel.**  `tools/translate/fmtcheck2lean.py` runs, on
    every check, `get_last_integer_conversion(n)` (all `n`, 22 strings) and the four `check_args` (both tolerance settings,
    61 pairs — the brace kinds on the signatures parsed by the real parsers) and dumps what it observes; here the Lean
    model is evaluated on the same rows and agrees on all of them: returned conversion / `None` / `IndexError`; tag names in
    order with their integer extras.  Also: the set of format kinds that have a checker. -/
theorem probes_pin :
    Generated.FmtCheckTables.checkerNames.map String.toList = checkerNames ∧
    Generated.FmtCheckTables.lastIntProbes.all (fun p => lastIntProbe p.1 p.2.1 == p.2.2) = true ∧
    Generated.FmtCheckTables.cArgsProbes.all (fun p => cArgsProbe p.1 p.2.1 p.2.2.1 == some p.2.2.2) = true ∧
    Generated.FmtCheckTables.pyArgsProbes.all (fun p => pyArgsProbe p.1 p.2.1 p.2.2.1 == some p.2.2.2) = true ∧
    Generated.FmtCheckTables.braceArgsProbes.all (fun p =>
      summarize (checkArgsPyBrace probePfx "msgid".toList p.1 "msgstr".toList p.2.1 p.2.2.1) == some p.2.2.2) = true ∧
    Generated.FmtCheckTables.perlArgsProbes.all (fun p =>
      summarize (checkArgsPerlBrace probePfx "msgid".toList p.1 "msgstr".toList p.2.1 p.2.2.1) == some p.2.2.2) = true := by
  refine ⟨by decide +kernel, ?_, ?_, ?_, by decide +kernel, by decide +kernel⟩
  -- a string (a pair of strings) stands in consecutive rows; swept run by run, it is decoded and parsed once, not once per row
  · rw [KeyRuns.all_keyRuns (·.1) (fun s p => lastIntProbe s p.2.1 == p.2.2) Generated.FmtCheckTables.lastIntProbes]
    decide +kernel
  · rw [KeyRuns.all_keyRuns (fun p => (p.1, p.2.1)) (fun k p => cArgsProbe k.1 k.2 p.2.2.1 == some p.2.2.2)
      Generated.FmtCheckTables.cArgsProbes]
    decide +kernel
  · rw [KeyRuns.all_keyRuns (fun p => (p.1, p.2.1)) (fun k p => pyArgsProbe k.1 k.2 p.2.2.1 == some p.2.2.2)
      Generated.FmtCheckTables.pyArgsProbes]
    decide +kernel

/-- **The composition with C13's parser models, re-computed in the kernel on the probed strings**: running the python-brace /
    perl-brace parser MODEL on the strings of the probe table and converting (`braceSigOf`, `perlSigOf`) gives exactly the
    signatures the translator extracted from the REAL parser objects — keys, dict order, type sets of every use, `len`. -/
theorem string_probes_pin :
    (((Generated.FmtCheckTables.braceArgsStrings.zip (evens Generated.FmtCheckTables.braceArgsProbes)).all fun p =>
      sigArgsOf (pyBraceParse p.1.1.toList) == some (p.2.1.args, p.2.1.nitems) &&
      sigArgsOf (pyBraceParse p.1.2.toList) == some (p.2.2.1.args, p.2.2.1.nitems)) = true ∧
     Generated.FmtCheckTables.braceArgsStrings.length * 2 = Generated.FmtCheckTables.braceArgsProbes.length) ∧
    (((Generated.FmtCheckTables.perlArgsStrings.zip (evens Generated.FmtCheckTables.perlArgsProbes)).all fun p =>
      perlArgsOf (perlBraceParse p.1.1.toList) == some (sortBy strLt p.2.1.args, p.2.1.nitems) &&
      perlArgsOf (perlBraceParse p.1.2.toList) == some (sortBy strLt p.2.2.1.args, p.2.2.1.nitems)) = true ∧
     Generated.FmtCheckTables.perlArgsStrings.length * 2 = Generated.FmtCheckTables.perlArgsProbes.length) :=
  ⟨by decide +kernel, by decide +kernel⟩

/-! ## C -/

/-- **C, `args_tags_iff`.**  For valid printf strings `src`, `dst` (given by their items), `check_args` on what the parser
    reports emits: the excess diagnostic iff `dst` consumes more arguments; the missing diagnostic iff it consumes fewer and
    the omission is not tolerated; a type diagnostic `(b, a)` iff some argument consumed by both has type `a` in `src` and
    `b ≠ a` in `dst` — one per such position; and nothing else. -/
theorem c_args_tags_iff (pfx : Extra) (srcLoc dstLoc : List Char) (omittedOk : Bool) {src dst : List Item}
    (hs : Valid src) (hd : Valid dst) :
    ∃ fs fd tags, cParse (render src) = .ok fs ∧ cParse (render dst) = .ok fd ∧
      checkArgsC pfx srcLoc fs dstLoc fd omittedOk = .ok tags ∧
      (cExcessTag pfx srcLoc fs dstLoc fd ∈ tags ↔ Excess (typesOf (signature src)) (typesOf (signature dst))) ∧
      (cMissingTag pfx srcLoc fs dstLoc fd ∈ tags ↔ Fewer (typesOf (signature src)) (typesOf (signature dst)) ∧
        cTolerated fs ((signature src).length - (signature dst).length) omittedOk = false) ∧
      (∀ a b, cTypeTag pfx srcLoc dstLoc (a, b) ∈ tags ↔ ∃ i, TypeDiffAt (typesOf (signature src)) (typesOf (signature dst)) i a b) ∧
      (∀ t ∈ tags, t = cExcessTag pfx srcLoc fs dstLoc fd ∨ t = cMissingTag pfx srcLoc fs dstLoc fd ∨
        ∃ a b, t = cTypeTag pfx srcLoc dstLoc (a, b)) ∧
      (tags.filter (fun t => t.name == "c-format-string-argument-type-mismatch")).length =
        (typeDiffs (typesOf (signature src)) (typesOf (signature dst))).length := by
  obtain ⟨fs, hfs, has, hss, _⟩ := cParse_valid hs
  obtain ⟨fd, hfd, had, hsd, _⟩ := cParse_valid hd
  refine ⟨fs, fd, _, hfs, hfd, checkArgsC_eq pfx srcLoc fs dstLoc fd omittedOk hss hsd, ?_⟩
  -- the three kinds of tag have different names
  have hTE : ∀ p, cTypeTag pfx srcLoc dstLoc p ≠ cExcessTag pfx srcLoc fs dstLoc fd :=
    fun p h => by simpa [cTypeTag, tagTypeMismatch, cExcessTag, tagExcessOrMissing] using congrArg TagCall.name h
  have hTM : ∀ p, cTypeTag pfx srcLoc dstLoc p ≠ cMissingTag pfx srcLoc fs dstLoc fd :=
    fun p h => by simpa [cTypeTag, tagTypeMismatch, cMissingTag, tagExcessOrMissing] using congrArg TagCall.name h
  have hEM : cExcessTag pfx srcLoc fs dstLoc fd ≠ cMissingTag pfx srcLoc fs dstLoc fd :=
    fun h => by simpa [cExcessTag, cMissingTag, tagExcessOrMissing] using congrArg TagCall.name h
  have hinj : ∀ p q, cTypeTag pfx srcLoc dstLoc p = cTypeTag pfx srcLoc dstLoc q ↔ p = q := by
    intro p q
    simp only [cTypeTag, tagTypeMismatch, TagCall.mk.injEq, List.cons.injEq, Extra.safe.injEq, String.toList_inj, true_and, and_true]
    exact ⟨fun h => Prod.ext h.2 h.1, fun h => h ▸ ⟨rfl, rfl⟩⟩
  simp only [Excess, Fewer, typesOf_length, has.symm, had.symm, List.mem_append, mem_cCountTags, List.mem_map, ← mem_typeDiffs]
  refine ⟨?_, ?_, ?_, ?_, ?_⟩
  · simp [hEM, hTE]
  · simp [hEM.symm, hTM]
  · intro a b
    simp [hTE, hTM, hinj]
  · rintro t ((⟨_, h⟩ | ⟨_, _, h⟩) | ⟨p, _, h⟩)
    · exact Or.inl h
    · exact Or.inr (Or.inl h)
    · exact Or.inr (Or.inr ⟨p.1, p.2, h.symm⟩)
  · have h1 : (cCountTags pfx srcLoc fs dstLoc fd omittedOk).filter
        (fun t => t.name == "c-format-string-argument-type-mismatch") = [] :=
      List.filter_eq_nil_iff.2 fun t ht => by
        rcases (mem_cCountTags ..).1 ht with ⟨_, rfl⟩ | ⟨_, _, rfl⟩
        · simp [cExcessTag, tagExcessOrMissing]
        · simp [cMissingTag, tagExcessOrMissing]
    have h2 : ∀ l : List (String × String), (l.map (cTypeTag pfx srcLoc dstLoc)).filter
        (fun t => t.name == "c-format-string-argument-type-mismatch") = l.map (cTypeTag pfx srcLoc dstLoc) :=
      fun l => List.filter_eq_self.2 fun t ht => by
        obtain ⟨p, _, rfl⟩ := List.mem_map.1 ht
        exact beq_self_eq_true _
    rw [List.filter_append, h1, h2, List.nil_append, List.length_map]

/-- **C, `same_signature_silent`**: strings that consume the same argument types in the same positions are never flagged,
    whatever the tolerance. -/
theorem c_same_signature_silent (pfx : Extra) (srcLoc dstLoc : List Char) (omittedOk : Bool) {src dst : List Item}
    (hs : Valid src) (hd : Valid dst) (h : typesOf (signature src) = typesOf (signature dst)) :
    ∃ fs fd, cParse (render src) = .ok fs ∧ cParse (render dst) = .ok fd ∧
      checkArgsC pfx srcLoc fs dstLoc fd omittedOk = .ok [] := by
  obtain ⟨fs, hfs, has, hss, _⟩ := cParse_valid hs
  obtain ⟨fd, hfd, had, hsd, _⟩ := cParse_valid hd
  refine ⟨fs, fd, hfs, hfd, ?_⟩
  rw [checkArgsC_eq pfx srcLoc fs dstLoc fd omittedOk hss hsd, has, had, h, typeDiffs_self]
  have hl : fs.arguments.length = fd.arguments.length := by
    have := congrArg List.length h
    rw [typesOf_length, typesOf_length] at this
    rw [has, had]; exact this
  unfold cCountTags
  simp [hl]

/-- **C, `reorder_silent`**: if the translation refers — by explicit argument numbers `n$` or by position — to the same
    arguments at the same types as the source (in any order, any number of times, from whatever directives), nothing is
    flagged.  `positions (refs items)` lists (argument number, use) for every reference of the string. -/
theorem c_reorder_silent (pfx : Extra) (srcLoc dstLoc : List Char) (omittedOk : Bool) {src dst : List Item}
    (hs : Valid src) (hd : Valid dst)
    (h : ∀ j t, PosType (positions (refs src)) j t ↔ PosType (positions (refs dst)) j t) :
    ∃ fs fd, cParse (render src) = .ok fs ∧ cParse (render dst) = .ok fd ∧
      checkArgsC pfx srcLoc fs dstLoc fd omittedOk = .ok [] :=
  c_same_signature_silent pfx srcLoc dstLoc omittedOk hs hd
    (typesOf_signatureOf_congr hs.global.gapFree hs.global.oneType hd.global.gapFree hd.global.oneType h)

/-- **C, `reorder_silent`, constructive form.**  Take a valid C format string `src` without argument numbers, give every
    reference (each `*` width, `*` precision and conversion, in the order printf fetches them) its explicit number `1$, 2$, …`
    (`numberDirs`), and let `dst` be ANY valid string whose directives are those numbered directives in some order, with whatever
    literal text in between: nothing is flagged. -/
theorem c_reorder_silent_numbered (pfx : Extra) (srcLoc dstLoc : List Char) (omittedOk : Bool) {src dst : List Item}
    (hs : Valid src) (hd : Valid dst) (hun : ∀ r ∈ refs src, r.idx = none)
    (hperm : (dirs dst).Perm (numberDirs 1 (dirs src))) :
    ∃ fs fd, cParse (render src) = .ok fs ∧ cParse (render dst) = .ok fd ∧
      checkArgsC pfx srcLoc fs dstLoc fd omittedOk = .ok [] :=
  c_reorder_silent pfx srcLoc dstLoc omittedOk hs hd (posType_numbered_perm hun hperm)

/-- **`last_int_conv_spec`.**  On an accepted C format string, `get_last_integer_conversion(n)` returns the conversion
    at item `c` iff `1 ≤ n ≤ #arguments`, every use of the last `n` arguments belongs to that one conversion (itself, its
    `*` width, its `*` precision), the conversion's own value is among them, and it is an integer conversion in the sense
    of `Spec.Printf` (`d i o u x X` or an `<inttypes.h>` macro); it never raises for such `n`. -/
theorem last_int_conv_spec {items : List Item} (hv : Valid items) :
    ∃ f, cParse (render items) = .ok f ∧ f.arguments = signature items ∧
      (∀ n c, getLastIntConv f n = .ok (some c) ↔
        1 ≤ n ∧ n ≤ (signature items).length ∧ (∀ e ∈ lastUses f n, e.parent = c) ∧
        (∃ e ∈ lastUses f n, e.kind = .conv) ∧ itemInteger items c = true) ∧
      (∀ n, 1 ≤ n → n ≤ (signature items).length → ∃ r, getLastIntConv f n = .ok r) := by
  obtain ⟨f, hf, ha, _, hint⟩ := cParse_valid hv
  refine ⟨f, hf, ha, ?_, ?_⟩
  · intro n c
    rw [getLastIntConv_some_iff, hint c, ha]
  · intro n h1 h2
    exact getLastIntConv_ok f n h1 (by rw [ha]; exact h2)

/-- **C: when an omission is tolerated.**  Only if the caller allows it and the arguments dropped are exactly the last
    ones, all consumed by one integer conversion. -/
theorem c_tolerated_iff (f : CFmtX) (k : Nat) (omittedOk : Bool) :
    cTolerated f k omittedOk = true ↔ omittedOk = true ∧ ∃ c, getLastIntConv f k = .ok (some c) := by
  unfold cTolerated
  cases omittedOk with
  | false => simp
  | true =>
    cases h : getLastIntConv f k with
    | error e => simp
    | ok r => cases r <;> simp

/-- C: the output of `check_args` in closed form — the count diagnostic first, then the type diagnostics in position order -/
theorem c_output_determined (pfx : Extra) (srcLoc dstLoc : List Char) (omittedOk : Bool) {s s' : List Char} {f f' : CFmtX}
    (h : cParse s = .ok f) (h' : cParse s' = .ok f') :
    checkArgsC pfx srcLoc f dstLoc f' omittedOk =
      .ok (cCountTags pfx srcLoc f dstLoc f' omittedOk ++
        (typeDiffs (typesOf f.arguments) (typesOf f'.arguments)).map (cTypeTag pfx srcLoc dstLoc)) :=
  checkArgsC_eq pfx srcLoc f dstLoc f' omittedOk (cParse_slotsOk h) (cParse_slotsOk h')

/-- **C, `check_args_nocrash`**: on any two accepted strings `check_args` returns. -/
theorem c_check_args_nocrash (pfx : Extra) (srcLoc dstLoc : List Char) (omittedOk : Bool) {s s' : List Char} {f f' : CFmtX}
    (h : cParse s = .ok f) (h' : cParse s' = .ok f') : ∃ t, checkArgsC pfx srcLoc f dstLoc f' omittedOk = .ok t :=
  ⟨_, c_output_determined pfx srcLoc dstLoc omittedOk h h'⟩

/-! ## Python `%` -/

/-- **Python-%, `args_tags_iff`.**  On two accepted strings `check_args` emits exactly: the number diagnostic iff the
    numbers of unnamed arguments differ; a type diagnostic for every unnamed position and every common key whose types
    differ; the unknown-argument diagnostic for every key of the translation that the source lacks; the missing-argument
    diagnostic for every key of the source that the translation lacks, unless the omission is tolerated. -/
theorem python_args_tags_iff (pfx : Extra) (srcLoc dstLoc : List Char) (omittedOk : Bool) {s s' : List Char} {src dst : PyFmt.Result}
    (h : pyParse s = .ok src) (h' : pyParse s' = .ok dst) :
    ∃ tags, checkArgsPython pfx srcLoc src dstLoc dst omittedOk = .ok tags ∧
      ∀ t, t ∈ tags ↔
        (NumberDiffers (pySeq src) (pySeq dst) ∧ t = pyNumberTag pfx srcLoc src dstLoc dst) ∨
        (∃ i a b, TypeDiffAt (pySeq src) (pySeq dst) i a b ∧ t = pyTypeTag pfx srcLoc dstLoc (a, b)) ∨
        (∃ k a b, TypeDiffKey (· = ·) (pyNamed src) (pyNamed dst) k a b ∧ t = pyTypeTag pfx srcLoc dstLoc (a, b)) ∨
        (∃ k, Unknown (pyNamed src) (pyNamed dst) k ∧ t = pyUnknownTag pfx srcLoc dstLoc k) ∨
        (∃ k, Missing (pyNamed src) (pyNamed dst) k ∧ pyTolerated src dst omittedOk = false ∧
          t = pyMissingTag pfx srcLoc dstLoc k) := by
  obtain ⟨named, heq, h⟩ := namedTags_tags strLt (fun a : PEntry => a.type == "int") (pyUnknownTag pfx srcLoc dstLoc)
    (pyMissingTag pfx srcLoc dstLoc) (pyClash_spec pfx srcLoc dstLoc) src.map dst.map omittedOk (pyParse_wf h).2 (pyParse_wf h').2
  refine ⟨_, by rw [checkArgsPython_named, heq], fun t => ?_⟩
  rw [List.mem_append, List.mem_append, h t, pySeqTypeTags_eq, List.mem_map, or_assoc]
  refine or_congr ?_ (or_congr ⟨?_, ?_⟩ Iff.rfl)
  · have hn : NumberDiffers (pySeq src) (pySeq dst) ↔ (dst.seq.length != src.seq.length) = true := by
      simp [NumberDiffers, pySeq]
    by_cases hne : (dst.seq.length != src.seq.length) = true <;> simp [hn, hne]
  · rintro ⟨⟨a, b⟩, hp, rfl⟩
    obtain ⟨i, hi⟩ := (mem_typeDiffs _ _ a b).1 hp
    exact ⟨i, a, b, hi, rfl⟩
  · rintro ⟨i, a, b, hi, rfl⟩
    exact ⟨(a, b), (mem_typeDiffs _ _ a b).2 ⟨i, hi⟩, rfl⟩

/-- **Python-%, when an omission is tolerated**: only if the caller allows it, exactly one key is missing, and every use of
    that key in the source is an integer conversion. -/
theorem python_tolerated_iff {s : List Char} {src : PyFmt.Result} (h : pyParse s = .ok src) (dst : PyFmt.Result) (omittedOk : Bool) :
    pyTolerated src dst omittedOk = true ↔
      omittedOk = true ∧ ∃ k uses, OnlyMissing (pyNamed src) (pyNamed dst) k ∧ valueAt src.map k = some uses ∧
        ∀ u ∈ uses, u.type = "int" :=
  (mapTolerated_iff (fun a : PEntry => a.type == "int") pyHeadType src.map dst.map (pyParse_wf h) omittedOk).trans (by simp only [beq_iff_eq, pyNamed])

/-- **Python-%, `same_signature_silent` / `reorder_silent`**: the same unnamed argument types in order, and the same keys
    with the same types — in whatever order the named specifications come, however often a key is used — are never
    flagged. -/
theorem python_same_signature_silent (pfx : Extra) (srcLoc dstLoc : List Char) (omittedOk : Bool) {s s' : List Char}
    {src dst : PyFmt.Result} (h : pyParse s = .ok src) (h' : pyParse s' = .ok dst)
    (hseq : pySeq src = pySeq dst) (hmap : SameNamed (· = ·) (pyNamed src) (pyNamed dst)) :
    checkArgsPython pfx srcLoc src dstLoc dst omittedOk = .ok [] := by
  have hlen : dst.seq.length = src.seq.length := by simpa [pySeq] using (congrArg List.length hseq).symm
  rw [checkArgsPython_named, namedTags_silent strLt _ _ _ (pyClash_spec pfx srcLoc dstLoc) _ _ _ (pyParse_wf h).2 (pyParse_wf h').2 hmap,
    pySeqTypeTags_eq, ← pySeq, ← pySeq, hseq, typeDiffs_self, hlen]
  rw [bne_self_eq_false, if_neg Bool.false_ne_true]
  rfl

/-- **Python-%, `reorder_silent`**: two accepted strings without unnamed arguments whose named specifications `%(key)…`
    carry the same (key, type) pairs — read in any order, any number of times — are never flagged.  `st.map` is the
    `(key, conversion)` record list of the scanner (`_map_arguments` in insertion order). -/
theorem python_reorder_silent (pfx : Extra) (srcLoc dstLoc : List Char) (omittedOk : Bool) {s s' : List Char}
    {src dst : PyFmt.Result} (h : PyFmt.parse s = .ok src) (h' : PyFmt.parse s' = .ok dst)
    (hseq : src.seq = [] ∧ dst.seq = []) {st st' : PyFmt.St}
    (hl : PyFmt.loop true (s.length + 1) s [] PyFmt.St.init = .ok st)
    (hl' : PyFmt.loop true (s'.length + 1) s' [] PyFmt.St.init = .ok st')
    (hsame : ∀ k t, (∃ e, (k, e) ∈ st.map ∧ e.type = t) ↔ (∃ e, (k, e) ∈ st'.map ∧ e.type = t)) :
    checkArgsPython pfx srcLoc src dstLoc dst omittedOk = .ok [] := by
  have hp : pyParse s = .ok src := pyParse_eq_ok_iff.2 h
  have hp' : pyParse s' = .ok dst := pyParse_eq_ok_iff.2 h'
  exact python_same_signature_silent pfx srcLoc dstLoc omittedOk hp hp' (by simp [pySeq, hseq.1, hseq.2])
    (sameNamed_of_logs h h' hl hl' hsame)

/-- **Python-%, `check_args_nocrash`** -/
theorem python_check_args_nocrash (pfx : Extra) (srcLoc dstLoc : List Char) (omittedOk : Bool) {s s' : List Char}
    {src dst : PyFmt.Result} (h : pyParse s = .ok src) (h' : pyParse s' = .ok dst) :
    ∃ t, checkArgsPython pfx srcLoc src dstLoc dst omittedOk = .ok t :=
  ⟨_, checkArgsPython_eq pfx srcLoc src dstLoc dst omittedOk (pyParse_wf h) (pyParse_wf h')⟩

/-! ## python-brace (over the parsed signatures) -/

/-- **python-brace, `args_tags_iff`.**  A type diagnostic for every common argument whose type sets are disjoint; the
    unknown-argument diagnostic for every argument (number or name) of the translation that the source lacks; the
    missing-argument diagnostic for every argument of the source that the translation lacks, unless tolerated; nothing else;
    and no exception (`check_args_nocrash`; before fix 56d8ddf `sorted(missing_keys)` raised `TypeError` when a numbered
    and a named argument were both missing). -/
theorem pybrace_args_tags_iff (pfx : Extra) (srcLoc dstLoc : List Char) (omittedOk : Bool) (src dst : PyBraceSig)
    (hs : BraceWf src) (hd : BraceWf dst) :
    ∃ tags, checkArgsPyBrace pfx srcLoc src dstLoc dst omittedOk = .ok tags ∧
      ∀ t, t ∈ tags ↔
        (∃ k a b, TypeDiffKey Compatible (braceNamed src) (braceNamed dst) k a b ∧ t = braceTypeTag pfx srcLoc dstLoc a b) ∨
        (∃ k, Unknown (braceNamed src) (braceNamed dst) k ∧ t = braceUnknownTag pfx srcLoc dstLoc k) ∨
        (∃ k, Missing (braceNamed src) (braceNamed dst) k ∧ braceTolerated src dst omittedOk = false ∧
          t = braceMissingTag pfx srcLoc dstLoc k) := by
  rw [checkArgsPyBrace_named]
  exact namedTags_tags BKey.lt _ _ _ (braceClash_spec pfx srcLoc dstLoc) src.args dst.args omittedOk hs.2 hd.2

/-- **python-brace, when an omission is tolerated**: only if the caller allows it, exactly one argument is missing, and
    `int` is among the types of every use of it. -/
theorem pybrace_tolerated_iff (src dst : PyBraceSig) (hs : BraceWf src) (omittedOk : Bool) :
    braceTolerated src dst omittedOk = true ↔
      omittedOk = true ∧ ∃ k uses, OnlyMissing (braceNamed src) (braceNamed dst) k ∧ valueAt src.args k = some uses ∧
        ∀ u ∈ uses, u.int = true :=
  mapTolerated_iff (fun a : TySet => a.int) headTy src.args dst.args hs omittedOk

/-- **python-brace, `same_signature_silent` / `reorder_silent`**: the same arguments (numbers and names) with compatible
    type sets — in any order of the fields — are never flagged. -/
theorem pybrace_same_signature_silent (pfx : Extra) (srcLoc dstLoc : List Char) (omittedOk : Bool) (src dst : PyBraceSig)
    (hs : BraceWf src) (hd : BraceWf dst) (h : SameNamed Compatible (braceNamed src) (braceNamed dst)) :
    checkArgsPyBrace pfx srcLoc src dstLoc dst omittedOk = .ok [] := by
  rw [checkArgsPyBrace_named]
  exact namedTags_silent BKey.lt _ _ _ (braceClash_spec pfx srcLoc dstLoc) _ _ _ hs.2 hd.2 h

/-! ## perl-brace (over the parsed signatures) -/

/-- **perl-brace, `args_tags_iff`** (and `check_args_nocrash`: it always returns). -/
theorem perlbrace_args_tags_iff (pfx : Extra) (srcLoc dstLoc : List Char) (omittedOk : Bool) (src dst : PerlBraceSig) :
    ∃ tags, checkArgsPerlBrace pfx srcLoc src dstLoc dst omittedOk = .ok tags ∧
      ∀ t, t ∈ tags ↔
        (∃ k, Unknown (perlNamed src) (perlNamed dst) k ∧ t = perlUnknownTag pfx srcLoc dstLoc k) ∨
        (∃ k, Missing (perlNamed src) (perlNamed dst) k ∧ perlTolerated src dst omittedOk = false ∧
          t = perlMissingTag pfx srcLoc dstLoc k) := by
  refine ⟨_, checkArgsPerlBrace_eq .., fun t => ?_⟩
  rw [List.mem_append, mem_unknownTags, mem_missingTags]
  unfold Unknown Missing
  rw [keys_perlNamed, keys_perlNamed]

/-- **perl-brace, when an omission is tolerated**: the caller allows it and exactly one placeholder is missing
    (placeholders are untyped: any one may be the count). -/
theorem perlbrace_tolerated_iff (src dst : PerlBraceSig) (hs : PerlWf src) (omittedOk : Bool) :
    perlTolerated src dst omittedOk = true ↔ omittedOk = true ∧ ∃ k, OnlyMissing (perlNamed src) (perlNamed dst) k := by
  unfold perlTolerated OnlyMissing Missing
  simp only [Bool.and_eq_true, beq_iff_eq, keys_perlNamed, List.length_eq_one_iff, ← missing_singleton_iff hs]
  exact and_comm

/-- **perl-brace, `same_signature_silent` / `reorder_silent`**: the same set of placeholders, in any order, is never flagged. -/
theorem perlbrace_same_signature_silent (pfx : Extra) (srcLoc dstLoc : List Char) (omittedOk : Bool) (src dst : PerlBraceSig)
    (h : ∀ k, k ∈ src.args ↔ k ∈ dst.args) : checkArgsPerlBrace pfx srcLoc src dstLoc dst omittedOk = .ok [] := by
  have hsame : SameNamed (fun _ _ => True) (perlNamed src) (perlNamed dst) :=
    ⟨fun k => by rw [keys_perlNamed, keys_perlNamed]; exact h k, fun _ _ _ _ _ => trivial⟩
  refine silent_of_mem_iff (perlbrace_args_tags_iff pfx srcLoc dstLoc omittedOk src dst) fun t ht => ?_
  rcases ht with ⟨k, hk, _⟩ | ⟨k, hk, _⟩
  · exact (sameNamed_no_difference hsame).2.1 k hk
  · exact (sameNamed_no_difference hsame).2.2 k hk

/-! ## The output is determined, order included -/

/-- **`sorted()` emits keys in increasing order, so the comparators' output is determined by the signatures.**
    perl-brace: `U`, `M` are THE strictly increasing lists (code-point order) of the placeholders only in the translation /
    only in the source (the latter empty when the single one is tolerated) — unique by `output_lists_unique`. -/
theorem perlbrace_output_determined (pfx : Extra) (srcLoc dstLoc : List Char) (omittedOk : Bool) (src dst : PerlBraceSig)
    (hs : PerlWf src) (hd : PerlWf dst) :
    ∃ U M, checkArgsPerlBrace pfx srcLoc src dstLoc dst omittedOk =
        .ok (U.map (perlUnknownTag pfx srcLoc dstLoc) ++ M.map (perlMissingTag pfx srcLoc dstLoc)) ∧
      Sorted strLt U ∧ (∀ k, k ∈ U ↔ Unknown (perlNamed src) (perlNamed dst) k) ∧
      Sorted strLt M ∧ (∀ k, k ∈ M ↔ Missing (perlNamed src) (perlNamed dst) k ∧ perlTolerated src dst omittedOk = false) := by
  have hU := sortedDiff_spec strLt_strictTotal hd src.args false
  have hM := sortedDiff_spec strLt_strictTotal hs dst.args (perlTolerated src dst omittedOk)
  unfold Unknown Missing
  rw [keys_perlNamed, keys_perlNamed]
  exact ⟨_, _, checkArgsPerlBrace_eq pfx srcLoc src dstLoc dst omittedOk, hU.1, by simpa using hU.2, hM.1, hM.2⟩

/-- python-brace: numbers before names (`sort_key`), numbers ascending, names in code-point order -/
theorem pybrace_output_determined (pfx : Extra) (srcLoc dstLoc : List Char) (omittedOk : Bool) (src dst : PyBraceSig)
    (hs : BraceWf src) (hd : BraceWf dst) :
    ∃ K U M, checkArgsPyBrace pfx srcLoc src dstLoc dst omittedOk =
        .ok (K.flatMap (clashAt (braceClash pfx srcLoc dstLoc) src.args dst.args) ++
          U.map (braceUnknownTag pfx srcLoc dstLoc) ++ M.map (braceMissingTag pfx srcLoc dstLoc)) ∧
      Sorted BKey.lt K ∧ (∀ k, k ∈ K ↔ k ∈ keys (braceNamed src) ∧ k ∈ keys (braceNamed dst)) ∧
      Sorted BKey.lt U ∧ (∀ k, k ∈ U ↔ Unknown (braceNamed src) (braceNamed dst) k) ∧
      Sorted BKey.lt M ∧ (∀ k, k ∈ M ↔ Missing (braceNamed src) (braceNamed dst) k ∧ braceTolerated src dst omittedOk = false) := by
  rw [checkArgsPyBrace_named]
  exact namedTags_determined bkeyLt_strictTotal _ _ _ _ headTy src.args dst.args omittedOk hs hd

theorem python_output_determined (pfx : Extra) (srcLoc dstLoc : List Char) (omittedOk : Bool) {s s' : List Char}
    {src dst : PyFmt.Result} (h : pyParse s = .ok src) (h' : pyParse s' = .ok dst) :
    ∃ K U M, checkArgsPython pfx srcLoc src dstLoc dst omittedOk = .ok (
        (if dst.seq.length != src.seq.length then [pyNumberTag pfx srcLoc src dstLoc dst] else []) ++
        (typeDiffs (pySeq src) (pySeq dst)).map (pyTypeTag pfx srcLoc dstLoc) ++
        K.flatMap (clashAt (pyClash pfx srcLoc dstLoc) src.map dst.map) ++
        U.map (pyUnknownTag pfx srcLoc dstLoc) ++ M.map (pyMissingTag pfx srcLoc dstLoc)) ∧
      Sorted strLt K ∧ (∀ k, k ∈ K ↔ k ∈ keys (pyNamed src) ∧ k ∈ keys (pyNamed dst)) ∧
      Sorted strLt U ∧ (∀ k, k ∈ U ↔ Unknown (pyNamed src) (pyNamed dst) k) ∧
      Sorted strLt M ∧ (∀ k, k ∈ M ↔ Missing (pyNamed src) (pyNamed dst) k ∧ pyTolerated src dst omittedOk = false) := by
  obtain ⟨K, U, M, heq, h⟩ := namedTags_determined strLt_strictTotal (pyClash pfx srcLoc dstLoc) (fun a : PEntry => a.type == "int")
    (pyUnknownTag pfx srcLoc dstLoc) (pyMissingTag pfx srcLoc dstLoc) pyHeadType src.map dst.map omittedOk (pyParse_wf h) (pyParse_wf h')
  refine ⟨K, U, M, ?_, h⟩
  rw [checkArgsPython_named, heq, pySeqTypeTags_eq]
  simp only [List.append_assoc]
  rfl

/-- a strictly increasing list is determined by its members (both orders used are strict total orders) -/
theorem output_lists_unique :
    (∀ l l' : List (List Char), Sorted strLt l → Sorted strLt l' → (∀ x, x ∈ l ↔ x ∈ l') → l = l') ∧
    (∀ l l' : List BKey, Sorted BKey.lt l → Sorted BKey.lt l' → (∀ x, x ∈ l ↔ x ∈ l') → l = l') :=
  ⟨fun _ _ => Kit.sorted_ext strLt_strictTotal, fun _ _ => Kit.sorted_ext bkeyLt_strictTotal⟩

/-! ## `check_message`: which strings are compared with which, and with what tolerance -/

/-- **A message of the property's domain** (PO file, usable charset, not fuzzy) whose `msgid` — and `msgid_plural`, if any —
    are valid format strings: `check_message` emits exactly `check_msgids`' tags, the single-string diagnostics of `msgstr`
    (if non-empty) and of every `msgstr[i]` (if any is non-empty and `check_plurals` left a preimage), then the tags of the
    planned comparisons, in that order.  Generic in the format kind. -/
theorem message_tags {σ F : Type} (b : Backend σ F) (ctx : Ctx) (msg : Msg σ) (fl : Flags) (hdom : InDomain ctx fl)
    (f0 : F) (h0 : b.parse msg.msgid = .ok f0) (f1 : Option F)
    (h1 : match msg.msgidPlural with | none => f1 = none | some sp => ∃ g, b.parse sp = .ok g ∧ f1 = some g)
    (hs : NoCrashOn b msg.msgstr) (hforms : ∀ p ∈ msg.msgstrPlural, NoCrashOn b p.2)
    (hargs : ∀ d ∈ allPlans b ctx msg fl (some f0) f1, PlanOk b msg.pfx d) :
    checkMessage b ctx msg fl = .ok (b.checkMsgids msg.repr (some f0) ++
      ((if b.truthy msg.msgstr then stringTags b ctx msg msg.msgstr else []) ++ (pluralPart b ctx msg fl (some f0) f1).1 ++
       (allPlans b ctx msg fl (some f0) f1).flatMap (planTags b msg.pfx))) := by
  rw [checkMessage_run b ctx msg fl hdom h0 f1 h1 hs hforms, runPlans_eq b msg.pfx _ hargs]
  rfl

/-- **Non-plural message with a valid `msgstr`**: besides `check_msgids` and the warnings about `msgstr` itself, exactly
    the tags of `check_args(msgid, msgstr)` with no tolerance — i.e. (by the `…_args_tags_iff` theorems) a mismatch
    diagnostic iff the two signatures differ in the corresponding way. -/
theorem plain_message {σ F : Type} (b : Backend σ F) (ctx : Ctx) (msg : Msg σ) (fl : Flags) (hdom : InDomain ctx fl)
    (hpl : msg.msgidPlural = none) (hforms : msg.msgstrPlural = []) (f0 f : F) (h0 : b.parse msg.msgid = .ok f0)
    (ht : b.truthy msg.msgstr = true) (h : b.parse msg.msgstr = .ok f) (tags : List TagCall)
    (hargs : b.checkArgs msg.pfx "msgid".toList f0 "msgstr".toList f false = .ok tags) :
    checkMessage b ctx msg fl = .ok (b.checkMsgids msg.repr (some f0) ++
      (b.okTags false false msg.pfx msg.repr f ++ tags)) := by
  simp only [checkMessage_plain_eq b ctx msg fl hdom hpl hforms h0 ht, h, hargs]
  rfl

/-- `truthy` of the back ends on strings: a non-empty `msgstr` is examined -/
theorem not_isEmpty_of_ne_nil {α : Type} {l : List α} (h : l ≠ []) : (!l.isEmpty) = true := by
  rw [List.isEmpty_eq_false_iff.2 h]
  rfl

/-- the tags of the C checker about a single string or about `msgid` alone are none of the argument diagnostics -/
theorem c_other_tags_names (repr pfx : Extra) (fo : Option CFmtX) (f : CFmtX) (t : TagCall)
    (h : t ∈ cBackend.checkMsgids repr fo ++ cBackend.okTags false false pfx repr f) :
    t.name = "qt-plural-format-mistaken-for-c-format" ∨ t.name = "c-format-string-redundant-flag" ∨
    t.name = "c-format-string-non-portable-conversion" := by
  rcases List.mem_append.1 h with h | h
  · left
    revert h
    show t ∈ cCheckMsgids repr fo → _
    fun_cases cCheckMsgids repr fo
    case case1 => exact fun h => by rw [List.mem_singleton.1 h]
    all_goals exact fun h => nomatch h
  · right
    have h' : t ∈ f.warnings.map (cWarnTag pfx) := h
    obtain ⟨w, _, rfl⟩ := List.mem_map.1 h'
    cases w
    · right; rfl
    · left; rfl

/-- **The statement's first sentence, for c-format, in one theorem.**  In a catalog with a usable charset declaration, for a
    non-fuzzy, non-plural c-format message whose `msgid` and (non-empty) `msgstr` are valid printf strings — given by their
    items — `check_message` reports the excess-arguments diagnostic iff `msgstr` consumes more arguments than `msgid`, the
    missing-arguments diagnostic iff it consumes fewer, a type-mismatch diagnostic `(b, a)` iff some argument consumed by
    both has type `a` in `msgid` and a different type `b` in `msgstr`; and whatever else it reports is a warning about one
    of the two strings (redundant flag, non-portable conversion, Qt plural format). -/
theorem c_plain_message_iff (ctx : Ctx) (msg : Msg (List Char)) (fl : Flags) (hdom : InDomain ctx fl)
    (hpl : msg.msgidPlural = none) (hforms : msg.msgstrPlural = []) {src dst : List Item} (hs : Valid src) (hd : Valid dst)
    (hid : msg.msgid = render src) (hstr : msg.msgstr = render dst) (hne : msg.msgstr ≠ []) :
    ∃ fs fd tags, cParse (render src) = .ok fs ∧ cParse (render dst) = .ok fd ∧ checkMessage cBackend ctx msg fl = .ok tags ∧
      (cExcessTag msg.pfx "msgid".toList fs "msgstr".toList fd ∈ tags ↔ Excess (typesOf (signature src)) (typesOf (signature dst))) ∧
      (cMissingTag msg.pfx "msgid".toList fs "msgstr".toList fd ∈ tags ↔ Fewer (typesOf (signature src)) (typesOf (signature dst))) ∧
      (∀ a b, cTypeTag msg.pfx "msgid".toList "msgstr".toList (a, b) ∈ tags ↔
        ∃ i, TypeDiffAt (typesOf (signature src)) (typesOf (signature dst)) i a b) ∧
      (∀ t ∈ tags, t = cExcessTag msg.pfx "msgid".toList fs "msgstr".toList fd ∨ t = cMissingTag msg.pfx "msgid".toList fs "msgstr".toList fd ∨
        (∃ a b, t = cTypeTag msg.pfx "msgid".toList "msgstr".toList (a, b)) ∨
        t.name = "qt-plural-format-mistaken-for-c-format" ∨ t.name = "c-format-string-redundant-flag" ∨
        t.name = "c-format-string-non-portable-conversion") := by
  obtain ⟨fs, fd, atags, hfs, hfd, hargs, h1, h2, h3, h4, _⟩ :=
    c_args_tags_iff msg.pfx "msgid".toList "msgstr".toList false hs hd
  have ht : cBackend.truthy msg.msgstr = true := not_isEmpty_of_ne_nil hne
  have hp0 : cBackend.parse msg.msgid = .ok fs := by rw [hid]; exact hfs
  have hp1 : cBackend.parse msg.msgstr = .ok fd := by rw [hstr]; exact hfd
  have hmsg := plain_message cBackend ctx msg fl hdom hpl hforms fs fd hp0 ht hp1 atags hargs
  have hno : ∀ t : TagCall, (t.name ≠ "qt-plural-format-mistaken-for-c-format" ∧ t.name ≠ "c-format-string-redundant-flag" ∧
      t.name ≠ "c-format-string-non-portable-conversion") →
      t ∉ cBackend.checkMsgids msg.repr (some fs) ++ cBackend.okTags false false msg.pfx msg.repr fd := fun t hn hm => by
    rcases c_other_tags_names _ _ _ _ _ hm with h | h | h
    · exact hn.1 h
    · exact hn.2.1 h
    · exact hn.2.2 h
  refine ⟨fs, fd, _, hfs, hfd, hmsg, ?_, ?_, ?_, ?_⟩
  all_goals rw [← List.append_assoc]
  · rw [List.mem_append, or_iff_right (hno _ (by simp [cExcessTag, tagExcessOrMissing])), h1]
  · rw [List.mem_append, or_iff_right (hno _ (by simp [cMissingTag, tagExcessOrMissing])), h2]
    exact and_iff_left rfl
  · intro a b
    rw [List.mem_append, or_iff_right (hno _ (by simp [cTypeTag, tagTypeMismatch])), h3]
  · intro t htm
    rcases List.mem_append.1 htm with h | h
    · exact Or.inr (Or.inr (Or.inr (c_other_tags_names _ _ _ _ _ h)))
    · exact (h4 t h).imp_right (Or.imp_right Or.inl)

/-- **C, `reorder_silent`, permutation form**: if the (argument number, type) references of the translation are a permutation
    of those of the source, nothing is flagged. -/
theorem c_reorder_silent_perm (pfx : Extra) (srcLoc dstLoc : List Char) (omittedOk : Bool) {src dst : List Item}
    (hs : Valid src) (hd : Valid dst)
    (h : ((positions (refs src)).map fun p => (p.1, p.2.type)).Perm ((positions (refs dst)).map fun p => (p.1, p.2.type))) :
    ∃ fs fd, cParse (render src) = .ok fs ∧ cParse (render dst) = .ok fd ∧
      checkArgsC pfx srcLoc fs dstLoc fd omittedOk = .ok [] := by
  apply c_reorder_silent pfx srcLoc dstLoc omittedOk hs hd
  intro j t
  rw [posType_iff_mem, posType_iff_mem]
  exact h.mem_iff

/-- **The statement's first sentence, for python-format.**  In a catalog with a usable charset declaration, a non-fuzzy,
    non-plural python-format message whose `msgid` and (non-empty) `msgstr` are accepted reports exactly: the warnings about
    `msgstr` as a string, and — never tolerant — the number-mismatch diagnostic iff the numbers of unnamed arguments differ, a
    type-mismatch diagnostic per unnamed position / common key with different types, unknown-argument per key only in `msgstr`,
    missing-argument per key only in `msgid`. -/
theorem python_plain_message_iff (ctx : Ctx) (msg : Msg (List Char)) (fl : Flags) (hdom : InDomain ctx fl)
    (hpl : msg.msgidPlural = none) (hforms : msg.msgstrPlural = []) {src dst : PyFmt.Result}
    (h0 : pyParse msg.msgid = .ok src) (h1 : pyParse msg.msgstr = .ok dst) (hne : msg.msgstr ≠ []) :
    ∃ tags, checkMessage pyBackend ctx msg fl = .ok tags ∧
      ∀ t, t ∈ tags ↔
        t ∈ dst.warnings.map (pyWarnTag msg.pfx) ∨
        (NumberDiffers (pySeq src) (pySeq dst) ∧ t = pyNumberTag msg.pfx "msgid".toList src "msgstr".toList dst) ∨
        (∃ i a b, TypeDiffAt (pySeq src) (pySeq dst) i a b ∧ t = pyTypeTag msg.pfx "msgid".toList "msgstr".toList (a, b)) ∨
        (∃ k a b, TypeDiffKey (· = ·) (pyNamed src) (pyNamed dst) k a b ∧ t = pyTypeTag msg.pfx "msgid".toList "msgstr".toList (a, b)) ∨
        (∃ k, Unknown (pyNamed src) (pyNamed dst) k ∧ t = pyUnknownTag msg.pfx "msgid".toList "msgstr".toList k) ∨
        (∃ k, Missing (pyNamed src) (pyNamed dst) k ∧ t = pyMissingTag msg.pfx "msgid".toList "msgstr".toList k) := by
  obtain ⟨atags, hargs, hiff⟩ := python_args_tags_iff msg.pfx "msgid".toList "msgstr".toList false h0 h1
  have ht : pyBackend.truthy msg.msgstr = true := not_isEmpty_of_ne_nil hne
  have hmsg := plain_message pyBackend ctx msg fl hdom hpl hforms src dst h0 ht h1 atags hargs
  refine ⟨_, hmsg, fun t => ?_⟩
  have hck : pyBackend.checkMsgids msg.repr (some src) = [] := rfl
  have hok : pyBackend.okTags false false msg.pfx msg.repr dst = dst.warnings.map (pyWarnTag msg.pfx) :=
    List.append_nil _
  rw [hck, hok, List.nil_append, List.mem_append, hiff t]
  have htol : pyTolerated src dst false = false := rfl
  simp only [htol, true_and]

/-- **python-brace / perl-brace: a non-plural message of the domain reports exactly the argument diagnostics** (these two
    checkers have no warnings and no `check_msgids`) -/
theorem pybrace_plain_message (ctx : Ctx) (msg : Msg (BraceStr PyBraceSig)) (fl : Flags) (hdom : InDomain ctx fl)
    (hpl : msg.msgidPlural = none) (hforms : msg.msgstrPlural = []) (src dst : PyBraceSig)
    (h0 : msg.msgid.outcome = .ok src) (ht : msg.msgstr.truthy = true) (h1 : msg.msgstr.outcome = .ok dst)
    (hs : BraceWf src) (hd : BraceWf dst) :
    checkMessage pyBraceBackend ctx msg fl = checkArgsPyBrace msg.pfx "msgid".toList src "msgstr".toList dst false :=
  checkMessage_plain_bare pyBraceBackend (fun _ _ => rfl) (fun _ _ _ => rfl) ctx msg fl hdom hpl hforms h0 ht h1

theorem perlbrace_plain_message (ctx : Ctx) (msg : Msg (BraceStr PerlBraceSig)) (fl : Flags) (hdom : InDomain ctx fl)
    (hpl : msg.msgidPlural = none) (hforms : msg.msgstrPlural = []) (src dst : PerlBraceSig)
    (h0 : msg.msgid.outcome = .ok src) (ht : msg.msgstr.truthy = true) (h1 : msg.msgstr.outcome = .ok dst) :
    checkMessage perlBraceBackend ctx msg fl = checkArgsPerlBrace msg.pfx "msgid".toList src "msgstr".toList dst false :=
  checkMessage_plain_bare perlBraceBackend (fun _ _ => rfl) (fun _ _ _ => rfl) ctx msg fl hdom hpl hforms h0 ht h1

/-- **`invalid_msgstr_error`**: a non-empty `msgstr` that is not a valid format string is reported as a format-string
    error — and gives rise to no argument diagnostic. -/
theorem invalid_msgstr_error {σ F : Type} (b : Backend σ F) (ctx : Ctx) (msg : Msg σ) (fl : Flags) (hdom : InDomain ctx fl)
    (hpl : msg.msgidPlural = none) (hforms : msg.msgstrPlural = []) (f0 : F) (h0 : b.parse msg.msgid = .ok f0)
    (ht : b.truthy msg.msgstr = true) (h : b.parse msg.msgstr = .own) :
    checkMessage b ctx msg fl = .ok (b.checkMsgids msg.repr (some f0) ++ [⟨b.errTag, [msg.pfx]⟩]) := by
  rw [checkMessage_plain_eq b ctx msg fl hdom hpl hforms h0 ht, h]

/-- an invalid `msgstr[i]` of a plural message is reported as a format-string error, too -/
theorem invalid_plural_form_error {σ F : Type} (b : Backend σ F) (ctx : Ctx) (msg : Msg σ) (fl : Flags) (f0 f1 : Option F)
    (q : Int × List Nat) (pre : CheckPlurals.Preimage) (hpre : ctx.preimage = some (q :: pre))
    (hany : msg.msgstrPlural.any (fun p => b.truthy p.2) = true) (i : Nat) (s : σ) (hmem : (i, s) ∈ msg.msgstrPlural)
    (h : b.parse s = .own) : (⟨b.errTag, [msg.pfx]⟩ : TagCall) ∈ (pluralPart b ctx msg fl f0 f1).1 := by
  rw [pluralPart_eq b msg fl f0 f1 hpre hany, List.mem_flatMap]
  refine ⟨(i, s), (mem_sortBy _ _ _).2 hmem, ?_⟩
  rw [stringTags_own ctx msg h]
  exact List.mem_singleton_self _

/-- **an invalid `msgid`** (outside templates): nothing at all is reported for the message -/
theorem invalid_msgid_silent {σ F : Type} (b : Backend σ F) (ctx : Ctx) (msg : Msg σ) (fl : Flags) (hn : ctx.isTemplate = false)
    (h0 : b.parse msg.msgid = .own) : checkMessage b ctx msg fl = .ok [] := by
  unfold checkMessage
  rw [msgidFmt_eq b ctx msg _ hn, h0]

/-- **Plural messages: every `msgstr[i]` that parses and whose form index has a preimage entry is compared** -/
theorem plural_form_is_compared {σ F : Type} (b : Backend σ F) (ctx : Ctx) (msg : Msg σ) (fl : Flags) (f0 f1 : Option F)
    (q : Int × List Nat) (pre : CheckPlurals.Preimage) (hpre : ctx.preimage = some (q :: pre))
    (hany : msg.msgstrPlural.any (fun p => b.truthy p.2) = true) (i : Nat) (s : σ) (hmem : (i, s) ∈ msg.msgstrPlural)
    (g : F) (hg : b.parse s = .ok g) (pi : List Nat) (hpi : preimageGet (q :: pre) i = some pi) :
    pluralPlan b f0 f1 i g (pi.filter fl.inRange) ∈ allPlans b ctx msg fl f0 f1 :=
  mem_allPlans_iff.2 (.inr
    ((mem_pluralPart_iff b ctx msg fl f0 f1 _).2 ⟨q, pre, i, s, g, pi, hpre, hany, hmem, hg, hpi, rfl⟩))

/-- **Plural messages: what each planned comparison is** (`omission_only_if`).  Every comparison planned for a
    `msgstr[i]` has that string as destination; its source is `msgid` if the form is selected exactly for `n = 1`
    (inside window and range flag), else `msgid_plural`; and an omitted integer argument may be tolerated only if the form
    is selected for at most one `n`, or for `0` and one other `n` — in the `n = 1` case only if moreover `msgid` and
    `msgid_plural` have equally many items. -/
theorem plural_form_plan {σ F : Type} (b : Backend σ F) (ctx : Ctx) (msg : Msg σ) (fl : Flags) (f0 f1 : Option F) (d : Plan F)
    (hd : d ∈ (pluralPart b ctx msg fl f0 f1).2) :
    ∃ pre i s g pi, ctx.preimage = some pre ∧ (i, s) ∈ msg.msgstrPlural ∧ b.parse s = .ok g ∧ preimageGet pre i = some pi ∧
      d.dst = some g ∧ d.dstLoc = msgstrLoc i ∧
      (pi.filter fl.inRange = [1] → d.src = f0 ∧ d.srcLoc = "msgid".toList ∧
        (d.omittedOk = true → ∃ a c, f0 = some a ∧ f1 = some c ∧ b.len a = b.len c)) ∧
      (pi.filter fl.inRange ≠ [1] → d.src = f1 ∧ d.srcLoc = "msgid_plural".toList) ∧
      (d.omittedOk = true → OmissionPermitted (pi.filter fl.inRange)) := by
  obtain ⟨q, pre, i, s, g, pi, h1, _, h2, h3, h4, rfl⟩ := (mem_pluralPart_iff b ctx msg fl f0 f1 d).1 hd
  have homit := (pluralPlan_omittedOk_iff b f0 f1 i g (pi.filter fl.inRange)).1
  refine ⟨q :: pre, i, s, g, pi, h1, h2, h3, h4, (pluralPlan_dst b f0 f1 i g _).1, (pluralPlan_dst b f0 f1 i g _).2, ?_, ?_, ?_⟩
  · intro hp
    exact ⟨((pluralPlan_src b f0 f1 i g _).1 hp).1, ((pluralPlan_src b f0 f1 i g _).1 hp).2, fun h => (homit h).2 hp⟩
  · exact (pluralPlan_src b f0 f1 i g _).2
  · exact fun h => (homit h).1

/-- the comparison of `msgstr` with `msgid` is never tolerant -/
theorem msgstr_plan_strict {σ F : Type} (b : Backend σ F) (msg : Msg σ) (f0 : Option F) :
    (msgstrPlanOf b msg f0).omittedOk = false ∧ (msgstrPlanOf b msg f0).src = f0 ∧
    (msgstrPlanOf b msg f0).srcLoc = "msgid".toList ∧ (msgstrPlanOf b msg f0).dstLoc = "msgstr".toList := ⟨rfl, rfl, rfl, rfl⟩

/-- **`omission_window`: the window made explicit.**  In a catalog whose (only) `Plural-Forms` field is `pf`, the preimage
    entry that decides source and tolerance for `msgstr[i]` is the increasing list of the `n < 200` at which the declared
    expression evaluates to `i`; after the range flag: the `n` of `[0, 200) ∩ [range_min, range_max]` selecting form `i`. -/
theorem omission_window {tmpl : Bool} {pf : List Char} {pre : CheckPlurals.Preimage} (h : preimageOfHeader tmpl [pf] = some pre) (fl : Flags) :
    ∃ n e lj rj, CheckPlurals.parsePluralForms pf = .ok n e lj rj ∧ ∀ (i : Nat) (pi : List Nat), preimageGet pre i = some pi →
      pi.filter fl.inRange = (List.range CheckPlurals.codomainLimit).filter (fun k => selects e i k && fl.inRange k) := by
  obtain ⟨n, e, lj, rj, hpf, hget⟩ := preimageOfHeader_get h
  refine ⟨n, e, lj, rj, hpf, fun i pi hpi => ?_⟩
  rw [(hget i).1 pi hpi, List.filter_filter]
  congr 1
  funext k
  exact Bool.and_comm _ _

/-! ## No exception leaves `check_message` -/

/-- **C: `check_message` never raises**, whatever the context (template or not), flags and strings. -/
theorem c_check_message_nocrash (ctx : Ctx) (msg : Msg (List Char)) (fl : Flags) : ∃ t, checkMessage cBackend ctx msg fl = .ok t :=
  checkMessage_total cBackend (fun f => SlotsOk f.arguments)
    (fun pfx sl f dl g ok hf hg => ⟨_, checkArgsC_eq pfx sl f dl g ok hf hg⟩) ctx msg fl
    (msgOk_of_strOk cBackend (fun s => ⟨cParse_nocrash s, fun _ hf => cParse_slotsOk hf⟩) msg)

/-- **Python-%: `check_message` never raises.** -/
theorem python_check_message_nocrash (ctx : Ctx) (msg : Msg (List Char)) (fl : Flags) : ∃ t, checkMessage pyBackend ctx msg fl = .ok t :=
  checkMessage_total pyBackend (fun r => MapWf r.map)
    (fun pfx sl f dl g ok hf hg => ⟨_, checkArgsPython_eq pfx sl f dl g ok hf hg⟩) ctx msg fl
    (msgOk_of_strOk pyBackend (fun s => ⟨pyParse_nocrash s, fun _ hf => pyParse_wf hf⟩) msg)

/-- **python-brace: `check_message` never raises**, provided the parser raised only its own errors on the message's strings
    and every parsed signature is a well-formed dict (distinct keys, each with a use). -/
theorem pybrace_check_message_nocrash (ctx : Ctx) (msg : Msg (BraceStr PyBraceSig)) (fl : Flags)
    (hm : MsgOk pyBraceBackend BraceWf msg) : ∃ t, checkMessage pyBraceBackend ctx msg fl = .ok t :=
  checkMessage_total pyBraceBackend BraceWf (fun pfx sl f dl g ok hf hg => ⟨_, checkArgsPyBrace_eq pfx sl f dl g ok hf hg⟩)
    ctx msg fl hm

/-- **perl-brace: `check_message` never raises**, provided the parser raised only its own errors on the message's strings. -/
theorem perlbrace_check_message_nocrash (ctx : Ctx) (msg : Msg (BraceStr PerlBraceSig)) (fl : Flags)
    (hm : MsgOk perlBraceBackend (fun _ => True) msg) : ∃ t, checkMessage perlBraceBackend ctx msg fl = .ok t :=
  checkMessage_total perlBraceBackend (fun _ => True) (fun pfx sl f dl g ok _ _ => ⟨_, checkArgsPerlBrace_eq pfx sl f dl g ok⟩)
    ctx msg fl hm

/-! ## Dispatch -/

/-- a format flag without checker (`sh-format`, `java-format`, …) produces nothing -/
theorem dispatch_unknown (ctx : Ctx) (fl : Flags) (name : List Char) (m : KMsg) (h : checkerNames.contains name = false) :
    checkFormats ctx fl [(name, m)] = .ok [] := by
  have hn : name ∉ checkerNames := by simpa using h
  simp [checkFormats, sortBy, insertBy, runAll, hn]

/-- a single known format flag runs exactly its checker -/
theorem dispatch_single (ctx : Ctx) (fl : Flags) (name : List Char) (m : KMsg) (h : checkerNames.contains name = true) :
    checkFormats ctx fl [(name, m)] = m.check ctx fl := by
  simp only [checkFormats, sortBy, List.foldr_cons, List.foldr_nil, insertBy, runAll, h, ↓reduceIte]
  cases m.check ctx fl <;> simp

/-! ## The brace kinds on STRINGS: composition with the parser models of C13 -/

/-- **The conversion between what C13's parser model reports and what the comparator reads is faithful**: the same keys in the
    same (dict insertion) order; under every key the type sets of its uses, in order; `len(fmt)`; intersection, emptiness and
    the printed type names commute with it; both directions are injective. -/
theorem brace_conversion_faithful (r : PyBrace.Result) :
    (braceSigOf r).args.map (·.1) = r.argMap.map (fun p => keyOfBrace p.1) ∧
    (∀ k as, (k, as) ∈ r.argMap → (keyOfBrace k, as.map fun a => tyOfBrace a.types) ∈ (braceSigOf r).args) ∧
    (braceSigOf r).nitems = r.items.length ∧
    (∀ a b : PyBrace.Key, keyOfBrace a = keyOfBrace b → a = b) ∧
    (∀ a b : PyBrace.TySet, tyOfBrace a = tyOfBrace b → a = b) ∧
    (∀ a b : PyBrace.TySet, (tyOfBrace a).inter (tyOfBrace b) = tyOfBrace (a.inter b)) ∧
    (∀ a : PyBrace.TySet, (tyOfBrace a).nonempty = !a.isEmpty) ∧
    (∀ a : PyBrace.TySet, (tyOfBrace a).names = a.names.map String.toList) :=
  ⟨braceSigOf_keys r, braceSigOf_uses r, rfl, fun _ _ => keyOfBrace_injective, fun _ _ => tyOfBrace_injective,
    tyOfBrace_inter, tyOfBrace_nonempty, tyOfBrace_names⟩

/-- … and for an accepted string the comparator's reference view is exactly the parser's "argument `k` has the common type set
    `c`"; the signature is well formed for the comparator. -/
theorem brace_signature_of_string {s : List Char} {r : PyBrace.Result} (h : PyBrace.parse s = .ok r) :
    BraceWf (braceSigOf r) ∧
    (∀ k c, valueAt (braceNamed (braceSigOf r)) (keyOfBrace k) = some (tyOfBrace c) ↔ HasArg r k c) ∧
    (∀ k, keyOfBrace k ∈ keys (braceNamed (braceSigOf r)) ↔ k ∈ r.argMap.map (·.1)) :=
  ⟨braceSigOf_wf h, braceNamed_value (PyBrace.parseWith_sigOK h), braceNamed_keys r⟩

/-- **python-brace, `args_tags_iff` on strings.**  For any two strings the python-brace parser (C13's model) accepts,
    `check_args` on what it reports returns (no exception) exactly: a type-mismatch tag for every common argument whose type sets
    are disjoint, an unknown-argument tag for every argument only in the translation, a missing-argument tag for every argument
    only in the source unless the single one is tolerated. -/
theorem pybrace_args_tags_iff_strings (pfx : Extra) (srcLoc dstLoc : List Char) (omittedOk : Bool) {s s' : List Char}
    {r r' : PyBrace.Result} (h : PyBrace.parse s = .ok r) (h' : PyBrace.parse s' = .ok r') :
    ∃ tags, checkArgsPyBrace pfx srcLoc (braceSigOf r) dstLoc (braceSigOf r') omittedOk = .ok tags ∧
      ∀ t, t ∈ tags ↔
        (∃ k a b, TypeDiffKey Compatible (braceNamed (braceSigOf r)) (braceNamed (braceSigOf r')) k a b ∧
          t = braceTypeTag pfx srcLoc dstLoc a b) ∨
        (∃ k, Unknown (braceNamed (braceSigOf r)) (braceNamed (braceSigOf r')) k ∧ t = braceUnknownTag pfx srcLoc dstLoc k) ∨
        (∃ k, Missing (braceNamed (braceSigOf r)) (braceNamed (braceSigOf r')) k ∧
          braceTolerated (braceSigOf r) (braceSigOf r') omittedOk = false ∧ t = braceMissingTag pfx srcLoc dstLoc k) :=
  pybrace_args_tags_iff pfx srcLoc dstLoc omittedOk _ _ (braceSigOf_wf h) (braceSigOf_wf h')

/-- **python-brace, `reorder_silent` on strings**: if the translation has the same arguments (numbers and names) with the same
    type sets as the source — the fields in any order, any number of times, with whatever text in between — nothing is flagged. -/
theorem pybrace_reorder_silent (pfx : Extra) (srcLoc dstLoc : List Char) (omittedOk : Bool) {s s' : List Char}
    {r r' : PyBrace.Result} (h : PyBrace.parse s = .ok r) (h' : PyBrace.parse s' = .ok r')
    (hsame : ∀ k c, HasArg r k c ↔ HasArg r' k c) :
    checkArgsPyBrace pfx srcLoc (braceSigOf r) dstLoc (braceSigOf r') omittedOk = .ok [] :=
  pybrace_same_signature_silent pfx srcLoc dstLoc omittedOk _ _ (braceSigOf_wf h) (braceSigOf_wf h')
    (sameNamed_of_hasArg (PyBrace.parseWith_sigOK h) (PyBrace.parseWith_sigOK h') hsame)

/-- **python-brace, `reorder_silent` over RENDERED strings.**  Render any two item lists made of brace-free literal text and plain
    fields `{name}` / `{index}` (identifiers; decimal indices within `SSIZE_MAX`): both renderings are accepted by the parser, and
    if the fields of the translation are those of the source in any order (a permutation of the field names — in particular any
    reordering expressible with numbered or named fields), nothing is flagged. -/
theorem pybrace_reorder_silent_rendered (pfx : Extra) (srcLoc dstLoc : List Char) (omittedOk : Bool) {a b : List PlainItem}
    (ha : PlainClean a) (hb : PlainClean b) (hperm : (fieldNames b).Perm (fieldNames a)) :
    ∃ r r', PyBrace.parse (renderPlain a) = .ok r ∧ PyBrace.parse (renderPlain b) = .ok r' ∧
      checkArgsPyBrace pfx srcLoc (braceSigOf r) dstLoc (braceSigOf r') omittedOk = .ok [] := by
  obtain ⟨r, hr, hargs⟩ := parse_renderPlain ha
  obtain ⟨r', hr', hargs'⟩ := parse_renderPlain hb
  refine ⟨r, r', hr, hr', pybrace_reorder_silent pfx srcLoc dstLoc omittedOk hr hr' fun k c => ?_⟩
  rw [hargs, hargs']
  exact and_congr_right fun _ => (hperm.map keyOfName).mem_iff.symm

/-- **python-brace: no exception leaves `check_message` — for any context, flags and STRINGS** (no hypothesis left: the parser
    raises only its own errors, C13 `brace_error_own`, and what it reports is well formed for `check_args`). -/
theorem pybrace_check_message_nocrash_strings (ctx : Ctx) (msg : Msg (List Char)) (fl : Flags) :
    ∃ t, checkMessage pyBraceStrBackend ctx msg fl = .ok t :=
  checkMessage_total pyBraceStrBackend BraceWf (fun pfx sl f dl g ok hf hg => ⟨_, checkArgsPyBrace_eq pfx sl f dl g ok hf hg⟩)
    ctx msg fl (msgOk_of_strOk pyBraceStrBackend (fun s => ⟨pyBraceParse_nocrash s, fun _ hf => pyBraceParse_wf hf⟩) msg)

/-- **python-brace, the statement's first sentence on strings**: a non-plural message of the domain whose `msgid` and non-empty
    `msgstr` the parser accepts reports exactly the argument diagnostics of `check_args` on the two parsed signatures. -/
theorem pybrace_plain_message_strings (ctx : Ctx) (msg : Msg (List Char)) (fl : Flags) (hdom : InDomain ctx fl)
    (hpl : msg.msgidPlural = none) (hforms : msg.msgstrPlural = []) {r r' : PyBrace.Result}
    (h0 : PyBrace.parse msg.msgid = .ok r) (h1 : PyBrace.parse msg.msgstr = .ok r') (hne : msg.msgstr ≠ []) :
    checkMessage pyBraceStrBackend ctx msg fl =
      checkArgsPyBrace msg.pfx "msgid".toList (braceSigOf r) "msgstr".toList (braceSigOf r') false :=
  checkMessage_plain_bare pyBraceStrBackend (fun _ _ => rfl) (fun _ _ _ => rfl) ctx msg fl hdom hpl hforms (pyBraceParse_ok h0)
    (not_isEmpty_of_ne_nil hne) (pyBraceParse_ok h1)

/-- **python-brace, `invalid_msgstr_error` on strings**: a non-empty `msgstr` on which the parser raises one of its own error
    classes (C13: `Error`, `ConversionError`, `FormatError`, `FormatTypeMismatch`, `ArgumentNumberingMixture`,
    `ArgumentRangeError`, `ArgumentTypeMismatch` — and it raises nothing else) is reported as
    `python-brace-format-string-error`, and nothing else is reported. -/
theorem pybrace_invalid_msgstr_error (ctx : Ctx) (msg : Msg (List Char)) (fl : Flags) (hdom : InDomain ctx fl)
    (hpl : msg.msgidPlural = none) (hforms : msg.msgstrPlural = []) {r : PyBrace.Result} (h0 : PyBrace.parse msg.msgid = .ok r)
    (hne : msg.msgstr ≠ []) {e : PyBrace.PErr} (h1 : PyBrace.parse msg.msgstr = .error e) :
    checkMessage pyBraceStrBackend ctx msg fl = .ok [⟨"python-brace-format-string-error", [msg.pfx]⟩] := by
  obtain ⟨c, a, rfl⟩ := I18n.Props.C13.brace_error_own h1
  have ht : pyBraceStrBackend.truthy msg.msgstr = true := not_isEmpty_of_ne_nil hne
  have hp0 : pyBraceStrBackend.parse msg.msgid = .ok (braceSigOf r) := pyBraceParse_ok h0
  have hp1 : pyBraceStrBackend.parse msg.msgstr = .own := (pyBraceParse_own_iff _).2 ⟨c, a, h1⟩
  rw [invalid_msgstr_error pyBraceStrBackend ctx msg fl hdom hpl hforms _ hp0 ht hp1]
  rfl

open I18n.Spec.PerlBraceRef in
/-- **perl-brace, `args_tags_iff` on strings**, against C13's declarative reference: for well-formed strings (every `{` opens a
    `{identifier}` placeholder) an unknown-argument tag for every identifier that is a placeholder of the translation but not of
    the source, a missing-argument tag for every identifier that is a placeholder of the source but not of the translation
    (unless the single one is tolerated), nothing else, no exception. -/
theorem perlbrace_args_tags_iff_strings (pfx : Extra) (srcLoc dstLoc : List Char) (omittedOk : Bool) {s s' : List Char}
    (h : WellFormed s) (h' : WellFormed s') :
    ∃ r r' tags, PerlBrace.parse s = .ok r ∧ PerlBrace.parse s' = .ok r' ∧
      checkArgsPerlBrace pfx srcLoc (perlSigOf r) dstLoc (perlSigOf r') omittedOk = .ok tags ∧
      ∀ t, t ∈ tags ↔
        (∃ k, IsArgument s' k ∧ ¬ IsArgument s k ∧ t = perlUnknownTag pfx srcLoc dstLoc k) ∨
        (∃ k, IsArgument s k ∧ ¬ IsArgument s' k ∧ perlTolerated (perlSigOf r) (perlSigOf r') omittedOk = false ∧
          t = perlMissingTag pfx srcLoc dstLoc k) := by
  obtain ⟨r, hr, _, hargs⟩ := perlBraceParse_ok h
  obtain ⟨r', hr', _, hargs'⟩ := perlBraceParse_ok h'
  obtain ⟨tags, ht, hiff⟩ := perlbrace_args_tags_iff pfx srcLoc dstLoc omittedOk (perlSigOf r) (perlSigOf r')
  refine ⟨r, r', tags, hr, hr', ht, fun t => ?_⟩
  rw [hiff t]
  unfold Unknown Missing
  simp only [keys_perlNamed, hargs, hargs', and_assoc]

open I18n.Spec.PerlBraceRef in
/-- perl-brace: the tolerated omission, on strings: the caller allows it and exactly one placeholder identifier of the source is
    not a placeholder of the translation -/
theorem perlbrace_tolerated_iff_strings {s s' : List Char} (h : WellFormed s) (h' : WellFormed s') (omittedOk : Bool) :
    ∃ r r', PerlBrace.parse s = .ok r ∧ PerlBrace.parse s' = .ok r' ∧
      (perlTolerated (perlSigOf r) (perlSigOf r') omittedOk = true ↔
        omittedOk = true ∧ ∃ k, (IsArgument s k ∧ ¬ IsArgument s' k) ∧ ∀ k', IsArgument s k' ∧ ¬ IsArgument s' k' → k' = k) := by
  obtain ⟨r, hr, _, hargs⟩ := perlBraceParse_ok h
  obtain ⟨r', hr', _, hargs'⟩ := perlBraceParse_ok h'
  refine ⟨r, r', hr, hr', ?_⟩
  rw [perlbrace_tolerated_iff _ _ (perlSigOf_wf r)]
  unfold OnlyMissing Missing
  simp only [keys_perlNamed, hargs, hargs']

open I18n.Spec.PerlBraceRef in
/-- **perl-brace, `reorder_silent` on strings**: two well-formed strings with the same placeholder identifiers — in any order, any
    number of times — are never flagged. -/
theorem perlbrace_reorder_silent (pfx : Extra) (srcLoc dstLoc : List Char) (omittedOk : Bool) {s s' : List Char}
    (h : WellFormed s) (h' : WellFormed s') (hsame : ∀ w, IsArgument s w ↔ IsArgument s' w) :
    ∃ r r', PerlBrace.parse s = .ok r ∧ PerlBrace.parse s' = .ok r' ∧
      checkArgsPerlBrace pfx srcLoc (perlSigOf r) dstLoc (perlSigOf r') omittedOk = .ok [] := by
  obtain ⟨r, hr, _, hargs⟩ := perlBraceParse_ok h
  obtain ⟨r', hr', _, hargs'⟩ := perlBraceParse_ok h'
  refine ⟨r, r', hr, hr', perlbrace_same_signature_silent pfx srcLoc dstLoc omittedOk _ _ ?_⟩
  intro k
  rw [hargs, hargs', hsame]

open I18n.Spec.PerlBraceRef in
/-- **perl-brace, `reorder_silent` over RENDERED strings**: render any two item lists (literal runs without `{`, placeholders
    `{identifier}`) whose placeholders are a permutation of each other — whatever the literal text, wherever it stands: the
    renderings are accepted and nothing is flagged. -/
theorem perlbrace_reorder_silent_rendered (pfx : Extra) (srcLoc dstLoc : List Char) (omittedOk : Bool)
    {a b : List PerlBrace.Item} (ha : PerlClean a) (hb : PerlClean b)
    (hperm : (a.filter fun i => match i with | .field _ => true | _ => false).Perm
             (b.filter fun i => match i with | .field _ => true | _ => false)) :
    ∃ r r', PerlBrace.parse (PerlBrace.itemsText a) = .ok r ∧ PerlBrace.parse (PerlBrace.itemsText b) = .ok r' ∧
      checkArgsPerlBrace pfx srcLoc (perlSigOf r) dstLoc (perlSigOf r') omittedOk = .ok [] := by
  obtain ⟨wa, aa⟩ := perl_render_spec a ha
  obtain ⟨wb, ab⟩ := perl_render_spec b hb
  apply perlbrace_reorder_silent pfx srcLoc dstLoc omittedOk wa wb
  intro w
  rw [aa w, ab w]
  have := hperm.mem_iff (a := PerlBrace.Item.field w)
  simpa using this

open I18n.Spec.PerlBraceRef in
/-- **perl-brace, `invalid_msgstr_error` on strings**: a non-empty `msgstr` in which some `{` does not open a `{identifier}`
    placeholder is reported as `perl-brace-format-string-error`, and nothing else is reported. -/
theorem perlbrace_invalid_msgstr_error (ctx : Ctx) (msg : Msg (List Char)) (fl : Flags) (hdom : InDomain ctx fl)
    (hpl : msg.msgidPlural = none) (hforms : msg.msgstrPlural = []) (h0 : WellFormed msg.msgid)
    (hne : msg.msgstr ≠ []) (h1 : ¬ WellFormed msg.msgstr) :
    checkMessage perlBraceStrBackend ctx msg fl = .ok [⟨"perl-brace-format-string-error", [msg.pfx]⟩] := by
  obtain ⟨r, _, hp0, _⟩ := perlBraceParse_ok h0
  have ht : perlBraceStrBackend.truthy msg.msgstr = true := not_isEmpty_of_ne_nil hne
  have hp1 : perlBraceStrBackend.parse msg.msgstr = .own := (perlBraceParse_own_iff _).2 h1
  rw [invalid_msgstr_error perlBraceStrBackend ctx msg fl hdom hpl hforms _ hp0 ht hp1]
  rfl

/-- **perl-brace: no exception leaves `check_message`, for any context, flags and strings** -/
theorem perlbrace_check_message_nocrash_strings (ctx : Ctx) (msg : Msg (List Char)) (fl : Flags) :
    ∃ t, checkMessage perlBraceStrBackend ctx msg fl = .ok t :=
  checkMessage_total perlBraceStrBackend (fun _ => True) (fun pfx sl f dl g ok _ _ => ⟨_, checkArgsPerlBrace_eq pfx sl f dl g ok⟩)
    ctx msg fl (msgOk_of_strOk perlBraceStrBackend (fun s => ⟨perlBraceParse_nocrash s, fun _ _ => trivial⟩) msg)

/-! ## Non-vacuity -/

def pfx0 : Extra := .safe "msgid x:".toList

section
open scoped I18n.ExceptDec

/-- a reordered translation with numbered references is silent; dropping or retyping is not -/
example : (match cParse "%s has %d files".toList, cParse "%2$d Dateien in %1$s".toList with
    | .ok a, .ok c => checkArgsC pfx0 "msgid".toList a "msgstr".toList c false
    | _, _ => .error .ValueError) = .ok [] := by decide +kernel
example : (match cParse "%s has %d files".toList, cParse "%s".toList with
    | .ok a, .ok c => (checkArgsC pfx0 "msgid".toList a "msgstr".toList c false).map (fun (ts : List TagCall) => ts.map TagCall.name)
    | _, _ => .error .ValueError) = .ok ["c-format-string-missing-arguments"] := by decide +kernel
example : (match cParse "%s has %d files".toList, cParse "%s has %s files".toList with
    | .ok a, .ok c => (checkArgsC pfx0 "msgid".toList a "msgstr".toList c false).map (fun (ts : List TagCall) => ts.map TagCall.name)
    | _, _ => .error .ValueError) = .ok ["c-format-string-argument-type-mismatch"] := by decide +kernel
/-- the constructive reordering: `%s has %*d files` numbered is `%1$s`, `%3$*2$d`; any order of these is a permutation -/
example : (numberDirs 1 (dirs [.dir ⟨none, [], .none, .none, .std none 's'⟩, .lit " has ".toList,
      .dir ⟨none, [], .star none, .none, .std none 'd'⟩, .lit " files".toList])).map Directive.render =
    ["%1$s".toList, "%3$*2$d".toList] := by decide +kernel
example : (dirs [Item.dir ⟨some ['3'], [], .star (some ['2']), .none, .std none 'd'⟩, .lit " Dateien in ".toList,
      .dir ⟨some ['1'], [], .none, .none, .std none 's'⟩]).Perm
    (numberDirs 1 (dirs [.dir ⟨none, [], .none, .none, .std none 's'⟩, .lit " has ".toList,
      .dir ⟨none, [], .star none, .none, .std none 'd'⟩, .lit " files".toList])) := List.Perm.swap _ _ _
/-- the omitted trailing `%d` is tolerated when the caller allows it, a trailing `%s` is not -/
example : (match cParse "%s: %d".toList, cParse "%s: one".toList with
    | .ok a, .ok c => checkArgsC pfx0 "msgid_plural".toList a "msgstr[0]".toList c true
    | _, _ => .error .ValueError) = .ok [] := by decide +kernel
example : (match cParse "%d: %s".toList, cParse "one".toList with
    | .ok a, .ok c => (checkArgsC pfx0 "msgid_plural".toList a "msgstr[0]".toList c true).map (fun (ts : List TagCall) => ts.map TagCall.name)
    | _, _ => .error .ValueError) = .ok ["c-format-string-missing-arguments"] := by decide +kernel
/-- `%s %*d`: the conversion is the last integer conversion for `n = 1` (alone) and for `n = 2` (with its `*` width), not for `n = 3` -/
example : (match cParse "%s %*d".toList with | .ok f => getLastIntConv f 2 | _ => .error .ValueError) = .ok (some 2) := by decide +kernel
example : (match cParse "%s %*d".toList with | .ok f => getLastIntConv f 1 | _ => .error .ValueError) = .ok (some 2) := by decide +kernel
example : (match cParse "%s %*d".toList with | .ok f => getLastIntConv f 3 | _ => .error .ValueError) = .ok none := by decide +kernel
/-- python-brace: a numbered and a named argument both missing (the witness of fix 56d8ddf): two tags, no exception -/
example : (checkArgsPyBrace pfx0 "msgid".toList ⟨[(.idx 0, [⟨true, true, true⟩]), (.name "foo".toList, [⟨true, true, true⟩])], 3⟩
    "msgstr".toList ⟨[], 1⟩ false).map (fun (ts : List TagCall) => ts.map TagCall.name) =
    .ok ["python-brace-format-string-missing-argument", "python-brace-format-string-missing-argument"] := by decide +kernel
/-- Python-%: named arguments in another order are silent; a renamed key gives one unknown and one missing argument -/
example : (match pyParse "%(n)d of %(name)s".toList, pyParse "%(name)s: %(n)d".toList with
    | .ok a, .ok c => checkArgsPython pfx0 "msgid".toList a "msgstr".toList c false
    | _, _ => .error .ValueError) = .ok [] := by decide +kernel
example : (match pyParse "%(n)d of %(name)s".toList, pyParse "%(nom)s: %(n)d".toList with
    | .ok a, .ok c => (checkArgsPython pfx0 "msgid".toList a "msgstr".toList c false).map (fun (ts : List TagCall) => ts.map TagCall.name)
    | _, _ => .error .ValueError) = .ok ["python-format-string-unknown-argument", "python-format-string-missing-argument"] := by decide +kernel
/-- the brace kinds on raw strings (the parser models of C13 run inside the kernel): reordered fields are silent, a retyped field
    and a renamed placeholder are flagged, the fix-56d8ddf witness gives two tags -/
example : (match pyBraceParse "{0} of {name}".toList, pyBraceParse "{name}: {0}".toList with
    | .ok a, .ok c => summarize (checkArgsPyBrace pfx0 "msgid".toList a "msgstr".toList c false)
    | _, _ => none) = some [] := by decide +kernel
example : (match pyBraceParse "{0} of {0:d} done".toList, pyBraceParse "{0:s} gotowe".toList with
    | .ok a, .ok c => summarize (checkArgsPyBrace pfx0 "msgid".toList a "msgstr".toList c false)
    | _, _ => none) = some [("python-brace-format-string-argument-type-mismatch", [])] := by decide +kernel
example : (match pyBraceParse "{0} {foo}".toList, pyBraceParse "x".toList with
    | .ok a, .ok c => summarize (checkArgsPyBrace pfx0 "msgid".toList a "msgstr".toList c false)
    | _, _ => none) =
    some [("python-brace-format-string-missing-argument", [0]), ("python-brace-format-string-missing-argument", [])] := by decide +kernel
example : (match perlBraceParse "{a} and {b}".toList, perlBraceParse "{b}, {c}".toList with
    | .ok a, .ok c => summarize (checkArgsPerlBrace pfx0 "msgid".toList a "msgstr".toList c false)
    | _, _ => none) =
    some [("perl-brace-format-string-unknown-argument", []), ("perl-brace-format-string-missing-argument", [])] := by decide +kernel
/-- rendering: `{0} of {name}` and its reordering `{name}: {0}` -/
example : renderPlain [.field "0".toList, .lit " of ".toList, .field "name".toList] = "{0} of {name}".toList := by decide +kernel
example : (fieldNames [PlainItem.field "name".toList, .lit ": ".toList, .field "0".toList]).Perm
    (fieldNames [.field "0".toList, .lit " of ".toList, .field "name".toList]) := List.Perm.swap _ _ _
/-- the cascade: the form selected for `n = 1` alone is compared with `msgid`; `[0, k]` tolerates an omission, `[1, 21, 31]` (the
    example in the comment of `check_message`) does not -/
example : (pluralPlan cBackend none none 0 default [1]).srcLoc = "msgid".toList := by decide +kernel
example : (pluralPlan cBackend none none 0 default [0, 7]).omittedOk = true := by decide +kernel
example : (pluralPlan cBackend none none 0 default [1, 21, 31]).omittedOk = false := by decide +kernel
example : OmissionPermitted [0, 7] := Or.inr ⟨7, rfl⟩
example : ¬ OmissionPermitted [1, 21, 31] := by unfold OmissionPermitted; simp
end

end I18n.Props.C14
