import I18n.Lemmas.DateTags
import I18n.Lemmas.DateRe
import I18n.Lemmas.DateSort
import I18n.Lemmas.DateTzRef
/-
Property C18 — date fields are normalised canonically and judged by the real calendar.

Model: `I18n.Date` (`fix` = `gettext.fix_date_format`, `parseCanon`/`Stamp.minutes` = `parse_date` + `datetime`,
`checkOne`/`checkDates` = `Checker.check_dates` with `misc.utc_now()` as the input `now`).
Specification: `I18n.Spec.Date` (`Written` = the declarative grammar, `Canonical`/`Civil.Exists`/`Civil.minutes` = the
Gregorian calendar by counting, `HasBoilerplate`, `Stripped`, `Normalises`).
-/
namespace I18n.Props.C18
open I18n I18n.Date I18n.Spec.Date I18n.Spec.DateRe I18n.Generated

/-- the `sre_parse` trees dumped from the live module are the expected ones (in named parts: `dateRe`, `boilRe`), the
    flags are `re.VERBOSE | re.UNICODE` (no IGNORECASE / ASCII, which would change the meaning of the same tree), and the
    bound methods are `match` / `search` -/
theorem regex_pin :
    DateTables.parseDateRe = dateRe ∧ DateTables.parseDateFlags = pinnedFlags ∧ DateTables.parseDateMethod = "match"
    ∧ DateTables.boilerplateRe = boilRe ∧ DateTables.boilerplateFlags = pinnedFlags
    ∧ DateTables.boilerplateMethod = "search" := ⟨rfl, rfl, rfl, rfl, rfl, rfl⟩

/-- `gettext.epoch` is 1995-07-02T00:00Z, and `gettext.boilerplate_date` is xgettext's placeholder -/
theorem epoch_pin : DateTables.epochMicros = gettextEpoch.minutes * 60000000
    ∧ DateTables.boilerplateDate = "YEAR-MO-DA HO:MI+ZONE".toList := ⟨epoch_eq, by rw [String.toList_ofList]; rfl⟩

/-- the white-space class dumped from the running interpreter (`str.isspace` = `\s` under both patterns' flags) is the
    expected one: 29 code points in 10 ranges (Unicode White_Space + the separators U+001C..U+001F) -/
theorem whitespace_pin : DateTables.whitespace = [(0x9, 0xD), (0x1C, 0x20), (0x85, 0x85), (0xA0, 0xA0), (0x1680, 0x1680),
    (0x2000, 0x200A), (0x2028, 0x2029), (0x202F, 0x202F), (0x205F, 0x205F), (0x3000, 0x3000)] := rfl

/-- every abbreviation of the live table is alphabetic (so it cannot be confused with a numeric offset), none is listed
    twice, and every offset has the form `±HHMM` -/
theorem table_pin : DateTables.timezones.all entryOk = true ∧ keysDistinct DateTables.timezones = true :=
  ⟨table_ok, table_distinct⟩

/-- PIN against the HAND-MAINTAINED reference of the zone abbreviations (Spec/TimezonesRef.lean: tzdata 2014e, not regenerated):
    every abbreviation the reference knows is in the tool's table (data/timezones as loaded by `lib.gettext`), and every offset
    the reference lists for it is still one of its offsets there: `OffsetsOf a os` with `Spec.TimezonesRef.offsets a ⊆ os`.  The data file may add
    abbreviations, add offsets to an abbreviation (more ambiguity ⇒ more rejections) and be re-ordered; it must not drop an
    offset of a known abbreviation — that would make an ambiguous abbreviation "unique" and mis-normalise dates written with it. -/
theorem timezones_ref_pin :
    ∀ a ∈ Spec.TimezonesRef.names, ∃ os, OffsetsOf a os ∧ ∀ o ∈ Spec.TimezonesRef.offsets a, o ∈ os := by
  intro a ha
  obtain ⟨e, he, h1, h2⟩ := keptBy_spec ref_kept ha
  exact ⟨e.2, ⟨e, he, h1, rfl⟩, h2⟩

/-- the reference rows themselves: alphabetic abbreviation, at least one offset, offsets of the form `±HHMM` -/
theorem timezones_ref_wellformed : Spec.TimezonesRef.table.all (fun r => entryOk r && !r.2.isEmpty) = true := ref_rows_ok

/-- when the tool's table gives a unique offset for an abbreviation, the reference has no other offset for it (what the
    statement calls "the unique offset of a known zone abbreviation" is not whatever the data file says today); `ha` is not
    needed (`ref_offsets_kept`): for an abbreviation the reference does not know, `offsets` is empty -/
theorem unique_offset_sound {a z : List Char} (ha : a ∈ Spec.TimezonesRef.names) (h : OffsetsOf a [z]) :
    ∀ o ∈ Spec.TimezonesRef.offsets a, o = z :=
  fun o ho => List.mem_singleton.mp (ref_offsets_kept h o ho)

/-- the `sre_parse` tree of `_parse_date`, dumped from the live module, derives — on a string that
    does not end in white space — exactly the strings of the grammar `Written`, and every derivation captures the written
    date, time and zone (groups 1, 2 and 3+4 or 5): whichever derivation Python's backtracking finds, the groups are these -/
theorem parse_date_regex {s : List Char} (hlast : ∀ c, s.getLast? = some c → ¬ White c) (caps : Caps) :
    Match White DateTables.parseDateRe s caps ↔ ∃ d t z, Written s d t z ∧ caps = dateCaps d t z := by
  rw [parseDateRe_eq]; exact match_dateRe_stripped hlast caps

/-- the model's scanner is that regex: on `strip s` it matches iff the regex does, with the regex's groups -/
theorem parseDate_is_regex (s : List Char) (g : Groups) :
    parseDate (strip s) = some g ↔
      (Match White DateTables.parseDateRe (strip s) (dateCaps g.date g.time g.zone.spec)
        ∧ g.zone = zoneOfSpec g.zone.spec) := parseDate_regex (strip_last s) g

/-- likewise for `_search_for_date_boilerplate` and `HasBoilerplate`; with Python's `$`
    (which also matches before a final newline) on arbitrary strings: `search_boilRe` -/
theorem boilerplate_regex (s : List Char) :
    hasBoilerplate (strip s) = true ↔ Search White DateTables.boilerplateRe (strip s) :=
  hasBoilerplate_regex (strip_last s)

/-- the groups `fix_date_format` unpacks: `(date, time, zhour, zminute, zabbr) = match.groups()` -/
theorem regex_groups (d t : List Char) :
    (∀ sg hh mm, (group (dateCaps d t (.numeric sg hh mm)) 1, group (dateCaps d t (.numeric sg hh mm)) 2,
        group (dateCaps d t (.numeric sg hh mm)) 3, group (dateCaps d t (.numeric sg hh mm)) 4,
        group (dateCaps d t (.numeric sg hh mm)) 5) = (some d, some t, some (sg :: hh), some mm, none))
    ∧ (∀ a, (group (dateCaps d t (.abbr a)) 1, group (dateCaps d t (.abbr a)) 2, group (dateCaps d t (.abbr a)) 3,
        group (dateCaps d t (.abbr a)) 4, group (dateCaps d t (.abbr a)) 5) = (some d, some t, none, none, some a))
    ∧ ((group (dateCaps d t .absent) 1, group (dateCaps d t .absent) 2, group (dateCaps d t .absent) 3,
        group (dateCaps d t .absent) 4, group (dateCaps d t .absent) 5) = (some d, some t, none, none, none)) :=
  ⟨fun _ _ _ => rfl, fun _ => rfl, rfl⟩

/-- `datetime`'s closed formula for the day number (as modelled) counts the days of the years and months before -/
theorem ordinal_counts {y m d : Nat} (h1 : 1 ≤ m) (h2 : m ≤ 12) : ordinal y m d = dayNumber y m d := ordinal_eq h1 h2

/-- a canonical text denotes one instant only -/
theorem canonical_unique {c c' : Civil} (h : c.Exists) (h' : c'.Exists) (e : render c = render c') : c = c' :=
  render_inj h h' e

/-- `parse_date` on a 21-character text: accepted iff it is the canonical text of an existing instant -/
theorem parse_canon_iff (t : List Char) (st : Stamp) :
    parseCanon t = some st ↔ (st.toCivil.Exists ∧ t = render st.toCivil) := by
  constructor
  · exact parseCanon_sound
  · rintro ⟨h, rfl⟩
    rw [parseCanon_complete h]; rfl

/-- and then the modelled instant (`datetime`'s closed formula) is the counted one -/
theorem instant_counts {t : List Char} {st : Stamp} (h : parseCanon t = some st) : st.minutes = st.toCivil.minutes := by
  have hm := (parseCanon_sound h).1.month
  exact minutes_eq hm.1 hm.2

/-- `str.strip`: `strip s` is THE string obtained by removing leading and trailing white space -/
theorem strip_stripped (s t : List Char) : Stripped s t ↔ t = strip s :=
  ⟨stripped_unique, fun h => h ▸ strip_spec s⟩

/-- an accepted date is returned as `YYYY-MM-DD hh:mm+ZZzz` denoting an existing calendar instant -/
theorem fix_canonical {s : List Char} {hint : Option (List Char)} {t : List Char} (h : fix s hint = .ok t) :
    Canonical t := (fix_ok_iff.mp h).canonical

/-- the result is a fixed point of normalisation, with no hint, the same hint, or any well-formed hint -/
theorem fix_idempotent {s : List Char} {hint : Option (List Char)} {t : List Char} (h : fix s hint = .ok t) :
    fix t none = .ok t ∧ fix t hint = .ok t ∧ ∀ hint', (∀ x, hint' = some x → HintOk x) → fix t hint' = .ok t := by
  have hc := fix_canonical h
  exact ⟨fix_canonical_text hc (by simp), fix_canonical_text hc (fix_ok_iff.mp h).hintOk,
    fun _ hh' => fix_canonical_text hc hh'⟩

/-- the result keeps the date and the `hh:mm` written in the (stripped) input and carries the written
    numeric offset, or the unique offset of the written abbreviation, or — nothing being written — the hint -/
theorem fix_preserves {s : List Char} {hint : Option (List Char)} {t : List Char} (h : fix s hint = .ok t) :
    ∃ date time z zone, Written (strip s) date time z ∧ ZoneResolves z hint zone ∧ t = date ++ ' ' :: time ++ zone :=
  (fix_ok_iff.mp h).written

/-- what is written in a string is unique: the grammar is unambiguous -/
theorem written_unique {s d t d' t' : List Char} {z z' : ZoneSpec} (h : Written s d t z) (h' : Written s d' t' z') :
    d = d' ∧ t = t' ∧ z = z' := by
  have e := (parseDate_complete h).symm.trans (parseDate_complete h')
  simp only [Option.some.injEq, Groups.mk.injEq] at e
  refine ⟨e.1, e.2.1, ?_⟩
  have := congrArg Zone.spec e.2.2
  rwa [spec_zoneOfSpec, spec_zoneOfSpec] at this

/-- a date written with a zone abbreviation is accepted only with the one offset the tool's table has for it, and the
    reference then lists no other offset for that abbreviation -/
theorem fix_abbr {s : List Char} {hint : Option (List Char)} {t date time a : List Char}
    (h : fix s hint = .ok t) (hw : Written (strip s) date time (.abbr a)) :
    ∃ zone, t = date ++ ' ' :: time ++ zone ∧ OffsetsOf a [zone] ∧ ∀ o ∈ Spec.TimezonesRef.offsets a, o = zone := by
  obtain ⟨d', t', z', zone, hw', hr, ht⟩ := fix_preserves h
  obtain ⟨rfl, rfl, rfl⟩ := written_unique hw hw'
  exact ⟨zone, ht, hr, fun o ho => List.mem_singleton.mp (ref_offsets_kept hr o ho)⟩

/-- a date written with an abbreviation is accepted only with an offset such that the reference lists no other for that
    abbreviation (`fix_abbr`; `ha` is not needed); in particular (`ref_ambiguous_rejected`) a date written with an abbreviation
    for which the reference has two different offsets is never accepted, whatever the hint -/
theorem fix_abbr_by_reference {s : List Char} {hint : Option (List Char)} {t date time a : List Char}
    (h : fix s hint = .ok t) (hw : Written (strip s) date time (.abbr a)) (ha : a ∈ Spec.TimezonesRef.names) :
    ∃ zone, t = date ++ ' ' :: time ++ zone ∧ OffsetsOf a [zone] ∧ ∀ o ∈ Spec.TimezonesRef.offsets a, o = zone :=
  fix_abbr h hw

theorem ref_ambiguous_rejected {s : List Char} {hint : Option (List Char)} {date time a o₁ o₂ : List Char}
    (hw : Written (strip s) date time (.abbr a)) (h₁ : o₁ ∈ Spec.TimezonesRef.offsets a) (h₂ : o₂ ∈ Spec.TimezonesRef.offsets a)
    (hne : o₁ ≠ o₂) : ∀ t, fix s hint ≠ .ok t := by
  intro t h
  obtain ⟨zone, _, _, hz⟩ := fix_abbr h hw
  exact hne ((hz o₁ h₁).trans (hz o₂ h₂).symm)

/-- completeness: every header value the specification normalises is accepted, with that result -/
theorem fix_accepts {s : List Char} {hint : Option (List Char)} {t : List Char} (h : Normalises (strip s) hint t) :
    fix s hint = .ok t := fix_ok_iff.mpr h

/-- the outcome is classified exactly; the only failure besides the two date errors is the `ValueError`
    for a malformed hint (a caller error), and the length assertion can never fail -/
theorem fix_rejects (s : List Char) (hint : Option (List Char)) :
    (∀ t, fix s hint = .ok t ↔ Normalises (strip s) hint t)
    ∧ (fix s hint = .boilerplate ↔ HasBoilerplate (strip s))
    ∧ (fix s hint = .hintErr ↔ ¬ HasBoilerplate (strip s) ∧ ∃ x, hint = some x ∧ ¬ HintOk x)
    ∧ (fix s hint = .syntaxErr ↔
        ¬ HasBoilerplate (strip s) ∧ (∀ x, hint = some x → HintOk x) ∧ ¬ ∃ t, Normalises (strip s) hint t)
    ∧ fix s hint ≠ .assertErr :=
  ⟨fun _ => fix_ok_iff, fix_boilerplate_iff, fix_hintErr_iff, fix_syntaxErr_iff, fix_no_assert s hint⟩

/-- with the hints the tool itself passes (none, or `-0000` for Publican) only the two date errors are possible -/
theorem fix_tool_outcomes (date : List Char) (publican : Bool) :
    (∃ t, fix date (tzHint date publican) = .ok t) ∨ fix date (tzHint date publican) = .syntaxErr
      ∨ fix date (tzHint date publican) = .boilerplate := by
  rcases fix_cases_of_hintOk date (tzHint_ok date publican) with ⟨_, e⟩ | ⟨_, _, e⟩ | ⟨t, _, e⟩
  · exact .inr (.inr e)
  · exact .inr (.inl e)
  · exact .inl ⟨t, e⟩

/-- for a date header value that is not the exempted template placeholder, `check_dates` emits
    `boilerplate-in-date` iff a placeholder is present; `invalid-date` iff the value is otherwise rejected, and
    `invalid-date … => normal form` iff it differs from its normal form; `date-from-future` iff the instant lies after
    `now`; `ancient-date` iff it lies before 1995-07-02T00:00Z; and nothing else. -/
theorem date_tags_iff (now : Int) (f : Field) (tmpl pub : Bool) (date : List Char)
    (hex : ¬ (tmpl = true ∧ f = .po ∧ date = DateTables.boilerplateDate)) :
    ∃ ts, checkOne now f tmpl pub date = some ts ∧
      (∀ tg ∈ ts, tg = tagBoiler f date ∨ tg = tagInvalid f date ∨ (∃ t, tg = tagFix f date t)
          ∨ tg = tagFuture f date ∨ tg = tagAncient f date)
      ∧ (tagBoiler f date ∈ ts ↔ HasBoilerplate (strip date))
      ∧ (tagInvalid f date ∈ ts ↔
          ¬ HasBoilerplate (strip date) ∧ ¬ ∃ t, Normalises (strip date) (tzHint date pub) t)
      ∧ (∀ t, tagFix f date t ∈ ts ↔ Normalises (strip date) (tzHint date pub) t ∧ t ≠ date)
      ∧ (tagFuture f date ∈ ts ↔
          ∃ c : Civil, c.Exists ∧ Normalises (strip date) (tzHint date pub) (render c) ∧ c.minutes * 60000000 > now)
      ∧ (tagAncient f date ∈ ts ↔
          ∃ c : Civil, c.Exists ∧ Normalises (strip date) (tzHint date pub) (render c) ∧ c.minutes < gettextEpoch.minutes) := by
  rcases checkOne_cases now f tmpl pub date hex with ⟨hb, e⟩ | ⟨hb, hn, e⟩ | ⟨c, hc, hn, e⟩
  · have no : ∀ t, ¬ Normalises (strip date) (tzHint date pub) t := fun t ht => ht.noBoiler hb
    exact ⟨_, e, by simp [tagBoiler, tagInvalid, tagFix, tagFuture, tagAncient, hb, no]⟩
  · have no : ∀ t, ¬ Normalises (strip date) (tzHint date pub) t := fun t ht => hn ⟨t, ht⟩
    exact ⟨_, e, by simp [tagBoiler, tagInvalid, tagFix, tagFuture, tagAncient, hb, no]⟩
  · -- accepted: `render c` is the only normal form and `c` the only instant it denotes; one bullet per clause
    have norm : ∀ t', Normalises (strip date) (tzHint date pub) t' ↔ t' = render c :=
      fun t' => ⟨fun h' => normalises_unique h' hn, fun e => e ▸ hn⟩
    have civ : ∀ P : Civil → Prop,
        (∃ c' : Civil, c'.Exists ∧ Normalises (strip date) (tzHint date pub) (render c') ∧ P c') ↔ P c := fun P => by
      constructor
      · rintro ⟨c', hc', hn', hp⟩
        exact render_inj hc' hc ((norm _).mp hn') ▸ hp
      · exact fun hp => ⟨c, hc, hn, hp⟩
    refine ⟨_, e, fun tg htg => ?_, ?_, ?_, fun t => ?_, ?_, ?_⟩
    · rcases mem_verdict.mp htg with ⟨_, rfl⟩ | ⟨_, rfl⟩ | ⟨_, rfl⟩
      · exact .inr (.inr (.inl ⟨_, rfl⟩))
      · exact .inr (.inr (.inr (.inl rfl)))
      · exact .inr (.inr (.inr (.inr rfl)))
    · rw [mem_verdict]; simp [tagBoiler, tagFix, tagFuture, tagAncient, hn.noBoiler]
    · rw [mem_verdict]; simp [tagInvalid, tagFix, tagFuture, tagAncient, norm]
    · have inj : tagFix f date t = tagFix f date (render c) ↔ t = render c := by simp [tagFix]
      have h1 : tagFix f date t ≠ tagFuture f date := by simp [tagFix, tagFuture]
      have h2 : tagFix f date t ≠ tagAncient f date := by simp [tagFix, tagAncient]
      rw [mem_verdict, norm, inj]
      simp only [h1, h2, and_false, or_false]
      constructor
      · rintro ⟨h, rfl⟩; exact ⟨rfl, h.symm⟩
      · rintro ⟨rfl, h⟩; exact ⟨h.symm, rfl⟩
    · rw [mem_verdict, civ fun c' => c'.minutes * 60000000 > now]; simp [tagFix, tagFuture, tagAncient]
    · rw [mem_verdict, civ fun c' => c'.minutes < gettextEpoch.minutes]; simp [tagFix, tagFuture, tagAncient]

/-- the exemption: in a template, `PO-Revision-Date: YEAR-MO-DA HO:MI+ZONE` is expected and reported as nothing -/
theorem template_placeholder_exempt (now : Int) (pub : Bool) :
    checkOne now .po true pub DateTables.boilerplateDate = some [] :=
  checkOne_exempt now .po true pub _ ⟨rfl, rfl, rfl⟩

/-- a missing field: `no-date-header-field`, except POT-Creation-Date in a binary catalogue -/
theorem no_date_field (c : Ctx) (f : Field) :
    checkField c f [] = some (if f = .pot ∧ c.isBinary = true then [] else [⟨"no-date-header-field", [.str f.name]⟩]) :=
  checkField_eq c f []

/-- the whole output is, for POT-Creation-Date then PO-Revision-Date: `duplicate-header-field-date`
    followed by the verdicts on `sorted(set(values))` if there are several values, the missing-field verdict if there is
    none, else the verdicts on the one value — each verdict being the one `date_tags_iff` characterises -/
theorem check_dates_shape (c : Ctx) : checkDates c = some (fieldTags c .pot c.pot ++ fieldTags c .po c.po) :=
  checkDates_eq c

/-- `sorted(set(values))`: the same values, strictly increasing in code-point order (hence each once) -/
theorem sorted_set_spec (l : List (List Char)) :
    (∀ y, y ∈ sortedSet l ↔ y ∈ l) ∧ (sortedSet l).Pairwise (fun a b => strLt a b = true) :=
  ⟨fun y => mem_sortedSet y l, sortedSet_sorted l⟩

/-- `check_dates` lets no exception escape (the second `parse_date` cannot fail, the hint it passes is
    well-formed, the length assertion holds) -/
theorem NoCrash (c : Ctx) : checkDates c ≠ none := by
  rw [checkDates_eq]; nofun

/- In the examples `rw [String.toList_ofList]` turns a literal `"…".toList` into the list of its characters before the kernel
   evaluates (evaluating `String.toList` itself is slow); `repeat` where the statement has more than one distinct literal. -/
example : fix "2020-01-01T10:00:59 +0200".toList none = .ok "2020-01-01 10:00+0200".toList := by
  repeat rw [String.toList_ofList]
  decide +kernel
-- an abbreviation: its unique table offset, or rejection (stated so that adding an offset to CEST in data/timezones keeps it true)
example : fix "2020-01-01T10:00:59 CEST".toList none =
    (match lookupTz "CEST".toList with
     | some [z] => .ok ("2020-01-01 10:00".toList ++ z)
     | _ => .syntaxErr) := by
  repeat rw [String.toList_ofList]
  decide +kernel
example : lookupTz "CEST".toList = some ["+0200".toList] → fix "2020-01-01T10:00:59 CEST".toList none = .ok "2020-01-01 10:00+0200".toList := by
  repeat rw [String.toList_ofList]
  decide +kernel
example : fix " 2012-02-29\n23:59 UTC-00:30 ".toList none = .ok "2012-02-29 23:59-0030".toList := by
  repeat rw [String.toList_ofList]
  decide +kernel
example : fix "2013-02-29 10:00+0100".toList none = .syntaxErr := by
  rw [String.toList_ofList]
  decide +kernel
-- ambiguous abbreviation
example : fix "2012-11-01 14:42 EST".toList none = .syntaxErr := by
  rw [String.toList_ofList]
  decide +kernel
-- +0300, but +0400 in 2011–2014
example : fix "2012-06-01 12:00 MSK".toList none = .syntaxErr := by
  rw [String.toList_ofList]
  decide +kernel
example : Spec.TimezonesRef.offsets "MSK".toList = ["+0300".toList, "+0400".toList]
    ∧ Spec.TimezonesRef.offsets "CET".toList = ["+0100".toList] ∧ Spec.TimezonesRef.offsets "JEST".toList = []
    ∧ Spec.TimezonesRef.names.length = 210 := by
  repeat rw [String.toList_ofList]
  decide +kernel
example : fix "2012-11-01 14:42+2400".toList none = .syntaxErr := by
  rw [String.toList_ofList]
  decide +kernel
example : fix "2012-11-01T14:42".toList (some "-0000".toList) = .ok "2012-11-01 14:42-0000".toList := by
  repeat rw [String.toList_ofList]
  decide +kernel
example : fix "2012-11-01T14:42".toList (some "Z".toList) = .hintErr := by
  repeat rw [String.toList_ofList]
  decide +kernel
example : fix "2012-11-01 HO:MI+0100".toList none = .boilerplate := by
  rw [String.toList_ofList]
  decide +kernel
example : Normalises (strip "0001-01-01 00:00+2359".toList) none "0001-01-01 00:00+2359".toList :=
  fix_ok_iff.mp (by decide +kernel)
example : checkOne 0 .pot false false "2012-11-01 14:42+0100".toList
    = some [tagFuture .pot "2012-11-01 14:42+0100".toList] := by
  repeat rw [String.toList_ofList]
  decide +kernel
example : checkOne 1700000000000000 .po false false "1995-07-01 23:59-0000".toList
    = some [tagAncient .po "1995-07-01 23:59-0000".toList] := by
  rw [String.toList_ofList]
  decide +kernel
example : checkOne 1700000000000000 .po false false "1995-07-02 00:00+0000".toList = some [] := by
  rw [String.toList_ofList]
  decide +kernel
example : checkOne 1700000000000000 .po false true "2013-05-28T12:00:00".toList
    = some [tagFix .po "2013-05-28T12:00:00".toList "2013-05-28 12:00-0000".toList] := by
  repeat rw [String.toList_ofList]
  decide +kernel

end I18n.Props.C18
